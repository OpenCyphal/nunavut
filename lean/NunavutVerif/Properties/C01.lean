import NunavutVerif.Lemmas.DsdlRepr
import NunavutVerif.Lemmas.DsdlLen
import NunavutVerif.Lemmas.DsdlBytes
/-!
# C01 — the serializer's oracle is well defined and rejects exactly the values without representation

Property theorems only.  The wire format itself is the *definition* `serBits` (`Model/Dsdl.lean`, written
from the DSDL rules); that the generated C / C++ / Python code produces exactly these bytes is the
correspondence run by the harness (and the refinement proof of the implementation layer).  What is proved
here, for all types and all values: which values are accepted, which error the others get, that an error
never comes with bytes, and the shape facts of the output (whole bytes for composites, zero padding).
-/
namespace NunavutVerif.Dsdl

/-- A well-typed value is serialized iff it has a representation: every variable-length array within its
capacity and every union tag naming an option, at any nesting depth. -/
theorem C01_accepts_iff_representable (t : Ty) (v : Val) (ht : hasTy t v = true) :
    (∃ bs, serBits t v = .ok bs) ↔ representable t v = true := by
  have h := serOK t v ht
  constructor
  · intro ⟨bs, hb⟩
    cases hr : representable t v with
    | true => rfl
    | false => obtain ⟨e, he, _⟩ := h.2 hr; rw [hb] at he; cases he
  · exact h.1

/-- A well-typed value without representation is rejected with `badArrayLength` or `badUnionTag` —
never `illTyped`, never bytes. -/
theorem C01_unrepresentable_rejected (t : Ty) (v : Val) (ht : hasTy t v = true)
    (hr : representable t v = false) :
    ∃ e, serBits t v = .error e ∧ (e = .badArrayLength ∨ e = .badUnionTag) :=
  (serOK t v ht).2 hr

/-- The same at top level, on bytes: no bytes are produced. -/
theorem C01_unrepresentable_rejected_bytes (t : Ty) (v : Val) (ht : hasTy t v = true)
    (hr : representable t v = false) :
    ∃ e, serBytes t v = .error e ∧ (e = .badArrayLength ∨ e = .badUnionTag) := by
  obtain ⟨e, he, hk⟩ := C01_unrepresentable_rejected (topInner t) v (hasTy_topInner t v ▸ ht)
    (representable_topInner t v ▸ hr)
  exact ⟨e, map_eq_error.2 he, hk⟩

/-- A variable-length array longer than its capacity is rejected (whatever its elements). -/
theorem C01_rejects_long_array (t : Ty) (cap : Nat) (vs : List Val) (h : vs.length > cap) :
    serBits (.varr t cap) (.arr vs) = .error .badArrayLength := by
  simp only [serBits, if_pos h]

/-- A union value naming an option that does not exist is rejected. -/
theorem C01_rejects_bad_tag (fs : List Ty) (k : Nat) (v : Val) (h : k ≥ fs.length) :
    serBits (.union fs) (.union k v) = .error .badUnionTag := by
  simp only [serBits, if_pos h]

/-- Composites occupy whole bytes, so packing a top-level composite adds no bits: unpacking the bytes
gives exactly the specified bit string. -/
theorem C01_composite_bytes_exact (t : Ty) (hw : wf t = true) (hc : align (topInner t) = 8) (v : Val)
    (bs : List Bool) (hs : serTop t v = .ok bs) :
    serBytes t v = .ok (packBytes bs) ∧ unpackBytes (packBytes bs) = bs := by
  refine ⟨congrArg (Except.map packBytes) hs, ?_⟩
  have h := (lenOK (topInner t) (wf_topInner hw) v bs hs).2.2
  rw [hc] at h
  rw [unpack_pack, padLen_of_mod (Or.inr rfl) h]
  exact List.append_nil bs

/-- In general the byte string is the bit string followed by zero bits up to a whole byte. -/
theorem C01_bytes_zero_padded (t : Ty) (v : Val) (bytes : List Nat) (hs : serBytes t v = .ok bytes) :
    ∃ bs, serTop t v = .ok bs ∧ unpackBytes bytes = bs ++ zeros (padLen 8 bs.length) := by
  obtain ⟨bs, hb, rfl⟩ := map_eq_ok.1 hs
  exact ⟨bs, hb, unpack_pack bs⟩

/-- `{uint3 a; void2; bool b; Inner c; Uni u}`; `Inner` delimited `{uint8 x; uint16[<=2] y}`. -/
def exTy1 : Ty :=
  .struct [.uint 3 .sat, .void 2, .bool,
    .delim 64 (.struct [.uint 8 .sat, .varr (.uint 16 .sat) 2]),
    .union [.uint 5 .sat, .struct [.sint 8 .sat]]]

def exVal1 : Val :=
  .struct [.int 5, .void, .bool true, .struct [.int 0xAB, .arr [.int 0x0102]], .union 1 (.struct [.int (-2)])]

example : hasTy exTy1 exVal1 = true ∧ representable exTy1 exVal1 = true := by decide +kernel
-- a = 5 in bits 0..2, void 00, b in bit 5, pad to the byte; header = 4 bytes; x; prefix 1; y little endian;
-- tag 1; int8 -2 = 0xfe
example : serBytes exTy1 exVal1 =
    .ok [0x25, 0x04, 0, 0, 0, 0xAB, 0x01, 0x02, 0x01, 0x01, 0xFE] := by decide +kernel
/-- too long an array deep inside: rejected, with the array error. -/
example : serBytes exTy1 (.struct [.int 5, .void, .bool true,
    .struct [.int 0xAB, .arr [.int 1, .int 2, .int 3]], .union 1 (.struct [.int (-2)])]) =
    .error .badArrayLength := by decide +kernel
example : serBytes exTy1 (.struct [.int 5, .void, .bool true,
    .struct [.int 0xAB, .arr []], .union 2 .void]) = .error .badUnionTag := by decide +kernel

end NunavutVerif.Dsdl
