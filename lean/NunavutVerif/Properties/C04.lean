import NunavutVerif.Lemmas.Variant
import NunavutVerif.Lemmas.CppObj
import NunavutVerif.Lemmas.CBuf
import NunavutVerif.Gen.VariantTables
import NunavutVerif.Gen.CArrayKinds
import NunavutVerif.Gen.ErrorCodes
/-!
# C04 — generated C/C++ codecs are memory-safe, total and free of prior-state influence

What a theorem can carry; the rest — undefined behaviour and leaks of the *compiled* code — is the sanitizer
correspondence of `harness/c04.py`.

1. The C++14 `VariantType` (`Model/Variant.lean`; the programs are regenerated from the real generator's output into
   `Gen/VariantTables.lean`): no sequence of constructions, `emplace<i>`, assignments and destructions runs a
   destructor on a member that is not live, leaks an owning member or reads a destroyed one.
2. Prior-state independence (`Model/CppObj.lean`): what a decode yields does not depend on what the destination held.
3. Index safety of the emitted checks (`Model/CBuf.lean`; the array kinds of the C templates, with the dimension and
   the comparison bounds the translator reads off the generated headers, are `Gen/CArrayKinds.lean`), with the exact
   conditions under the capacity-override option.
4. Totality: every exit of the model is success or a code of the table regenerated from the support templates
   (`Gen/ErrorCodes.lean`: `NUNAVUT_ERROR_*`, `nunavut::support::Error`), `NULL` arguments included.
-/
namespace NunavutVerif.Properties.C04
open NunavutVerif

section variant
open NunavutVerif.Variant

/-- Every operation sequence on a world that satisfies the invariant runs without a fault (no wild destructor call,
    no leak by overwriting, no read of a destroyed member, no type confusion) and re-establishes "exactly the
    active alternative is live" in every object — for every well-formed program (every program the generator emits is
    one: `C04_variant_generated_tables_wellformed`). -/
theorem C04_variant_every_op_sequence_safe (p : Prog) (hwf : p.wf = true) (ops : List Op) (w : World)
    (hw : worldInv p w = true) : ∃ w', run p w ops = .ok w' ∧ worldInv p w' = true := by
  obtain ⟨w', h, hi, _⟩ := run_inv (WF.of_wf hwf) ops (worldInv_iff.mp hw)
  exact ⟨w', h, worldInv_iff.mpr hi⟩

/-- From nothing: any program of constructions, emplacements, assignments and destructions over `k` object slots,
    followed by the destruction of whatever is still constructed, ends without a fault and with no object left:
    nothing leaked, nothing destroyed twice. -/
theorem C04_variant_nothing_left_at_end (p : Prog) (hwf : p.wf = true) (k : Nat) (ops : List Op) :
    ∃ w', run p (emptyWorld k) (ops ++ dtorAll k) = .ok w' ∧ allGone w' = true := by
  have wf := WF.of_wf hwf
  obtain ⟨w1, h1, hi1, l1⟩ := run_inv wf ops (WInv_empty p k)
  obtain ⟨w2, h2, _, l2, z2, _⟩ := dtorAll_inv wf k hi1
  refine ⟨w2, by rw [run_append, h1]; exact h2, allGone_of fun i hi => z2 i ?_⟩
  have : (emptyWorld k).length = k := by simp [emptyWorld]
  omega

/-- The destructor of an object that satisfies the invariant: `destroy_current()` does not fault and afterwards no
    member that owns memory is live when the storage goes away. -/
theorem C04_variant_destructor_releases_everything (p : Prog) (hwf : p.wf = true) (o : Obj) (ho : objInv p o = true) :
    ∃ o', execMethod p p.dtor 0 .none o = .ok o' ∧ release p o' = .ok () :=
  dtor_inv (WF.of_wf hwf) (objInv_iff.mp ho)

/-- `a = a` and `a = std::move(a)` leave the object untouched. -/
theorem C04_variant_self_assignment_noop (p : Prog) (hwf : p.wf = true) (o : Obj) :
    execMethod p p.copyAssign 0 .self o = .ok o ∧ execMethod p p.moveAssign 0 .self o = .ok o :=
  selfAssign_noop (WF.of_wf hwf) o

/-- `emplace<i>()` makes exactly alternative `i` the live one. -/
theorem C04_variant_emplace_activates (p : Prog) (hwf : p.wf = true) (o : Obj) (ho : objInv p o = true) (i : Nat)
    (hi : i < p.n) : ∃ o', execMethod p p.emplace i .none o = .ok o' ∧ objInv p o' = true ∧ o'.tag = i :=
  ⟨_, emplace_eq (WF.of_wf hwf) (objInv_iff.mp ho) hi, objInv_iff.mpr (.active hi), rfl⟩

/-- Every program that the generator emits today (all field-kind lists of the translator's domain: every list over
    {primitive, std::array, variable-length array, nested owner, nested flat} of length 2–3, over the first three of
    length 4, over {primitive, variable-length array} of length 5) is well-formed. -/
theorem C04_variant_generated_tables_wellformed :
    (Gen.VariantTables.chunks.all fun c => c.all fun kp => kp.2.wf) = true := by decide +kernel

/-- … hence every generated union is safe under every operation sequence. -/
theorem C04_variant_generated_unions_safe (kinds : String) (p : Prog) (hm : (kinds, p) ∈ Gen.VariantTables.progs)
    (k : Nat) (ops : List Op) :
    ∃ w', run p (emptyWorld k) (ops ++ dtorAll k) = .ok w' ∧ allGone w' = true := by
  obtain ⟨c, hc, hkp⟩ := List.mem_flatten.mp hm
  exact C04_variant_nothing_left_at_end p
    (List.all_eq_true.mp (List.all_eq_true.mp C04_variant_generated_tables_wellformed c hc) (kinds, p) hkp) k ops

/-! non-vacuity: a generated program, and a world with live objects -/
example : ∃ kp ∈ Gen.VariantTables.progs, kp.1 = "pv" := by decide +kernel
example : worldInv pvBeforeFix (worldWith pvBeforeFix 1) = true := by decide +kernel

/-! regression: the template before the repair (negation witnesses, replayed on the real code by the harness) -/

/-- the table of `{uint8 a; uint8[<=4] b}` before the repair is not well-formed … -/
example : pvBeforeFix.wf = false := by decide +kernel
example : destroyOk pvBeforeFix = false ∧ destroyCovers pvBeforeFix = false := by decide +kernel
/-- … `set_a(); set_b()` (from a state where `a` is active): `destroy_current()` runs `~vector` on `b`, which does
    not exist — the wild free that ASan reports -/
example : run pvBeforeFix (worldWith pvBeforeFix 0) [.emplace 0 1] = .error (.wildDestroy 1) := by decide +kernel
/-- … and `set_b(); ~U()`: tag 1 has no branch, the vector is never destroyed — the leak that LeakSanitizer reports -/
example : run pvBeforeFix (worldWith pvBeforeFix 1) [.dtor 0] = .error (.leak 1) := by decide +kernel
/-- the default constructor itself runs a destructor on storage where nothing lives -/
example : run pvBeforeFix (emptyWorld 1) [.ctor 0] = .error (.wildDestroy 1) := by decide +kernel
example : run vpIndexFixedOnly (emptyWorld 1) [.ctor 0] = .error (.wildDestroy 0) := by decide +kernel
/-- without the guard `a = a` destroys the member it is about to copy from -/
example : run vpIndexFixedOnly (worldWith vpIndexFixedOnly 0) [.copyAssign 0 0] = .error (.readDead 0) := by decide +kernel
example : run vpIndexFixedOnly (worldWith vpIndexFixedOnly 0) [.moveAssign 0 0] = .error (.readDead 0) := by decide +kernel

end variant

section prior
open NunavutVerif.Dsdl NunavutVerif.CppObj

/-- Decoding into ANY destination object of the right layout — whatever values, counts, inactive union members,
    C union tags and container contents it holds — gives exactly the specification's outcome: the same error, or
    the same size and an object whose abstract value is the specified value (and which still has the layout, so
    the statement applies again to the next decode into it). -/
theorem C04_decode_into_any_object_refines_spec (t : Ty) (bs : List Bool) (o : Obj) (hok : okTy t = true)
    (hs : shape t o = true) :
    match deBits t bs with
    | .error e => deInto t bs o = .error (.de e)
    | .ok (v, n) => ∃ o', deInto t bs o = .ok (o', n) ∧ abs t o' = some v ∧ shape t o' = true := by
  unfold deInto
  exact (deInto_ref t bs o hok hs).elim (fun _ => rfl) fun v n o' ha hS => ⟨o', rfl, ha, hS⟩

/-- The outcome of a deserialization — decoded value, consumed size, error — does not depend on what the
    destination held before the call. -/
theorem C04_prior_state_independence (t : Ty) (bs : List Bool) (o₁ o₂ : Obj) (hok : okTy t = true)
    (h₁ : shape t o₁ = true) (h₂ : shape t o₂ = true) :
    match deInto t bs o₁, deInto t bs o₂ with
    | .ok (a, n), .ok (b, m) => abs t a = abs t b ∧ (abs t a).isSome = true ∧ n = m
    | .error e₁, .error e₂ => e₁ = e₂
    | _, _ => False := by
  unfold deInto
  refine (deInto_ref t bs o₁ hok h₁).elim (fun e r2 => ?_) (fun v n a va _ r2 => ?_) (deInto_ref t bs o₂ hok h₂)
  · rw [show deIntoG true t bs o₂ = _ from r2]
  · obtain ⟨b, hb, vb, _⟩ := r2
    rw [hb]
    simp [va, vb]

/-- Histories: after any successful earlier decode into the object, the next decode behaves as into a fresh,
    value-initialised object. -/
theorem C04_decode_after_decode_same_as_fresh (t : Ty) (bs₁ bs₂ : List Bool) (o o₁ : Obj) (n₁ : Nat)
    (hok : okTy t = true) (hs : shape t o = true) (h1 : deInto t bs₁ o = .ok (o₁, n₁)) :
    match deInto t bs₂ o₁, deInto t bs₂ (defaultX t) with
    | .ok (a, n), .ok (b, m) => abs t a = abs t b ∧ (abs t a).isSome = true ∧ n = m
    | .error e₁, .error e₂ => e₁ = e₂
    | _, _ => False :=
  C04_prior_state_independence t bs₂ o₁ (defaultX t) hok (deInto_shape hok hs h1) (shape_default t hok)

/-! non-vacuity and regression.  `uint8 a; uint8[<=4] b`, bytes `05 01 07` (a = 5, b = [7]). -/
def tAB : Ty := .struct [.uint 8 .sat, .varr (.uint 8 .sat) 4]
def bytesAB : List Bool := unpackBytes [5, 1, 7]
/-- a C destination full of junk: `count` far outside the capacity, junk elements -/
def junkC : Obj := .struct [.leaf (.int 170), .varr [.leaf (.int 170), .leaf (.int 170), .leaf (.int 170), .leaf (.int 170)] 43690]
/-- a C++ destination that already holds the result of an earlier decode -/
def usedX : Obj := .struct [.leaf (.int 9), .vec [.leaf (.int 1), .leaf (.int 2)]]

example : shape tAB junkC = true ∧ shape tAB usedX = true ∧ okTy tAB = true := by decide +kernel
example : (deInto tAB bytesAB junkC).toOption.map (fun r => sizes r.1) = some [1] := by decide +kernel
example : (deInto tAB bytesAB usedX).toOption.map (fun r => sizes r.1) = some [1] := by decide +kernel
/-- before the repair the C++ container is appended to: the same bytes decode to a 3-element array when the
    destination held 2 elements, to a 1-element array when it was fresh — the outcome depends on the prior state -/
example : (deIntoBeforeFix tAB bytesAB usedX).toOption.map (fun r => sizes r.1) = some [3] := by decide +kernel
example : (deIntoBeforeFix tAB bytesAB (defaultX tAB)).toOption.map (fun r => sizes r.1) = some [1] := by decide +kernel

end prior

section bounds
open NunavutVerif.CBuf

/-- Default build (capacity check compiled in, no capacity overridden): for EVERY object — counts above the
    capacity and union tags outside the option range included — and every buffer capacity including 0, serialization
    never indexes outside the buffer or the object.  (That an object of the type's layout then ends in success or a
    documented error code is `C04_c_serialize_total`.) -/
theorem C04_c_serialize_in_bounds (cs : Bool) (m : Msg) (o : MObj) (capBytes : Nat)
    (hno : ∀ f ∈ m.fields, noOverride f = true) : (ser true cs m o capBytes).isOob = false :=
  (ser_shows true cs m o capBytes).notOob
    (no_false_of_all fun f hf => okSer_of_okCmp (okCmp_of_noOverride cs (hno f hf)))
    fun ⟨_, hcap⟩ => by rw [msgMax_congr fun f hf => fieldMaxB_of_noOverride cs (hno f hf)]; exact hcap rfl

/-- The capacity-override option, object side.  When the emitted length comparison uses the capacity of the array
    that is really there (`cmpStorage = true`), serialization never reads outside the object — for every object,
    every buffer size, with or without the capacity check.  Bit arrays are never compared by `sizeof`: for them the
    condition is `okBits` (the bound of either comparison is within `8 * sizeof(bitpacked)`), which holds for every
    generated header by `C04_c_array_kinds_table_safe`. -/
theorem C04_c_serialize_override_never_leaves_object (checkCap : Bool) (m : Msg) (o : MObj) (capBytes : Nat)
    (hb : ∀ f ∈ m.fields, okBits f = true) : (ser checkCap true m o capBytes).isOobObject = false :=
  (ser_shows checkCap true m o capBytes).notObj (no_false_of_all fun f hf => okSer_of_okCmp (okCmp_storage f (hb f hf)))

/-- The capacity-override option, buffer side: with the capacity check compiled out the per-primitive checks protect
    only what is written through the checked setter; everything is in bounds under the user's obligation
    "the buffer holds the largest message the reduced capacities allow" (see the `sBytes` examples below: 5 bytes
    are enough, with 3 the bulk copy overruns the buffer). -/
theorem C04_c_serialize_override_buffer_condition (m : Msg) (o : MObj) (capBytes : Nat)
    (hb : ∀ f ∈ m.fields, okBits f = true)
    (hbuf : msgMax (fieldMaxB true) m ≤ 8 * capBytes) : (ser false true m o capBytes).isOob = false :=
  (ser_shows false true m o capBytes).notOob (no_false_of_all fun f hf => okSer_of_okCmp (okCmp_storage f (hb f hf)))
    fun _ => hbuf

/-- When do the per-write checks alone protect the buffer?  When EVERY write goes through the bounds-checked
    setter (the C++ serializer as it is; not the C serializer, see the `sBytes` example below) and the length
    comparisons protect the arrays: then the up-front capacity check may be compiled out (`checkCap = false`, the
    `…_DISABLE_SERIALIZATION_BUFFER_CHECK_` switch of the override option) and still no buffer size, zero included,
    and no object can make serialization leave the buffer or the object. -/
theorem C04_serialize_all_writes_checked_any_buffer (checkCap cs : Bool) (m : Msg) (o : MObj) (capBytes : Nat)
    (h : ∀ f ∈ m.fields, okCmp cs f = true ∧ allChecked f = true) (ht : m.tagOk = true) :
    (ser checkCap cs m o capBytes).isOob = false :=
  (ser_shows checkCap cs m o capBytes).notOob (no_false_of_all fun f hf => okSer_of_okCmp (h f hf).1)
    fun ⟨hu, _⟩ => by
      rcases hu with hu | hu
      · rw [ht] at hu; cases hu
      · exact absurd hu (no_false_of_all fun f hf => (h f hf).2)

/-- Deserialization never writes outside the object, for every input (`rd` is any content of any buffer, size 0
    included — reads saturate) — provided the emitted length comparison protects the array that is really there:
    always in a default build, and under the override option when it compares with the real capacity. -/
theorem C04_c_deserialize_in_bounds (cs : Bool) (rd : Nat → Nat → Nat) (m : Msg)
    (h : ∀ f ∈ m.fields, okCmp cs f = true) : (de cs rd m).isOob = false :=
  (de_shows cs rd m).notOob (no_false_of_all fun f hf => okDe_of_okCmp (h f hf))

theorem C04_c_deserialize_in_bounds_default (cs : Bool) (rd : Nat → Nat → Nat) (m : Msg)
    (hno : ∀ f ∈ m.fields, noOverride f = true) : (de cs rd m).isOob = false :=
  C04_c_deserialize_in_bounds cs rd m fun f hf => okCmp_of_noOverride cs (hno f hf)

theorem C04_c_deserialize_in_bounds_override (rd : Nat → Nat → Nat) (m : Msg) (hb : ∀ f ∈ m.fields, okBits f = true) :
    (de true rd m).isOob = false :=
  C04_c_deserialize_in_bounds true rd m fun f hf => okCmp_storage f (hb f hf)

/-! regression / exactness: `uint8 a; uint16[<=6] xs; uint8 b` with `…_xs_ARRAY_CAPACITY_` user-defined as 2. -/
def sOv : Msg := .struct [.prim 8 false, .varr 8 16 6 2 false true, .prim 8 false]
def sBytes : Msg := .struct [.prim 8 false, .varr 8 8 6 2 false false, .prim 8 false]
/-- the templates as they are compare with the DSDL capacity 6: a wire count of 3 is accepted and element 2 of a
    2-element array is written … -/
example : de false (fun off _ => if off = 8 then 3 else 0) sOv = .oobObject 2 2 := by decide +kernel
/-- … and an object whose count is 3 is read past its array -/
example : ser false false sOv (.struct [.prim, .count 3, .prim]) 64 = .oobObject 2 2 := by decide +kernel
/-- comparing with the real capacity turns both into the documented error -/
example : de true (fun off _ => if off = 8 then 3 else 0) sOv = .err .badArrayLength := by decide +kernel
example : ser false true sOv (.struct [.prim, .count 3, .prim]) 64 = .err .badArrayLength := by decide +kernel
/-- buffer side, check compiled out, buffer one byte short of what the reduced capacities need: elements written
    through the checked setter give the documented error, a bulk-copied byte array overruns the buffer -/
example : ser false true sOv (.struct [.prim, .count 2, .prim]) 5 = .err .bufferTooSmall := by decide +kernel
example : ser false true sBytes (.struct [.prim, .count 2, .prim]) 3 = .oobBuffer 16 16 := by decide +kernel
/-- the bound of `C04_c_serialize_override_buffer_condition` is tight: 5 bytes = 8 + (8 + 2·8) + 8 bits are enough -/
example : ser false true sBytes (.struct [.prim, .count 2, .prim]) 5 = .ok 40 := by decide +kernel
/-- all writes checked (C++), check compiled out, every buffer size 0..4 for a message that needs 5 bytes: documented error -/
example : (List.range 5).all (fun cap => ser false false (.struct [.prim 8 true, .varr 8 8 6 6 true true, .prim 8 true])
    (.struct [.prim, .count 2, .prim]) cap == .err .bufferTooSmall) = true := by decide +kernel
/-- … one bulk-copied (unchecked) byte array is enough to lose that -/
example : ser false false (.struct [.prim 8 true, .varr 8 8 6 6 true false, .prim 8 true]) (.struct [.prim, .count 2, .prim]) 3
    = .oobBuffer 16 16 := by decide +kernel
/-- default build, count far above the capacity, zero-sized buffer -/
example : ser true false (.struct [.prim 8 false, .varr 8 8 6 6 false false]) (.struct [.prim, .count 99999]) 0 = .err .bufferTooSmall := by decide +kernel
example : ser true false (.struct [.prim 8 false, .varr 8 8 6 6 false false]) (.struct [.prim, .count 99999]) 8 = .err .badArrayLength := by decide +kernel

/-- EXACTNESS, deserializer: one array field never makes `_deserialize_` leave the object, for every buffer content,
    IF AND ONLY IF the bound of the emitted comparison is within the array that is really there. -/
theorem C04_c_deserialize_object_safe_iff (cs : Bool) (f : Field) :
    (∀ rd off, (deField cs rd off f).isOob = false) ↔ okDe cs f = true := by
  constructor
  · intro h
    cases hd : okDe cs f with
    | true => rfl
    | false =>
      obtain ⟨rd, hr⟩ := deField_oob_of_not_okDe cs 0 f hd
      have := h rd 0
      rw [Out.isOob_of_isOobObject hr] at this
      cases this
  · intro h rd off
    exact (deField_shows cs rd off f).notOob (by simp [h])

/-- EXACTNESS, serializer: no object (any `count`) and no buffer size makes `_serialize_` read outside the object
    IF AND ONLY IF the bound of the emitted comparison is within the array that is really there. -/
theorem C04_c_serialize_object_safe_iff (cs : Bool) (f : Field) :
    (∀ capBits off v, (serField cs capBits off f v).isOobObject = false) ↔ okSer cs f = true := by
  constructor
  · intro h
    cases hd : okSer cs f with
    | true => rfl
    | false =>
      obtain ⟨capBits, v, hr⟩ := serField_oob_of_not_okSer cs 0 f hd
      rw [h capBits 0 v] at hr
      cases hr
  · intro h capBits off v
    exact (serField_shows cs capBits off f v).notObj (by simp [h])

/-- A variable-length BIT array under the override option: `bitpacked` is dimensioned from the DSDL capacity and both
    comparisons use the DSDL literal (what the templates emit), or dimension and comparisons all follow the macro —
    then for EVERY user capacity not above the DSDL capacity (the documented precondition; the header `#error`s
    otherwise) no input and no object makes the codec touch a byte outside `bitpacked`. -/
theorem C04_c_bit_array_safe_for_every_reduced_capacity (lp cap sl : Nat) (sm : Bool) (cS cD : Cmp) (lpc : Bool)
    (hred : sl ≤ cap) (hS : sm = true → cS = .macro) (hD : sm = true → cD = .macro) :
    (∀ rd off, (deField false rd off (.vbits lp cap sl sm cS cD lpc)).isOob = false) ∧
    (∀ capBits off v, (serField false capBits off (.vbits lp cap sl sm cS cD lpc) v).isOobObject = false) := by
  have hc : okCmp false (.vbits lp cap sl sm cS cD lpc) = true := okBits_vbits lp cap sl sm cS cD lpc hred hS hD
  exact ⟨fun rd off => (deField_shows false rd off _).notOob (by simp [okDe_of_okCmp hc]),
    fun capBits off v => (serField_shows false capBits off _ v).notObj (by simp [okSer_of_okCmp hc])⟩

/-- … and it is exactly the combination "dimension from the macro, comparison against the DSDL literal" that leaves the object:
    capacity 20 reduced to 2 leaves one byte, a count of 9 is accepted and the second byte is touched. -/
example : de false (fun off _ => if off = 8 then 9 else 0) (.struct [.prim 8 false, .vbits 8 20 2 true .lit .lit false, .prim 8 false])
    = .oobObject 1 1 := by decide +kernel
example : ser false false (.struct [.prim 8 false, .vbits 8 20 2 true .lit .lit false, .prim 8 false]) (.struct [.prim, .count 9, .prim]) 64
    = .oobObject 1 1 := by decide +kernel
/-- the shipped shape (dimension from the DSDL capacity): the same input is fine, 21 is refused -/
example : de false (fun off _ => if off = 8 then 9 else 0) (.struct [.prim 8 false, .vbits 8 20 2 false .lit .lit false, .prim 8 false])
    = .ok 33 := by decide +kernel
example : de false (fun off _ => if off = 8 then 21 else 0) (.struct [.prim 8 false, .vbits 8 20 2 false .lit .lit false, .prim 8 false])
    = .err .badArrayLength := by decide +kernel

/-- Every row of the table regenerated from the headers the generator emits — 10 array kinds x {override off, on} x
    {endianness any, little} — passes the decidable criterion `Row.safe`.  (FAILS to build when a template sizes an array
    from the user-overridable macro and keeps comparing with the DSDL capacity.) -/
theorem C04_c_array_kinds_table_safe : Gen.CArrayKinds.rows.all Row.safe = true := by decide +kernel

/-- a field of a generated type: a primitive, or an array of a kind of the table with any prefix / element width, any
    DSDL capacity and any user capacity not above it -/
def FromTable (cs : Bool) (f : Field) : Prop :=
  (∃ w c, f = .prim w c) ∨
    ∃ r ∈ Gen.CArrayKinds.rows, (r.isVarr = true → r.cs = cs) ∧ ∃ lp eb cap usr, usr ≤ cap ∧ r.field lp eb cap usr = some f

/-- every field built from a row of the generated table — any widths, any DSDL capacity, any user capacity not above it —
    has length comparisons that protect the array as it is dimensioned -/
theorem C04_c_generated_array_kinds_comparisons_protect {cs : Bool} {f : Field} (h : FromTable cs f) : okCmp cs f = true := by
  rcases h with ⟨w, c, rfl⟩ | ⟨r, hr, hcs, lp, eb, cap, usr, hu, hf⟩
  · rfl
  · have hs : r.safe = true := List.all_eq_true.mp C04_c_array_kinds_table_safe r hr
    obtain ⟨g, hg, hok⟩ := Row.safe_field r hs lp eb cap usr hu
    rw [hf] at hg
    cases hg
    cases hv : r.isVarr with
    | true => exact hcs hv ▸ hok
    | false => exact (okCmp_cs_irrelevant cs r.cs f (Row.field_not_varr r hv lp eb cap usr f hf)).trans hok

/-- EVERY ARRAY KIND x OVERRIDE ON/OFF x EVERY USER-REDUCED CAPACITY.  A message whose fields are primitives and arrays of the
    kinds of the table: no object (counts and tags outside their range included), no buffer size, with or without the
    up-front capacity check, makes `_serialize_` read outside the object; no buffer content makes `_deserialize_` write
    outside the object.  Precondition: the user capacity does not exceed the DSDL capacity. -/
theorem C04_c_generated_array_kinds_never_leave_object (cs : Bool) (m : Msg) (hm : ∀ f ∈ m.fields, FromTable cs f) :
    (∀ checkCap o capBytes, (ser checkCap cs m o capBytes).isOobObject = false) ∧ (∀ rd, (de cs rd m).isOob = false) := by
  have hc : ∀ f ∈ m.fields, okCmp cs f = true := fun f hf => C04_c_generated_array_kinds_comparisons_protect (hm f hf)
  exact ⟨fun checkCap o capBytes => (ser_shows checkCap cs m o capBytes).notObj
    (no_false_of_all fun f hf => okSer_of_okCmp (hc f hf)), fun rd => C04_c_deserialize_in_bounds cs rd m hc⟩

/-- The criterion is not too strict: a row that fails it and that the model can express yields, for DSDL capacity 16
    reduced to 1, an input on which the deserializer or the serializer leaves the object. -/
theorem C04_c_rejected_array_kind_has_failing_input (r : Row) (h : r.safe = false) (lp eb : Nat) (f : Field)
    (hf : r.field lp eb 16 1 = some f) :
    (∃ rd, (deField r.cs rd 0 f).isOobObject = true) ∨ (∃ capBits v, (serField r.cs capBits 0 f v).isOobObject = true) := by
  have hu := Row.rejected_field r h lp eb 16 1 (by decide) f hf
  rw [okCmp_eq_okSer_and_okDe, Bool.and_eq_false_iff] at hu
  exact hu.symm.imp (deField_oob_of_not_okDe r.cs 0 f) (serField_oob_of_not_okSer r.cs 0 f)

/-- non-vacuity: the table has the override rows; a seeded row "bit array dimensioned from the macro, compared with the
    literal" is expressible and fails the criterion -/
example : (Gen.CArrayKinds.rows.filter fun r => r.override && r.overridable).length = 10 := by decide +kernel
example : (Gen.CArrayKinds.rows.filter fun r => r.isVarr && r.override).all (fun r => r.cs) = true := by decide +kernel
example : ({ kind := "VBool", override := true, little := false, varLen := true, bits := true, overridable := true, storMacro := true,
             cmpSer := .lit, cmpDe := .lit, lpChecked := false, elemsChecked := false } : Row).safe = false := by decide +kernel
example : FromTable true (.varr 8 16 6 2 false true) :=
  .inr ⟨{ kind := "VZero", override := true, little := false, varLen := true, bits := false, overridable := true, storMacro := true,
          cmpSer := .storage, cmpDe := .storage, lpChecked := false, elemsChecked := true }, by decide +kernel, fun _ => rfl, 8, 16, 6, 2,
        by decide, by decide⟩

/-- the model's error codes are codes of the table regenerated from the support templates — by name and by value — and
    each of them is one the templates really return; the C++ enumerators carry the same values -/
theorem C04_model_error_codes_documented (e : CErr) :
    (e.macroName, e.code) ∈ Gen.ErrorCodes.c ∧ e.macroName ∈ Gen.ErrorCodes.cReturned ∧
      ∀ n, e.cppName = some n → (n, e.code) ∈ Gen.ErrorCodes.cpp ∧ n ∈ Gen.ErrorCodes.cppReturned := by
  cases e <;> simp [Gen.ErrorCodes.c, Gen.ErrorCodes.cpp, Gen.ErrorCodes.cReturned, Gen.ErrorCodes.cppReturned,
    CErr.macroName, CErr.code, CErr.cppName]

/-- every code a template returns is a documented one (C and C++), codes are distinct, positive and below 128, and the
    two languages agree on the values of the codes both have -/
theorem C04_returned_codes_documented :
    (∀ n ∈ Gen.ErrorCodes.cReturned, n ∈ Gen.ErrorCodes.c.map (·.1)) ∧
    (∀ n ∈ Gen.ErrorCodes.cppReturned, n ∈ Gen.ErrorCodes.cpp.map (·.1)) ∧
    (Gen.ErrorCodes.c.map (·.2)).Nodup ∧ (Gen.ErrorCodes.cpp.map (·.2)).Nodup ∧
    (∀ p ∈ Gen.ErrorCodes.c ++ Gen.ErrorCodes.cpp, 0 < p.2 ∧ p.2 < 128) ∧
    (∀ p ∈ Gen.ErrorCodes.cpp, p.2 ∈ Gen.ErrorCodes.c.map (·.2)) := by
  simp [Gen.ErrorCodes.c, Gen.ErrorCodes.cpp, Gen.ErrorCodes.cReturned, Gen.ErrorCodes.cppReturned]

/-- a return of the generated routine: success, or the negation of a documented code -/
def Out.documented : Out → Prop
  | .ok _ => True
  | .err e => (e.macroName, e.code) ∈ Gen.ErrorCodes.c
  | _ => False

/-- an outcome that is a return (not a memory fault, not a layout mismatch) is success or a code of the generated table -/
theorem C04_c_every_exit_documented {r : Out} (h : r.isExit = true) : Out.documented r := by
  cases r with
  | ok n => trivial
  | err e => exact (C04_model_error_codes_documented e).1
  | _ => simp [Out.isExit] at h

/-- TOTALITY, serializer, default build: for every object of the generated type (any counts, any tag), every buffer size
    and every combination of `NULL` arguments the routine returns success or a documented code. -/
theorem C04_c_serialize_total (objNull bufNull sizeNull cs : Bool) (m : Msg) (o : MObj) (capBytes : Nat)
    (hno : ∀ f ∈ m.fields, noOverride f = true) (hfit : MObj.fits m o = true) :
    Out.documented (serApi objNull bufNull sizeNull true cs m o capBytes) := by
  unfold serApi
  split
  · exact (C04_model_error_codes_documented .invalidArgument).1
  · exact C04_c_every_exit_documented (Out.isExit_of (C04_c_serialize_in_bounds cs m o capBytes hno) ((ser_shows true cs m o capBytes).notShape hfit))

/-- TOTALITY, serializer, override option with the capacity check compiled out: the same under the user's obligation. -/
theorem C04_c_serialize_override_total (objNull bufNull sizeNull : Bool) (m : Msg) (o : MObj) (capBytes : Nat)
    (hb : ∀ f ∈ m.fields, okBits f = true) (hbuf : msgMax (fieldMaxB true) m ≤ 8 * capBytes) (hfit : MObj.fits m o = true) :
    Out.documented (serApi objNull bufNull sizeNull false true m o capBytes) := by
  unfold serApi
  split
  · exact (C04_model_error_codes_documented .invalidArgument).1
  · exact C04_c_every_exit_documented (Out.isExit_of (C04_c_serialize_override_buffer_condition m o capBytes hb hbuf) ((ser_shows false true m o capBytes).notShape hfit))

/-- TOTALITY, deserializer: every buffer content and size (0 and a `NULL` buffer included), every combination of `NULL`
    arguments: success or a documented code. -/
theorem C04_c_deserialize_total (objNull bufNull sizeNull cs : Bool) (sizeBytes : Nat) (rd : Nat → Nat → Nat) (m : Msg)
    (h : ∀ f ∈ m.fields, okCmp cs f = true) : Out.documented (deApi objNull bufNull sizeNull sizeBytes cs rd m) := by
  unfold deApi
  split
  · exact (C04_model_error_codes_documented .invalidArgument).1
  · exact C04_c_every_exit_documented (Out.isExit_of (C04_c_deserialize_in_bounds cs rd m h) (de_shows cs rd m).notShape)

/-- non-vacuity: each documented outcome of the model is reached -/
example : serApi true false false true false sOv (.struct [.prim, .count 1, .prim]) 64 = .err .invalidArgument := by decide +kernel
example : deApi false true false 0 false (fun _ _ => 0) sOv = .ok 24 := by decide +kernel
example : deApi false true false 3 false (fun _ _ => 0) sOv = .err .invalidArgument := by decide +kernel
example : ser true false (.union 8 false [.prim 8 false, .fbits 20]) (.union 7 [.prim, .prim]) 8 = .err .badUnionTag := by decide +kernel
example : ser true false (.struct [.farr 16 3 true, .fbits 20]) (.struct [.prim, .prim]) 9 = .ok 72 := by decide +kernel
example : ser true false (.struct [.farr 16 3 true, .fbits 20]) (.struct [.prim, .prim]) 8 = .err .bufferTooSmall := by decide +kernel

end bounds

end NunavutVerif.Properties.C04
