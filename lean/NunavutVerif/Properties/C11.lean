import NunavutVerif.Lemmas.Namespace
import NunavutVerif.Lemmas.NamespaceGlue
/-!
# C11 — types map one-to-one onto files in the output tree; the namespace model is a tree

Quantifiers: every configuration `cfg` (any stropping function `strop`, stropping on or off, any
extension, namespace-file stem and spelling of the output directory), every finite list `ts` of types
whose namespaces start with one root component `r` (any depth, gaps, several versions, duplicates), and
every order `ks` in which the second pass of `build_namespace_tree` may walk its `set` of namespace
names (`hks`: the same members as the index; `buildTree` itself is the instance `ks = index`).

Hypotheses that are *not* about the tree:
* `NamesOk cfg t` — the stropped namespace components and the stropped `Short_M_m` of `t` are
  identifier-shaped (non-empty, no `/`, no `.`) and the extension is a valid `with_suffix` argument.
  This is what `filter_id` guarantees (C09) and what the DSDL grammar guarantees when stropping is off.
  Without it pathlib splits, drops or re-roots segments; the model has those branches (`pjoin`,
  `withSuffix`), the formula theorems do not cover them.
* for namespace files: `cfg.strop c` identifier-shaped for every component (`Namespace.__init__` strops whatever
  `enable_stropping` says) and the stem `cfg.stem` identifier-shaped.
* injectivity of the stropping function on the names involved — the documented exclusion of the
  property ("names folded onto one identifier by the one-way stropping"); only `C11_distinct_types_distinct_files`
  and its form for every extension need it.  Since the `fix:` commit for `Namespace.__eq__` the *tree* theorems need
  no such hypothesis.
-/
namespace NunavutVerif.Namespace

/-- T1 (types): `outputPath t = outDir / strop(c₁)/…/strop(cₙ) / (strop(Short_M_m) ++ ext)`.
What is stropped: each namespace component separately and the *whole* string `Short_M_m`
(`estrop` = `filter_id(·, "path")` if `enable_stropping` else the identity); the extension is appended
after stropping; `outDir` is `PurePath(output_dir)`. -/
theorem C11_type_path_formula (cfg : Cfg) (t : Ty) (h : NamesOk cfg t) :
    outputPath cfg t =
      .ok (basePath cfg ++ (t.ns.map (estrop cfg) ++ [estrop cfg (shortVer t) ++ cfg.ext])) :=
  outputPath_formula cfg t h

/-- T1 (namespace files): `outDir / strop(c₁)/…/strop(cₙ) / (stem ++ ext)`; here the components are
stropped always, whatever `enable_stropping` says (`Namespace.__init__`). -/
theorem C11_namespace_path_formula (cfg : Cfg) (k : Key) (hk : ∀ c ∈ k, IdSeg (cfg.strop c))
    (hstem : IdSeg cfg.stem) (hext : ValidExt cfg.ext) :
    nsOutputPath cfg k = .ok (basePath cfg ++ k.map cfg.strop ++ [cfg.stem ++ cfg.ext]) :=
  nsOutputPath_formula cfg k hk hstem hext

/-- Type files and namespace files live in the same folder when `make_path` and `Namespace.__init__`
strop alike (stropping enabled, or a language whose `filter_id` is the identity). -/
theorem C11_type_in_its_namespace_folder (cfg : Cfg) (t : Ty) (h : NamesOk cfg t)
    (hsame : ∀ c ∈ t.ns, estrop cfg c = cfg.strop c) (hstem : IdSeg cfg.stem) :
    ∃ folder, outputPath cfg t = .ok (folder ++ [estrop cfg (shortVer t) ++ cfg.ext]) ∧
      nsOutputPath cfg t.ns = .ok (folder ++ [cfg.stem ++ cfg.ext]) := by
  refine ⟨basePath cfg ++ t.ns.map cfg.strop, ?_, ?_⟩
  · rw [outputPath_formula cfg t h, List.map_congr_left hsame, List.append_assoc]
  · exact nsOutputPath_formula cfg t.ns (fun c hc => hsame c hc ▸ h.comps c hc) hstem h.ext

/-- `Short ++ "_" ++ str(M) ++ "_" ++ str(m)` decomposes uniquely (the short name may itself contain
underscores and digits). -/
theorem C11_short_version_decomposes (t u : Ty) (h : shortVer t = shortVer u) :
    t.short = u.short ∧ t.major = u.major ∧ t.minor = u.minor :=
  shortVer_inj h

/-- T2: two types that differ in namespace, short name or version get different files, provided the
stropping function does not fold the names involved (each namespace component, and `Short_M_m`). -/
theorem C11_distinct_types_distinct_files (cfg : Cfg) (t u : Ty) (ht : NamesOk cfg t) (hu : NamesOk cfg u)
    (hcomps : ∀ a ∈ t.ns, ∀ b ∈ u.ns, estrop cfg a = estrop cfg b → a = b)
    (hname : estrop cfg (shortVer t) = estrop cfg (shortVer u) → shortVer t = shortVer u)
    (h : outputPath cfg t = outputPath cfg u) : t = u := by
  rw [outputPath_formula cfg t ht, outputPath_formula cfg u hu] at h
  have h1 := List.append_cancel_left (Except.ok.inj h)
  obtain ⟨h2, h3⟩ := List.append_inj' h1 rfl
  have h4 : estrop cfg (shortVer t) = estrop cfg (shortVer u) :=
    List.append_cancel_right (List.cons.inj h3).1
  obtain ⟨h5, h6, h7⟩ := shortVer_inj (hname h4)
  have h8 := map_injOn (estrop cfg) t.ns u.ns hcomps h2
  cases t; cases u; cases h5; cases h6; cases h7; cases h8; rfl

/-- The dotted `full_namespace` string identifies the component list (the model keys namespaces by the
list): joining dot-free components with `.` is injective. -/
theorem C11_dotted_name_identifies_components (xs ys : List Str) (hx : xs ≠ []) (hy : ys ≠ [])
    (hxs : ∀ x ∈ xs, '.' ∉ x) (hys : ∀ y ∈ ys, '.' ∉ y)
    (h : joinWith ['.'] xs = joinWith ['.'] ys) : xs = ys :=
  joinDot_inj xs ys hx hy hxs hys h

/-- T3: no type file leaves the output directory: the path is `outDir` followed by at least one part,
and no part is empty, contains `/` or is `..`. -/
theorem C11_type_path_inside_outdir (cfg : Cfg) (t : Ty) (h : NamesOk cfg t) :
    ∃ p, outputPath cfg t = .ok p ∧ Inside (basePath cfg) p :=
  (outputPath_insideSafe cfg t h).imp fun _ hp => ⟨hp.1, insideSafe_inside hp.2⟩

/-- T3 for namespace files. -/
theorem C11_namespace_path_inside_outdir (cfg : Cfg) (k : Key) (hk : ∀ c ∈ k, IdSeg (cfg.strop c))
    (hstem : IdSeg cfg.stem) (hext : ValidExt cfg.ext) :
    ∃ p, nsOutputPath cfg k = .ok p ∧ Inside (basePath cfg) p :=
  (nsOutputPath_insideSafe cfg k hk hstem hext).imp fun _ hp => ⟨hp.1, insideSafe_inside hp.2⟩

/-- With identifier-shaped names no `ValueError` leaves `build_namespace_tree`. -/
theorem C11_build_raises_nothing (cfg : Cfg) (ts : List Ty) (r : Str) (ks : List Key)
    (hne : ts ≠ []) (hroot : OneRoot r ts) (hks : ∀ k, k ∈ ks ↔ k ∈ (loop1 cfg ts).idx)
    (hnames : ∀ t ∈ ts, NamesOk cfg t) (hcomps : ∀ t ∈ ts, ∀ c ∈ t.ns, IdSeg (cfg.strop c))
    (hstem : IdSeg cfg.stem) : buildOk cfg (buildWith cfg ts ks) = true := by
  have b := built_buildWith cfg ts r ks hne hroot hks
  obtain ⟨t0, ht0⟩ := List.exists_mem_of_ne_nil ts hne
  unfold buildOk
  simp only [List.all_eq_true, Bool.and_eq_true]
  intro k hk
  have hok : ∀ x ∈ storedAt cfg (buildWith cfg ts ks).store k, isOk x = true := fun x hx => by
    obtain ⟨p, rfl, _⟩ := b.stored_insideSafe hnames hcomps hstem (hnames t0 ht0).ext
      ((b.keys k).1 (hasKey_of_mem_keysOf _ _ hk)) hx
    rfl
  exact ⟨hok _ List.mem_cons_self, fun e he => hok _ (List.mem_cons_of_mem _ (List.mem_map_of_mem he))⟩

section Tree
variable (cfg : Cfg) (ts : List Ty) (r : Str) (ks : List Key)
variable (hne : ts ≠ []) (hroot : OneRoot r ts) (hks : ∀ k, k ∈ ks ↔ k ∈ (loop1 cfg ts).idx)
include hne hroot hks

/-- T4a: `get_all_namespaces` yields exactly the non-empty prefixes of the types' namespaces — every
namespace between the root and a type, empty intermediate ones included — each exactly once. -/
theorem C11_namespaces_exactly_once :
    (allNamespaces (buildWith cfg ts ks)).Nodup ∧
    ∀ k, k ∈ allNamespaces (buildWith cfg ts ks) ↔ IsNs (nsOf ts) k :=
  (built_buildWith cfg ts r ks hne hroot hks).allNamespaces_spec

/-- T4b: `get_all_datatypes` yields every type of the input exactly once (and nothing else), each with
the path of T1. -/
theorem C11_types_exactly_once :
    ((allDatatypes (buildWith cfg ts ks)).map (·.1)).Nodup ∧
    ∀ e, e ∈ allDatatypes (buildWith cfg ts ks) ↔ (e.1 ∈ ts ∧ e.2 = outputPath cfg e.1) :=
  (built_buildWith cfg ts r ks hne hroot hks).allDatatypes_spec

/-- T4b for a duplicate-free input: the yielded types are a permutation of the input. -/
theorem C11_types_are_a_permutation (hnd : ts.Nodup) :
    ((allDatatypes (buildWith cfg ts ks)).map (·.1)).Perm ts := by
  obtain ⟨h1, h2⟩ := C11_types_exactly_once cfg ts r ks hne hroot hks
  rw [List.perm_ext_iff_of_nodup h1 hnd]
  intro t
  constructor
  · intro h
    obtain ⟨e, he, rfl⟩ := List.mem_map.1 h
    exact ((h2 e).1 he).1
  · intro h
    exact List.mem_map.2 ⟨(t, outputPath cfg t), (h2 _).2 ⟨h, rfl⟩, rfl⟩

omit hne hroot hks in
/-- T4c: `get_all_types` is the namespace traversal with every namespace followed by its own types. -/
theorem C11_all_types_is_namespaces_with_their_types :
    allTypes (buildWith cfg ts ks) =
      (allNamespaces (buildWith cfg ts ks)).flatMap (itemsOf (buildWith cfg ts ks).store) := by
  unfold allTypes allNamespaces; exact allGen_eq _ _ _

/-- T4d: parent/child links.  The root is `[r]` and has no parent; every other namespace `k` has the
parent `k` minus its last component, which is itself a namespace of the tree and lists `k` among its
nested namespaces; nested namespaces are exactly the one-component extensions, without repetition;
walking up the parent links from any namespace ends at the root. -/
theorem C11_parent_child_links :
    (buildWith cfg ts ks).root = [r] ∧
    parentOf (buildWith cfg ts ks).store [r] = none ∧
    (∀ k, IsNs (nsOf ts) k → k ≠ [r] →
      parentOf (buildWith cfg ts ks).store k = some k.dropLast ∧ IsNs (nsOf ts) k.dropLast ∧
      k ∈ nestedOf (buildWith cfg ts ks).store k.dropLast) ∧
    (∀ k c, c ∈ nestedOf (buildWith cfg ts ks).store k ↔ IsNs (nsOf ts) c ∧ c.dropLast = k ∧ k ≠ []) ∧
    (∀ k, (nestedOf (buildWith cfg ts ks).store k).Nodup) ∧
    (∀ k, IsNs (nsOf ts) k → climb (buildWith cfg ts ks).store k.length k = [r]) := by
  have b := built_buildWith cfg ts r ks hne hroot hks
  refine ⟨b.root, b.parentNone [r] rfl, ?_, b.shape.nested, b.shape.nestedNodup, fun k => b.climb_root⟩
  intro k hk hkr
  have hd : k.dropLast ≠ [] := fun e => hkr (by
    rw [← take_one_of_isNs hroot hk, List.take_of_length_le (length_le_one_of_dropLast_nil e)])
  exact ⟨b.parentSome k hk hd, isNs_dropLast hk hd, (b.shape.nested _ _).2 ⟨hk, rfl, hd⟩⟩

/-- T4e: `find_output_path_for_type` started at *any* namespace of the tree finds every type of the
tree and returns its output path; for a type that is not in the tree it raises `KeyError` (the model's
fuel is never exhausted). -/
theorem C11_lookup_total (start : Key) (hstart : IsNs (nsOf ts) start) (t : Ty) :
    (t ∈ ts → findPath (buildWith cfg ts ks).store start t = .hit (outputPath cfg t)) ∧
    (t ∉ ts → findPath (buildWith cfg ts ks).store start t = .keyError) := by
  rw [findPath_built (built_buildWith cfg ts r ks hne hroot hks) start hstart t]
  exact ⟨fun h => if_pos h, fun h => if_neg h⟩

/-- T5b: `filter_type_to_include_path` of a type of the tree (lookup, then `relative_to` the parent of
the root namespace's folder) is the include path `make_path` gives. -/
theorem C11_type_to_include_path (t : Ty) (ht : t ∈ ts) (h : NamesOk cfg t) (hr : IdSeg (cfg.strop r)) :
    typeToIncludePath cfg (buildWith cfg ts ks) t = includePath cfg t := by
  have b := built_buildWith cfg ts r ks hne hroot hks
  unfold typeToIncludePath
  rw [b.root, (C11_lookup_total cfg ts r ks hne hroot hks [r] b.rootNs t).1 ht,
    outputPath_formula cfg t h]
  simp only
  rw [nsFolder_idsegs cfg [r] (by simpa using hr), List.map_singleton, parentPath_append _ (idseg_ne_root hr),
    relativeTo_append _ _ (dirs_file_relative _ (List.forall_mem_map.2 h.comps) h.name)]
  exact (makePath_formula cfg t h).symm

end Tree

/-- T5a: the include path emitted for a referenced type is its output path relative to the output
directory — both are `make_path`.  Nothing about the tree or the root namespace enters: the statement
holds whether `dt` is generated in this run or merely referenced from another root namespace. -/
theorem C11_include_path_is_relative_output_path (cfg : Cfg) (dt : Ty) (h : NamesOk cfg dt) :
    ∃ rel, includePath cfg dt = .ok rel ∧ outputPath cfg dt = .ok (basePath cfg ++ rel) ∧
      relativeTo (basePath cfg ++ rel) (basePath cfg) = .ok rel :=
  ⟨_, makePath_formula cfg dt h, outputPath_formula cfg dt h,
    relativeTo_append _ _ (dirs_file_relative _ (List.forall_mem_map.2 h.comps) h.name)⟩

/-- The same type gets the same path in the tree of its own root namespace as the include path a
type of another root emits for it (any two type lists, any two walk orders, one configuration). -/
theorem C11_generated_and_referenced_agree (cfg : Cfg) (ts : List Ty) (r : Str) (ks : List Key)
    (hne : ts ≠ []) (hroot : OneRoot r ts) (hks : ∀ k, k ∈ ks ↔ k ∈ (loop1 cfg ts).idx)
    (dt : Ty) (hdt : dt ∈ ts) (h : NamesOk cfg dt) (start : Key) (hstart : IsNs (nsOf ts) start) :
    ∃ rel, includePath cfg dt = .ok rel ∧
      findPath (buildWith cfg ts ks).store start dt = .hit (.ok (basePath cfg ++ rel)) := by
  obtain ⟨rel, h1, h2, _⟩ := C11_include_path_is_relative_output_path cfg dt h
  exact ⟨rel, h1, by rw [(C11_lookup_total cfg ts r ks hne hroot hks start hstart dt).1 hdt, h2]⟩

/-- `build_namespace_tree` itself (second pass in index order) is an instance of `buildWith`. -/
theorem C11_buildTree_is_instance (cfg : Cfg) (ts : List Ty) :
    buildTree cfg ts = buildWith cfg ts (loop1 cfg ts).idx ∧
    ∀ k, k ∈ (loop1 cfg ts).idx ↔ IsNs (nsOf ts) k :=
  ⟨rfl, (inv1_loop1 cfg ts).idx⟩

/-- The degenerate input: with no types `build_namespace_tree` returns `Namespace("")` — one namespace
with the single empty component, no parent, no types, the namespace file directly in `outDir` (if stropping
leaves the empty component empty). -/
theorem C11_empty_type_list (cfg : Cfg) :
    (buildTree cfg []).root = [[]] ∧ allNamespaces (buildTree cfg []) = [[[]]] ∧
    allDatatypes (buildTree cfg []) = [] ∧ parentOf (buildTree cfg []).store [[]] = none ∧
    pathOf cfg (buildTree cfg []).store [[]] = nsOutputPath cfg [[]] := by
  simp [buildTree, buildWith, loop1, loop2, loop2By, finish, allNamespaces, allDatatypes, nsGen, typeGen,
    depthFuel, maxLen, mkNode, nestedOf, typesOf, parentOf, pathOf, findNode]

/-- `get_support_output_folder()` of **every** namespace of **every** tree — any type list (the empty
one included, where the tree is `Namespace("")`), any walk order — is the base output path
`PurePath(output_dir)`.  (It is stored, not derived: for the empty root namespace the namespace's own
folder *is* the output directory, so "parent of the root's folder" would be the directory above.) -/
theorem C11_support_folder_is_outdir (cfg : Cfg) (ts : List Ty) (ks : List Key) (k : Key) :
    baseOf cfg (buildWith cfg ts ks).store k = basePath cfg := by
  have h := baseOf_loops sameNs cfg ts ks k
  unfold buildWith loop2 finish
  -- `finish` returns the store as it is, unless it is empty: then it makes `Namespace("")` as `getOrMake` would
  split
  · exact (nodeOr_base cfg _ k).symm.trans (congrArg Node.base (nodeOr_getOrMake cfg [] [[]] k))
  · exact h

/-- Every support file goes to `outDir / support-namespace parts / (resource stem ++ ext)` — inside the
output directory, for every tree including the empty one (`--generate-support only`).  Hypotheses:
the parts of `support_namespace` and the resource's stem are identifier-shaped, the resource name is
`stem.suffix` with one proper suffix (`serialization.j2`, `nunavut_support.j2`, …). -/
theorem C11_support_file_inside_outdir (cfg : Cfg) (ts : List Ty) (ks : List Key) (subs : List Str)
    (stem suf : Str) (hsubs : ∀ s ∈ subs, IdSeg s) (hstem : IdSeg stem) (hsuf : suf ≠ [])
    (hsufd : '.' ∉ suf) (hsufs : '/' ∉ suf) (hext : ValidExt cfg.ext) :
    supportTarget cfg (buildWith cfg ts ks) subs (stem ++ '.' :: suf) =
      .ok (basePath cfg ++ (subs ++ [stem ++ cfg.ext])) ∧
    Inside (basePath cfg) (basePath cfg ++ (subs ++ [stem ++ cfg.ext])) :=
  ⟨supportTarget_dotted cfg _ (C11_support_folder_is_outdir cfg ts ks _) subs stem suf hsubs hstem hsuf hsufd hsufs
      hext,
    insideSafe_inside (insideSafe_dirs_file _ hsubs hstem hext)⟩

/-! `Model/NamespaceGlue.lean` transcribes `_make_parser` (`--outdir`, `--output-extension` with `extension_type`,
`--namespace-output-stem`), `ArgparseRunner._create_language_context`, the builder's overrides
(`if value is not None`), `create()` (`deep_update` of the language section) and the two `get_config_value` calls.
`None` (option absent) and the empty string are different inputs everywhere below. -/

/-- T6a, the API route (`set_target_language_extension(ext)`,
`set_target_language_configuration_override(WKCV_NAMESPACE_FILE_STEM, stem)`): a given extension wins over
properties.yaml and every configuration file — the *empty* one included; an absent one leaves the section's value
(`KeyError` if there is none).  The same for the stem (default `_` if the section has none).  `strop`/`enable` are
the language's. -/
theorem C11_api_overrides_reach_the_namespace (strop : Str → Str) (enable : Bool) (lang : Section)
    (files : List Section) (ext stem : Option Str) (outDir : Str) :
    cfgOfApi strop enable lang files ext stem outDir =
      (match ext with
        | some e => (.ok e : Except Err Str)
        | none => getConfigValue (files.foldl deepUpdate lang) keyExtension none).map
      (fun e => (⟨strop, enable, e,
          (match stem with
            | some s => s
            | none => sectionStem (files.foldl deepUpdate lang)),
          outDir⟩ : Cfg)) := by
  unfold cfgOfApi cfgOfSection
  rw [getConfigValue_effective_ext, getConfigValue_effective_stem]
  cases ext with
  | some e => rfl
  | none => cases getConfigValue (files.foldl deepUpdate lang) keyExtension none <;> rfl

/-- T6a, the command line: what the three options arrive as.  It is the API route (`cfgOfCli_eq_cfgOfApi`): a given
`-e` wins over properties.yaml and every `--configuration` file and arrives as `extension_type(raw)` — the *empty*
extension included; an absent one leaves the section's value; the same for the stem; the output directory is the
spelling itself, `nunavut_out` if absent. -/
theorem C11_cli_arguments_reach_the_namespace (strop : Str → Str) (enable : Bool) (lang : Section)
    (files : List Section) (a : CliArgs) :
    cfgOfCli strop enable lang files a =
      (match a.outputExtension with
        | some raw => (.ok (extensionType raw) : Except Err Str)
        | none => getConfigValue (files.foldl deepUpdate lang) keyExtension none).map
      (fun ext => (⟨strop, enable, ext,
          (match a.namespaceOutputStem with
            | some s => s
            | none => sectionStem (files.foldl deepUpdate lang)),
          a.outdir.getD defaultOutdir⟩ : Cfg)) := by
  rw [cfgOfCli_eq_cfgOfApi, C11_api_overrides_reach_the_namespace]
  cases a.outputExtension <;> rfl

/-- Which `-e` arguments `with_suffix` accepts after `extension_type`: all but `.` and those with a `/`
(the empty one, `h`, `.h`, `.tar.gz`, `..x` …). -/
theorem C11_cli_extension_accepted_iff (raw : Str) :
    validSuffix (extensionType raw) = true ↔ raw ≠ ['.'] ∧ '/' ∉ raw := by
  cases raw with
  | nil => simp [extensionType, validSuffix]
  | cons c r =>
    by_cases hc : c = '.'
    · subst hc
      simp [extensionType, validSuffix]
    · have h1 : ¬ (c :: r) = ['.'] := by intro e; simp at e; exact hc e.1
      simp [extensionType, validSuffix, hc, h1]

/-- T1 for **every** extension string (no hypothesis on `cfg.ext`): the type's file is
`outDir / strop(c₁)/…/strop(cₙ) / (strop(Short_M_m) ++ ext)` — `ext` appended as it is, empty or multi-dot — or
`build_namespace_tree` raises `ValueError` (exactly when `with_suffix` rejects the suffix). -/
theorem C11_type_path_for_every_extension (cfg : Cfg) (t : Ty) (hc : ∀ c ∈ t.ns, IdSeg (estrop cfg c))
    (hn : IdSeg (estrop cfg (shortVer t))) :
    outputPath cfg t =
      if validSuffix cfg.ext then
        .ok (basePath cfg ++ (t.ns.map (estrop cfg) ++ [estrop cfg (shortVer t) ++ cfg.ext]))
      else .error .badSuffix :=
  outputPath_every_ext cfg t hc hn

/-- T1 for namespace files, every extension string and every one-part stem: `… / (stem ++ ext)` for a stem
without a dot; pathlib replaces the last suffix of a dotted stem (`stemOf`: `x.y` + `.h` = `x.h`). -/
theorem C11_namespace_path_for_every_extension (cfg : Cfg) (k : Key) (hk : ∀ c ∈ k, IdSeg (cfg.strop c))
    (h1 : cfg.stem ≠ []) (h2 : '/' ∉ cfg.stem) (h3 : cfg.stem ≠ ['.']) :
    nsOutputPath cfg k =
      (if validSuffix cfg.ext then .ok (basePath cfg ++ k.map cfg.strop ++ [stemOf cfg.stem ++ cfg.ext])
       else .error .badSuffix) ∧
    ('.' ∉ cfg.stem → stemOf cfg.stem = cfg.stem) :=
  ⟨nsOutputPath_every_ext cfg k hk h1 h2 h3, stemOf_nodot cfg.stem⟩

/-- End to end: `nnvg -O outdir -e raw …` puts the type `t` at
`PurePath(outdir) / strop(ns)… / (strop(Short_M_m) ++ extension_type(raw))` for every accepted `raw`, the empty
string included, whatever properties.yaml and the configuration files say; and raises for the others. -/
theorem C11_cli_type_path_formula (strop : Str → Str) (enable : Bool) (lang : Section) (files : List Section)
    (a : CliArgs) (raw : Str) (ha : a.outputExtension = some raw) (t : Ty)
    (hc : ∀ c ∈ t.ns, IdSeg (if enable then strop c else c))
    (hn : IdSeg (if enable then strop (shortVer t) else shortVer t)) :
    ∃ cfg, cfgOfCli strop enable lang files a = .ok cfg ∧
      outputPath cfg t =
        if raw ≠ ['.'] ∧ '/' ∉ raw then
          .ok (pjoin [] (a.outdir.getD defaultOutdir) ++
            (t.ns.map (fun c => if enable then strop c else c) ++
              [(if enable then strop (shortVer t) else shortVer t) ++ extensionType raw]))
        else .error .badSuffix := by
  let cfg0 : Cfg := ⟨strop, enable, extensionType raw,
    (match a.namespaceOutputStem with
      | some s => s
      | none => sectionStem (files.foldl deepUpdate lang)), a.outdir.getD defaultOutdir⟩
  refine ⟨cfg0, by rw [C11_cli_arguments_reach_the_namespace, ha]; rfl, ?_⟩
  rw [outputPath_every_ext cfg0 t hc hn]
  by_cases hv : raw ≠ ['.'] ∧ '/' ∉ raw
  · rw [if_pos hv, if_pos ((C11_cli_extension_accepted_iff raw).2 hv)]; rfl
  · rw [if_neg hv, if_neg (fun h => hv ((C11_cli_extension_accepted_iff raw).1 h))]

/-- T2 under every override: whatever the extension is (the hypothesis `ValidExt` of
`C11_distinct_types_distinct_files` is not needed: two types that *have* files have different files), in
particular for every configuration `cfgOfCli` / `cfgOfApi` arrive at. -/
theorem C11_distinct_types_distinct_files_for_every_extension (cfg : Cfg) (t u : Ty)
    (htc : ∀ c ∈ t.ns, IdSeg (estrop cfg c)) (htn : IdSeg (estrop cfg (shortVer t)))
    (huc : ∀ c ∈ u.ns, IdSeg (estrop cfg c)) (hun : IdSeg (estrop cfg (shortVer u)))
    (hcomps : ∀ a ∈ t.ns, ∀ b ∈ u.ns, estrop cfg a = estrop cfg b → a = b)
    (hname : estrop cfg (shortVer t) = estrop cfg (shortVer u) → shortVer t = shortVer u)
    (p : Path) (ht : outputPath cfg t = .ok p) (hu : outputPath cfg u = .ok p) : t = u := by
  have hv : ValidExt cfg.ext := by
    by_cases hv : validSuffix cfg.ext = true
    · exact hv
    · rw [outputPath_every_ext cfg t htc htn, if_neg hv] at ht; cases ht
  exact C11_distinct_types_distinct_files cfg t u ⟨htc, htn, hv⟩ ⟨huc, hun, hv⟩ hcomps hname (ht.trans hu.symm)

/-! Containment so far is lexical (`Inside`).  `Fs` adds the two things that decide where the operating system
puts a path: the working directory and the symbolic links; `resolve` is the kernel's walk (`os.path.realpath`). -/

/-- Handing the spelling of the output directory to pathlib (which drops `.`, empty pieces and trailing
slashes but keeps every `..`) does not change the directory it names. -/
theorem C11_outdir_spelling_names_the_same_directory (fs : Fs) (cfg : Cfg) :
    resolveStr fs cfg.outDir = resolve fs (basePath cfg) :=
  resolveStr_eq_resolve_pjoin fs cfg.outDir

/-- T3 over the resolved output directory: the file of a type is, physically, `realpath(outDir)` followed by
the namespace folders and the file name — for every spelling of `outDir` (through links, with `..`), provided
no symbolic link lies *below* the resolved output directory. -/
theorem C11_type_file_below_resolved_outdir (fs : Fs) (cfg : Cfg) (t : Ty) (h : NamesOk cfg t)
    (hl : NoLinkBelow fs (resolve fs (basePath cfg))) :
    ∃ rel, outputPath cfg t = .ok (basePath cfg ++ rel) ∧ rel ≠ [] ∧ (∀ s ∈ rel, SafeSeg s) ∧
      resolve fs (basePath cfg ++ rel) = resolveStr fs cfg.outDir ++ rel := by
  obtain ⟨_, hp, rel, rfl, hne, hs⟩ := outputPath_insideSafe cfg t h
  refine ⟨rel, hp, hne, hs, ?_⟩
  rw [C11_outdir_spelling_names_the_same_directory]
  exact resolve_insideSafe fs _ _ hs hl

/-- Anything that lies below `outDir` by safe segments is put below the resolved `outDir`. -/
theorem C11_inside_is_below_resolved_outdir (fs : Fs) (cfg : Cfg) (p : Path)
    (h : InsideSafe (basePath cfg) p) (hl : NoLinkBelow fs (resolve fs (basePath cfg))) :
    ∃ rel, rel ≠ [] ∧ p = basePath cfg ++ rel ∧ resolve fs p = resolveStr fs cfg.outDir ++ rel := by
  obtain ⟨rel, rfl, hne, hs⟩ := h
  exact ⟨rel, hne, rfl, by
    rw [C11_outdir_spelling_names_the_same_directory]; exact resolve_insideSafe fs _ _ hs hl⟩

section Ops
variable (cfg : Cfg) (ts : List Ty) (r : Str) (ks : List Key)
variable (hne : ts ≠ []) (hroot : OneRoot r ts) (hks : ∀ k, k ∈ ks ↔ k ∈ (loop1 cfg ts).idx)
include hne hroot hks

/-- "Nothing is created outside the output directory", on the operations: every file a (non-dry) run of the
type generator and the support generator opens for writing, and every directory its `mkdir(parents=True)`
calls may create, lies below `outDir` by safe segments — or is `outDir` itself or an ancestor of it (a prefix:
`mkdir -p` of a missing output directory).  A run aborted by a template error performs a prefix of these
operations.  In particular no scratch location (a temporary directory) is ever written. -/
theorem C11_every_created_path_inside_outdir
    (hnames : ∀ t ∈ ts, NamesOk cfg t) (hcomps : ∀ t ∈ ts, ∀ c ∈ t.ns, IdSeg (cfg.strop c))
    (hstem : IdSeg cfg.stem) (nsTypes : Bool) (subs names : List Str) (hsubs : ∀ s ∈ subs, IdSeg s)
    (hres : ∀ n ∈ names, ∃ stem suf, n = stem ++ '.' :: suf ∧ IdSeg stem ∧ suf ≠ [] ∧ '.' ∉ suf ∧ '/' ∉ suf) :
    ∀ p ∈ createdPaths cfg (buildWith cfg ts ks) nsTypes subs names,
      InsideSafe (basePath cfg) p ∨ p <+: basePath cfg := by
  have b := built_buildWith cfg ts r ks hne hroot hks
  obtain ⟨t0, ht0⟩ := List.exists_mem_of_ne_nil ts hne
  have hext : ValidExt cfg.ext := (hnames t0 ht0).ext
  apply createdPaths_inside
  intro p hp
  rcases mem_writtenFiles hp with ⟨k, hk, hx⟩ | hp
  · obtain ⟨q, hq, hin⟩ := b.stored_insideSafe hnames hcomps hstem hext ((b.allNamespaces_spec.2 k).1 hk) hx
    cases hq
    exact hin
  · exact supportFiles_insideSafe cfg _ (C11_support_folder_is_outdir cfg ts ks _) subs names hsubs hres hext p hp

end Ops

/-- The same for a run without types (`--generate-support only`, an empty root namespace): only the support
files and their directories are created, all below `outDir`. -/
theorem C11_support_only_run_inside_outdir (cfg : Cfg) (subs names : List Str) (hsubs : ∀ s ∈ subs, IdSeg s)
    (hres : ∀ n ∈ names, ∃ stem suf, n = stem ++ '.' :: suf ∧ IdSeg stem ∧ suf ≠ [] ∧ '.' ∉ suf ∧ '/' ∉ suf)
    (hext : ValidExt cfg.ext) :
    ∀ p ∈ createdPaths cfg (buildTree cfg []) false subs names,
      InsideSafe (basePath cfg) p ∨ p <+: basePath cfg := by
  apply createdPaths_inside
  intro p hp
  unfold writtenFiles at hp
  rw [(C11_empty_type_list cfg).2.2.1] at hp
  exact supportFiles_insideSafe cfg (buildTree cfg []) (C11_support_folder_is_outdir cfg [] _ _) subs names hsubs hres
    hext p (by simpa using hp)

/-! Non-vacuity and regression witnesses, evaluated by the kernel.  Where a statement spells out many names,
`String.toList` of each literal is first rewritten to the list of its characters (`String.toList_ofList`): left to
the kernel it is decoded from the UTF-8 bytes, which costs more than running the model. -/

section Examples
private def s (x : String) : Str := x.toList
/-- C-like stropping: `register` ↦ `_register`, everything else unchanged. -/
private def stropC (x : Str) : Str := if x = s "register" then s "_register" else x
private def cfgC : Cfg := ⟨stropC, true, s ".h", s "_", s "out/"⟩
private def tA : Ty := ⟨[s "vendor", s "register"], s "A", 1, 0⟩
private def tB : Ty := ⟨[s "vendor", s "_register"], s "B", 1, 0⟩
private def tD : Ty := ⟨[s "vendor", s "a", s "b", s "c"], s "Foo_1", 2, 10⟩

/-- The hypotheses of the formula theorems are satisfiable, and the formula gives the familiar path. -/
example : NamesOk cfgC tD := ⟨by decide +kernel, by decide +kernel, by decide +kernel⟩
example : outputPath cfgC tD = .ok [s "out", s "vendor", s "a", s "b", s "c", s "Foo_1_2_10.h"] := by
  unfold s
  repeat rw [String.toList_ofList]
  decide +kernel
example : OneRoot (s "vendor") [tA, tD] := by unfold OneRoot; decide +kernel
/-- A tree with a gap (`vendor.a`, `vendor.a.b` hold no types) yields all five namespaces. -/
example : allNamespaces (buildTree cfgC [tA, tD]) =
    [[s "vendor"], [s "vendor", s "register"], [s "vendor", s "a"], [s "vendor", s "a", s "b"],
     [s "vendor", s "a", s "b", s "c"]] := by decide +kernel
example : findPath (buildTree cfgC [tA, tD]).store [s "vendor", s "register"] tD
    = .hit (outputPath cfgC tD) := by decide +kernel

/-- Regression witness of the repaired defect: with `Namespace.__eq__` on the *stropped* name the
sibling namespaces `register` and `_register` were one set element, `_register` was never linked
and its type `B` was not yielded (not generated) … -/
example : ((allDatatypes (buildWithBeforeFix cfgC [tA, tB] (loop1 cfgC [tA, tB]).idx)).map (·.1)) = [tA] := by
  decide +kernel
/-- … so "every type exactly once" was false for the old code … -/
example : ¬ (∀ e, e ∈ allDatatypes (buildWithBeforeFix cfgC [tA, tB] (loop1 cfgC [tA, tB]).idx) ↔
    (e.1 ∈ [tA, tB] ∧ e.2 = outputPath cfgC e.1)) := by
  intro h
  exact absurd ((h (tB, outputPath cfgC tB)).2 ⟨by simp, rfl⟩) (by decide +kernel)
/-- … while the repaired code yields both (they share the folder `_register`, the documented folding). -/
example : ((allDatatypes (buildTree cfgC [tA, tB])).map (·.1)) = [tA, tB] := by decide +kernel
example : outputPath cfgC tA = .ok [s "out", s "vendor", s "_register", s "A_1_0.h"] ∧
    outputPath cfgC tB = .ok [s "out", s "vendor", s "_register", s "B_1_0.h"] := by
  unfold s
  repeat rw [String.toList_ofList]
  decide +kernel

/-- `make_path` strops only if `enable_stropping`, `Namespace.__init__` always: with stropping switched
off for a language whose `filter_id` is not the identity the namespace file leaves its types' folder
(outside C11's quantifier — the shipped configurations never combine the two; recorded as observed). -/
example : outputPath { cfgC with enable := false } tA = .ok [s "out", s "vendor", s "register", s "A_1_0.h"] ∧
    nsOutputPath { cfgC with enable := false } tA.ns = .ok [s "out", s "vendor", s "_register", s "_.h"] := by
  decide +kernel
/-- Support files of an empty tree (`--generate-support only`): inside `out/`; deriving the folder from
the root namespace's own folder instead (its parent) would leave the output directory. -/
example : supportTarget cfgC (buildTree cfgC []) [s "nunavut", s "support"] (s "serialization.j2")
    = .ok [s "out", s "nunavut", s "support", s "serialization.h"] := by
  unfold s
  repeat rw [String.toList_ofList]
  decide +kernel
example : parentPath (nsFolder cfgC (buildTree cfgC []).root) = [] ∧ basePath cfgC = [s "out"] := by decide +kernel

/-- The path glue.  An explicitly *empty* `-e` is an override like any other (extension-less headers) — not the
absence of one: -/
private def secC : Section := [(keyExtension, some (s ".h")), (keyStem, some (s "_namespace_"))]
example : (cfgOfCli stropC true secC [] ⟨some (s "o"), some [], none⟩).toOption.map (fun c => (c.ext, c.stem, c.outDir))
    = some ([], s "_namespace_", s "o") := by decide +kernel
example : (cfgOfCli stropC true secC [] ⟨none, none, some []⟩).toOption.map (fun c => (c.ext, c.stem, c.outDir))
    = some (s ".h", [], s "nunavut_out") := by decide +kernel
example : (cfgOfCli stropC true secC [[(keyExtension, none)]] ⟨none, some (s "tar.gz"), some (s "x.y")⟩).toOption.map
    (fun c => (c.ext, c.stem)) = some (s ".tar.gz", s "x.y") := by
  unfold s
  repeat rw [String.toList_ofList]
  decide +kernel
/-- a configuration file may null the extension; without an override the (empty) value of the file is used -/
example : (cfgOfCli stropC true secC [[(keyExtension, none)]] ⟨none, none, none⟩).toOption.map (·.ext) = some [] := by
  decide +kernel
example : outputPath { cfgC with ext := [] } tD = .ok [s "out", s "vendor", s "a", s "b", s "c", s "Foo_1_2_10"] ∧
    outputPath { cfgC with ext := s ".tar.gz" } tD
      = .ok [s "out", s "vendor", s "a", s "b", s "c", s "Foo_1_2_10.tar.gz"] ∧
    outputPath { cfgC with ext := s "." } tD = .error .badSuffix := by
  unfold s
  repeat rw [String.toList_ofList]
  decide +kernel
example : nsOutputPath { cfgC with ext := [], stem := s "x.y" } [s "vendor"] = .ok [s "out", s "vendor", s "x"] := by
  unfold s
  repeat rw [String.toList_ofList]
  decide +kernel
/-- `cwd = /w`, `/w/link -> /real/deep`: the output directory spelled `link/../out` is `/real/out`; cancelling
`link/..` lexically (`os.path.normpath`) would name `/w/out`, another directory — the spelling has to reach the
operating system as it is. -/
private def fsL : Fs := ⟨[s "/", s "w"], fun p => if p = [s "/", s "w", s "link"] then some [s "/", s "real", s "deep"] else none⟩
example : resolveStr fsL (s "link/../out/") = [s "/", s "real", s "out"] ∧
    resolveStr fsL (s "out") = [s "/", s "w", s "out"] := by
  unfold s
  repeat rw [String.toList_ofList]
  decide +kernel
example : resolve fsL (basePath { cfgC with outDir := s "link/..//out/." }) = [s "/", s "real", s "out"] := by
  unfold s
  repeat rw [String.toList_ofList]
  decide +kernel
example : NoLinkBelow fsL [s "/", s "real", s "out"] := by
  intro rel _
  simp only [fsL]
  rw [if_neg]
  intro e
  exact absurd (List.cons.inj (List.cons.inj e).2).1 (by decide +kernel)
/-- the creating operations of a run with namespace files and one support resource -/
example : createdPaths cfgC (buildTree cfgC [tA]) true [s "nunavut", s "support"] [s "serialization.j2"] =
    [[s "out", s "vendor", s "_.h"], [s "out", s "vendor", s "_register", s "_.h"],
     [s "out", s "vendor", s "_register", s "A_1_0.h"], [s "out", s "nunavut", s "support", s "serialization.h"],
     [s "out"], [s "out", s "vendor"], [s "out"], [s "out", s "vendor"], [s "out", s "vendor", s "_register"],
     [s "out"], [s "out", s "vendor"], [s "out", s "vendor", s "_register"],
     [s "out"], [s "out", s "nunavut"], [s "out", s "nunavut", s "support"]] := by
  unfold s
  repeat rw [String.toList_ofList]
  decide +kernel
end Examples

end NunavutVerif.Namespace
