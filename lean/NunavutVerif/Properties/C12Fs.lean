import NunavutVerif.Lemmas.OverwriteFs
/-!
# C12 — regeneration over existing output, extended file-system model

The two statements of C12 over a tree with directories and symbolic links.  `Model/OverwriteFs.lean`: entries are regular
files, directories and symbolic links; `exists()`, `chmod`, `open` follow links, `mkdir(parents=True, exist_ok=True)` is
transcribed from pathlib, a directory can sit at an output path, a file or a dangling link in directory position.
Quantifiers: every environment (root or not, any umask), every well-formed tree (`WF`: each entry sits in a directory),
every run / history with non-empty output paths.
-/

namespace NunavutVerif.OverwriteFs
open NunavutVerif.Overwrite (Content Mode File FilePP permBits ppContent requestedMode hasSetMode applyPPs)

/-- Statement 2, extended: under `--no-overwrite` *nothing* that existed before the run is changed — no file (content,
mode), no directory (mode; `exist_ok` means untouched), no symbolic link, wherever it lies (also outside the output directory,
behind a link) — whether the run fails or not. -/
theorem C12_fs_no_overwrite_preserves_everything (env : EnvFs) (r : Run) (fs : FS) (hw : WF fs)
    (h : r.allowOverwrite = false) : Pres fs (runRun env r fs).fs := by
  unfold runRun; rw [h]; exact runWrites_noow_preserved env _ _ fs hw

/-- … and an output that exists in any form — a regular file, a directory, a link to either — makes the run fail (a
dangling link does not "exist": the run creates its target, which did not exist either). -/
theorem C12_fs_no_overwrite_conflict_fails (env : EnvFs) (r : Run) (fs : FS) (hw : WF fs) (h : r.allowOverwrite = false)
    (hc : ∃ w ∈ r.writes, pathExists fs w.path = true) : (runRun env r fs).err ≠ none := by
  unfold runRun; rw [h]; exact runWrites_noow_conflict_fails env _ _ fs hw hc

/-- Statement 2 over every history: at every `--no-overwrite` step everything that existed before the step is
unchanged. -/
theorem C12_fs_history_no_overwrite (env : EnvFs) (hist : List Run) (fs₀ : FS) (hw : WF fs₀)
    (hps : ∀ r ∈ hist, ∀ w ∈ r.writes, w.path ≠ []) :
    ∀ s ∈ runHistory env hist fs₀, s.2.1.allowOverwrite = false → Pres s.1 s.2.2.fs := by
  intro s hs hno
  obtain ⟨hws, heq⟩ := runHistory_wf env hist fs₀ hw (fun r hr _ => hps r hr) s hs
  rw [heq]
  exact C12_fs_no_overwrite_preserves_everything env _ _ hws hno

/-- Statement 1 for one file, extended: a successful overwriting write *follows* symbolic links and never replaces them —
afterwards the output path reads (through whatever links) as what this write produced: the rendered content passed through
the external programs, with the requested mode when `SetFileMode` is last; every other entry of the tree is unchanged;
the one entry that changed was a regular file (the link's target, wherever it lies) or did not exist (a dangling link's
target is created).  In particular a directory at the output path cannot end in success. -/
theorem C12_fs_write_follows_links (env : EnvFs) (pps : List FilePP) (w : Write) (fs : FS) (hw : WF fs) (hp : w.path ≠ [])
    (hok : (writeFile env true pps w fs).err = none) :
    ∃ q F, readFile (writeFile env true pps w fs).fs w.path = some F ∧
      realOf (writeFile env true pps w fs).fs w.path = some q ∧
      ppContent pps w.content = some F.content ∧
      (∀ fm, requestedMode pps = some fm → F.mode = permBits fm) ∧
      (∀ x n, fs x = some n → x ≠ q → (writeFile env true pps w fs).fs x = some n) ∧
      ((∃ f, fs q = some (.file f)) ∨ fs q = none) := by
  obtain ⟨q, F, ⟨hc, hm⟩, hres, hframe, hq⟩ := writeFile_allow_ok env pps w fs hw hp hok
  exact ⟨q, F, readFile_of_found hres, realOf_of_found hres, hc, hm, hframe, hq⟩

/-- Statement 1 for a run, extended: after a successful overwriting run whose outputs end up in pairwise different real files
(two output paths that are links to one file overwrite each other), every output path reads as the content of its own
write and carries the requested mode — the same for every initial tree, hence the same as in an empty directory —, every
symbolic link is still the same link and every directory that existed has the mode it had (`exist_ok`). -/
theorem C12_fs_overwrite_reads_own_content (env : EnvFs) (r : Run) (fs : FS) (hw : WF fs)
    (hps : ∀ w ∈ r.writes, w.path ≠ []) (h : r.allowOverwrite = true) (hok : (runRun env r fs).err = none)
    (hdist : r.writes.Pairwise fun a b => realOf (runRun env r fs).fs a.path ≠ realOf (runRun env r fs).fs b.path) :
    (∀ w ∈ r.writes, ∃ F, readFile (runRun env r fs).fs w.path = some F ∧ ppContent r.filePPs w.content = some F.content ∧
      ∀ fm, requestedMode r.filePPs = some fm → F.mode = permBits fm) ∧
    (∀ x t, fs x = some (.link t) → (runRun env r fs).fs x = some (.link t)) ∧
    (∀ x m, fs x = some (.dir m) → (runRun env r fs).fs x = some (.dir m)) := by
  unfold runRun at hok hdist ⊢
  rw [h] at hok hdist ⊢
  have keep := runWrites_allow_keepsBut env r.filePPs r.writes fs hw hps hok
  refine ⟨?_, fun x t hx => keep.not_file hx nofun, fun x m hx => keep.not_file hx nofun⟩
  intro w hwm
  obtain ⟨q, F, ⟨hc, hm⟩, hres⟩ := runWrites_allow_reads env r.filePPs r.writes fs hw hps hok hdist w hwm
  exact ⟨F, readFile_of_found hres, hc, hm⟩

section ExamplesFs

def xEnv : EnvFs := ⟨false, 0o644, 0o755⟩

/-- `real/` with a read-only `target.h`, a link `lnk.h` to it, a dangling link `dang.h` into `real/`, a dangling link `dl`
in directory position, a read-only directory `od` at an output path, a regular file `fp` in directory position. -/
def xFS : FS :=
  ((((((FS.empty.set ["real"] (.dir 0o755)).set ["real", "target.h"] (.file ⟨"old", 0o444⟩)).set ["lnk.h"] (.link ["real", "target.h"])).set
    ["dang.h"] (.link ["real", "newt.h"])).set ["dl"] (.link ["gone"])).set ["od"] (.dir 0o555)).set ["fp"] (.file ⟨"x", 0o644⟩)

def xW (p : P) (c : Content) : Write := ⟨p, c, true, none⟩

/-- A symbolically linked output: `chmod` and `open` go through the link, the target gets content and mode, the link stays. -/
example :
    let o := writeFile xEnv true [.setMode 0o444] (xW ["lnk.h"] "new") xFS
    o.err = none ∧ o.fs ["lnk.h"] = some (.link ["real", "target.h"]) ∧
    o.fs ["real", "target.h"] = some (.file ⟨"new", 0o444⟩) ∧ readFile o.fs ["lnk.h"] = some ⟨"new", 0o444⟩ ∧
    o.ops = [.chmod ["lnk.h"] 0o664, .openW ["lnk.h"], .chmod ["lnk.h"] 0o444] := by decide +kernel

/-- … and with `--no-overwrite` the same path is a conflict; a dangling link is not: its target is created (it did not
exist), the link itself stays. -/
example :
    (writeFile xEnv false [] (xW ["lnk.h"] "new") xFS).err = some (.conflict ["lnk.h"]) ∧
    (writeFile xEnv false [] (xW ["dang.h"] "new") xFS).err = none ∧
    (writeFile xEnv false [] (xW ["dang.h"] "new") xFS).fs ["real", "newt.h"] = some (.file ⟨"new", 0o644⟩) ∧
    (writeFile xEnv false [] (xW ["dang.h"] "new") xFS).fs ["dang.h"] = some (.link ["real", "newt.h"]) := by decide +kernel

/-- A directory at the output path: `--no-overwrite` reports the conflict; with overwriting allowed `_handle_overwrite` has
already `chmod`-ed the directory when `open` fails with `EISDIR`. -/
example :
    (writeFile xEnv false [] (xW ["od"] "c") xFS).err = some (.conflict ["od"]) ∧
    (writeFile xEnv true [] (xW ["od"] "c") xFS).err = some (.isdir ["od"]) ∧
    (writeFile xEnv true [] (xW ["od"] "c") xFS).fs ["od"] = some (.dir 0o775) := by decide +kernel

/-- Directory position: missing parents are created (`mkdir -p`), an existing directory is left alone, a regular file or a
dangling link in the way makes `mkdir` raise — `exists()` had said `False` for both, so `--no-overwrite` does not help and
does not hurt: nothing is changed. -/
example :
    (writeFile xEnv true [] (xW ["a", "b", "c.h"] "c") xFS).ops = [.mkdir ["a"], .mkdir ["a", "b"], .openW ["a", "b", "c.h"]] ∧
    (writeFile xEnv true [] (xW ["real", "n.h"] "c") xFS).ops = [.openW ["real", "n.h"]] ∧
    (writeFile xEnv false [] (xW ["fp", "x.h"] "c") xFS).err = some (.exists_ ["fp"]) ∧
    (writeFile xEnv false [] (xW ["dl", "x.h"] "c") xFS).err = some (.exists_ ["dl"]) ∧
    (writeFile xEnv true [] (xW ["od", "x.h"] "c") xFS).err = some (.eacces ["od", "x.h"]) ∧
    (writeFile ⟨true, 0o644, 0o755⟩ true [] (xW ["od", "x.h"] "c") xFS).err = none := by decide +kernel

/-- Why the run-level statement needs outputs in different real files: two output paths that are the same file through a
link overwrite each other. -/
example :
    let o := runRun xEnv ⟨true, [], [xW ["real", "target.h"] "first", xW ["lnk.h"] "second"]⟩ xFS
    o.err = none ∧ readFile o.fs ["real", "target.h"] = some ⟨"second", 0o664⟩ ∧
    realOf o.fs ["real", "target.h"] = realOf o.fs ["lnk.h"] := by decide +kernel

/-- DEFECT (unchanged code, repaired by `fix_copy_header_into_directory`): a copied support resource whose output path is an
existing directory — `shutil.copy` succeeds by writing *into* the directory; the output path still is a directory (negation of
statement 1 for this file) and `SetFileMode 0o444` lands on the directory.  The repaired code (`writeFile`) fails with
`EISDIR` like the template path. -/
example :
    let w : Write := ⟨["od"], "res", true, some 0o644⟩
    (copyIntoDirBeforeFix xEnv [.setMode 0o444] w "serialization.h" xFS).err = none ∧
    readFile (copyIntoDirBeforeFix xEnv [.setMode 0o444] w "serialization.h" xFS).fs ["od"] = none ∧
    (copyIntoDirBeforeFix xEnv [.setMode 0o444] w "serialization.h" xFS).fs ["od"] = some (.dir 0o444) ∧
    (copyIntoDirBeforeFix xEnv [.setMode 0o444] w "serialization.h" xFS).fs ["od", "serialization.h"] =
      some (.file ⟨"res", 0o644⟩) ∧
    (writeFile xEnv true [.setMode 0o444] w xFS).err = some (.isdir ["od"]) := by decide +kernel

end ExamplesFs

end NunavutVerif.OverwriteFs
