import NunavutVerif.Lemmas.ConfigCtx
import NunavutVerif.Lemmas.ConfigHeap
import NunavutVerif.Properties.C13
import NunavutVerif.Gen.CppDefaults
import NunavutVerif.Gen.LangTable
/-!
# C13, second part — contexts, access paths, process histories, YAML-level glue

Model: `Model/ConfigCtx.lean`.  The tables of `Gen/LangTable.lean` are regenerated from the source by
`translate/langtable.py`.

* H  "all sequences of builders created in one process": what a builder and its contexts answer depends on the calls
     addressed to that builder and on what the files hold when it reads them — on nothing else that happened in the
     process;
* A  every access path of a context (`ctx.config`, `get_target_language()`, `get_language(x)` / `ln.<x>`,
     `get_supported_languages()`) reports, for every language — target or not — the effective value of the
     configuration of the context's own builder; the lazily built language map;
* B  `create()` validates / expands the C++ shorthand on the fully merged configuration;
* Y  YAML-level glue: repeated keys, the identity on ordinary documents, the shape of the shipped documents.
-/
namespace NunavutVerif.Config

variable {κ σ : Type} [DecidableEq κ]

/-! ## H  process histories -/

/-- **A builder is immune to the history of the process.**  In any history (file writes, any number of builders
and contexts, reads through any access path, calls that raise) the answers to the calls that concern builder `b`
— everything addressed to `b` or to a context `b` created, and the file system — are the answers the same calls
get in the history from which every call to every *other* builder has been erased; the state of `b` and the file
system are the same as well.  In particular no earlier or later builder, no earlier reader of a file, no language map
built elsewhere can be observed through `b`. -/
theorem C13_process_history_independent (P : PEnv κ σ) (b : Nat) (p : Proc κ σ) (ops : List (POp κ σ)) :
    Proc.answersFor P b p ops = (Proc.run P p (ops.filter (POp.concerns b))).2 ∧
    alook (Proc.run P p ops).1.bs b = alook (Proc.run P p (ops.filter (POp.concerns b))).1.bs b ∧
    (Proc.run P p ops).1.fs = (Proc.run P p (ops.filter (POp.concerns b))).1.fs := by
  obtain ⟨⟨h1, h2⟩, h3⟩ := history_independent P b ops p p (Proc.Agree.refl b p)
  exact ⟨h3, h2, h1⟩

/-- **A named file is read when `add_config_files` is called**: after `write path doc`, `add_config_files(path)`
merges `doc` — whatever the path held before, whoever read it before.  Two processes in which builder `b` is in
the same state, with arbitrary and different file systems and other builders, answer alike and leave `b` alike. -/
theorem C13_file_is_read_at_call_time (P : PEnv κ σ) (b path : Nat) (doc : V κ σ) (p q : Proc κ σ)
    (h : alook p.bs b = alook q.bs b) :
    let p' := ((p.step P (.write path doc)).1.step P (.addFiles b [path]))
    let q' := ((q.step P (.write path doc)).1.step P (.addFiles b [path]))
    alook p'.1.bs b = alook q'.1.bs b ∧ p'.2 = q'.2 := by
  simp only [Proc.step, List.map_cons, List.map_nil, alook_aset_self]
  exact onBuilder_same { p with fs := aset p.fs path doc } { q with fs := aset q.fs path doc } b _ h

/-- … and what is merged is the document just written: the call is `LanguageConfig.update(doc)` on the builder's
own configuration. -/
theorem C13_file_read_merges_current_content (P : PEnv κ σ) (b path : Nat) (doc : V κ σ) (p : Proc κ σ) (s : BS κ σ)
    (hs : alook p.bs b = some s) (hd : s.dead = false) :
    alook ((p.step P (.write path doc)).1.step P (.addFiles b [path])).1.bs b =
      some (match update P.valid s.b.config doc with
        | .ok c => { s with b := { s.b with config := c } }
        | .error _ => { s with dead := true }) := by
  simp only [Proc.step, List.map_cons, List.map_nil, alook_aset_self, Proc.onBuilder, hs, hd, readFiles]
  cases update P.valid s.b.config doc with
  | ok c => simp [alook_aset_self]
  | error e => simp [alook_aset_self]

/-! ## A  access paths -/

/-- **Every access path tells the same.**  In a context whose language map exists, for every language `name` of
the map — the target or any other — with language object `obj`:
* `get_language(name).get_config_value(key)` (`ln.<name>.<global>`) is `ctx.config`'s entry of section `name`;
* `get_language(name).get_option(key)` (`ln.<name>.options.<key>`) is the `options` entry of that section of
  `ctx.config`, unless the section had no `options` mapping when the object was constructed: then the object
  reports its private validated `{}` (`o`) and `ctx.config` has nothing to report;
* for the target, `get_target_language()` is the object of the map.
None of these reads changes the state. -/
theorem C13_access_paths_agree (P : PEnv κ σ) (s : BS κ σ) (j : Nat) (cx : CtxS κ σ) (os : List (LangObj κ σ))
    (name key : κ) (obj : LangObj κ σ)
    (hc : alook s.ctxs j = some cx) (hf : cx.langs = some os) (hfind : cx.find os name = some obj) :
    s.read P j (.langValue name key) = s.read P j (.cfgValue name key) ∧
    (obj.own = none → s.read P j (.langOption name key) = s.read P j (.cfgOption name key)) ∧
    (∀ o, obj.own = some o → s.read P j (.langOption name key) = .ok (s, .val (o.get key))) ∧
    (name = cx.target.sect →
      s.read P j (.tgtValue key) = s.read P j (.langValue name key) ∧
      s.read P j (.tgtOption key) = s.read P j (.langOption name key)) := by
  have hsect := find_sect hfind
  have hforce := force_built P hc hf
  refine ⟨?_, ?_, ?_, ?_⟩
  · simp only [BS.read, hc, hforce, hfind, hsect]
  · intro ho
    simp only [BS.read, hc, hforce, hfind, LangObj.option, ho, hsect]
  · intro o ho
    simp only [BS.read, hc, hforce, hfind, LangObj.option, ho]
  · intro ht
    subst ht
    have hobj : obj = cx.target := by
      unfold CtxS.find at hfind
      simpa using hfind.symm
    subst hobj
    simp only [BS.read, hc, hforce, hfind, and_self]

/-- **Using a context is read-only.**  Once the language map exists, no read through any access path changes the
builder's configuration, its pending overrides or any context: whatever is done *with* a context (stropping, templates —
all of it goes through these reads) leaves every reported value, list-valued ones included, what the merge made it.
(Lists are leaves of the model — values, not objects.  The code assigns a list leaf by reference: the configuration's
`reserved_identifiers` list IS the list object of the override document.  The model is faithful exactly as long as
nothing behind a context operates on such a list in place; the correspondence re-reads every list-valued key and every
caller-owned override document after identifiers were stropped in every language and a template was rendered.) -/
theorem C13_using_a_context_is_read_only (P : PEnv κ σ) (s s' : BS κ σ) (j : Nat) (cx : CtxS κ σ)
    (os : List (LangObj κ σ)) (a : Access κ) (r : Ans κ σ)
    (hc : alook s.ctxs j = some cx) (hf : cx.langs = some os) (h : s.read P j a = .ok (s', r)) : s' = s := by
  have hforce := force_built P hc hf
  cases a with
  | langValue name key | langOption name key =>
    -- through the map, which exists: `force` returns the state as it is
    simp only [BS.read, hc, hforce] at h
    split at h <;> cases h <;> rfl
  | _ => simp only [BS.read, hc, hforce, Except.ok.injEq, Prod.mk.injEq] at h; exact h.1.symm

/-- **What the language map holds, for every language.**  Building the map of a context over a configuration `c`
(no repeated section names) constructs each non-target language on its own section and touches nothing else:
* the target's section and every unknown name are as before;
* for every other section `l` (`sec` before): the section afterwards is `sec'` with `Language.__init__` (`initSection`)
  applied to `sec` — once, on the builder's own configuration;
* every object in the map stems from exactly that construction, and every stable (or experimental-and-enabled)
  language is in the map. -/
theorem C13_language_map_sections (E : LangEnv κ σ) (exp : Bool) (t : κ) (c c' : M κ σ) (os : List (LangObj κ σ))
    (hn : c.NoDupKeys) (h : buildMap E exp t c c.keys = .ok (c', os)) :
    c'.get t = c.get t ∧
    (∀ l, c.get l = none → c'.get l = none) ∧
    (∀ obj ∈ os, obj.sect ≠ t ∧ ∃ sec sec', c.get obj.sect = some (.map sec) ∧
        initSection E obj.sect sec = .ok (sec', obj.own) ∧ c'.get obj.sect = some (.map sec')) ∧
    (∀ l sec, l ≠ t → c.get l = some (.map sec) → ∃ sec' own, initSection E l sec = .ok (sec', own) ∧
        c'.get l = some (.map sec') ∧ ((E.stable sec' || exp) = true → (⟨l, own⟩ : LangObj κ σ) ∈ os)) := by
  have i1 := buildMap_get E exp t c.keys c c' os h
  obtain ⟨i2, i3⟩ := buildMap_spec E exp t c.keys c c' os ((noDupKeys_iff c).mp hn) h
  refine ⟨i1 t (.inr rfl), ?_, ?_, ?_⟩
  · intro l hl
    rw [i1 l (.inl fun hm => by rw [mem_keys, hl] at hm; cases hm), hl]
  · exact fun obj ho => (i2 obj ho).2
  · intro l sec hne hg
    obtain ⟨sec2, sec', own, g2, ini, fin, mem⟩ := i3 l ((mem_keys c l).mpr (by rw [hg]; rfl)) hne
    rw [hg] at g2
    cases g2
    exact ⟨sec', own, ini, fin, mem⟩

/-- **The effective option of a non-target language**: what `get_language(l).get_option(key)` reports in a context
is the validated options of section `l` of the context's own builder configuration — `_validate_language_options`
applied to the `defaults` and `options` the merged configuration holds for `l` (`{}` where it holds none), e.g. the C++
shorthand group expanded on the `std` the builder's files gave. -/
theorem C13_effective_option_of_every_language (E : LangEnv κ σ) (exp : Bool) (t : κ) (c c' : M κ σ)
    (os : List (LangObj κ σ)) (hn : c.NoDupKeys) (h : buildMap E exp t c c.keys = .ok (c', os))
    (obj : LangObj κ σ) (ho : obj ∈ os) (key : κ) :
    ∃ sec o', c.get obj.sect = some (.map sec) ∧
      E.validateOptions obj.sect ((dictOr sec E.defaults).getD .nil) ((dictOr sec E.options).getD .nil) = .ok o' ∧
      obj.option E c' key = o'.get key := by
  obtain ⟨_, _, i2, _⟩ := C13_language_map_sections E exp t c c' os hn h
  obtain ⟨_, sec, sec', hg, hi, hfin⟩ := i2 obj ho
  obtain ⟨o', hv, hopt⟩ := option_after_init E c' obj.sect sec sec' obj.own hi hfin key
  exact ⟨sec, o', hg, hv, by cases obj; exact hopt⟩

/-- **The lazily built map is not observable** through the language objects, the target language or the target's
section of `ctx.config`: if building the map of context `j` succeeds (`force`), every sequence of such reads gets the same
answers whether the map is built on first use, somewhere in the middle of the sequence, or had been built beforehand.
(`lazySafe` excludes exactly one kind of read: a direct look into `ctx.config` at the section of a language other than the
target — see the witness below.) -/
theorem C13_lazy_language_map_unobservable (P : PEnv κ σ) (s s' : BS κ σ) (j : Nat) (cx : CtxS κ σ)
    (os : List (LangObj κ σ)) (hc : alook s.ctxs j = some cx) (hl : cx.langs = none)
    (hf : s.force P j = .ok (s', cx, os)) (as : List (Access κ)) (hsafe : ∀ a ∈ as, a.lazySafe cx.target.sect = true) :
    s.readAll P j as = s'.readAll P j as := by
  -- what `force` did: `s'` is `s` with the configuration `c'` the construction left behind, and the map in context `j`
  have hforce := hf
  simp only [BS.force, hc, hl] at hf
  split at hf
  · cases hf
  · rename_i c' os' hb
    simp only [Except.ok.injEq, Prod.mk.injEq, true_and] at hf
    obtain ⟨hs', rfl⟩ := hf
    have hc' : alook s'.ctxs j = some { cx with langs := some os' } := by rw [← hs']; exact alook_aset_self _ _ _
    have hcfg : s'.b.config = c' := by rw [← hs']
    -- a read that goes through the map builds it (from `s`) or finds it built (from `s'`): same state, same map
    have hforce' : s'.force P j = .ok (s', { cx with langs := some os' }, os') := by simp only [BS.force, hc']
    -- the target's section is the same before and after, so is everything read from it
    have ht : c'.get cx.target.sect = s.b.config.get cx.target.sect := (buildMap_spec' hb).1
    have hraw : ∀ key, rawOf c' cx.target.sect key = rawOf s.b.config cx.target.sect key :=
      fun key => by simp only [rawOf, ht]
    have hopt : ∀ key, optionOf P.E c' cx.target.sect key = optionOf P.E s.b.config cx.target.sect key :=
      fun key => by simp only [optionOf, ht]
    have htgt : ∀ key, cx.target.option P.E c' key = cx.target.option P.E s.b.config key :=
      fun key => by simp only [LangObj.option, hopt]
    induction as with
    | nil => rfl
    | cons a as ih =>
      rw [List.forall_mem_cons] at hsafe
      have hrest := ih hsafe.2
      cases a with
      | cfgValue sect key | cfgOption sect key =>
        cases of_decide_eq_true hsafe.1
        simp only [BS.readAll, BS.read, hc, hc', hcfg, hraw, hopt, hrest]
      | tgtValue key | tgtOption key => simp only [BS.readAll, BS.read, hc, hc', hcfg, hraw, htgt, hrest]
      | langValue name key | langOption name key =>
        simp only [BS.readAll, BS.read, hc, hc', hforce, hforce']; rfl
      | names => simp only [BS.readAll, BS.read, hc, hc', hforce, hforce']
where
  buildMap_spec' {E : LangEnv κ σ} {exp : Bool} {t : κ} {c c' : M κ σ} {os : List (LangObj κ σ)}
      (h : buildMap E exp t c c.keys = .ok (c', os)) : c'.get t = c.get t ∧ True ∧ True :=
    ⟨buildMap_get _ _ _ _ _ _ _ h _ (.inr rfl), trivial, trivial⟩

/-! ## B  `create()`: validation sees the merged configuration -/

/-- `create()` = resolve the target, merge the pending overrides into its section (`Builder.create`, see
`C13_builder_create_config`), and only then construct the target language: `Language.__init__` (`initSection`:
`_validate_language_options`, C++ shorthand expansion) runs on the section *as merged* — built-in, files, overrides.
The new context's language map is not built; pending overrides stay pending. -/
theorem C13_create_validates_merged_configuration (P : PEnv κ σ) (s s' : BS κ σ) (j : Nat)
    (h : s.create P j = .ok s') :
    ∃ sec sec' own, (s.b.create P.resolve).config.get (s.targetOf P) = some (.map sec) ∧
      initSection P.E (s.targetOf P) sec = .ok (sec', own) ∧
      s'.b.config = (s.b.create P.resolve).config.set (s.targetOf P) (.map sec') ∧
      alook s'.ctxs j = some ⟨⟨s.targetOf P, own⟩, none⟩ ∧ s'.b.overrides = s.b.overrides := by
  simp only [BS.create] at h
  split at h
  · cases h
  · rename_i c1 obj hnl
    obtain ⟨sec, sec', own, hg, hi, rfl, rfl, _⟩ := newLanguage_spec _ _ _ _ _ _ _ hnl
    cases h
    exact ⟨sec, sec', own, hg, hi, rfl, alook_aset_self _ _ _, rfl⟩
  · cases h

/-- **The effective option of the target language**: what `get_target_language().get_option(key)` (the `options`
global of the templates) reports right after `create()` is `_validate_language_options` applied to the `defaults` and
`options` of the target's section of the merged configuration (built-in, files in call order, overrides). -/
theorem C13_effective_option_of_target (P : PEnv κ σ) (s s' : BS κ σ) (j : Nat) (key : κ)
    (h : s.create P j = .ok s') :
    ∃ sec o' cx, (s.b.create P.resolve).config.get (s.targetOf P) = some (.map sec) ∧
      P.E.validateOptions (s.targetOf P) ((dictOr sec P.E.defaults).getD .nil) ((dictOr sec P.E.options).getD .nil) = .ok o' ∧
      alook s'.ctxs j = some cx ∧ cx.target.sect = s.targetOf P ∧
      s'.read P j (.tgtOption key) = .ok (s', .val (o'.get key)) := by
  obtain ⟨sec, sec', own, hg, hi, hcfg, hctx, _⟩ := C13_create_validates_merged_configuration P s s' j h
  have hfin : s'.b.config.get (s.targetOf P) = some (.map sec') := by rw [hcfg, M.get_set_self]
  obtain ⟨o', hv, hopt⟩ := option_after_init P.E s'.b.config (s.targetOf P) sec sec' own hi hfin key
  exact ⟨sec, o', _, hg, hv, hctx, rfl, by simp [BS.read, hctx, hopt]⟩

/-- … in particular an explicit value given through the API / command line is what the validation sees: at every
path where the pending overrides hold an explicit leaf, the section handed to `Language.__init__` holds that leaf
(whatever the files said).  A shorthand `std` given as an override is therefore expanded, and expanded as given. -/
theorem C13_validation_sees_explicit_overrides (P : PEnv κ σ) (s s' : BS κ σ) (j : Nat) (l : κ) (p : List κ)
    (v : V κ σ) (hl : s.b.lang = some l) (hw : s.b.overrides.WF) (hp : p ≠ [])
    (hv : (V.map s.b.overrides).getPath p = some v) (he : v.isExplicitLeaf = true)
    (h : s.create P j = .ok s') :
    ∃ sec sec' own, (s.b.create P.resolve).config.get l = some (.map sec) ∧ (V.map sec).getPath p = some v ∧
      initSection P.E l sec = .ok (sec', own) ∧ s'.b.config.get l = some (.map sec') := by
  obtain ⟨sec, sec', own, hg, hi, hcfg, _, _⟩ := C13_create_validates_merged_configuration P s s' j h
  have ht : s.targetOf P = l := by simp [BS.targetOf, hl]
  rw [ht] at hg hi hcfg
  have := C13_create_explicit_override_wins P.resolve s.b l p v hl hw hp hv he
  rw [getPath_map_cons, hg] at this
  exact ⟨sec, sec', own, hg, by simpa using this, hi, by rw [hcfg, M.get_set_self]⟩

/-- **The shorthand expansion depends on the merged options only** — not on the route by which `std` (or any other
option) arrived: option sets that answer every lookup alike (as the merged configurations do when the same shorthand
comes from a file, from the API or from the command line, by `C13_precedence`) expand to option sets that answer every
lookup alike, and fail alike. -/
theorem C13_shorthand_depends_on_merged_options_only (stdKey : κ) (nameKey : σ → κ) (defaults o₁ o₂ : M κ σ)
    (hd : ∀ g gm, defaults.get g = some (.map gm) → gm.NoDupKeys) (h : ∀ k, o₁.get k = o₂.get k) :
    match applyStdDefaults stdKey nameKey defaults o₁, applyStdDefaults stdKey nameKey defaults o₂ with
    | .ok r₁, .ok r₂ => ∀ k, r₁.get k = r₂.get k
    | .error e₁, .error e₂ => e₁ = e₂
    | _, _ => False := by
  unfold applyStdDefaults
  rw [← h stdKey]
  cases o₁.get stdKey with
  | none => exact rfl
  | some sv =>
    simp only
    cases stdName sv with
    | error e => exact rfl
    | ok name =>
      simp only
      cases hg : defaults.get (nameKey name) with
      | none => exact h
      | some gv =>
        cases gv with
        | map g =>
          intro k
          rw [get_dictUpdate g o₁ k (hd _ _ hg), get_dictUpdate g o₂ k (hd _ _ hg), h k]
        | _ => exact rfl

/-- The source, regenerated: `create()` calls `update_section` before it constructs the target language, the language
map is filled by the builder's own `_new_language_w_experimental_handling` only, `update_from_yaml_file` parses the
stream it is given on every call and hands the result to `update`, and the anchor modules keep no module- or class-level
container (the model has no process-wide state besides the file system). -/
theorem C13_source_structure :
    (Gen.createCalls.idxOf "self.config.update_section" < Gen.createCalls.idxOf "self._new_language_w_experimental_handling" ∧
      Gen.createCalls.idxOf "self._new_language_w_experimental_handling" < Gen.createCalls.length ∧
      Gen.createCalls.count "self._new_language_w_experimental_handling" = 1 ∧
      Gen.createCalls.count "self.config.update_section" = 1) ∧
    Gen.languageMapSources = ["init:target_language", "entry:self._new_language_w_experimental_handling"] ∧
    (Gen.yamlFileParse = "yaml.load" ∧ Gen.yamlFileThen = ["self.update(configuration)"]) ∧
    Gen.processState = [] := by decide +kernel

/-! ## Y  YAML-level glue -/

/-- **Repeated keys in one YAML mapping: the last occurrence wins** (PyYAML's constructor assigns pair after pair
into one `dict`), at every depth; a key that does not occur keeps what was there. -/
theorem C13_yaml_repeated_key_last_wins (m acc : M κ σ) (k : κ) :
    (normM acc m).get k = match m.getLast k with
      | some v => some (normV v)
      | none => acc.get k :=
  match m with
  | .nil => rfl
  | .cons k0 v rest => by
    rw [normM, C13_yaml_repeated_key_last_wins rest _ k]
    simp only [M.getLast]
    cases rest.getLast k with
    | some w => rfl
    | none =>
      by_cases hk : k0 = k
      · subst hk; simp only [if_true, M.get_set_self]
      · simp only [hk, if_false, M.get_set_ne _ _ hk]

/-- What the constructor returns is a `dict` (no repeated key at any depth) — the hypothesis `M.WF` of the merge
theorems holds for every parsed document. -/
theorem C13_yaml_constructed_is_dict (v : V κ σ) : (normV v).WF := normV_WF v

/-- On a document without repeated keys the constructor is the identity (key order included): the merge theorems
speak about the document as written. -/
theorem C13_yaml_constructor_identity (v : V κ σ) (hw : v.WF) : normV v = v := normV_id v hw

/-- Which documents `update_from_yaml_*` rejects: a top level that is not a mapping (a null document — an empty file —,
a list or a scalar raise); a first section whose name does not match the pattern; a first section with a valid name that
is not a mapping (a null section raises).  (Later sections go through the same two checks in `updateSections`, after the
sections before them have been merged.) -/
theorem C13_yaml_accepted_documents (valid : κ → Bool) (c : M κ σ) (doc : V κ σ) :
    (doc.isMap = false → update valid c doc = .error .notMapping) ∧
    (∀ name data rest, doc = .map (.cons name data rest) → valid name = false → update valid c doc = .error .badSection) ∧
    (∀ name data rest, doc = .map (.cons name data rest) → valid name = true → data.isMap = false →
      update valid c doc = .error .notMapping) := by
  refine ⟨?_, ?_, ?_⟩
  · intro h
    cases doc with
    | map _ => cases h
    | _ => rfl
  · intro name data rest hd hv; subst hd; simp [update, updateSections, hv]
  · intro name data rest hd hv hm; subst hd
    cases data with
    | map _ => cases hm
    | _ => simp only [update, updateSections, hv, if_true, updateSection]

/-- The shipped YAML, regenerated: one document per file whose top level maps section names (each the name of a language
module) to mappings; no `<<` merge keys; no repeated keys; and **every alias refers to a sequence or a scalar, never to a
mapping** — so the loaded built-in document is a *tree* of `dict` objects (`allocV`,
`C13_heap_loaded_document_is_separate`); the only objects two sections share are lists, which the merge never mutates (it
replaces them). -/
theorem C13_shipped_yaml_shape :
    Gen.yamlDocs.all (fun d => d.top == "mapping" && d.mergeKeys == 0 && d.duplicateKeys.isEmpty &&
      d.sections.all (fun s => s.2 == "mapping" && Gen.langModules.contains s.1)) = true ∧
    Gen.yamlAnchors.all (fun a => a.aliases == 0 || a.kind != "mapping") = true ∧
    Gen.yamlDocs.length ≥ 1 := by decide +kernel

section Examples
open V M

/-- a toy language environment: language 2 ("py") forces option 7 to 1; language 1 ("cpp") copies option 5 to option 6 -/
private def E0 : LangEnv Nat Nat :=
  { validateOptions := fun l _ o =>
      if l = 2 then .ok (o.set 7 (.scalar 1))
      else if l = 1 then (match o.get 5 with
        | some v => .ok (o.set 6 v)
        | none => .error .missingStd)
      else .ok o,
    known := fun l => l < 4, stable := fun _ => true, options := 100, defaults := 101 }

private def P0 : PEnv Nat Nat :=
  { E := E0, builtin := .cons 0 (.map (.cons 100 (.map (.cons 5 (.scalar 0) .nil)) .nil))
      (.cons 1 (.map (.cons 100 (.map (.cons 5 (.scalar 0) .nil)) .nil)) (.cons 2 (.map (.cons 9 (.scalar 3) .nil)) .nil)),
    valid := fun _ => true, dflt := 0, resolve := fun _ _ => 0 }

private def fileA : V Nat Nat := .map (.cons 1 (.map (.cons 100 (.map (.cons 5 (.scalar 40) .nil)) .nil)) .nil)
private def fileB : V Nat Nat := .map (.cons 1 (.map (.cons 100 (.map (.cons 5 (.scalar 41) .nil)) .nil)) .nil)

-- two builders, ONE path rewritten in between; each context reports its own builder's file through the language object
-- of the NON-target language 1; the first context still reports the first revision afterwards
example : (Proc.run P0 ⟨[], []⟩
    [.write 0 fileA, .newBuilder 0 true, .setLanguage 0 (some 0), .addFiles 0 [0], .create 0 0,
     .read 0 0 (.langOption 1 6),
     .write 0 fileB, .newBuilder 1 true, .setLanguage 1 (some 0), .addFiles 1 [0], .create 1 0,
     .read 1 0 (.langOption 1 6), .read 1 0 (.cfgOption 1 5), .read 0 0 (.langOption 1 6)]).2
    = [.unit, .unit, .unit, .unit, .unit, .val (some (.scalar 40)),
       .unit, .unit, .unit, .unit, .unit, .val (some (.scalar 41)), .val (some (.scalar 41)), .val (some (.scalar 40))] := by
  rfl

-- the lazily built map IS observable by looking into ctx.config at the section of a non-target language: option 6 of
-- language 1 is absent before the map is built and present afterwards (the real code: `std: c++17-pmr` in ctx.config
-- until get_supported_languages() has run)
example : (Proc.run P0 ⟨[], []⟩
    [.newBuilder 0 true, .setLanguage 0 (some 0), .create 0 0,
     .read 0 0 (.cfgOption 1 6), .read 0 0 .names, .read 0 0 (.cfgOption 1 6)]).2
    = [.unit, .unit, .unit, .val none, .names [0, 1, 2], .val (some (.scalar 0))] := by rfl

-- a language whose section has no `options` mapping keeps private validated options: the language object reports
-- option 7, ctx.config does not
example : (Proc.run P0 ⟨[], []⟩
    [.newBuilder 0 true, .setLanguage 0 (some 0), .create 0 0,
     .read 0 0 (.langOption 2 7), .read 0 0 (.cfgOption 2 7), .read 0 0 (.langValue 2 9), .read 0 0 (.cfgValue 2 9)]).2
    = [.unit, .unit, .unit, .val (some (.scalar 1)), .val none, .val (some (.scalar 3)), .val (some (.scalar 3))] := by rfl

-- a failing language map kills the builder (language 1 without option 5), a name outside the map is a harmless KeyError
example : (Proc.run P0 ⟨[], []⟩
    [.write 0 (.map (.cons 1 (.map (.cons 100 (.scalar 0) .nil)) .nil)),
     .newBuilder 0 true, .setLanguage 0 (some 0), .addFiles 0 [0], .create 0 0, .read 0 0 (.tgtOption 5),
     .read 0 0 .names, .read 0 0 (.tgtOption 5),
     .newBuilder 1 true, .setLanguage 1 (some 0), .create 1 0, .read 1 0 (.langOption 3 5), .read 1 0 (.langOption 0 5)]).2
    = [.unit, .unit, .unit, .unit, .unit, .val (some (.scalar 0)), .err (.cfg .missingStd), .err .dead,
       .unit, .unit, .unit, .err .noLanguage, .val (some (.scalar 0))] := by rfl

-- create(): constructing the target language BEFORE merging the overrides (the order the source does not have) would
-- miss a shorthand given as an override: validate-then-merge ≠ merge-then-validate
example :
    let c0 : M Nat Nat := P0.builtin
    let ovr : M Nat Nat := .cons 100 (.map (.cons 5 (.scalar 77) .nil)) .nil
    let mergeThenValidate := (newLanguage E0 true (Builder.create P0.resolve ⟨c0, ovr, some 1⟩).config 1).toOption.map (·.1)
    let validateThenMerge := (newLanguage E0 true c0 1).toOption.map fun r => (Builder.create P0.resolve ⟨r.1, ovr, some 1⟩).config
    (mergeThenValidate.map fun c => optionOf E0 c 1 6) = some (some (.scalar 77)) ∧
    (validateThenMerge.map fun c => optionOf E0 c 1 6) = some (some (.scalar 0)) := ⟨rfl, rfl⟩

-- the C++ shorthand by file or by override: the merged options are the same map, so is the expansion (shipped table)
example :
    let builtin := Gen.cppBuiltinOptions
    let viaFile := mergeInto (mergeInto builtin (.cons "std" (.scalar "s:c++17-pmr") .nil)) .nil
    let viaApi := mergeInto (mergeInto builtin .nil) (.cons "std" (.scalar "s:c++17-pmr") .nil)
    viaFile = viaApi ∧
    (match applyStdDefaults Gen.stdKey Gen.nameKey Gen.cppDefaults viaApi with
     | .ok o => (o.get "std", o.get "allocator_type")
     | .error _ => (none, none)) = (some (.scalar "s:c++17"), some (.scalar "s:std::pmr::polymorphic_allocator")) := by
  -- an empty source is a no-op on either route; the expansion itself is evaluated
  refine ⟨by simp only [mergeInto_nil], ?_⟩
  decide +kernel

-- YAML: `{a: 1, b: 2, a: 3}` is `{a: 3, b: 2}`; nested too
example : normV (.map (.cons 0 (.scalar 1) (.cons 1 (.map (.cons 5 (.scalar 1) (.cons 5 (.scalar 2) .nil))) (.cons 0 (.scalar 3) .nil))) : V Nat Nat)
    = .map (.cons 0 (.scalar 3) (.cons 1 (.map (.cons 5 (.scalar 2) .nil)) .nil)) := by rfl

/-- A document in which two sections alias ONE mapping (`a: &x {k: 1}`, `b: *x`): objects 1 = the document,
2 = the aliased mapping; 0 = an empty configuration. -/
def aliasHeap : Heap Nat Nat := [[], [(10, .ref 2), (11, .ref 2)], [(5, .scalar 1)]]

-- merged into the configuration the two sections are two fresh objects (3 and 4), the aliased mapping (2) is not part
-- of the configuration; a later merge into section 10 leaves section 11 and the document alone
example : (match mergeH true 10 aliasHeap 0 1 with
    | .ok h => (h[0]?, h[2]?, h.length)
    | .error _ => (none, none, 0)) = (some [(10, .ref 3), (11, .ref 4)], some [(5, .scalar 1)], 5) := by rfl
example : (match mergeH true 10 (aliasHeap ++ [[(10, .ref 4)], [(5, .scalar 2)]]) 0 1 with
    | .ok h => (match mergeH true 10 h 0 3 with
        | .ok h' => (unfoldH 5 h' (.ref 0), unfoldH 5 h' (.ref 1))
        | .error _ => (none, none))
    | .error _ => (none, none))
    = (some (.map (.cons 10 (.map (.cons 5 (.scalar 2) .nil)) (.cons 11 (.map (.cons 5 (.scalar 1) .nil)) .nil))),
       some (.map (.cons 10 (.map (.cons 5 (.scalar 1) .nil)) (.cons 11 (.map (.cons 5 (.scalar 1) .nil)) .nil)))) := by
  rfl

end Examples

end NunavutVerif.Config
