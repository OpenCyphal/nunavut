import NunavutVerif.Lemmas.Config
import NunavutVerif.Lemmas.ConfigHeap
import NunavutVerif.Gen.CppDefaults
import NunavutVerif.Gen.CliOptions
/-!
# C13 — configuration sources are merged with a fixed, order-insensitive precedence

Two models: `Model/Config.lean` (values), `Model/ConfigHeap.lean` (objects and sharing).  The C++ shorthand groups
are `Gen/CppDefaults.lean`, regenerated from `properties.yaml`.

Quantifiers: all key types `κ` and scalar types `σ`, all nested mappings (`M κ σ`; `M.WF` is the Python
`dict` invariant "no duplicate key", which every real source satisfies), all targets, all paths, all lists
of sources, all builder call sequences.
-/
namespace NunavutVerif.Config

variable {κ σ : Type} [DecidableEq κ]

/-! ## T1 one-step lookup law -/

/-- What `deep_update(target, source)` leaves under key `k` is `combine` of what target and source held
there — the five cases of `combine`: source silent ⇒ target's value; mapping over mapping ⇒ recursive
merge; mapping over absent / non-mapping ⇒ (a copy of) the source mapping; explicit leaf ⇒ the leaf;
default-marked leaf ⇒ assigned only over nothing or over another default. -/
theorem C13_lookup_law (t s : M κ σ) (k : κ) (hs : s.NoDupKeys) :
    (mergeInto t s).get k = combine (t.get k) (s.get k) :=
  get_mergeInto s t k hs

/-- The merge never creates a duplicate key (the result is a `dict` again, at every depth). -/
theorem C13_merge_preserves_dict_invariant (t s : M κ σ) (ht : t.WF) (hs : s.WF) :
    (mergeInto t s).WF :=
  match s, hs with
  | .nil, _ => ht
  | .cons k v rest, ⟨_, hv, hr⟩ => by
    rw [mergeInto_cons]
    refine C13_merge_preserves_dict_invariant _ rest ?_ hr
    cases v with
    | map sm =>
      refine WF.set k ht ?_
      cases h : t.get k with
      | none => exact C13_merge_preserves_dict_invariant .nil sm trivial hv
      | some tv =>
        cases tv with
        | map t2 => exact C13_merge_preserves_dict_invariant t2 sm (WF.get ht h) hv
        | _ => exact hv
    | _ => exact WF.assign k ht hv

/-- Merging into the empty mapping reproduces the source exactly, key order included. -/
theorem C13_merge_into_empty_is_copy (s : M κ σ) (hs : s.WF) : mergeInto .nil s = s :=
  mergeInto_nil_left s hs

/-! ## T2 precedence -/

/-- Path form of the lookup law, for a source that is shape-compatible with a leaf at `p`. -/
theorem C13_path_law (p : List κ) (t s : M κ σ) (hs : s.WF) (hc : compat s p = true) :
    (V.map (mergeInto t s)).getPath p = combine ((V.map t).getPath p) ((V.map s).getPath p) :=
  getPath_mergeInto_open p s t hs ((compat_iff p s).mp hc).2

/-- An explicit leaf of the source wins at its path whatever the target held there or above
(scalar, default, list, mapping, nothing): a later explicit value replaces wholesale. -/
theorem C13_explicit_wins (p : List κ) (t s : M κ σ) (l : V κ σ) (hs : s.WF) (hp : p ≠ [])
    (h : (V.map s).getPath p = some l) (hl : l.isExplicitLeaf = true) :
    (V.map (mergeInto t s)).getPath p = some l :=
  getPath_mergeInto_explicit p t s l hs h hl

/-- A default-marked value never displaces anything that is not itself default-marked — an explicit
scalar, a list, or a whole mapping. -/
theorem C13_default_never_displaces (p : List κ) (t s : M κ σ) (x : σ) (v : V κ σ) (hs : s.WF)
    (hp : p ≠ []) (h : (V.map s).getPath p = some (.dflt x))
    (ht : (V.map t).getPath p = some v) (hv : v.isDflt = false) :
    (V.map (mergeInto t s)).getPath p = some v := by
  rw [getPath_mergeInto_some p t s _ hs h, ht, combine_dflt, Option.all_some, hv]
  rfl

/-- A default-marked value is taken where the target has nothing or only another default. -/
theorem C13_default_fills (p : List κ) (t s : M κ σ) (x : σ) (hs : s.WF) (hp : p ≠ [])
    (h : (V.map s).getPath p = some (.dflt x))
    (ht : (V.map t).getPath p = none ∨ ∃ y, (V.map t).getPath p = some (.dflt y)) :
    (V.map (mergeInto t s)).getPath p = some (.dflt x) := by
  rw [getPath_mergeInto_some p t s _ hs h]
  rcases ht with ht | ⟨y, ht⟩ <;> rw [ht] <;> rfl

/-- Shape change, key level: a source mapping over a target value that is not a mapping replaces it
wholesale (by a copy of the source mapping). -/
theorem C13_map_replaces_nonmap (t s sm : M κ σ) (k : κ) (v : V κ σ) (hs : s.NoDupKeys)
    (h : s.get k = some (.map sm)) (ht : t.get k = some v) (hv : v.isMap = false) :
    (mergeInto t s).get k = some (.map sm) := by
  rw [get_mergeInto s t k hs, h, ht]
  cases v with
  | map _ => cases hv
  | _ => rfl

/-- **Precedence over a list of sources.**  `t` is the built-in configuration, `ss` the later sources in
merge order (files in call order, then the API/CLI overrides).  At every path where all of them are
shape-compatible, the effective value is `pick` of the values the sources hold there: the last explicit
one; if none is explicit, the last default-marked one. -/
theorem C13_precedence (p : List κ) (t : M κ σ) (ss : List (M κ σ))
    (hw : ∀ s ∈ t :: ss, s.WF) (hc : ∀ s ∈ t :: ss, compat s p = true) :
    (V.map (ss.foldl mergeInto t)).getPath p = pick ((t :: ss).map fun s => (V.map s).getPath p) := by
  -- what `compat` says of the walk: a leaf or nothing at `p`, and nothing only where the path is not mentioned
  have hc := fun s hs => (compat_iff p s).mp (hc s hs)
  rw [List.forall_mem_cons] at hw hc
  rw [getPath_foldl_mergeInto p ss t hw.2 fun s hs => (hc.2 s hs).2, foldl_combine_eq_pick _ _ hc.1.1, List.map_cons]
  intro y hy
  obtain ⟨s, hs, rfl⟩ := List.mem_map.mp hy
  exact (hc.2 s hs).1

/-- Last explicit wins, with arbitrary (also shape-changing) sources *before* it: if `s` holds an explicit
leaf at `p` and no later source holds anything but default-marked leaves there, the leaf is the
effective value. -/
theorem C13_precedence_last_explicit (p : List κ) (t s : M κ σ) (pre post : List (M κ σ)) (l : V κ σ)
    (hp : p ≠ []) (hs : s.WF) (h : (V.map s).getPath p = some l) (hl : l.isExplicitLeaf = true)
    (hw : ∀ s' ∈ post, s'.WF) (hc : ∀ s' ∈ post, compat s' p = true)
    (hq : ∀ s' ∈ post, ∀ v, (V.map s').getPath p = some v → v.isDflt = true) :
    (V.map ((pre ++ s :: post).foldl mergeInto t)).getPath p = some l := by
  rw [List.foldl_append, List.foldl_cons,
    getPath_foldl_mergeInto p post _ hw fun s' hs' => ((compat_iff p s').mp (hc s' hs')).2,
    C13_explicit_wins p _ s l hs hp h hl, foldl_combine_explicit hl]
  intro y hy
  obtain ⟨s', hs', rfl⟩ := List.mem_map.mp hy
  exact hq s' hs'

/-! ## T3 deep union -/

/-- A path the later source does not mention keeps its value, at every depth — whatever that value is
(leaf, mapping, absent) and whatever else the source changes around it. -/
theorem C13_deep_union (p : List κ) (t s : M κ σ) (hs : s.WF) (h : unmentioned s p = true) :
    (V.map (mergeInto t s)).getPath p = (V.map t).getPath p := by
  rw [getPath_mergeInto_open p s t hs fun _ => h, unmentioned_getPath p s h, combine_none_right]

/-! ## T4a key order is not observable -/

/-- Re-ordering the entries of a mapping changes no lookup. -/
theorem C13_permutation_lookup (m m' : M κ σ) (h : m.toList.Perm m'.toList) (hn : m.NoDupKeys) (k : κ) :
    m.get k = m'.get k := by
  -- a permutation keeps the keys distinct and the entries the same; a lookup finds exactly the entries
  have hn' : m'.NoDupKeys := by
    rw [noDupKeys_iff, keys_eq_map_toList] at hn ⊢
    exact (h.map Prod.fst).nodup_iff.mp hn
  refine Option.ext fun v => ?_
  rw [get_eq_some_iff m k v hn, get_eq_some_iff m' k v hn', h.mem_iff]

/-- Mappings whose entries agree up to (recursively) unobservable differences are extensionally equal;
with `C13_permutation_lookup` this covers re-ordering at any depth. -/
theorem C13_ext_of_entries (m m' : M κ σ)
    (h : ∀ k, match m.get k, m'.get k with
      | some v, some w => ExtEq v w
      | none, none => True
      | _, _ => False) :
    ExtEq (V.map m) (V.map m') := by
  refine ExtEq.map_of_get fun k => ?_
  have := h k
  split at this
  · rename_i h1 h2; rw [h1, h2]; exact this.oext
  · rename_i h1 h2; rw [h1, h2]; exact OExt.refl _
  · exact this.elim

/-- **Order-insensitivity**: sources (and targets) that differ only in key order — at any depth — give
merged configurations that answer every lookup alike. -/
theorem C13_key_order_insensitive (t t' s s' : M κ σ) (hs : s.WF) (hs' : s'.WF)
    (hss : ExtEq (V.map s) (V.map s')) (htt : ExtEq (V.map t) (V.map t')) :
    ExtEq (V.map (mergeInto t s)) (V.map (mergeInto t' s')) := by
  intro p
  induction p generalizing t t' s s' with
  | nil => rfl
  | cons k p ih =>
    rw [getPath_map_cons, getPath_map_cons, get_mergeInto s t k (WF.noDup hs),
      get_mergeInto s' t' k (WF.noDup hs')]
    have ha := htt.get k
    rcases (hss.get k).cases with ⟨hb, hnm⟩ | ⟨sm, sm', hb, hb', hss⟩
    · -- the sources hold the same leaf, or nothing
      rw [← hb]
      cases hsk : s.get k with
      | none => exact ha p
      | some sv =>
        cases sv with
        | map sm => exact absurd hsk (hnm sm)
        | dflt x =>
          -- a default is taken or not according to the shape of the target's value, alike on both sides
          rcases ha.cases with ⟨e, _⟩ | ⟨t2, t2', e, e', h2⟩
          · rw [← e]
          · rw [e, e']; exact h2 p
        | _ => rfl
    · -- the sources hold mappings: merged into what the targets hold, or put in its place
      have hsm := WF.get hs hb
      have hsm' := WF.get hs' hb'
      rw [hb, hb', combine_map, combine_map]
      rcases ha.cases with ⟨e, hn⟩ | ⟨t2, t2', e, e', h2⟩
      · rw [← e]
        cases hta : t.get k with
        | none => exact ih .nil .nil sm sm' hsm hsm' hss (fun _ => rfl)
        | some tv =>
          cases tv with
          | map t2 => exact absurd hta (hn t2)
          | _ => exact hss p
      · rw [e, e']; exact ih t2 t2' sm sm' hsm hsm' hss h2

/-! ## T4b the builder -/

/-- **Interleaving independence**: two call sequences with the same `add_config_files` calls in the same
order and the same other calls in the same order leave the builder in the same state (and fail alike),
however the two kinds of calls are interleaved. -/
theorem C13_builder_interleaving (valid : κ → Bool) (d : κ) (b : Builder κ σ) (ops₁ ops₂ : List (Op κ σ))
    (hf : ops₁.filter Op.isFile = ops₂.filter Op.isFile)
    (ho : (ops₁.filter fun op => !op.isFile) = ops₂.filter fun op => !op.isFile) :
    Builder.run valid d b ops₁ = Builder.run valid d b ops₂ := by
  rw [run_filter, run_filter, hf, ho]

/-- The configuration handed to the context at `create()` is: the files merged in call order into the
builder's configuration, then all overrides merged into the target language's section. -/
theorem C13_builder_create_config (valid : κ → Bool) (d : κ) (resolve : M κ σ → M κ σ → κ)
    (b b' : Builder κ σ) (ops : List (Op κ σ)) (l : κ)
    (h : Builder.run valid d b ops = .ok b') (hl : b'.lang = some l) :
    ∃ c, cfgOf valid b.config (ops.filter Op.isFile) = .ok c ∧
      (b'.create resolve).config =
        c.set l (deepUpdate ((c.get l).getD (.map .nil)) (ovrOf b.overrides (ops.filter fun op => !op.isFile))) := by
  rw [run_filter] at h
  split at h
  · rename_i c hc
    cases h
    simp only at hl
    exact ⟨c, hc, by simp only [Builder.create, hl]⟩
  · cases h

/-- `create()` twice is `create()` once (explicit target language, or a resolver that finds the same
language again). -/
theorem C13_create_idempotent (resolve : M κ σ → M κ σ → κ) (b : Builder κ σ) (hw : b.overrides.WF)
    (hr : b.lang = none → resolve (b.create resolve).config b.overrides = resolve b.config b.overrides) :
    (b.create resolve).create resolve = b.create resolve := by
  obtain ⟨c, o, lang⟩ := b
  cases lang with
  | some l => exact congrArg (Builder.mk · o (some l)) (set_deepUpdate_idem hw rfl)
  | none =>
    have hr' := hr rfl
    simp only [Builder.create] at hr' ⊢
    rw [hr', set_deepUpdate_idem hw rfl]

/-- `create()` does not consume the pending overrides (nor the chosen language): they are merged again
at every later `create()` of the same builder. -/
theorem C13_create_keeps_overrides (resolve : M κ σ → M κ σ → κ) (b : Builder κ σ) :
    (b.create resolve).overrides = b.overrides ∧ (b.create resolve).lang = b.lang := ⟨rfl, rfl⟩

/-- Files added later (between two `create()` calls, in any call grouping) do not touch the overrides
either: an override set once is still pending, unless the same key is set again. -/
theorem C13_files_keep_overrides (valid : κ → Bool) (d : κ) (b b' : Builder κ σ) (ops : List (Op κ σ))
    (hf : ∀ op ∈ ops, op.isFile = true) (h : Builder.run valid d b ops = .ok b') :
    b'.overrides = b.overrides ∧ b'.lang = b.lang := by
  -- no call of the other kind: their closed forms see an empty list
  have hnil : (ops.filter fun op => !op.isFile) = [] :=
    List.filter_eq_nil_iff.mpr fun op ho => by rw [hf op ho]; decide
  rw [run_filter, hnil] at h
  split at h
  · cases h; exact ⟨rfl, rfl⟩
  · cases h

/-- **Explicit API value over configuration file, at every `create()`**: whatever happened to the builder
before (earlier `create()`s, files added since), an explicit leaf of the pending overrides is the effective
value of the target language's section in the configuration `create()` hands out. -/
theorem C13_create_explicit_override_wins (resolve : M κ σ → M κ σ → κ) (b : Builder κ σ) (l : κ)
    (p : List κ) (v : V κ σ) (hl : b.lang = some l) (hw : b.overrides.WF) (hp : p ≠ [])
    (h : (V.map b.overrides).getPath p = some v) (hv : v.isExplicitLeaf = true) :
    (V.map (b.create resolve).config).getPath (l :: p) = some v := by
  obtain ⟨c, o, lang⟩ := b
  cases hl
  simp only [Builder.create, getPath_map_cons, M.get_set_self, Option.bind_some]
  exact getPath_deepUpdate_explicit p _ o v hw h hv

/-- **One call with several files = one call per file**:
`add_config_files(f₁ … fₙ, g₁ … gₘ)` is `add_config_files(f₁ … fₙ)` followed by `add_config_files(g₁ … gₘ)`
(same configuration, same error). -/
theorem C13_add_config_files_call_split (valid : κ → Bool) (c : M κ σ) (ds₁ ds₂ : List (V κ σ)) :
    addFilesCall valid c (ds₁ ++ ds₂) =
      match addFilesCall valid c ds₁ with
      | .ok c' => addFilesCall valid c' ds₂
      | .error e => .error e := by
  induction ds₁ generalizing c with
  | nil => rfl
  | cons d ds ih =>
    simp only [List.cons_append, addFilesCall]
    cases update valid c d with
    | error e => rfl
    | ok c' => exact ih c'

/-- … and the builder state machine treats a call with several files as that many `addFile` steps. -/
theorem C13_add_config_files_is_fold (valid : κ → Bool) (d : κ) (b : Builder κ σ) (docs : List (V κ σ)) :
    Builder.run valid d b (docs.map Op.addFile) =
      match addFilesCall valid b.config docs with
      | .ok c => .ok { b with config := c }
      | .error e => .error e := by
  induction docs generalizing b with
  | nil => rfl
  | cons doc docs ih =>
    simp only [List.map_cons, Builder.run, Builder.apply, addFilesCall]
    cases update valid b.config doc with
    | error e => rfl
    | ok c' => simpa using ih { b with config := c' }

/-! ## T5 the C++ language-standard shorthands -/

/-- When `std` names a group of `defaults`, every key of the group gets the group's value (the group is
set as a unit, explicit values included) and every other option is unchanged; when it names no group the
options are unchanged. -/
theorem C13_cpp_shorthand_unit (stdKey : κ) (nameKey : σ → κ) (defaults options options' : M κ σ)
    (h : applyStdDefaults stdKey nameKey defaults options = .ok options') :
    ∃ sv name, options.get stdKey = some sv ∧ stdName sv = .ok name ∧
      match defaults.get (nameKey name) with
      | some (.map g) => g.NoDupKeys → ∀ k, options'.get k = (match g.get k with
                                                          | some v => some v
                                                          | none => options.get k)
      | _ => options' = options := by
  unfold applyStdDefaults at h
  split at h
  · cases h
  · rename_i sv hs
    split at h
    · cases h
    · rename_i name hn
      refine ⟨sv, name, hs, hn, ?_⟩
      split at h
      · rename_i hg
        cases h
        rw [hg]
      · rename_i g hg
        cases h
        rw [hg]
        exact fun hnd k => get_dictUpdate g options k hnd
      · cases h

/-- The shipped table: no duplicate keys anywhere (so `C13_cpp_shorthand_unit` applies to every group). -/
theorem C13_cpp_table_wf : Gen.cppDefaults.wf = true ∧ Gen.cppBuiltinOptions.wf = true := by decide +kernel

/-- The shipped table: every group is a mapping that sets `std` to a plain standard which is not itself a
shorthand — applying a group is final (a second `create()` finds nothing more to apply). -/
theorem C13_cpp_table_groups_final :
    Gen.cppGroupNames.all (fun g =>
      match Gen.cppDefaults.get g with
      | some (.map grp) =>
        (match grp.get Gen.stdKey with
         | some (.scalar a) => (Gen.cppDefaults.get (Gen.nameKey a)).isNone
         | _ => false)
      | _ => false) = true ∧ Gen.cppDefaults.keys = Gen.cppGroupNames := by decide +kernel

/-- The shipped table: **every shorthand group sets the same set of keys** — each key set by any group is
set by every group.  Together with `C13_cpp_shorthand_unit` this is what "as a unit" means for the effective
options: after an explicit shorthand, no option that belongs to the shorthand vocabulary is left to whatever
a configuration file said about it (a group that silently omitted a member "because it equals the base
value" would let a file's value survive the shorthand). -/
theorem C13_cpp_table_groups_uniform :
    Gen.cppGroupNames.all (fun g₁ => Gen.cppGroupNames.all (fun g₂ =>
      match Gen.cppDefaults.get g₁, Gen.cppDefaults.get g₂ with
      | some (.map a), some (.map b) => a.keys.all (fun k => (b.get k).isSome)
      | _, _ => false)) = true := by decide +kernel

/-- Consequence for any two groups with the same key set (as the table has, by the theorem above): after
applying group `g`, an option `k` that some other group `g'` sets does not depend on the options before —
in particular not on what a configuration file said about `k`. -/
theorem C13_cpp_shorthand_file_independent (g g' o₁ o₂ : M κ σ) (k : κ) (hg : g.NoDupKeys)
    (hu : ∀ k, (g'.get k).isSome → (g.get k).isSome) (hk : (g'.get k).isSome) :
    (dictUpdate o₁ g).get k = (dictUpdate o₂ g).get k := by
  rw [get_dictUpdate g o₁ k hg, get_dictUpdate g o₂ k hg]
  have := hu k hk
  cases h : g.get k with
  | none => simp [h] at this
  | some v => rfl

/-! ## The command line: defaults are not explicit values -/

/-- The generated table of EVERY command-line option read by `_create_language_context` (regenerated from
the runner's code and the argparse definitions): an option that reaches the configuration either has the
argparse default `None` (the runner's `is not None` guard / the builder's "`None` is ignored" then keep it
out of the overrides — `Op.setOverride k none` is a no-op), or is a `store_true` flag with default `False`
that the runner wraps as `DefaultValue(False)` (which by `C13_default_never_displaces` cannot displace a
file's value).  So no *default* of the command line is ever merged as an explicit value. -/
theorem C13_cli_defaults_are_not_explicit :
    Gen.cliOptions.all (fun o =>
      o.role == "ctor" ||
      (o.wrapped && o.action == "store_true" && o.dflt == "False") ||
      (!o.wrapped && o.dflt == "None")) = true := by decide +kernel

example : Gen.cliOptions.any (fun o => o.role == "option" && o.wrapped) = true ∧
    Gen.cliOptions.any (fun o => o.role == "option" && !o.wrapped) = true ∧
    Gen.cliOptions.any (fun o => o.role == "config") = true := by decide +kernel

/-! ## T6 objects: source documents unmodified, separation

`mergeH true` is `deep_update` with `copy.deepcopy` in the "target is not a mapping" branch (the repaired
code), over an explicit heap of `dict` objects.  A *region* is a set of addresses; `Closed h A` says that
`A` contains everything reachable from its members.  The theorems hold for every recursion bound `fuel`
(whenever the call returns at all) and need no assumption on the shape of the heap beyond the stated
separation: `A` (everything reachable from the target) and `B` (everything reachable from the sources)
share no `dict`.  The frame itself holds whatever the source is (`mergeH_spec`: the repaired merge stores leaves,
references the target had and references to new objects, never one it read from a source); separation is what turns
it into "the sources are unmodified". -/

/-- **Frame**: the merge writes only to objects reachable from the target or freshly allocated, and the
target's region plus the fresh objects is closed again. -/
theorem C13_heap_frame (fuel : Nat) (h h' : Heap κ σ) (t s : Nat) (A B : Nat → Prop)
    (hA : Closed h A) (hB : Closed h B) (hd : ∀ a, A a → B a → False) (ht : A t) (hs : B s)
    (he : mergeH true fuel h t s = .ok h') : Frame h A h' :=
  mergeH_spec fuel h t s h' A hA ht he

/-- **Source documents are left unmodified**: every object reachable from the source is the same
afterwards, and reading back any value of the source gives what it gave before. -/
theorem C13_heap_source_unmodified (fuel : Nat) (h h' : Heap κ σ) (t s : Nat) (A B : Nat → Prop)
    (hA : Closed h A) (hB : Closed h B) (hd : ∀ a, A a → B a → False) (ht : A t) (hs : B s)
    (he : mergeH true fuel h t s = .ok h') :
    (∀ a, B a → h'[a]? = h[a]?) ∧
    ∀ (n : Nat) (v : HV σ), (∀ b, v = .ref b → B b) → unfoldH n h' v = unfoldH n h v :=
  (mergeH_spec fuel h t s h' A hA ht he).reads hB hd

/-- **Separation is preserved**: if target and source share no `dict` before the merge they share none
after it — the merged configuration consists of the target's own and of fresh objects only. -/
theorem C13_heap_separation (fuel : Nat) (h h' : Heap κ σ) (t s : Nat) (A B : Nat → Prop)
    (hA : Closed h A) (hB : Closed h B) (hd : ∀ a, A a → B a → False) (ht : A t) (hs : B s)
    (he : mergeH true fuel h t s = .ok h') :
    ∃ A' : Nat → Prop, (∀ a, A a → A' a) ∧ A' t ∧ Closed h' A' ∧ Closed h' B ∧ B s ∧
      (∀ a, A' a → B a → False) ∧ (∀ a, A' a → A a ∨ h.length ≤ a) := by
  have f := mergeH_spec fuel h t s h' A hA ht he
  exact ⟨_, fun _ => .inl, .inl ht, f.closed, (f.other hB hd).2, hs, f.disjoint hB hd,
    fun a ha => ha.elim .inl fun x => .inr x.1⟩

/-- **Later merges cannot change an earlier source**: after any sequence of merges into one target
(files in call order, then overrides, a second `create()`, …) every source document — the first as well
as the last — is what it was before the first merge. -/
theorem C13_heap_later_merges_keep_earlier_sources (fuel : Nat) (h h' : Heap κ σ) (t : Nat) (ss : List Nat)
    (A B : Nat → Prop) (hA : Closed h A) (hB : Closed h B) (hd : ∀ a, A a → B a → False) (ht : A t)
    (hs : ∀ s ∈ ss, B s) (he : mergeAllH true fuel h t ss = .ok h') :
    (∀ a, B a → h'[a]? = h[a]?) ∧
    ∀ (n : Nat) (v : HV σ), (∀ b, v = .ref b → B b) → unfoldH n h' v = unfoldH n h v :=
  (mergeAllH_frame fuel t ss h h' A hA ht he).reads hB hd

/-- **Two builders are immune to each other**: `A₁` is everything reachable from the configuration of a
builder (and of the contexts it created), `A₂` the same for another builder, `B` the documents and
override objects handed to the second builder (they may be shared with the first builder's *callers*, not
with its configuration).  Whatever sequence of `update_section` calls the second builder performs (files,
overrides at `create()`, repeated `create()`), every object of `A₁` is untouched, every value read through
the first builder's contexts is the same, and the two configurations still share nothing. -/
theorem C13_heap_two_builders (fuel : Nat) (h h' : Heap κ σ) (c₂ : Nat) (us : List (κ × Nat))
    (A₁ A₂ B : Nat → Prop) (h1 : Closed h A₁) (h2 : Closed h A₂) (hB : Closed h B)
    (d12 : ∀ a, A₂ a → A₁ a → False) (d2B : ∀ a, A₂ a → B a → False) (hc : A₂ c₂) (hs : ∀ u ∈ us, B u.2)
    (he : updateAllH true fuel h c₂ us = .ok h') :
    (∀ a, A₁ a → h'[a]? = h[a]?) ∧
    (∀ (n : Nat) (v : HV σ), (∀ b, v = .ref b → A₁ b) → unfoldH n h' v = unfoldH n h v) ∧
    Closed h' A₁ ∧
    ∃ A₂' : Nat → Prop, (∀ a, A₂ a → A₂' a) ∧ Closed h' A₂' ∧ (∀ a, A₂' a → A₁ a → False) := by
  have f := updateAllH_frame fuel c₂ us h h' A₂ h2 hc he
  obtain ⟨hs1, hr1⟩ := f.reads h1 d12
  exact ⟨hs1, hr1, (f.other h1 d12).2, _, fun _ => .inl, f.closed, f.disjoint h1 d12⟩

/-- **The separation hypothesis is reachable**: loading a document (parsing YAML: `allocV`) allocates a
closed region of new objects.  Every region `A` that existed before is untouched, still closed, and shares
nothing with the new document — so a builder's freshly loaded configuration starts separate from
everything else, and `C13_heap_separation` keeps it so. -/
theorem C13_heap_loaded_document_is_separate (h : Heap κ σ) (v : V κ σ) (A : Nat → Prop) (hA : Closed h A) :
    let h' := (allocV h v).1
    let D := Fresh h.length h'.length
    h.length ≤ h'.length ∧ (∀ a, A a → h'[a]? = h[a]?) ∧ Closed h' A ∧ Closed h' D ∧
    (∀ b, (allocV h v).2 = .ref b → D b) ∧ (∀ a, D a → A a → False) := by
  obtain ⟨f, rf⟩ := allocV_frame v h
  obtain ⟨hs, hc⟩ := f.other hA fun _ hf => hf.elim
  exact ⟨f.len, hs, hc, f.new_closed, rf, fun a hd => f.disjoint hA (fun _ hf => hf.elim) a (.inr hd)⟩

/-! ### the defect repaired by the `fix:` commit (regression witness)

Before the fix the "target is not a mapping" branch was `copy.copy(source)`: the new `dict` still pointed
into the source document.  `{"a": 1} ← {"a": {"b": {"c": 1}}} ← {"a": {"b": {"c": 2}}}`: the second merge
writes `c = 2` into the *first source* (object 3).  "Sources are left unmodified" was false of that code;
with the deep copy the same history leaves object 3 alone. -/

/-- 0 = target `{a: 1}`; 1,2,3 = first source; 4,5,6 = second source (keys a,b,c = 0,1,2). -/
def f3Heap : Heap Nat Nat :=
  [[(0, .scalar 1)], [(0, .ref 2)], [(1, .ref 3)], [(2, .scalar 1)], [(0, .ref 5)], [(1, .ref 6)], [(2, .scalar 2)]]

example : (match mergeAllH false 10 f3Heap 0 [1, 4] with
    | .ok h' => (h'[3]?, unfoldH 10 h' (.ref 1))
    | .error _ => (none, none))
    = (some [(2, .scalar 2)], some (.map (.cons 0 (.map (.cons 1 (.map (.cons 2 (.scalar 2) .nil)) .nil)) .nil))) := by
  rfl
example : ¬ (∀ h', mergeAllH false 10 f3Heap 0 [1, 4] = .ok h' → h'[3]? = f3Heap[3]?) := by
  intro hall
  have := hall _ rfl
  revert this
  decide
example : (match mergeAllH true 10 f3Heap 0 [1, 4] with
    | .ok h' => (h'[3]?, unfoldH 10 h' (.ref 1), unfoldH 10 h' (.ref 0))
    | .error _ => (none, none, none))
    = (some [(2, .scalar 1)], some (.map (.cons 0 (.map (.cons 1 (.map (.cons 2 (.scalar 1) .nil)) .nil)) .nil)),
       some (.map (.cons 0 (.map (.cons 1 (.map (.cons 2 (.scalar 2) .nil)) .nil)) .nil))) := by
  rfl
-- the hypotheses of the frame theorems are met by this heap: target region {0}, source region {1..6}
example : Closed f3Heap (fun a => a = 0) ∧ Closed f3Heap (fun a => 1 ≤ a ∧ a ≤ 6) ∧
    (∀ a, a = 0 → (1 ≤ a ∧ a ≤ 6) → False) := by
  refine ⟨?_, ?_, by omega⟩
  · intro a ha; subst ha; exact ⟨_, rfl, fun k b hb => nomatch List.mem_singleton.mp hb⟩
  · intro a ha
    have : a = 1 ∨ a = 2 ∨ a = 3 ∨ a = 4 ∨ a = 5 ∨ a = 6 := by omega
    -- every object of the heap has one entry
    rcases this with rfl | rfl | rfl | rfl | rfl | rfl <;>
      exact ⟨_, rfl, fun k b hb => by cases List.mem_singleton.mp hb <;> decide⟩

section Examples
open V M

private def tgt : M Nat Nat :=
  .cons 1 (.map (.cons 10 (.scalar 1) (.cons 11 (.dflt 2) .nil))) (.cons 2 (.scalar 7) (.cons 3 (.dflt 0) .nil))
private def src : M Nat Nat :=
  .cons 3 (.dflt 5) (.cons 1 (.map (.cons 11 (.map (.cons 20 (.scalar 9) .nil)) (.cons 12 (.dflt 4) .nil)))
    (.cons 2 (.dflt 8) (.cons 4 (.list [1, 2]) .nil)))

-- the doc-test of `deep_update`, all five cases of the lookup law at once
example : mergeInto tgt src =
    .cons 1 (.map (.cons 10 (.scalar 1) (.cons 11 (.map (.cons 20 (.scalar 9) .nil)) (.cons 12 (.dflt 4) .nil))))
      (.cons 2 (.scalar 7) (.cons 3 (.dflt 5) (.cons 4 (.list [1, 2]) .nil))) := by rfl
example : src.WF := by simp [src, M.WF, V.WF, M.get]
example : compat src [1, 12] = true ∧ unmentioned src [1, 10] = true ∧ unmentioned src [1, 11, 20] = false := by
  exact ⟨rfl, rfl, rfl⟩
-- precedence: explicit over later default; default over default; last explicit
example : pick [some (.scalar 1), some (.dflt 2), none] = some (V.scalar 1 : V Nat Nat) := by rfl
example : pick [some (.dflt 1), none, some (.dflt 2)] = some (V.dflt 2 : V Nat Nat) := by rfl
example : pick [some (.scalar 1), some (.scalar 3), some (.dflt 2)] = some (V.scalar 3 : V Nat Nat) := by rfl
-- the CLI rule (issue #329): `DefaultValue(False)` from the command line does not displace a file's `true`
example : mergeInto (mergeInto (.cons 0 (.scalar 0) .nil) (.cons 0 (.scalar 1) .nil)) (.cons 0 (.dflt 0) .nil)
    = (.cons 0 (.scalar 1) .nil : M Nat Nat) := by rfl
-- builder: two interleavings of the same calls
example : Builder.run (fun _ => true) 0 (⟨.nil, .nil, none⟩ : Builder Nat Nat)
      [.setOverride 5 (some (.scalar 1)), .addFile (.map (.cons 0 (.map (.cons 5 (.scalar 2) .nil)) .nil)), .setLanguage none]
    = Builder.run (fun _ => true) 0 ⟨.nil, .nil, none⟩
      [.addFile (.map (.cons 0 (.map (.cons 5 (.scalar 2) .nil)) .nil)), .setLanguage none, .setOverride 5 (some (.scalar 1))] := by
  rfl
-- deep union is not associative across a type change: combining two files FIRST and merging the result is not merging
-- them one after the other (built-in map at key 1; file 1 sets it to a scalar, file 2 to a map)
example : mergeInto (mergeInto (.cons 1 (.map (.cons 7 (.scalar 0) .nil)) .nil) (.cons 1 (.scalar 9) .nil))
      (.cons 1 (.map (.cons 8 (.scalar 1) .nil)) .nil)
    ≠ mergeInto (.cons 1 (.map (.cons 7 (.scalar 0) .nil)) .nil)
      (mergeInto (mergeInto (.nil : M Nat Nat) (.cons 1 (.scalar 9) .nil)) (.cons 1 (.map (.cons 8 (.scalar 1) .nil)) .nil)) := by
  decide
-- C++: `c++17-pmr` rewrites `std` and sets the allocator as a unit, other options stay
example : (match applyStdDefaults Gen.stdKey Gen.nameKey Gen.cppDefaults
      (.cons "std" (.scalar "s:c++17-pmr") (.cons "allocator_type" (.scalar "s:mine") (.cons "x" (.scalar "i:1") .nil))) with
    | .ok o => (o.get "std", o.get "allocator_type", o.get "x")
    | .error _ => (none, none, none))
    = (some (.scalar "s:c++17"), some (.scalar "s:std::pmr::polymorphic_allocator"), some (.scalar "i:1")) := by
  decide +kernel

end Examples

end NunavutVerif.Config
