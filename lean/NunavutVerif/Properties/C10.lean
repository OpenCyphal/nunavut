import NunavutVerif.Lemmas.Tpl
import NunavutVerif.Lemmas.ProcState
import NunavutVerif.Lemmas.FilePP
import NunavutVerif.Gen.TplFlows
import NunavutVerif.Gen.TplCallables
import NunavutVerif.Properties.C15
/-!
# C10 — per-type output ignores sibling types, processing order and earlier runs

The file written for a type is `fileOut pps counters (render I P false d a …)`: the rendering reads the declared
inputs `d` (the type, the types it refers to, templates, options) and the process state only through the classes
`Src.c10` (sibling types, unique-name generator, memo caches, template lookup cache); the line post-processors carry
their `counters`.  Everything a different company of types, another processing order or an earlier run can change is
in `a` restricted to `Src.c10` and in `counters`; the theorems quantify over all of them.
-/
namespace NunavutVerif.C10
open NunavutVerif.Tpl NunavutVerif.ProcState NunavutVerif.LineBuffer NunavutVerif.Gen

/-! ### T2 for the process-state classes: the generated tables (evaluated in `Lemmas/Tpl.lean`) -/

/- Full statement (FALSE for the code as it is):
     theorem C10_tables_clean : TplFlows.langs.all (fun L => L.cleanFor Src.c10) = true
   py: `filter_pickle` serialises the PyDSDL model objects *including the lazily filled caches inside them* (the
   `BitLengthSet` operators memoise `% n` and expansions); the model objects of nested types are shared between the
   types of a run, so the fill state — and with it the `_MODEL_` literal of a generated module — depends on which types
   were processed before (known finding `py-pickled-model-cache-state`).  Proved: everything except that one cell
   (language py × per-type files × model-cache state). -/

/-- In c, cpp and html no leaf reads sibling types, and every use of the unique-name generator, of a memoised
function or of the template lookup cache is covered by its sanitiser (T4, T5 below); in py the same holds for every
class except the model-cache state in per-type files. -/
theorem C10_tables_clean_partial :
    TplFlowsC.lang.cleanFor Src.c10 = true ∧ TplFlowsCpp.lang.cleanFor Src.c10 = true ∧
    TplFlowsHtml.lang.cleanFor Src.c10 = true ∧
    TplFlowsPy.lang.cleanFor [.siblings, .psUniqueName, .psMemo, .psTemplateCache, .psCompileFold, .psSharedMutable] = true ∧
    TplFlowsPy.lang.rootsCleanFor Src.c10 .namespace = true ∧
    TplFlowsPy.lang.rootsCleanFor Src.c10 .support = true :=
  have hr := List.subset_append_right Src.c07 Src.c10
  have h := TplFlowsPy.lang_clean_except_type_cell
  ⟨Lang.cleanFor_mono hr TplFlowsC.lang_clean, Lang.cleanFor_mono hr TplFlowsCpp.lang_clean,
    Lang.cleanFor_mono hr TplFlowsHtml.lang_clean, Lang.cleanFor_mono (by decide) h.1,
    Lang.rootsCleanFor_mono hr h.2.1, Lang.rootsCleanFor_mono hr h.2.2.1⟩

/-- py, tightened: with the applications of the `pickle` filter (`TplFlowsPy.pickleLeaves`, the `_MODEL_` literal) replaced
by any function of the same arguments that does not look at the cache fill state, the whole Python table is clean for
every process-state class: every other byte of a generated Python file ignores sibling types, order and history. -/
theorem C10_py_clean_except_pickled_model_partial :
    (TplFlowsPy.lang.scrub TplFlowsPy.pickleLeaves).cleanFor Src.c10 = true :=
  Lang.cleanFor_mono (List.subset_append_right _ _) TplFlowsPy.lang_scrubbed_clean

/-- The excluded cell really is dirty in the table (the model describes the code as it is). -/
example : TplFlowsPy.lang.rootsCleanFor [.psModelCache] .type = false := TplFlowsPy.lang_clean_except_type_cell.2.2.2.2

/-- The sanitiser of the unique-name leaves exists in the source: `_generate_code` calls
`UniqueNameGenerator.reset()` before it consumes the template generator. -/
theorem C10_unique_names_reset_in_source : TplFlows.resetsUniqueNamesPerFile = true := by decide

/-! ### T4: UniqueNameGenerator -/

/-- The names issued while one file is rendered are the same for every prior state of the singleton … -/
theorem C10_unique_names_ignore_prior_state (prior₁ prior₂ : UState) (reqs : List Req) :
    namesInFile prior₁ reqs = namesInFile prior₂ reqs := rfl

/-- … and depend only on the requests made in that file: the index of a request is the number of earlier requests
of the file with the same (key, base token). -/
theorem C10_unique_names_closed_form (prior : UState) (reqs : List Req) :
    namesInFile prior reqs = specNames [] reqs :=
  issue_eq_spec_on (fun _ => True) resetState [] reqs (fun _ _ => trivial) (fun _ _ => rfl)

/-- The state is a map (domain, base token) ↦ counter and the reset clears EVERY domain: the closed form above holds for
requests of any mixture of domains (`Req.key` is arbitrary).  A reset of the target language's domain alone would do
only for files that request names in that domain … -/
theorem C10_unique_names_domain_reset_only_for_own_domain (target : LineBuffer.Str) (prior : UState) (reqs : List Req)
    (hown : ∀ r ∈ reqs, r.key = target) :
    namesInFileDomainReset target prior reqs = namesInFile prior reqs := by
  rw [C10_unique_names_closed_form]
  exact issue_eq_spec_on (·.1 = target) _ [] reqs hown (fun k hk => by simp [lookup_resetDomain, hk])

/-- … and leaks the prior state as soon as a template borrows another language's filter (`ln.py.to_template_unique_name`
in a C template): the names then depend on how many names earlier files and runs consumed. -/
example : namesInFileDomainReset ['c'] [((['p', 'y'], ['x']), 3), ((['c'], ['x']), 5)]
      [⟨['c'], ['x'], [], []⟩, ⟨['p', 'y'], ['x'], [], []⟩] = ["x0".toList, "x3".toList] ∧
    namesInFile [((['p', 'y'], ['x']), 3), ((['c'], ['x']), 5)]
      [⟨['c'], ['x'], [], []⟩, ⟨['p', 'y'], ['x'], [], []⟩] = ["x0".toList, "x0".toList] := by decide +kernel

/-- Without the reset the prior state shows (what the reset is for; the C10 mutant). -/
example : namesInFileNoReset [((['c'], ['x']), 3)] [⟨['c'], ['x'], ['_'], ['_']⟩]
    ≠ namesInFileNoReset [] [⟨['c'], ['x'], ['_'], ['_']⟩] := by decide +kernel

example : namesInFile [((['c'], ['x']), 3)] [⟨['c'], ['x'], ['_'], ['_']⟩, ⟨['c'], ['y'], [], []⟩, ⟨['c'], ['x'], [], []⟩]
    = ["_x0_".toList, "y0".toList, "x1".toList] := by decide +kernel

/-! ### T5: memoisation -/

/-- A cache whose entries satisfy `v = f k` never changes a result, whatever it evicts; instantiated for
`TokenEncoder.strop`, `LanguageClassLoader.load_language_class`, `_make_textwrap` and
`_type_to_template_lookup_cache` by taking `f` to be the memoised function (its purity is the
assumption; the harness compares cached against uncached calls). -/
theorem C10_memo_transparent {κ ν : Type} [DecidableEq κ] (f : κ → ν) (evict : List (κ × ν) → List (κ × ν))
    (hev : ∀ c p, p ∈ evict c → p ∈ c) (cache : List (κ × ν)) (hv : CacheValid f cache) (ks : List κ) :
    (memoRun f evict cache ks).1 = ks.map f ∧ CacheValid f (memoRun f evict cache ks).2 :=
  memoRun_transparent f evict hev cache hv ks

/-- Per-instance caches (the key contains the instance: `lru_cache` on methods, `cached_property` in
`instance.__dict__`, the loader's lookup dict): transparent although the function depends on the instance's
configuration — the instance of T5 with key `(instance, arguments)`. -/
theorem C10_memo_per_instance_transparent {ι κ ν : Type} [DecidableEq ι] [DecidableEq κ] (f : ι → κ → ν)
    (evict : List ((ι × κ) × ν) → List ((ι × κ) × ν)) (hev : ∀ c p, p ∈ evict c → p ∈ c)
    (cache : List ((ι × κ) × ν)) (hv : CacheValid (fun q : ι × κ => f q.1 q.2) cache) (qs : List (ι × κ)) :
    (memoRun (fun q : ι × κ => f q.1 q.2) evict cache qs).1 = qs.map (fun q => f q.1 q.2) :=
  (memoRun_transparent _ evict hev cache hv qs).1

/-- A cache shared by all instances is transparent only for functions that do not depend on the instance
(`_make_textwrap`) … -/
theorem C10_memo_shared_transparent_if_instance_independent {ι κ ν : Type} [DecidableEq κ] (f : ι → κ → ν)
    (hind : ∀ i j k, f i k = f j k) (qs : List (ι × κ)) :
    (memoRunShared f [] qs).1 = qs.map (fun q => f q.1 q.2) := by
  rw [memoRunShared_eq_memoRunBy]
  exact (memoRunBy_transparent Prod.snd _ (fun q q' h => (hind q.1 q'.1 q.2).trans (congrArg (f q'.1) h)) []
    (fun _ h => absurd h List.not_mem_nil) qs).1

/-- … and wrong otherwise: the second instance is served the first instance's value (a token encoder built for the
first Language object reused by a later one with another stropping prefix). -/
example : (memoRunShared (fun (prefixLen : Nat) (tok : Nat) => prefixLen + tok) [] [(1, 7), (5, 7)]).1 = [8, 8] ∧
    [(1, 7), (5, 7)].map (fun q : Nat × Nat => q.1 + q.2) = [8, 12] := by decide +kernel

/-- A cache that compares its keys by something coarser than the argument (`functools.lru_cache` on a function of a PyDSDL
type: equality by name, version and bit length set) is transparent exactly for functions that are determined by that
comparison … -/
theorem C10_memo_keyed_by_equality_transparent {κ κ' ν : Type} [DecidableEq κ'] (π : κ → κ') (f : κ → ν)
    (hdet : ∀ k k', π k = π k' → f k = f k') (ks : List κ) :
    (memoRunBy π f [] ks).1 = ks.map f :=
  (memoRunBy_transparent π f hdet [] (fun _ h => absurd h List.not_mem_nil) ks).1

/-- … and serves a stale object otherwise: `Language.get_dependency_builder` before the `fix:` commit — a type read again
from edited definitions (same name, version and size; now referring to `Kelvin`) was handed the `DependencyBuilder` of
the type object of the earlier run (`Celsius`) when the `LanguageContext` was reused, hence the old `#include`. -/
example : (memoRunBy (fun (t : String × String) => t.1) (fun t => t.2) [] [("Frame.1.0", "Celsius"), ("Frame.1.0", "Kelvin")]).1
      = ["Celsius", "Celsius"] ∧
    [("Frame.1.0", "Celsius"), ("Frame.1.0", "Kelvin")].map (fun t : String × String => t.2) = ["Celsius", "Kelvin"] := by decide +kernel

/-- No function behind `functools.lru_cache` / `functools.cache` takes a PyDSDL model object or a container as part of its
key (regenerated table `TplFlows.memoisedFunctions`: `TokenEncoder.strop(self, token: str, token_type: str)`,
`LanguageClassLoader.load_language_class(self, language_name: str)`, `_make_textwrap(width, initial_indent,
subsequent_indent)`): every memoised function is determined by what its cache compares. -/
theorem C10_memo_keys_determine_result_in_source : TplFlows.memoKeysDetermineResult = true := by decide

/-- The memoised functions of the package (regenerated table) are all among the ones T5 is instantiated for: a newly
memoised function — whatever its key types — is a broken obligation by name until its transparency has been argued. -/
theorem C10_memoised_functions_are_the_modelled_ones :
    TplFlows.memoisedFunctions.all (fun m => modelledMemoised.contains m.1) = true := by
  -- name by name, literally the same string in both tables (comparing the strings by evaluation is far slower)
  simp [TplFlows.memoisedFunctions, modelledMemoised]

/-- Every filter, test and global registered in the real template environments of c, cpp, py and html (the ones no
built-in template uses included) is classified, and none reads sibling types or process state except behind a
sanitiser — apart from the expected names (`pickle`: cache fill state of the shared model objects, a known finding). -/
theorem C10_registered_callables_as_expected :
    TplCallables.unclassified = [] ∧
    TplCallables.all.all (fun L => L.2.all (Callable.asExpected Src.c10)) = true :=
  TplCallables.all_asExpected_of_subset (List.subset_append_right _ _)

/-- Source fact behind the `psCompileFold` sanitiser: templates are compiled lazily (no `get_template` in a generator
constructor), i.e. never while counters of an earlier run are alive outside the per-file reset discipline; a
constant-foldable stateful filter (the C++ `to_template_unique_name` is not marked volatile) in a template that is
compiled at render time is then folded from the freshly reset state. -/
theorem C10_templates_compiled_lazily_in_source : TplFlows.templatesCompiledLazily = true := by decide

/-- No class attribute or module global bound to a dict / list / set is written at run time anywhere in the package
(AST scan of the whole package; a listed exception would have to be modelled as a state machine here). -/
theorem C10_no_process_wide_containers_in_source : TplFlows.noUnlistedSharedContainers = true := by decide

/-- Nothing a run leaves behind outside its output directory can reach a later run: no code of the package (bundled
third-party code excluded) installs a compiled-template cache on disk (`bytecode_cache`), a shelf / database, or writes
under the temp / home / working directory; the only process-wide objects are the ones modelled above.  (Regenerated
AST scan; shared with C07.) -/
theorem C10_nothing_outlives_the_run_in_source : TplFlows.noUndeclaredAmbientInputs = true := by decide

/-- `cached_property.__get__` keeps its value in `instance.__dict__` (read off the source by the translator). -/
theorem C10_cached_property_per_instance_in_source : TplFlows.cachedPropertyPerInstance = true := by decide

/-- The empty cache of a fresh process is valid. -/
theorem C10_memo_fresh_cache_valid {κ ν : Type} (f : κ → ν) : CacheValid f [] := by
  intro p hp; cases hp

/-! ### T6: LimitEmptyLines across files -/

/- Full statement (FALSE for arbitrary texts when the counter is carried from file to file):
     theorem C10_limiter_start_independent (pps ss ss' text) : (fileOut pps ss text).1 = (fileOut pps ss' text).1
   Witness (F9): N = 2, the file `"\n\ny\n"` after a file that ended in an empty line. -/
example : (fileOut [.limit 2] [0] "\n\ny\n".toList).1 = "\n\ny\n".toList ∧
          (fileOut [.limit 2] [1] "\n\ny\n".toList).1 = "\ny\n".toList := by decide +kernel

/-- The counter a file ending in an empty line leaves behind. -/
example : (fileOut [.limit 2] [0] "x\n\n".toList).2 = [1] := by decide +kernel

/-- T6 partial: a file is written identically from two start states of the post-processor list (any processors, any
limits) whenever the two states agree on the counters of the limiters (the state slot of a trimmer is never read) OR
the first line of the file has a non-blank character.  What remains excluded — start states that differ on a limiter
AND a file that begins with a blank line — is exactly where the witness above lives. -/
theorem C10_limiter_start_independent_partial (pps : List PP) (ss ss' : List Nat) (text : Str)
    (h : limAgree pps ss ss' ∨
         (ss.length = pps.length ∧ ss'.length = pps.length ∧ firstLineNonBlank text = true)) :
    (fileOut pps ss text).1 = (fileOut pps ss' text).1 := by
  rcases h with h | ⟨hl, hl', h⟩
  · rw [fileOut_fst, fileOut_fst, pipeLines_agree pps ss ss' _ h]
  · exact (fileOut_start_independent pps ss ss' text hl hl' h).1

/-- Both disjuncts are used: a blank first line with agreeing limiter counters (the trimmer's slot differs), and a
non-blank first line with different counters. -/
example : (fileOut [.trim, .limit 1] [0, 1] "\n\ny\n".toList).1 = (fileOut [.trim, .limit 1] [7, 1] "\n\ny\n".toList).1 ∧
    (fileOut [.limit 1] [0] "y\n\n\n".toList).1 = (fileOut [.limit 1] [5] "y\n\n\n".toList).1 := by decide +kernel

/-- A file that is empty is written (as nothing) identically from every start state. -/
theorem C10_limiter_empty_file (pps : List PP) (ss ss' : List Nat) :
    (fileOut pps ss []).1 = (fileOut pps ss' []).1 := by simp [fileOut_empty]

/-- With the per-file reset (the repaired code) the text written for a file does not depend on the other files of
the run at all. -/
theorem C10_limiter_reset_per_file (pps : List PP) (before after before' after' : List Str) (f : Str) :
    (runFiles true pps (before ++ f :: after))[before.length]? =
      (runFiles true pps (before' ++ f :: after'))[before'.length]? := by
  simp [runFiles, runFilesReset]

/-- What the tree under check does: either it resets the line post-processors per file, or every built-in root
template of every language starts with a non-blank line (or emits nothing), so that the partial theorem applies to
all built-in output.  (Decided over the generated root table.) -/
theorem C10_limiter_builtin :
    TplFlows.linePPResetPerFile = true ∨
    TplFlows.langs.all (fun L => L.roots.all fun r => r.emitsNothing || r.firstNonBlank) = true := by
  decide +kernel

/-- The link to what is written for a chunked rendering (C15): the file is `fileOut` of the concatenated chunks. -/
theorem C10_fileOut_is_written_file (pps : List PP) (ss : List Nat) (chunks : List Str) :
    output pps ss chunks = (fileOut pps ss chunks.flatten).1 := by
  rw [C15_output_is_linewise, fileOut_fst]

/-! ### T6b: the line buffer and renderings aborted by an exception -/

/-- The line buffer is created by the call that uses it (source fact, regenerated). -/
theorem C10_line_buffer_per_call_in_source : TplFlows.lineBufferPerCall = true := by decide

/-- A rendering that completes is written identically after ANY history of renderings in the process — including ones
that were aborted by an exception in the middle of a line (whose caller carried on) — from any state of the
post-processor counters and whatever an earlier call may have left in a line buffer: it is `fileOut` of its own text
from the initial state.  (Per-call line buffer and per-file reset: the code as it is.) -/
theorem C10_aborted_rendering_leaves_no_trace (pps : List PP) (ss : List Nat) (buf : Str)
    (before after : List Rendering) (chunks : List Str) :
    (runRenderings true true pps ss buf (before ++ ⟨chunks, false⟩ :: after))[before.length]? =
      some (fileOut pps (zeros pps) chunks.flatten).1 := by
  rw [runRenderings_perCall_reset]
  cases pps with
  | nil => simp [fileOut_no_processors]
  | cons p ps => simp [bufLines_complete, C15_chunking_independent, fileOut]

/-- With one line buffer shared by all calls (what the code does not do) the unfinished line of an aborted rendering
would be prepended to the first line of the next file. -/
example :
    runRenderings false true [.trim] [0] [] [⟨["ab".toList], true⟩, ⟨["x\n".toList], false⟩] = [[], "abx\n".toList] ∧
    runRenderings true true [.trim] [0] [] [⟨["ab".toList], true⟩, ⟨["x\n".toList], false⟩] = [[], "x\n".toList] ∧
    runRenderings true true [] [] [] [⟨["ab".toList], true⟩, ⟨["x\n".toList], false⟩] = ["ab".toList, "x\n".toList] ∧
    runRenderings true true [.limit 1] [0] [] [⟨["a\n\n\nb".toList], true⟩, ⟨["\n\nx\n".toList], false⟩]
      = ["a\n\n".toList, "\nx\n".toList] := by decide +kernel

/-! ### T7: the corollary -/

/-- One file: for every two process states (whatever ran before — other types, another order, earlier runs) that
agree on what is *not* process state, the bytes written for the file are equal, provided the program is clean for
the process-state classes and either the post-processors are reset per file or the rendering starts with a
non-blank line. -/
theorem C10_per_type_output_independent {δ : Type} (I : Interp δ) (P : List Tpl) (S : List Nat)
    (hS : closedClean Src.c10 P S = true) (fuel : Nat) (resetPerFile : Bool) (pps : List PP)
    (σ₁ σ₂ : PState) (hamb : agreeOff Src.c10 σ₁.amb σ₂.amb)
    (hl₁ : σ₁.counters.length = pps.length) (hl₂ : σ₂.counters.length = pps.length)
    (root : Nat) (hroot : root ∈ S) (d : δ)
    (hpp : resetPerFile = true ∨ firstLineNonBlank (render I P false d σ₁.amb fuel root []) = true) :
    (ProcState.genFile I P fuel resetPerFile pps σ₁ root d).1 = (ProcState.genFile I P fuel resetPerFile pps σ₂ root d).1 := by
  have hraw := render_ni I P S hS d hamb fuel root [] hroot
  unfold ProcState.genFile
  simp only [← hraw]
  cases resetPerFile with
  | true => simp
  | false =>
    simp only [Bool.false_eq_true, false_or] at hpp
    simp only [Bool.false_eq_true, if_false]
    exact (fileOut_start_independent pps _ _ _ hl₁ hl₂ hpp).1

/-- T7 (C10): for every namespace, every dependency-closed subset, every processing order and every sequence of
earlier files and runs in the process — i.e. for any two job sequences `pre₁`, `pre₂` executed before it from any
two start states that agree on what is not process state — the file generated for a type is byte-identical. -/
theorem C10_output_independent_of_history {δ : Type} (I : Interp δ) (P : List Tpl) (S : List Nat)
    (hS : closedClean Src.c10 P S = true) (fuel : Nat) (resetPerFile : Bool) (pps : List PP)
    (evolve : Amb → Job δ → Amb) (hev : ∀ a j s, Src.c10.contains s = false → evolve a j s = a s)
    (σ₁ σ₂ : PState) (hamb : agreeOff Src.c10 σ₁.amb σ₂.amb)
    (hl₁ : σ₁.counters.length = pps.length) (hl₂ : σ₂.counters.length = pps.length)
    (pre₁ pre₂ : List (Job δ)) (j : Job δ) (hroot : j.root ∈ S)
    (hpp : resetPerFile = true ∨ ∀ a, firstLineNonBlank (render I P false j.decl a fuel j.root []) = true) :
    (ProcState.genFile I P fuel resetPerFile pps (runJobs I P fuel resetPerFile pps evolve σ₁ pre₁).2 j.root j.decl).1 =
    (ProcState.genFile I P fuel resetPerFile pps (runJobs I P fuel resetPerFile pps evolve σ₂ pre₂).2 j.root j.decl).1 := by
  have i₁ := runJobs_invariant I P fuel resetPerFile pps evolve hev pre₁ σ₁ hl₁
  have i₂ := runJobs_invariant I P fuel resetPerFile pps evolve hev pre₂ σ₂ hl₂
  apply C10_per_type_output_independent I P S hS fuel resetPerFile pps _ _ _ i₁.2 i₂.2 j.root hroot j.decl
  · rcases hpp with h | h
    · exact Or.inl h
    · exact Or.inr (h _)
  · intro s hs
    rw [← i₁.1 s hs, ← i₂.1 s hs]
    exact hamb s hs

/-! ### T8: file post-processors (`SetFileMode`, `ExternalProgramEditInPlace`) and the order of post-processing

`Model/FilePP.lean`: what `_generate_code` / `SupportGenerator._copy_header` issue for one output file given the generator's
list of post-processor objects, the objects threaded from file to file, and the execution of those operations against
a file system with an arbitrary external program. -/

section FilePostProcessors
open NunavutVerif.FilePP

/-- The source the model of the file post-processors was transcribed from (regenerated facts, `translate/tplflows.py`):
no `FilePostProcessor` of the package writes object state outside `__init__` — directly or through a local alias of an
attribute (`run_args = self._command_line; run_args += …`) —; `SetFileMode`, `ExternalProgramEditInPlace`, the command
line's list builder, `_handle_overwrite` and `_copy_header` have exactly the transcribed statements; `_generate_code` and
`SupportGenerator.generate_all` classify (reset and collect | collect | raise `ValueError`) and call the file
post-processors in one loop `path = file_pp(path)` after the file is written. -/
theorem C10_file_pp_model_matches_source :
    TplFlows.filePPCallsPure = true ∧ TplFlows.filePPSourceMatchesModel = true ∧
    TplFlows.generatorRunsFilePPsOnceInOrder = true := by decide

/-- Every attribute a `LinePostProcessor` of the package writes while it processes lines is assigned again by its
`reset()` (the hook `_generate_code` calls per file): the reset really returns the processor to its initial state. -/
theorem C10_line_pp_reset_complete_in_source : TplFlows.linePPResetComplete = true := by decide

/-- A call of a file post-processor leaves the object as it was — in particular `ExternalProgramEditInPlace.__call__`
builds a fresh `run_args` list and does not touch `_command_line`. -/
theorem C10_file_pp_call_leaves_object_unchanged (py : LineBuffer.Str) (ren : Nat → LineBuffer.Str → LineBuffer.Str) :
    Sem.Pure (callReal py ren) := callReal_pure py ren

/-- What is issued for a file — the resets, the write through the line post-processors, then every file
post-processor of the list exactly once, in list order, with the path its predecessor returned, the command line of
the external program being the configured one followed by that path only — is the same function of (the generator's
list, the file) in every run: whichever files were generated before it, in whichever order, in this or in earlier runs
of the same generator objects (`pre₁`, `pre₂` arbitrary), and whatever follows. -/
theorem C10_file_pp_invocations_independent_of_run (py : LineBuffer.Str) (ren : Nat → LineBuffer.Str → LineBuffer.Str)
    (objs : List Obj) (pre₁ post₁ pre₂ post₂ : List FilePP.Job) (j : FilePP.Job) :
    (runEvents (callReal py ren) objs (pre₁ ++ j :: post₁)).1[pre₁.length]? = some (fileEvents (callReal py ren) objs j).1 ∧
    (runEvents (callReal py ren) objs (pre₂ ++ j :: post₂)).1[pre₂.length]? = some (fileEvents (callReal py ren) objs j).1 := by
  simp [runEvents_pure _ (callReal_pure py ren)]

/-- The list the command line builds (`--pp-trim-trailing-whitespace`, `--pp-max-emptylines`, `--pp-run-program P`
`--pp-run-program-arg A…`, `--file-mode M`), spelled out: per generated file the line post-processors are reset, the text
is written through them, then the program is run once as `P A… <file>` (`sys.executable` in front iff `P` ends in
`.py`) with `check=True`, and only then the file mode is set. -/
theorem C10_cli_file_pp_sequence (py : LineBuffer.Str) (ren : Nat → LineBuffer.Str → LineBuffer.Str) (trim limit : Bool)
    (P : LineBuffer.Str) (args : List LineBuffer.Str) (mode : Nat) (path bytes : LineBuffer.Str) (allow : Bool) :
    (fileEvents (callReal py ren) (cliObjs trim limit (some (P, args)) mode) ⟨.generate, path, bytes, allow⟩).1 =
      (lineIds (cliObjs trim limit none mode)).map Event.reset ++
      [.overwrite path allow, .write path bytes (lineIds (cliObjs trim limit none mode)),
       .exec (if endsWithPy P then py :: P :: (args ++ [path]) else P :: (args ++ [path])) true,
       .chmod path mode] := by
  cases trim <;> cases limit <;> rfl

/-- The bytes and the permission bits of a generated file do not depend on which other files are generated, in which
order, before or after it: after ANY completed run that contains job `j` they are what generating `j` alone gives.
For every list of built-in post-processors (any number of external programs and `SetFileMode`s in any order), every
external program that is an in-place editor (modifies at most the file it is given last; what it does depends on its
command line and the files named there) and all file systems that agree on the file itself, the interpreter and the
configured arguments.  Output paths are pairwise different from `j`'s (C11) and are not configured arguments. -/
theorem C10_file_bytes_independent_of_other_files (prog : Prog) (ren : Nat → LineBuffer.Str → LineBuffer.Str)
    (defMode : Nat) (py : LineBuffer.Str) (objs : List Obj) (hb : builtinOnly objs = true)
    (hF : prog.EditsLastOnly (py :: cfgArgs objs)) (hL : prog.Local)
    (pre₁ post₁ pre₂ post₂ : List FilePP.Job) (j : FilePP.Job)
    (hout₁ : ∀ k ∈ pre₁ ++ j :: post₁, k.path ∉ py :: cfgArgs objs)
    (hout₂ : ∀ k ∈ pre₂ ++ j :: post₂, k.path ∉ py :: cfgArgs objs)
    (hd₁ : ∀ k ∈ pre₁ ++ post₁, k.path ≠ j.path) (hd₂ : ∀ k ∈ pre₂ ++ post₂, k.path ≠ j.path)
    (fs₁ fs₂ : FS) (hagree : ∀ q, (q = j.path ∨ q ∈ py :: cfgArgs objs) → fs₁.get q = fs₂.get q)
    (hok₁ : (runWorld prog ren defMode (callReal py ren) objs (pre₁ ++ j :: post₁) fs₁).err = none)
    (hok₂ : (runWorld prog ren defMode (callReal py ren) objs (pre₂ ++ j :: post₂) fs₂).err = none) :
    (runWorld prog ren defMode (callReal py ren) objs (pre₁ ++ j :: post₁) fs₁).fs.get j.path =
      (runWorld prog ren defMode (callReal py ren) objs (pre₂ ++ j :: post₂) fs₂).fs.get j.path := by
  have h₁ := run_file_independent py objs hb hF hL pre₁ post₁ j hout₁ hd₁ fs₁ fs₁ (fun _ _ => rfl) hok₁
  have h₂ := run_file_independent py objs hb hF hL pre₂ post₂ j hout₂ hd₂ fs₂ fs₁ (fun q hq => (hagree q hq).symm) hok₂
  rw [h₁.1, h₂.1]

/-- `SetFileMode` last in the list (where the command line puts it): after any completed run every generated file has
exactly the configured permission bits — whatever they were before the run, whatever `_handle_overwrite` and the
external program did to them, whichever files were generated besides it. -/
theorem C10_set_file_mode_effect_independent (prog : Prog) (ren : Nat → LineBuffer.Str → LineBuffer.Str)
    (defMode : Nat) (py : LineBuffer.Str) (front : List Obj) (mode : Nat) (hb : builtinOnly front = true)
    (hF : prog.EditsLastOnly (py :: cfgArgs (front ++ [.setMode mode]))) (hL : prog.Local)
    (pre post : List FilePP.Job) (j : FilePP.Job)
    (hout : ∀ k ∈ pre ++ j :: post, k.path ∉ py :: cfgArgs (front ++ [.setMode mode]))
    (hd : ∀ k ∈ pre ++ post, k.path ≠ j.path) (fs : FS)
    (hok : (runWorld prog ren defMode (callReal py ren) (front ++ [.setMode mode]) (pre ++ j :: post) fs).err = none) :
    ((runWorld prog ren defMode (callReal py ren) (front ++ [.setMode mode]) (pre ++ j :: post) fs).fs.get j.path).map File.mode
      = some mode := by
  have hb' : builtinOnly (front ++ [.setMode mode]) = true := by rw [builtinOnly_append, hb]; rfl
  have h := run_file_independent py _ hb' hF hL pre post j hout hd fs fs (fun _ _ => rfl) hok
  rw [h.1]
  have herr := h.2
  unfold fileWorld at herr ⊢
  obtain ⟨evs, hevs⟩ := fileEvents_setMode_last py ren front mode j hb
  rw [hevs, interp_append] at herr ⊢
  exact step_chmod_ok prog ren defMode _ j.path mode herr

private def jA : FilePP.Job := ⟨.generate, ['a'], ['x'], true⟩
private def jB : FilePP.Job := ⟨.generate, ['b'], ['y'], true⟩
private def jC : FilePP.Job := ⟨.copy 0o644, ['c'], ['z'], true⟩
private def idRen : Nat → LineBuffer.Str → LineBuffer.Str := fun _ p => p
private def mark : Nat → LineBuffer.Str := fun _ => ['#']
private def noFiles : FS := ⟨fun _ => none⟩

/-- If the generated file were appended to the stored command line in place (`run_args = self._command_line;
run_args += [str(generated)]`), the call would change the object, the second file's invocation would name the first
file too … -/
example : ¬ Sem.Pure (callInPlace [] idRen) := by
  intro h
  have := h (.ext [] true) ['a']
  simp [callInPlace] at this

example :
    (runEvents (callInPlace ['p'] idRen) [.ext [['t']] true] [jA, jB]).1 =
      [[.overwrite ['a'] true, .write ['a'] ['x'] [], .exec [['t'], ['a']] true],
       [.overwrite ['b'] true, .write ['b'] ['y'] [], .exec [['t'], ['a'], ['b']] true]] ∧
    (runEvents (callReal ['p'] idRen) [.ext [['t']] true] [jA, jB]).1 =
      [[.overwrite ['a'] true, .write ['a'] ['x'] [], .exec [['t'], ['a']] true],
       [.overwrite ['b'] true, .write ['b'] ['y'] [], .exec [['t'], ['b']] true]] := by decide +kernel

/-- … and with a program that edits every file named on its command line the bytes of a file would depend on how many
files are generated after it (edited twice in the company of `b`, once alone); the code as it is: once in both. -/
example :
    ((runWorld (stubProg mark true []) idRen 0o644 (callInPlace [] idRen) [.ext [['t']] true] [jA, jB] noFiles).fs.get ['a']).map
        File.bytes = some ['x', '#', '#'] ∧
    ((runWorld (stubProg mark true []) idRen 0o644 (callInPlace [] idRen) [.ext [['t']] true] [jA] noFiles).fs.get ['a']).map
        File.bytes = some ['x', '#'] ∧
    ((runWorld (stubProg mark true []) idRen 0o644 (callReal [] idRen) [.ext [['t']] true] [jA, jB] noFiles).fs.get ['a']).map
        File.bytes = some ['x', '#'] ∧
    ((runWorld (stubProg mark true []) idRen 0o644 (callReal [] idRen) [.ext [['t']] true] [jA] noFiles).fs.get ['a']).map
        File.bytes = some ['x', '#'] := by decide +kernel

/-- The hypotheses of `C10_file_bytes_independent_of_other_files` are satisfiable together (the recording program of the
tie in its edit-the-last-argument mode, the command line's list with a program and `--file-mode 0o444`, a file that
exists read-only before one of the runs): whole run in one order vs a subset in another. -/
example :
    (runWorld (stubProg mark false []) idRen 0o644 (callReal ['p'] idRen)
        (cliObjs true true (some (['t'], [['-', 'i']])) 0o444) [jC, jA, jB] noFiles).fs.get ['a'] =
    (runWorld (stubProg mark false []) idRen 0o644 (callReal ['p'] idRen)
        (cliObjs true true (some (['t'], [['-', 'i']])) 0o444) [jB, jA] noFiles).fs.get ['a'] :=
  C10_file_bytes_independent_of_other_files (stubProg mark false []) idRen 0o644 ['p']
    (cliObjs true true (some (['t'], [['-', 'i']])) 0o444) (by decide +kernel)
    (stubProg_editsLastOnly mark [] _) (stubProg_local mark []) [jC] [jB] [jB] [] jA
    (by decide +kernel) (by decide +kernel) (by decide +kernel) (by decide +kernel) noFiles noFiles (fun _ _ => rfl) (by decide +kernel) (by decide +kernel)

example :
    ((runWorld (stubProg mark false []) idRen 0o644 (callReal ['p'] idRen)
        (cliObjs true true (some (['t'], [['-', 'i']])) 0o444) [jC, jA, jB] noFiles).fs.get ['a']) = some ⟨['x', '#'], 0o444⟩ := by
  decide +kernel

/-- Every `raise` is a branch: an object of neither kind (after the resets of the line post-processors before it; nothing
is written), an existing file without `allow_overwrite`, a failing program with `check=True` (the files after it are
not generated), the same with `check=False` (the run goes on). -/
example :
    (runWorld (stubProg mark false []) idRen 0o644 (callReal [] idRen) [.line 0, .unknown 7, .line 1] [jA] noFiles).err
      = some .valueError ∧
    (runWorld (stubProg mark false []) idRen 0o644 (callReal [] idRen) [.line 0, .unknown 7, .line 1] [jA] noFiles).log
      = [.raiseUnknown, .reset 0] ∧
    (runWorld (stubProg mark false []) idRen 0o644 (callReal [] idRen) [] [⟨.generate, ['a'], ['x'], false⟩]
      (noFiles.set ['a'] (some ⟨[], 0o444⟩))).err = some .permissionError ∧
    ((runWorld (stubProg mark false [['a']]) idRen 0o644 (callReal [] idRen) [.ext [['t']] true] [jA, jB] noFiles).err
      = some .calledProcessError ∧
     (runWorld (stubProg mark false [['a']]) idRen 0o644 (callReal [] idRen) [.ext [['t']] true] [jA, jB] noFiles).fs.get ['b']
      = none) ∧
    ((runWorld (stubProg mark false [['a']]) idRen 0o644 (callReal [] idRen) [.ext [['t']] false] [jA, jB] noFiles).err
      = none ∧
     (runWorld (stubProg mark false [['a']]) idRen 0o644 (callReal [] idRen) [.ext [['t']] false] [jA, jB] noFiles).fs.get ['b']
      = some ⟨['y', '#'], 0o644⟩) := by decide +kernel

end FilePostProcessors

/-- Non-vacuity: a clean program that uses the unique-name generator behind its sanitiser, a user-style template
that begins with empty lines, two different histories, a limiter: equal with the reset, different without. -/
def exProgram : List Tpl :=
  [ .seq (.text 0) (.seq (.out ⟨1, [.psUniqueName, .psMemo], [.psUniqueName, .psMemo]⟩) (.text 1)) ]

def exInterp : Interp Unit where
  text := fun i => if i = 0 then "\n\n".toList else "\n".toList
  out := fun _ _ _ a => (toString (a .psUniqueName)).toList
  cond := fun _ _ _ _ => true
  iter := fun _ _ _ _ => []
  filt := fun _ _ _ _ s => s

example : closedClean Src.c10 exProgram [0] = true := by decide

example :
    (ProcState.genFile exInterp exProgram 2 true [.limit 1] ⟨fun _ => 0, [0]⟩ 0 ()).1 =
      (ProcState.genFile exInterp exProgram 2 true [.limit 1] ⟨fun _ => 5, [3]⟩ 0 ()).1 ∧
    (ProcState.genFile exInterp exProgram 2 false [.limit 1] ⟨fun _ => 0, [0]⟩ 0 ()).1 ≠
      (ProcState.genFile exInterp exProgram 2 false [.limit 1] ⟨fun _ => 5, [3]⟩ 0 ()).1 := by decide +kernel

end NunavutVerif.C10
