import NunavutVerif.Lemmas.GenCSer
import NunavutVerif.Lemmas.GenCDe
import NunavutVerif.Lemmas.DsdlRepr
import NunavutVerif.Lemmas.DsdlDecode
import NunavutVerif.Lemmas.GenCXDe
import NunavutVerif.Lemmas.GenCXSer
import NunavutVerif.Properties.C02
import NunavutVerif.Properties.C05
/-!
# C01 / C02 / C04 — the generated C codecs refine the DSDL specification

`Model/GenC.lean` transcribes what the C templates emit (running `offset_bits`, up-front capacity check, every field
macro with each fast path, nested calls on sub-buffers, delimiter header reserve / back-patch, union tag dispatch,
return codes), on top of the C14 models of the support primitives.  The theorems below say that this
implementation-shaped model **refines** the specification `Model/Dsdl.lean` — for *every* type, object, buffer,
capacity, both `target_endianness` renderings, `enable_serialization_asserts` on and off (`Opts.asserts`: every
`NUNAVUT_ASSERT` of the templates is a branch of the model that aborts) and every sound alignment oracle; by induction
along the recursion of the generated code over the type, from the C14 contracts of the primitives.

Hypotheses, all of them facts PyDSDL / the C type system guarantee: `wf`/`wfC` (widths, capacities, `void1…64`),
`isComposite (topInner t)` (generated functions exist for composites), `hasTy` (the object has the shape of the type),
`storageOK` (integers fit the member's C type, `float` members hold binary32 values), `WF buf` (bytes are bytes),
`cap ≤ buf.length` (the caller's `*inout_buffer_size_bytes` does not exceed the buffer it supplies), `Opts.Sound`
(the generation-time oracle claims alignment only where it holds; `C01_genC_exact_oracle_sound`: the driver's does).
-/
namespace NunavutVerif.GenC
open NunavutVerif.Dsdl NunavutVerif.Bits

/-- The oracle of the driver (the exact residue analysis; by the structural tie: PyDSDL's `is_aligned_at_byte`)
is sound. -/
theorem C01_genC_exact_oracle_sound (little : Bool) (fill : Nat) (asserts : Bool) :
    Opts.Sound { little := little, orc := exactOrc, fill := fill, asserts := asserts } :=
  fun _ h => h

/-- (b) `8·capacity < maxBits` ⇒ `-NUNAVUT_ERROR_SERIALIZATION_BUFFER_TOO_SMALL`, returned before the object is
looked at and before any buffer access (the model's first branch; no primitive is called). -/
theorem C01_genC_buffer_too_small (o : Opts) (hs : o.Sound) (t : Ty) (hc : isComposite (topInner t) = true)
    (v : Val) (ht : hasTy t v = true) (buf : Buf) (cap : Nat) (h : 8 * cap < maxBits (topInner t)) :
    serializeC o t v buf cap = .error eTooSmall :=
  serializeC_tooSmall o hs t hc v ht buf cap h

/-- (c) Otherwise the generated serializer reports `serBytes`'s length and leaves exactly `serBytes t obj` in the
first bytes of the buffer (whatever the buffer held before), or returns the code of the specification's error
(`BAD_ARRAY_LENGTH`, `BAD_UNION_TAG`). -/
theorem C01_genC_serialize_refines (o : Opts) (hs : o.Sound) (t : Ty) (hw : wf t = true) (hwC : wfC t = true)
    (hc : isComposite (topInner t) = true) (v : Val) (ht : hasTy t v = true) (hst : storageOK t v = true)
    (buf : Buf) (cap : Nat) (hwf : WF buf) (hcap : cap ≤ buf.length) (hroom : maxBits (topInner t) ≤ 8 * cap) :
    match serBytes t v with
    | .ok bytes => ∃ buf', serializeC o t v buf cap = .ok (buf', bytes.length) ∧ buf'.take bytes.length = bytes ∧
        buf'.length = buf.length ∧ WF buf'
    | .error e => serializeC o t v buf cap = .error (embedS e) :=
  (serializeC_top o hs t hw hwC hc v ht hst buf cap hwf hcap).refines hroom

/-- The same against `serBuf` (the spec's "serialize into a buffer of `cap` bytes"), all capacities at once. -/
theorem C01_genC_serialize_eq_serBuf (o : Opts) (hs : o.Sound) (t : Ty) (hw : wf t = true) (hwC : wfC t = true)
    (hc : isComposite (topInner t) = true) (v : Val) (ht : hasTy t v = true) (hst : storageOK t v = true)
    (buf : Buf) (cap : Nat) (hwf : WF buf) (hcap : cap ≤ buf.length) :
    (serializeC o t v buf cap).map (fun r => r.1.take r.2) = (serBuf t v cap).mapError embedS :=
  (serializeC_top o hs t hw hwC hc v ht hst buf cap hwf hcap).eq_serBuf

/-- (a) Memory safety of serialization (serves C04): no support primitive and no raw `buffer[i]` access of the
generated serializer ever leaves the supplied buffer or the object (`Err.prim` — `oob`, and the `fuel`/`wrap`/
`overflow` conditions of the primitive models — is unreachable), for all objects incl. counts and tags out of range,
all buffers and all capacities incl. 0. -/
theorem C04_genC_serialize_memory_safe (o : Opts) (hs : o.Sound) (t : Ty) (hw : wf t = true) (hwC : wfC t = true)
    (hc : isComposite (topInner t) = true) (v : Val) (ht : hasTy t v = true) (hst : storageOK t v = true)
    (buf : Buf) (cap : Nat) (hwf : WF buf) (hcap : cap ≤ buf.length) (e : Bits.Err) :
    serializeC o t v buf cap ≠ .error (.prim e) := by
  intro h
  obtain ⟨e', _, h'⟩ := (serializeC_top o hs t hw hwC hc v ht hst buf cap hwf hcap).error h
  cases e' <;> cases h'

/-- Every exit of the generated serializer is success or one of the documented codes (C04, totality). -/
theorem C04_genC_serialize_exits (o : Opts) (hs : o.Sound) (t : Ty) (hw : wf t = true) (hwC : wfC t = true)
    (hc : isComposite (topInner t) = true) (v : Val) (ht : hasTy t v = true) (hst : storageOK t v = true)
    (buf : Buf) (cap : Nat) (hwf : WF buf) (hcap : cap ≤ buf.length) :
    (∃ r, serializeC o t v buf cap = .ok r) ∨ serializeC o t v buf cap = .error eTooSmall ∨
      serializeC o t v buf cap = .error eBadArrayLength ∨ serializeC o t v buf cap = .error eBadUnionTag := by
  exact ((serializeC_top o hs t hw hwC hc v ht hst buf cap hwf hcap).exits ht).imp (fun ⟨r, hr, _⟩ => ⟨r, hr⟩)
    (Or.imp_left And.left)

/-- (e) C03 cross-option corollary: the `any` and `little` renderings, under any two sound oracles, produce the same
reported bytes (or the same error). -/
theorem C01_genC_serialize_options_agree (o₁ o₂ : Opts) (h₁ : o₁.Sound) (h₂ : o₂.Sound) (t : Ty) (hw : wf t = true)
    (hwC : wfC t = true) (hc : isComposite (topInner t) = true) (v : Val) (ht : hasTy t v = true)
    (hst : storageOK t v = true) (buf : Buf) (cap : Nat) (hwf : WF buf) (hcap : cap ≤ buf.length) :
    (serializeC o₁ t v buf cap).map (fun r => r.1.take r.2) = (serializeC o₂ t v buf cap).map (fun r => r.1.take r.2) := by
  rw [C01_genC_serialize_eq_serBuf o₁ h₁ t hw hwC hc v ht hst buf cap hwf hcap,
    C01_genC_serialize_eq_serBuf o₂ h₂ t hw hwC hc v ht hst buf cap hwf hcap]

/-- (d) The generated deserializer, given `cap` bytes, returns exactly what the specification returns on these
bytes: the object (implicit zero extension where the data ends early, implicit truncation where it is longer,
delimited members confined to their header), the consumed size `min(offset, capacity) / 8`, and the code of the
specification's error (`BAD_ARRAY_LENGTH`, `BAD_UNION_TAG`, `BAD_DELIMITER_HEADER`). -/
theorem C02_genC_deserialize_refines (o : Opts) (hs : o.Sound) (t : Ty) (hw : wf t = true) (hwC : wfC t = true)
    (hc : isComposite (topInner t) = true) (buf : Buf) (cap : Nat) (hwf : WF buf) (hcap : cap ≤ buf.length) :
    deserializeC o t buf cap = (deBytes t (buf.take cap)).mapError embedD :=
  deserializeC_refines o hs t hw hwC hc buf cap hwf hcap

/-- The usual call: the whole byte string is supplied. -/
theorem C02_genC_deserialize_bytes (o : Opts) (hs : o.Sound) (t : Ty) (hw : wf t = true) (hwC : wfC t = true)
    (hc : isComposite (topInner t) = true) (bytes : Buf) (hwf : WF bytes) :
    deserializeC o t bytes bytes.length = (deBytes t bytes).mapError embedD := by
  have := deserializeC_refines o hs t hw hwC hc bytes bytes.length hwf (Nat.le_refl _)
  rwa [List.take_length] at this

/-- `consumed ≤ supplied`, on the implementation model. -/
theorem C02_genC_consumed_le_supplied (o : Opts) (hs : o.Sound) (t : Ty) (hw : wf t = true) (hwC : wfC t = true)
    (hc : isComposite (topInner t) = true) (buf : Buf) (cap : Nat) (hwf : WF buf) (hcap : cap ≤ buf.length)
    (v : Val) (n : Nat) (h : deserializeC o t buf cap = .ok (v, n)) : n ≤ cap := by
  have := C02_consumed_le_supplied_bytes t _ v n
    (mapError_eq_ok (deserializeC_refines o hs t hw hwC hc buf cap hwf hcap) h)
  rwa [List.length_take, Nat.min_eq_left hcap] at this

/-- Implicit zero extension on the implementation model: the generated deserializer returns the same object for a
byte string and for the same string followed by any number of zero bytes (data that ends early is read as zeros). -/
theorem C02_genC_zero_extension (o : Opts) (hs : o.Sound) (t : Ty) (hw : wf t = true) (hwC : wfC t = true)
    (hc : isComposite (topInner t) = true) (bytes : Buf) (hwf : WF bytes) (k : Nat) (v : Val) (n : Nat)
    (h : deserializeC o t bytes bytes.length = .ok (v, n)) :
    ∃ n', deserializeC o t (bytes ++ List.replicate k 0) (bytes.length + k) = .ok (v, n') := by
  have hwf' : WF (bytes ++ List.replicate k 0) := WF_append hwf (WF_replicate k)
  obtain ⟨n', hn'⟩ := C02_zero_extension_bytes t bytes v n k
    (mapError_eq_ok (C02_genC_deserialize_bytes o hs t hw hwC hc bytes hwf) h)
  refine ⟨n', ?_⟩
  rw [show bytes.length + k = (bytes ++ List.replicate k 0).length by simp,
    C02_genC_deserialize_bytes o hs t hw hwC hc _ hwf', hn']
  rfl

/-- The reported size never exceeds the capacity the caller declared (buffer sufficiency on the implementation). -/
theorem C01_genC_reported_size_le_capacity (o : Opts) (hs : o.Sound) (t : Ty) (hw : wf t = true)
    (hwC : wfC t = true) (hc : isComposite (topInner t) = true) (v : Val) (ht : hasTy t v = true)
    (hst : storageOK t v = true) (buf : Buf) (cap : Nat) (hwf : WF buf) (hcap : cap ≤ buf.length) (buf' : Buf)
    (n : Nat) (h : serializeC o t v buf cap = .ok (buf', n)) : n ≤ cap := by
  obtain ⟨hroom, hsb, hn, _⟩ := (serializeC_top o hs t hw hwC hc v ht hst buf cap hwf hcap).ok h
  have := (C05_buffer_suffices t hw v _ hsb).1
  omega

/-- Every exit of the generated deserializer is success or one of the three representation errors; the error is
the specification's. -/
theorem C02_genC_deserialize_exits (o : Opts) (hs : o.Sound) (t : Ty) (hw : wf t = true) (hwC : wfC t = true)
    (hc : isComposite (topInner t) = true) (buf : Buf) (cap : Nat) (hwf : WF buf) (hcap : cap ≤ buf.length) :
    (∃ r, deserializeC o t buf cap = .ok r) ∨ deserializeC o t buf cap = .error eBadArrayLength ∨
      deserializeC o t buf cap = .error eBadUnionTag ∨ deserializeC o t buf cap = .error eBadDelimiterHeader := by
  rw [deserializeC_refines o hs t hw hwC hc buf cap hwf hcap]
  exact mapError_embedD_exits _

/-- (a) Memory safety of deserialization (serves C04): no getter and no raw `buffer[i]` read ever leaves the
`cap` supplied bytes, no `nunavutGetBits` leaves the destination array (`Err.prim` unreachable; this includes the
signed-overflow condition of the `nunavutGetIxx` sign extension), for all byte strings and sizes incl. 0, lengths
and tags out of range, delimiter headers pointing anywhere. -/
theorem C04_genC_deserialize_memory_safe (o : Opts) (hs : o.Sound) (t : Ty) (hw : wf t = true) (hwC : wfC t = true)
    (hc : isComposite (topInner t) = true) (buf : Buf) (cap : Nat) (hwf : WF buf) (hcap : cap ≤ buf.length)
    (e : Bits.Err) : deserializeC o t buf cap ≠ .error (.prim e) := by
  intro h
  obtain ⟨e', _, h'⟩ := mapError_eq_error (deserializeC_refines o hs t hw hwC hc buf cap hwf hcap) h
  cases e' <;> cases h'

/-- With `enable_serialization_asserts` no `NUNAVUT_ASSERT` the templates emit can fail (C04, totality under that
option): the alignment claims of the generator (`offset.is_aligned_at_byte()` turned into run-time assertions), the
room assertions `offset_bits + max <= capacity_bytes * 8` at every site, the size bounds after arrays and nested
calls, the padding and final size assertions — on any object, buffer and capacity. -/
theorem C04_genC_no_assertion_fails (o : Opts) (hs : o.Sound) (t : Ty) (hw : wf t = true) (hwC : wfC t = true)
    (hc : isComposite (topInner t) = true) (v : Val) (ht : hasTy t v = true) (hst : storageOK t v = true)
    (buf : Buf) (cap : Nat) (hwf : WF buf) (hcap : cap ≤ buf.length) :
    serializeC o t v buf cap ≠ .error .assert ∧ deserializeC o t buf cap ≠ .error .assert := by
  constructor
  · intro h
    obtain ⟨e', _, h'⟩ := (serializeC_top o hs t hw hwC hc v ht hst buf cap hwf hcap).error h
    cases e' <;> cases h'
  · intro h
    obtain ⟨e', _, h'⟩ := mapError_eq_error (deserializeC_refines o hs t hw hwC hc buf cap hwf hcap) h
    cases e' <;> cases h'

/-- Prior-state independence (C04): what the destination arrays held before the call (`fill`), the bytes of the
buffer beyond the supplied size, the endianness rendering and the oracle have no influence on the result. -/
theorem C04_genC_deserialize_prior_state_independent (o₁ o₂ : Opts) (h₁ : o₁.Sound) (h₂ : o₂.Sound) (t : Ty)
    (hw : wf t = true) (hwC : wfC t = true) (hc : isComposite (topInner t) = true) (buf₁ buf₂ : Buf) (cap : Nat)
    (hwf₁ : WF buf₁) (hwf₂ : WF buf₂) (hcap₁ : cap ≤ buf₁.length) (hcap₂ : cap ≤ buf₂.length)
    (hsame : buf₁.take cap = buf₂.take cap) :
    deserializeC o₁ t buf₁ cap = deserializeC o₂ t buf₂ cap := by
  rw [deserializeC_refines o₁ h₁ t hw hwC hc buf₁ cap hwf₁ hcap₁,
    deserializeC_refines o₂ h₂ t hw hwC hc buf₂ cap hwf₂ hcap₂, hsame]

/-- (e) C03 cross-option corollary for deserialization. -/
theorem C02_genC_deserialize_options_agree (o₁ o₂ : Opts) (h₁ : o₁.Sound) (h₂ : o₂.Sound) (t : Ty)
    (hw : wf t = true) (hwC : wfC t = true) (hc : isComposite (topInner t) = true) (buf : Buf) (cap : Nat)
    (hwf : WF buf) (hcap : cap ≤ buf.length) :
    deserializeC o₁ t buf cap = deserializeC o₂ t buf cap :=
  C04_genC_deserialize_prior_state_independent o₁ o₂ h₁ h₂ t hw hwC hc buf buf cap hwf hwf hcap hcap rfl

/-- Round trip through the two generated functions (C03 on the implementation model): the bytes the serializer
reports are `serBytes t v`, and the deserializer decodes them as the specification does (hence, by
`C03_round_trip_bytes`, to the cast-adjusted object). -/
theorem C01_genC_round_trip (o : Opts) (hs : o.Sound) (t : Ty) (hw : wf t = true) (hwC : wfC t = true)
    (hc : isComposite (topInner t) = true) (v : Val) (ht : hasTy t v = true) (hst : storageOK t v = true)
    (buf : Buf) (cap : Nat) (hwf : WF buf) (hcap : cap ≤ buf.length) (buf' : Buf) (n : Nat)
    (h : serializeC o t v buf cap = .ok (buf', n)) :
    deserializeC o t buf' n = (deBytes t (buf'.take n)).mapError embedD ∧ serBytes t v = .ok (buf'.take n) := by
  obtain ⟨_, hsb, hn, _, hwf'⟩ := (serializeC_top o hs t hw hwC hc v ht hst buf cap hwf hcap).ok h
  exact ⟨deserializeC_refines o hs t hw hwC hc buf' n hwf'
    (Nat.le_trans (Nat.le_of_eq hn.symm) (List.length_take_le' n buf')), hsb⟩

/-- `struct { truncated uint5 x; void3; saturated int16 y; bool[3] f; Inner z }` with a delimited
`Inner = struct { saturated uint3 a; saturated int12[<=2] b }` (extent 64 bits) -/
def exTy : Ty :=
  .struct [.uint 5 .trunc, .void 3, .sint 16 .sat, .arr .bool 3,
    .delim 64 (.struct [.uint 3 .sat, .varr (.sint 12 .sat) 2])]

def exVal : Val :=
  .struct [.int 255, .void, .int (-2), .arr [.bool true, .bool false, .bool true],
    .struct [.int 9, .arr [.int (-5), .int 3000]]]

def optAny : Opts := { little := false, orc := exactOrc }
def optLittle : Opts := { little := true, orc := exactOrc, asserts := true }

example : wf exTy = true ∧ wfC exTy = true ∧ hasTy exTy exVal = true ∧ storageOK exTy exVal = true := by decide

example : maxBits exTy = 128 := by decide

example : (serializeC optAny exTy exVal (List.replicate 16 255) 16).map (fun r => r.1.take r.2)
    = .ok [31, 254, 255, 5, 5, 0, 0, 0, 23, 216, 255, 255, 3] := by decide +kernel

example : (serializeC optLittle exTy exVal (List.replicate 16 255) 16).map (fun r => r.1.take r.2)
    = (serBytes exTy exVal).mapError embedS := by decide +kernel

example : serializeC optLittle exTy exVal (List.replicate 15 255) 15 = .error eTooSmall := by decide +kernel

example : serializeC optAny (.struct [.varr .bool 2]) (.struct [.arr [.bool true, .bool true, .bool false]])
    (List.replicate 4 0) 4 = .error eBadArrayLength := by decide +kernel

example : deserializeC optAny exTy [31, 254, 255, 5, 5, 0, 0, 0, 23, 216, 255, 255, 3] 13
    = .ok (.struct [.int 31, .void, .int (-2), .arr [.bool true, .bool false, .bool true],
        .struct [.int 7, .arr [.int (-5), .int 2047]]], 13) := by decide +kernel

/-- implicit zero extension: two bytes only -/
example : deserializeC optLittle exTy [31, 254] 2
    = .ok (.struct [.int 31, .void, .int 254, .arr [.bool false, .bool false, .bool false],
        .struct [.int 0, .arr []]], 2) := by decide +kernel

example : deserializeC optAny exTy [31, 254, 255, 5, 9, 0, 0, 0, 23] 9 = .error eBadDelimiterHeader := by decide +kernel

example : deserializeC optAny exTy [31, 254, 255, 5, 2, 0, 0, 0, 23, 3] 10 = .error eBadArrayLength := by decide +kernel

/-! The soundness hypothesis on the oracle is necessary, and the assertion branches are live: an oracle that claims
alignment everywhere makes the generated code of `struct { uint3 a; uint8 b }` store `b` with a whole-byte write at
bit 3 — wrong bytes without assertions, an aborting `NUNAVUT_ASSERT(offset_bits % 8U == 0U)` with them. -/

def liar (a : Bool) : Opts := { little := false, orc := fun _ => true, asserts := a }
def exTy2 : Ty := .struct [.uint 3 .sat, .uint 8 .sat]
def exVal2 : Val := .struct [.int 5, .int 255]

example : serBytes exTy2 exVal2 = .ok [253, 7] := by decide +kernel
example : (serializeC (liar false) exTy2 exVal2 [0, 0] 2) = .ok ([255, 0], 2) := by decide +kernel
example : serializeC (liar true) exTy2 exVal2 [0, 0] 2 = .error .assert := by decide +kernel
example : deserializeC (liar true) exTy2 [253, 7] 2 = .error .assert := by decide +kernel
example : deserializeC (liar false) exTy2 [253, 7] 2 ≠ (deBytes exTy2 [253, 7]).mapError embedD := by decide +kernel

/-- **Deserialization with addresses** (C02/C04).  `deserializeCX` is the same transcription with every
`nunavutCopyBits` call preceded by its three address assertions (`(length_bits == 0U) || (src != dst)` as emitted since
23731cd and, in the unaligned branch, the two overlap assertions as emitted since 443d39c), the buffer at address `b0`, nested calls on `&buffer[offset_bits / 8U]`,
and the primitive's local / the destination member array wherever the placement `X.adr` puts them.  For **every**
placement that keeps those objects disjoint from the user's buffer (`Placed`: no assumption about order or
distance) the result is that of `deserializeC` — in particular the source range `psrc + (src_offset_bits +
length_bits + 7) / 8`, which is computed from the UNSATURATED offset and may reach far behind the buffer, cannot
matter: it is not evaluated for a copy of zero bits and lies inside the buffer otherwise (`copyBits_ok_inv`).
(`hfx`, `hhg` select the assertion text of HEAD.  The unguarded `src != dst` before 23731cd additionally needed that no such
object starts exactly at a pointer at or behind the end of the buffer — the code forms `&buffer[offset_bits / 8U]` there and
copies zero bits from it; see the examples below: that text fails under `Placed` alone.) -/
theorem C02_genC_deserialize_any_placement (o : Opts) (hs : o.Sound) (t : Ty) (hw : wf t = true) (hwC : wfC t = true)
    (hc : isComposite (topInner t) = true) (buf : Buf) (cap : Nat) (hwf : WF buf) (hcap : cap ≤ buf.length)
    (X : Ext) (hfx : X.fixed = true) (hhg : X.headGuarded = true) (hov : X.ovr = false) (b0 : Nat)
    (hp : Placed X b0 buf.length) :
    deserializeCX o X b0 t buf cap = deserializeC o t buf cap := by
  have hec := effCap_eq (Or.inl hov)
  exact (deserializeCX_cases (B := False) hs t hw hwC hc buf cap hwf hcap hfx hhg (fun t c => Nat.le_of_eq (hec t c))
    (fun t c h => absurd (hec t c) (Nat.ne_of_lt h)) b0 hp).resolve_right (fun h => h.1)

/-- … hence no assertion of the deserializer can fail, the address assertions of `nunavutCopyBits` included, wherever
the locals and the destination object are placed (extends `C04_genC_no_assertion_fails`). -/
theorem C04_genC_no_assertion_fails_any_placement_deserialize (o : Opts) (hs : o.Sound) (t : Ty) (hw : wf t = true)
    (hwC : wfC t = true) (hc : isComposite (topInner t) = true) (buf : Buf) (cap : Nat) (hwf : WF buf)
    (hcap : cap ≤ buf.length) (X : Ext) (hfx : X.fixed = true) (hhg : X.headGuarded = true) (hov : X.ovr = false)
    (b0 : Nat) (hp : Placed X b0 buf.length) :
    deserializeCX o X b0 t buf cap ≠ .error .assert := by
  rw [C02_genC_deserialize_any_placement o hs t hw hwC hc buf cap hwf hcap X hfx hhg hov b0 hp]
  intro h
  obtain ⟨e', _, h'⟩ := mapError_eq_error (deserializeC_refines o hs t hw hwC hc buf cap hwf hcap) h
  cases e' <;> cases h'

/-! Regression (443d39c) and non-vacuity: `uint7 a; void2; uint7 b` decoded from a one-byte buffer at address 100 with the
local of `nunavutGetU8` directly above it at 101.  Field `b` lies behind the buffer: zero bits are copied from bit
offset 9.  Text before the fix: `psrc + (9 + 0 + 7) / 8 = 102 > pdst` — abort.  Text now: not evaluated. -/
def regTy : Ty := .struct [.uint 7 .trunc, .void 2, .uint 7 .trunc]
def regOpts : Opts := { little := false, orc := exactOrc, asserts := true }
/-- everything the buffer is paired with sits at address `a` -/
def allAt (a : Nat) (fixed headGuarded : Bool) : Ext :=
  { addrs := true, adr := fun _ _ _ _ => a, fixed := fixed, headGuarded := headGuarded }

example : ∀ k pb off sz, Disj ((allAt 101 false true).adr k pb off sz) sz 100 1 := fun _ _ _ _ => Or.inr (Nat.le_refl _)
example : deserializeCX regOpts (allAt 101 false true) 100 regTy [0x55] 1 = .error .assert := by decide +kernel
example : deserializeCX regOpts (allAt 101 true true) 100 regTy [0x55] 1 = .ok (.struct [.int 0x55, .void, .int 0], 1) := by
  decide +kernel
example : deserializeC regOpts regTy [0x55] 1 = .ok (.struct [.int 0x55, .void, .int 0], 1) := by decide +kernel
-- the same with the local directly below the buffer, and little-endian rendering
example : deserializeCX { regOpts with little := true } (allAt 92 true true) 100 regTy [0x55] 1 =
    .ok (.struct [.int 0x55, .void, .int 0], 1) := by decide +kernel

/-! Regression (23731cd): `src != dst` as emitted before (unguarded, `headGuarded := false`): `uint8 a; Inner b` with `Inner = uint16 x`, one-byte buffer at 100: the nested call
gets `&buffer[1]` = 101 with size 0 and `nunavutGetU16` copies zero bits from it into its local — if that local is the
object right behind the buffer, `src == dst`: abort, under `Placed` alone.  Text of HEAD: not demanded of zero bits. -/
example : Placed (allAt 101 true false) 100 1 := fun _ _ _ _ => Or.inr (Nat.le_refl _)
def nestTy : Ty := .struct [.uint 8 .trunc, .struct [.uint 16 .trunc]]
example : deserializeCX regOpts (allAt 101 true false) 100 nestTy [7] 1 = .error .assert := by decide +kernel
example : deserializeCX regOpts (allAt 101 true true) 100 nestTy [7] 1 = deserializeC regOpts nestTy [7] 1 := by decide +kernel
example : deserializeCX regOpts (allAt 102 true false) 100 nestTy [7] 1 = deserializeC regOpts nestTy [7] 1 := by decide +kernel

/-- **Serialization with addresses** (C01/C04).  `serializeCX`: every `nunavutCopyBits` call of the serializer (through
`nunavutSetUxx` / `nunavutSetIxx` — padding, voids, unaligned integers and floats, length prefixes, union tags, delimiter
headers — and the bulk copies of bool / zero-cost arrays from the member arrays) is preceded by its address assertions;
the buffer is at `b0`, nested `_serialize_` calls get `&buffer[offset_bits / 8U]`; the `value`/`tmp` local of
`nunavutSetUxx` and the source member arrays sit wherever the placement puts them.  For **every** placement that keeps
them disjoint from the user's buffer the result (buffer contents, reported size, error code) is that of `serializeC`.
No hypothesis about the head assertion is needed (holds for the text before 23731cd as well): when the serializer
copies, its buffer pointer lies strictly inside the user's buffer. -/
theorem C01_genC_serialize_any_placement (o : Opts) (hs : o.Sound) (t : Ty) (hw : wf t = true) (hwC : wfC t = true)
    (hc : isComposite (topInner t) = true) (v : Val) (ht : hasTy t v = true) (hst : storageOK t v = true)
    (buf : Buf) (cap : Nat) (hwf : WF buf) (hcap : cap ≤ buf.length)
    (X : Ext) (hfx : X.fixed = true) (hov : X.ovr = false) (hnc : X.noCheck = false) (b0 : Nat)
    (hp : Placed X b0 buf.length) :
    serializeCX o X b0 t v buf cap = serializeC o t v buf cap := by
  have hec := effCap_eq (Or.inl hov)
  exact (serializeCX_cases (B := False) hs t hw hwC hc v ht hst buf cap hwf hcap hfx hnc
    (fun t c => Nat.le_of_eq (hec t c)) (fun t c h => absurd (hec t c) (Nat.ne_of_lt h)) b0 hp).resolve_right
    (fun h => h.1)

/-- … hence no assertion of the serializer can fail, the address assertions of `nunavutCopyBits` included, wherever
the locals and the source object are placed (extends `C04_genC_no_assertion_fails`). -/
theorem C04_genC_no_assertion_fails_any_placement_serialize (o : Opts) (hs : o.Sound) (t : Ty) (hw : wf t = true)
    (hwC : wfC t = true) (hc : isComposite (topInner t) = true) (v : Val) (ht : hasTy t v = true)
    (hst : storageOK t v = true) (buf : Buf) (cap : Nat) (hwf : WF buf) (hcap : cap ≤ buf.length)
    (X : Ext) (hfx : X.fixed = true) (hov : X.ovr = false) (hnc : X.noCheck = false) (b0 : Nat)
    (hp : Placed X b0 buf.length) :
    serializeCX o X b0 t v buf cap ≠ .error .assert := by
  rw [C01_genC_serialize_any_placement o hs t hw hwC hc v ht hst buf cap hwf hcap X hfx hov hnc b0 hp]
  exact (C04_genC_no_assertion_fails o hs t hw hwC hc v ht hst buf cap hwf hcap).1

-- non-vacuity: the guard is really evaluated (an object INSIDE the buffer makes it fail), and passes next to it
example : serializeCX regOpts (allAt 100 true true) 100 regTy (.struct [.int 5, .void, .int 9]) [0, 0, 0] 3 = .error .assert := by
  decide +kernel
example : serializeCX regOpts (allAt 103 true true) 100 regTy (.struct [.int 5, .void, .int 9]) [0, 0, 0] 3 =
    serializeC regOpts regTy (.struct [.int 5, .void, .int 9]) [0, 0, 0] 3 := by decide +kernel
example : serializeCX regOpts (allAt 92 true false) 100 regTy (.struct [.int 5, .void, .int 9]) [0, 0, 0] 3 =
    serializeC regOpts regTy (.struct [.int 5, .void, .int 9]) [0, 0, 0] 3 := by decide +kernel

/-! ## `--enable-override-variable-array-capacity`

Full statement (B): with user capacities `X.ucap elem c ≤ c`,
* `deserializeCX` returns `(deBytes t (buf.take cap))` when that is an object all of whose non-bool variable-length
  array counts are `≤ ucap`, `-BAD_ARRAY_LENGTH` when the first such count in wire order exceeds it, and the spec's error
  otherwise;  `serializeCX` (buffer large enough: the header compiles the up-front check out as soon as a capacity macro
  is defined by the user) accepts exactly the objects with all those counts `≤ ucap` and leaves `serBytes`.
Proved below (`…_partial`): both functions return **what the DSDL-capacity code returns, or `-BAD_ARRAY_LENGTH`** — never
anything else: no out-of-bounds access into the shortened member arrays, no assertion, same bytes / object / consumed size
whenever the call succeeds — for every placement; and with `ucap = DSDL capacity` `deserializeCX` coincides with
`deserializeC`, i.e. the deserializer theorems above carry over to the override build with the macros left at their
defaults (for `serializeCX` with `noCheck = false` the same instance of `serializeCX_cases` gives it; not stated here).
Missing: the characterisation of WHEN `-BAD_ARRAY_LENGTH` is returned by the counts of the object (a second induction
relating the result value to the counts); for serialization additionally `noCheck = true` with `maxBits ≤ 8·cap`. -/

theorem C02_genC_deserialize_override_partial (o : Opts) (hs : o.Sound) (t : Ty) (hw : wf t = true) (hwC : wfC t = true)
    (hc : isComposite (topInner t) = true) (buf : Buf) (cap : Nat) (hwf : WF buf) (hcap : cap ≤ buf.length)
    (X : Ext) (hfx : X.fixed = true) (hhg : X.headGuarded = true) (hr : Reduced X) (b0 : Nat)
    (hp : Placed X b0 buf.length) :
    deserializeCX o X b0 t buf cap = (deBytes t (buf.take cap)).mapError embedD ∨
      deserializeCX o X b0 t buf cap = .error eBadArrayLength := by
  rw [← deserializeC_refines o hs t hw hwC hc buf cap hwf hcap]
  exact (deserializeCX_cases (B := True) hs t hw hwC hc buf cap hwf hcap hfx hhg (effCap_le hr)
    (fun _ _ _ => trivial) b0 hp).imp id (fun h => h.2)

/-- the override build with every capacity macro at its default is the plain build -/
theorem C02_genC_deserialize_override_default_capacity (o : Opts) (hs : o.Sound) (t : Ty) (hw : wf t = true)
    (hwC : wfC t = true) (hc : isComposite (topInner t) = true) (buf : Buf) (cap : Nat) (hwf : WF buf)
    (hcap : cap ≤ buf.length) (X : Ext) (hfx : X.fixed = true) (hhg : X.headGuarded = true)
    (hid : ∀ t c, X.ucap t c = c) (b0 : Nat) (hp : Placed X b0 buf.length) :
    deserializeCX o X b0 t buf cap = deserializeC o t buf cap := by
  have hec := effCap_eq (Or.inr hid)
  exact (deserializeCX_cases (B := False) hs t hw hwC hc buf cap hwf hcap hfx hhg (fun t c => Nat.le_of_eq (hec t c))
    (fun t c h => absurd (hec t c) (Nat.ne_of_lt h)) b0 hp).resolve_right (fun h => h.1)

/-- serialization under override, with the up-front buffer check still compiled in (`noCheck = false`) -/
theorem C01_genC_serialize_override_partial (o : Opts) (hs : o.Sound) (t : Ty) (hw : wf t = true) (hwC : wfC t = true)
    (hc : isComposite (topInner t) = true) (v : Val) (ht : hasTy t v = true) (hst : storageOK t v = true)
    (buf : Buf) (cap : Nat) (hwf : WF buf) (hcap : cap ≤ buf.length)
    (X : Ext) (hfx : X.fixed = true) (hr : Reduced X) (hnc : X.noCheck = false) (b0 : Nat)
    (hp : Placed X b0 buf.length) :
    serializeCX o X b0 t v buf cap = serializeC o t v buf cap ∨
      serializeCX o X b0 t v buf cap = .error eBadArrayLength := by
  exact (serializeCX_cases (B := True) hs t hw hwC hc v ht hst buf cap hwf hcap hfx hnc (effCap_le hr)
    (fun _ _ _ => trivial) b0 hp).imp id (fun h => h.2)

/-! non-vacuity: `uint8 a; uint8[<=6] xs; uint8 b` with the user capacity 2 -/
def ovTy : Ty := .struct [.uint 8 .trunc, .varr (.uint 8 .trunc) 6, .uint 8 .trunc]
def ovX (u : Nat) : Ext := { ovr := true, ucap := fun _ c => if u < c then u else c }
def ovOpts : Opts := { little := true, orc := exactOrc }
example : Reduced (ovX 2) := fun _ c => by simp only [ovX]; split <;> omega
example : deserializeCX ovOpts (ovX 2) 0 ovTy [1, 2, 10, 11, 9] 5 = deserializeC ovOpts ovTy [1, 2, 10, 11, 9] 5 := by decide +kernel
example : deserializeC ovOpts ovTy [1, 3, 10, 11, 12, 9] 6 = .ok (.struct [.int 1, .arr [.int 10, .int 11, .int 12], .int 9], 6) := by
  decide +kernel
example : deserializeCX ovOpts (ovX 2) 0 ovTy [1, 3, 10, 11, 12, 9] 6 = .error eBadArrayLength := by decide +kernel
example : serializeCX ovOpts (ovX 2) 0 ovTy (.struct [.int 1, .arr [.int 10, .int 11], .int 9]) (List.replicate 9 255) 9 =
    serializeC ovOpts ovTy (.struct [.int 1, .arr [.int 10, .int 11], .int 9]) (List.replicate 9 255) 9 := by decide +kernel
example : serializeCX ovOpts (ovX 2) 0 ovTy (.struct [.int 1, .arr [.int 10, .int 11, .int 12], .int 9]) (List.replicate 9 255) 9 =
    .error eBadArrayLength := by decide +kernel

end NunavutVerif.GenC
