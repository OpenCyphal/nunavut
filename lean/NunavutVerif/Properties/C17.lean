import NunavutVerif.Lemmas.Options
import NunavutVerif.Lemmas.OptionFlow
import NunavutVerif.Gen.OptionEmit
/-!
# C17 — headers generated with different language options cannot be compiled together

Quantifiers.  The guard theorems (`C17_accepted_iff`, `C17_guard_reports_exactly_the_differences`,
`C17_accepted_iff_same_values`) are stated for *all* option sets, all rendering functions and both languages — the two
key-level ones under the side conditions `Faithful` (values encode into the `uint32` range without colliding) and
injectivity of the rendering function on the keys involved, which the documented sets meet (`C17_documented_values_fit`,
`C17_enc_injective_on_documented`, `C17_documented_names_distinct`).  The
statements about "documented" option sets quantify over every option set drawn from the generated table
(`Documented (Gen.domain lang) o`: the documented keys in order, every value one of the documented values of its
key) — an exponentially large family handled by proof, with `decide +kernel` used only for facts about the finite
generated table itself (over the whole table).

Reading of the omit case (`--omit-serialization-support`): no support header exists then, so there is nothing a
type header could be inconsistent with and C17 makes no claim.  The model records what the templates do
(`C17_pod_headers`): POD type headers of neither language carry option assertions (C since the repair of DESIGN F10,
repo commit 22e33a6).
-/
namespace NunavutVerif.Options
open NunavutVerif.Crc32

/-- T1 (text level).  The translation unit passes the guard block iff every assertion of the type header finds a
definition of its name in the support header whose stored value compares equal. -/
theorem C17_accepted_iff (lang : Lang) (defs asrt : List (String × Int)) :
    accepted lang defs asrt = true ↔
      ∀ a ∈ asrt, ∃ d, defs.lookup a.1 = some d ∧ cmp lang d a.2 = true := by
  simp only [accepted, diagnostics, List.isEmpty_iff, List.filterMap_eq_nil_iff, checkOne_eq_none_iff]

/-- T1 (key level), all option sets, both languages.  If the two sets are compared faithfully (values encode into
the `uint32` range and the two values of one key do not collide under `enc`) and no two keys render to the same
name, then compiling a type header generated with `o₂` against a support header generated with `o₁` reports exactly:
a mismatch for every key on which they differ, an undefined name for every key of `o₂` missing in `o₁`, and
nothing else. -/
theorem C17_guard_reports_exactly_the_differences (lang : Lang) (name : String → String) (o₁ o₂ : OptSet)
    (hf : Faithful o₁ o₂)
    (hinj : ∀ k₂ ∈ keys o₂, ∀ k' ∈ keys o₁, name k' = name k₂ → k' = k₂) :
    together lang false name o₁ o₂ = some (expected name o₁ o₂) := by
  obtain ⟨f₁, f₂, f₃⟩ := hf
  rw [together_of_fits lang f₁ f₂, diagnostics, rendered.eq_1 name o₂, List.filterMap_map, expected]
  congr 1
  apply filterMap_congr
  intro kv hkv
  exact checkOne_rendered lang f₁ (f₂ kv hkv) (f₃ kv hkv) (hinj kv.1 (List.mem_map_of_mem hkv))

/-- T1 (acceptance).  Under the same side conditions the translation unit is accepted iff every option of the
type header's set is present in the support header's set with the same value. -/
theorem C17_accepted_iff_same_values (lang : Lang) (name : String → String) (o₁ o₂ : OptSet)
    (hf : Faithful o₁ o₂)
    (hinj : ∀ k₂ ∈ keys o₂, ∀ k' ∈ keys o₁, name k' = name k₂ → k' = k₂) :
    together lang false name o₁ o₂ = some [] ↔ ∀ kv ∈ o₂, o₁.lookup kv.1 = some kv.2 := by
  rw [C17_guard_reports_exactly_the_differences lang name o₁ o₂ hf hinj, Option.some.injEq, expected_eq_nil_iff]

/-- What the guard cannot see (the code as it is): options that only the support header's set has.  The guard is
a one-sided inclusion, not an equality test — hence the requirement, checked below on the generated table, that
every documented option is always present. -/
theorem C17_support_only_options_unnoticed (lang : Lang) (name : String → String) (o₁ o₂ : OptSet)
    (hf : Faithful o₁ o₂)
    (hinj : ∀ k₂ ∈ keys o₂, ∀ k' ∈ keys o₁, name k' = name k₂ → k' = k₂)
    (hsub : ∀ kv ∈ o₂, o₁.lookup kv.1 = some kv.2) :
    together lang false name o₁ o₂ = some [] :=
  (C17_accepted_iff_same_values lang name o₁ o₂ hf hinj).mpr hsub

private theorem tableFits (lang : Lang) : tableFitsOK (Gen.domain lang) = true :=
  (tables_checked.1 lang).1.1
private theorem tableInj (lang : Lang) : tableInjOK (Gen.domain lang) = true :=
  (tables_checked.1 lang).1.2

/-- T2.  `enc` is injective on the documented value set of every documented option, in both languages (a CRC-32
collision between two documented strings, or a bool/int/str clash inside one option, would fail here). -/
theorem C17_enc_injective_on_documented (lang : Lang) :
    ∀ e ∈ Gen.domain lang, ∀ a ∈ e.values, ∀ b ∈ e.values, enc a = enc b → a = b :=
  fun e he => tableInjOK_iff.mp (tableInj lang) e he e he rfl

/-- The model's `enc` prints, for every documented value, the number the real
`filter_to_static_assertion_value` printed when the table was generated — and the table covers every documented
value. -/
theorem C17_enc_agrees_with_filter_on_documented :
    (∀ p ∈ Gen.encRef, enc p.1 = some p.2) ∧
    (∀ lang, ∀ e ∈ Gen.domain lang, ∀ v ∈ e.values, v ∈ Gen.encRef.map Prod.fst) :=
  ⟨tables_checked.2, fun lang => (tables_checked.1 lang).2.2⟩

/-- Every documented value encodes, and into the range a C++ `std::uint32_t` holds. -/
theorem C17_documented_values_fit (lang : Lang) : ∀ e ∈ Gen.domain lang, ∀ v ∈ e.values, encFits v = true :=
  tableFitsOK_iff.mp (tableFits lang)

/-- Every bool and every string option — documented or not — encodes into the `uint32` range. -/
theorem C17_bool_and_string_values_fit : (∀ b, encFits (.bool b) = true) ∧ (∀ s, encFits (.str s) = true) :=
  ⟨encFits_bool, encFits_str⟩

/-- Documented keys are pairwise distinct and render to pairwise distinct names (`macrofy` / `id` of the real
code, recorded in the table). -/
theorem C17_documented_names_distinct (lang : Lang) :
    (Gen.domain lang |>.map (·.key)).Nodup ∧ (Gen.domain lang |>.map (·.name)).Nodup :=
  (tables_checked.1 lang).2.1

/-- Every documented option is `#define`d by the real support header and asserted by the real type header
(observed by rendering the templates of the tree under check), and the four guard loops are a plain
`for key, value in options.items()` without `if`, `continue` or `break` around the printing statement and without
a loop filter other than the omit test `not nunavut.support.omit` (template AST). -/
theorem C17_every_documented_option_guarded :
    (∀ lang, ∀ e ∈ Gen.domain lang, e.defined = true ∧ e.asserted = true) ∧
    Gen.guardLoopPlain.length = 4 ∧ (∀ p ∈ Gen.guardLoopPlain, p.2 = true) := by
  decide +kernel

/-- Every documented option has a built-in default, i.e. is present in every option set.  (Fails for a key that
exists only when a CLI switch is given: a support header generated with the switch and type headers generated
without it then differ in a documented option and still compile together — `C17_support_only_options_unnoticed`.) -/
theorem C17_every_documented_option_always_present (lang : Lang) : ∀ e ∈ Gen.domain lang, e.always = true := by
  cases lang <;> decide +kernel

/-- The omit case as the templates handle it (rendered with `--omit-serialization-support`): the model's `asserts`
agrees with the observation — neither language emits option assertions into POD headers (C since the F10 repair). -/
theorem C17_pod_headers (lang : Lang) (name : String → String) (o : OptSet) :
    Gen.assertsWhenOmitted lang = false ∧ asserts lang true name o = some [] := by
  refine ⟨by cases lang <;> decide +kernel, rfl⟩

/-- T3a.  Identical documented option sets compile together. -/
theorem C17_identical_accepted (lang : Lang) (o : OptSet) (h : Documented (Gen.domain lang) o) :
    together lang false (nameOf (Gen.domain lang)) o o = some [] := by
  refine (C17_accepted_iff_same_values lang _ o o (faithful_of_documented (tableFits lang) (tableInj lang) h h)
    (nameOf_inj_of_documented (C17_documented_names_distinct lang) h h)).mpr (lookup_of_mem_nodup ?_)
  exact (C17_documented_names_distinct lang).1.sublist (documented_keys_sublist h)

/-- T3b for two documented sets over the same keys (provable without `C17_every_documented_option_always_present`;
this is the form that survives if that table fact is recorded as a known finding instead of being repaired):
different sets are rejected, and the diagnostics name exactly the options on which they differ. -/
theorem C17_different_rejected_same_keys (lang : Lang) (o₁ o₂ : OptSet)
    (h₁ : Documented (Gen.domain lang) o₁) (h₂ : Documented (Gen.domain lang) o₂)
    (hk : keys o₁ = keys o₂) (hne : o₁ ≠ o₂) :
    ∃ ds, together lang false (nameOf (Gen.domain lang)) o₁ o₂ = some ds ∧ ds ≠ [] ∧
      (∀ d ∈ ds, ∃ kv₂ ∈ o₂, ∃ v₁, o₁.lookup kv₂.1 = some v₁ ∧ v₁ ≠ kv₂.2 ∧
        d = .mismatch (nameOf (Gen.domain lang) kv₂.1)) ∧
      (∀ kv₂ ∈ o₂, ∀ v₁, o₁.lookup kv₂.1 = some v₁ → v₁ ≠ kv₂.2 →
        Diag.mismatch (nameOf (Gen.domain lang) kv₂.1) ∈ ds) := by
  have hsub : ∀ k ∈ keys o₂, k ∈ keys o₁ := fun k h => hk ▸ h
  refine ⟨_, C17_guard_reports_exactly_the_differences lang _ o₁ o₂
    (faithful_of_documented (tableFits lang) (tableInj lang) h₁ h₂) (nameOf_inj_of_documented (C17_documented_names_distinct lang) h₁ h₂),
    ?_, ?_, ?_⟩
  · intro hnil
    have hnd : (keys o₂).Nodup := (C17_documented_names_distinct lang).1.sublist (documented_keys_sublist h₂)
    exact hne (eq_of_keys_eq_of_lookup hk hnd (expected_eq_nil_iff.mp hnil))
  · intro d hd
    exact (mem_expected hsub d).mp hd
  · intro kv₂ hkv₂ v₁ hl hv
    exact (mem_expected hsub _).mpr ⟨kv₂, hkv₂, v₁, hl, hv, rfl⟩

/-- T3b.  Two documented option sets that differ in at least one documented option value do not compile together,
in either language, and the diagnostics name exactly the differing options. -/
theorem C17_different_rejected (lang : Lang) (o₁ o₂ : OptSet)
    (h₁ : Documented (Gen.domain lang) o₁) (h₂ : Documented (Gen.domain lang) o₂) (hne : o₁ ≠ o₂) :
    ∃ ds, together lang false (nameOf (Gen.domain lang)) o₁ o₂ = some ds ∧ ds ≠ [] ∧
      (∀ d ∈ ds, ∃ kv₂ ∈ o₂, ∃ v₁, o₁.lookup kv₂.1 = some v₁ ∧ v₁ ≠ kv₂.2 ∧
        d = .mismatch (nameOf (Gen.domain lang) kv₂.1)) ∧
      (∀ kv₂ ∈ o₂, ∀ v₁, o₁.lookup kv₂.1 = some v₁ → v₁ ≠ kv₂.2 →
        Diag.mismatch (nameOf (Gen.domain lang) kv₂.1) ∈ ds) := by
  have ha := C17_every_documented_option_always_present lang
  have hk : keys o₁ = keys o₂ := by
    rw [documented_keys_eq h₁ ha, documented_keys_eq h₂ ha]
  exact C17_different_rejected_same_keys lang o₁ o₂ h₁ h₂ hk hne

/-- T3, the property in one line: two documented option sets compile together iff they are identical. -/
theorem C17_compile_together_iff_identical (lang : Lang) (o₁ o₂ : OptSet)
    (h₁ : Documented (Gen.domain lang) o₁) (h₂ : Documented (Gen.domain lang) o₂) :
    together lang false (nameOf (Gen.domain lang)) o₁ o₂ = some [] ↔ o₁ = o₂ := by
  constructor
  · intro h
    apply Classical.byContradiction
    intro hne
    obtain ⟨ds, hds, hnil, _⟩ := C17_different_rejected lang o₁ o₂ h₁ h₂ hne
    exact hnil (Option.some.inj (hds.symm.trans h))
  · rintro rfl
    exact C17_identical_accepted lang o₁ h₁

/-- The built-in defaults of each language: documented option sets exist (hypotheses of T3 are satisfiable). -/
def defaultsOf (dom : List DocOpt) : OptSet :=
  dom.filterMap fun e => match e.always, e.values with
    | true, v :: _ => some (e.key, v)
    | _, _ => none

/-- A translation unit with any number of generated type headers — each generated with its own option set, in any
include order, one header possibly including another — passes iff *every* header on its own is accepted against the
support header: no header's check is waived because another header of the unit passed (or was seen first). -/
theorem C17_tu_accepted_iff_every_header (lang : Lang) (pod : Bool) (name : String → String) (o₁ : OptSet)
    (hs : List OptSet) :
    acceptedTU lang pod name o₁ hs = true ↔ ∀ o ∈ hs, together lang pod name o₁ o = some [] := by
  unfold acceptedTU
  induction hs with
  | nil => simp [togetherTU]
  | cons o r ih =>
    rw [List.forall_mem_cons, ← ih, togetherTU]
    cases together lang pod name o₁ o <;> cases togetherTU lang pod name o₁ r <;> simp [List.isEmpty_iff]

/-- For documented option sets: the unit compiles iff every type header was generated with exactly the support
header's option set — in particular a mismatching header is rejected wherever it stands in the include order. -/
theorem C17_tu_documented_accepted_iff_all_identical (lang : Lang) (o₁ : OptSet) (hs : List OptSet)
    (h₁ : Documented (Gen.domain lang) o₁) (h₂ : ∀ o ∈ hs, Documented (Gen.domain lang) o) :
    acceptedTU lang false (nameOf (Gen.domain lang)) o₁ hs = true ↔ ∀ o ∈ hs, o = o₁ := by
  rw [C17_tu_accepted_iff_every_header]
  refine forall₂_congr fun o ho => ?_
  rw [C17_compile_together_iff_identical lang o₁ o h₁ (h₂ o ho), eq_comm]

/-- The seeded scenario as a closed instance: first header matches the support header, a later one does not. -/
example :
    let o₁ := defaultsOf (Gen.domain .cpp)
    let o₂ := o₁.map fun kv => if kv.1 = "target_endianness" then (kv.1, OptVal.str "little") else kv
    togetherTU .cpp false (nameOf (Gen.domain .cpp)) o₁ [o₁, o₂]
      = some [[], [.mismatch (nameOf (Gen.domain .cpp) "target_endianness")]] ∧
    acceptedTU .cpp false (nameOf (Gen.domain .cpp)) o₁ [o₁, o₂] = false := by
  decide +kernel

/-- The bitwise model meets the standard check value of CRC-32/ISO-HDLC (zlib, binascii). -/
theorem C17_crc32_check_value : crc32Str "123456789" = 0xCBF43926 := by decide +kernel

/-- The CRC of any string is a 32-bit number. -/
theorem C17_crc32_range (s : String) : crc32Str s < 2 ^ 32 := crc32Str_lt s

/-- The closed form `cmp` used by the guard theorems *is* the expression the templates emit — `static_assert( N == v )`
with `N` a macro for the numeral `d` (C) or a `constexpr std::uint32_t` initialised from it (C++) — as a C11 / C++14
compiler evaluates it (literal typing, unary minus, conversion on initialisation, usual arithmetic conversions; LP64),
for all numerals a `long` can hold. -/
theorem C17_cmp_is_the_emitted_expression (lang : Lang) (d v : Int)
    (hd : d.natAbs < 9223372036854775808) (hv : v.natAbs < 9223372036854775808) :
    evalAssert (defFormOf lang) .eq d v = some (cmp lang d v) := by
  cases lang
  · simp only [evalAssert, defFormOf, operand, numeral_of_lt hd, numeral_of_lt hv, cmp, stored, eqExpr]
    by_cases h1 : d.natAbs < 2147483648 <;> by_cases h2 : v.natAbs < 2147483648 <;> simp [h1, h2, usual, convert]
  · simp only [evalAssert, defFormOf, operand, numeral_of_lt hd, numeral_of_lt hv, cmp, stored, eqExpr, Option.map]
    by_cases h2 : v.natAbs < 2147483648
    · have : -2147483648 < v ∧ v < 2147483648 := by omega
      simp [h2, usual, convert, this]
    · have : ¬ (-2147483648 < v ∧ v < 2147483648) := by omega
      simp [h2, usual, convert, this]

/-- Soundness of the comparison operator: on numbers of the `uint32` range (every bool and string option, every
documented value: `C17_bool_and_string_values_fit`, `C17_documented_values_fit`) the emitted assertion passes iff the
two numbers are equal, in both languages. -/
theorem C17_assertion_passes_iff_equal (lang : Lang) (d v : Int)
    (hd : 0 ≤ d ∧ d < 4294967296) (hv : 0 ≤ v ∧ v < 4294967296) :
    evalAssert (defFormOf lang) .eq d v = some (decide (d = v)) := by
  rw [C17_cmp_is_the_emitted_expression lang d v (by omega) (by omega), cmp_eq_decide lang hd hv]

/-- C++ beyond that range: the assertion passes iff the two numbers are equal *as unsigned 32-bit values* (the
definition is stored in a `std::uint32_t`), for every definition a `long` can hold and every asserted numeral in
`(-2^31, 2^32)`; C compares the two numerals exactly. -/
theorem C17_assertion_compares_unsigned_32_bit (d v : Int) (hd : d.natAbs < 9223372036854775808) :
    (-2147483648 < v ∧ v < 4294967296 →
      evalAssert (defFormOf .cpp) .eq d v = some (decide (d % 4294967296 = v % 4294967296))) ∧
    (v.natAbs < 9223372036854775808 → evalAssert (defFormOf .c) .eq d v = some (decide (d = v))) := by
  constructor
  · intro hv
    rw [C17_cmp_is_the_emitted_expression .cpp d v hd (by omega), cmp_cpp_mod d v hv]
  · intro hv
    rw [C17_cmp_is_the_emitted_expression .c d v hd hv, cmp_c]

/-- The table `Gen.emitSites` (Jinja AST of the four anchored templates and of everything they import / include /
extend, regenerated on every run): every header kind has exactly one emission site; it is a plain output statement in a
`for key, value in options.items()` loop; the only conditions on it are the header's own include guard and — on the type
side of both languages — `not nunavut.support.omit`; the printed name is `"NUNAVUT_SUPPORT_LANGUAGE_OPTION_{}".format(key)
| ln.c.macrofy` (C) / `key | id` (C++) on both sides; the printed number is `value | to_static_assertion_value`; the
statements are `#define N V`, `constexpr std::uint32_t N = V;` and `static_assert( [nunavut::support::options::]N == V, …`.
Any other guard (a per-translation-unit once guard, `#ifdef static_assert`, an `if` on the key or the value, a `{% set %}`
block rendered once, another operand type or operator …) is in the table by name and makes this statement false. -/
theorem C17_emission_table_shape : tableOK Gen.emitSites = true := by decide +kernel

/-- Hence the meaning of the table is the hand-written model: for every pair of name filters, every option set (not
only documented ones) and both values of `nunavut.support.omit`, the support header carries `defines` and a type header
carries `asserts`. -/
theorem C17_emission_table_is_the_model (nf : NameFilters) (lang : Lang) (om : Bool) (o : OptSet) :
    tableRender Gen.emitSites nf lang .support om o = some (defines (canonicalName nf lang) o) ∧
    tableRender Gen.emitSites nf lang .type om o = some (asserts lang om (canonicalName nf lang) o) :=
  ⟨tableRender_of_ok C17_emission_table_shape nf lang .support om o,
    tableRender_of_ok C17_emission_table_shape nf lang .type om o⟩

/-- Every documented option is defined on the support side — always — and asserted on the type side exactly when
serialization support is not omitted: for every documented option set the support header defines precisely the rendered
names of its keys, a type header asserts precisely the same names, and a POD header (`omit`) asserts nothing. -/
theorem C17_every_documented_option_emitted (nf : NameFilters) (lang : Lang) (o : OptSet)
    (h : Documented (Gen.domain lang) o) :
    ∃ d a, (∀ om, tableRender Gen.emitSites nf lang .support om o = some (some d)) ∧
      tableRender Gen.emitSites nf lang .type false o = some (some a) ∧
      tableRender Gen.emitSites nf lang .type true o = some (some []) ∧
      d.map Prod.fst = (keys o).map (canonicalName nf lang) ∧ a = d := by
  have hd : render (canonicalName nf lang) o = some (rendered (canonicalName nf lang) o) :=
    render_eq_rendered (documented_fits (tableFits lang) h)
  refine ⟨_, _, ?_, ?_, ?_, rendered_keys _ o, rfl⟩
  · intro om
    rw [(C17_emission_table_is_the_model nf lang om o).1, defines, hd]
  · rw [(C17_emission_table_is_the_model nf lang false o).2, asserts, hd]
  · rw [(C17_emission_table_is_the_model nf lang true o).2, asserts]

/-- Glue, stated for every history of API calls in one process (`generate_types`, constructing generator objects,
passes of `generate_all` on kept generator objects with varying `omit_serialization_support`), every built-in
configuration and every pair of templates: the result of each call is the one determined by *its own* request — the
encodings of the effective values (`defaults ⊕ request`, then the language-standard preset) of the request given to that
call (for a pass: to the construction of its generator) and that pass's own `omit` flag.  Nothing an earlier call
requested is in force later. -/
theorem C17_history_emits_requested_values (lang : Lang) (file : LangConfig) (E : Emitter) (cs : List Call) :
    runHistory lang file E [] cs = specHistory lang file E [] cs :=
  runHistory_eq_spec lang file E cs [] [] (inv_nil lang file)

/-- The property over histories: take any two `generate_types` calls (with serialization support) of one process whose
effective option sets are documented ones.  Both generate; the support header of the one and the type headers of the
other pass the option guard iff the two effective sets are identical. -/
theorem C17_history_runs_compile_together_iff_identical (lang : Lang) (cs : List Call)
    (req₁ req₂ o₁ o₂ : OptSet) (r₁ r₂ : RunResult)
    (hc₁ : (Call.generateTypes req₁ false, r₁) ∈
      cs.zip (runHistory lang (Gen.fileConfig lang) (modelEmitter lang (nameOf (Gen.domain lang))) [] cs))
    (hc₂ : (Call.generateTypes req₂ false, r₂) ∈
      cs.zip (runHistory lang (Gen.fileConfig lang) (modelEmitter lang (nameOf (Gen.domain lang))) [] cs))
    (he₁ : effective lang (Gen.fileConfig lang) req₁ = .ok o₁) (he₂ : effective lang (Gen.fileConfig lang) req₂ = .ok o₂)
    (hd₁ : Documented (Gen.domain lang) o₁) (hd₂ : Documented (Gen.domain lang) o₂) :
    ∃ d₁ a₁ d₂ a₂, r₁ = .ok ⟨some d₁, a₁⟩ ∧ r₂ = .ok ⟨some d₂, a₂⟩ ∧ (accepted lang d₁ a₂ = true ↔ o₁ = o₂) := by
  rw [C17_history_emits_requested_values] at hc₁ hc₂
  obtain ⟨_, rfl⟩ := specHistory_zip _ _ _ cs [] _ _ hc₁
  obtain ⟨_, rfl⟩ := specHistory_zip _ _ _ cs [] _ _ hc₂
  have f₁ := documented_fits (tableFits lang) hd₁
  have f₂ := documented_fits (tableFits lang) hd₂
  refine ⟨_, _, _, _, specRun_modelEmitter he₁ f₁, specRun_modelEmitter he₂ f₂, ?_⟩
  rw [← C17_compile_together_iff_identical lang o₁ o₂ hd₁ hd₂, together_of_fits lang f₁ f₂, accepted,
    List.isEmpty_iff, Option.some.injEq]

/-- Delivery: however a request reaches a fresh builder — any number of configuration files, then any number of override
calls — the language object is handed `validate` of `merged` (built-in, files in order, the last override). -/
theorem C17_delivery_reaches_the_templates (lang : Lang) (file : LangConfig) (d : Delivery) :
    (((Builder.fresh file).deliver d).create lang).2 = effectiveDelivered lang file d := by
  rw [Builder.deliver, foldl_setOverride, create_snd]
  rfl

/-- The documented precedence, per option key: an explicit override (API call / CLI flag; the last call) beats every
file, a later file beats an earlier one, and only a key no source mentions keeps its built-in default.  No source is
dropped: an option set only in an earlier file is still in force when a later file sets other options of the section. -/
theorem C17_delivery_precedence (file : LangConfig) (d : Delivery) (k : String) :
    (merged file d).lookup k =
      match lastVal (d.overrides.getLast?.getD []) k with
      | some v => some v
      | none =>
        match d.files.reverse.findSome? (fun f => lastVal f k) with
        | some v => some v
        | none => file.options.lookup k := by
  rw [merged, lookup_update, lookup_files]
  cases lastVal (d.overrides.getLast?.getD []) k <;>
    cases d.files.reverse.findSome? (fun f => lastVal f k) <;> rfl

example :
    let te := "target_endianness"
    let d : Delivery := ⟨[[(te, .str "little")], [("enable_serialization_asserts", .bool true)]], []⟩
    let d' : Delivery := ⟨[[(te, .str "big")], [(te, .str "little")]], [[("std", .str "c11")], []]⟩
    (match effectiveDelivered .c (Gen.fileConfig .c) d with
      | .ok o => (o.lookup te, o.lookup "enable_serialization_asserts") | .error _ => (none, none))
      = (some (.str "little"), some (.bool true)) ∧
    (match effectiveDelivered .c (Gen.fileConfig .c) d' with
      | .ok o => (o.lookup te, o.lookup "std") | .error _ => (none, none)) = (some (.str "little"), some (.str "c11")) := by
  decide +kernel

/-- Non-vacuity and the seeded classes as closed instances.  A process that calls `generate_types` with
`target_endianness = little` and then without options: the second run emits the encoding of `any`, and its type headers do
not pass against the first run's support header. -/
example :
    let E := modelEmitter .c (nameOf (Gen.domain .c))
    let rs := runHistory .c (Gen.fileConfig .c) E [] [.generateTypes [("target_endianness", .str "little")] false, .generateTypes [] false]
    let te := "NUNAVUT_SUPPORT_LANGUAGE_OPTION_TARGET_ENDIANNESS"
    rs.map (fun r => match r with
      | .ok ⟨some d, a⟩ => (d.lookup te, a.lookup te)
      | _ => (none, none)) = [(some 434322821, some 434322821), (some 1693710260, some 1693710260)] ∧
    (match rs with
      | [.ok ⟨some d₁, _⟩, .ok ⟨some d₂, a₂⟩] => (accepted .c d₁ a₂, accepted .c d₂ a₂)
      | _ => (true, false)) = (false, true) := by
  decide +kernel

/-- One generator object used for a pass without and then a pass with serialization support: the second pass's headers
carry the full guard block (6 assertions in C), the first pass's none. -/
example :
    let E := modelEmitter .c (nameOf (Gen.domain .c))
    let rs := runHistory .c (Gen.fileConfig .c) E [] [.newGenerators "g" [("target_endianness", .str "little")], .pass "g" true, .pass "g" false]
    rs.head? = some .created ∧
    rs.map (fun r => match r with
      | .ok ⟨d, a⟩ => (d.map List.length, a.length, d == some a)
      | _ => (none, 0, false)) = [(none, 0, false), (none, 0, false), (some 6, 6, true)] := by
  decide +kernel

/-- What the theorem excludes: a builder kept per process (the state `generate_types` does *not* have).  With it the
override of the first call stays merged into the shared configuration and the second call — which requests nothing —
is handed `little`. -/
example :
    let b₀ := Builder.fresh (Gen.fileConfig .c)
    let r₁ := (b₀.setOverride [("target_endianness", .str "little")]).create .c
    let r₂ := (r₁.1.setOverride []).create .c
    (match r₂.2 with | .ok o => o.lookup "target_endianness" | .error _ => none) = some (.str "little") ∧
    (match effective .c (Gen.fileConfig .c) [] with | .ok o => o.lookup "target_endianness" | .error _ => none) = some (.str "any") := by
  decide +kernel

/-- The C++ language-standard preset is part of the effective set (`--language-standard c++17-pmr`), invalid
constructor conventions are rejected as the real validation does. -/
example :
    (match effective .cpp (Gen.fileConfig .cpp) [("std", .str "c++17-pmr")] with
      | .ok o => (o.lookup "std", o.lookup "std_flavor", o.lookup "allocator_include")
      | .error _ => (none, none, none)) = (some (.str "c++17"), some (.str "pmr"), some (.str "<memory_resource>")) ∧
    (match effective .cpp (Gen.fileConfig .cpp) [("ctor_convention", .str "Uses_Leading_Allocator")] with
      | .error e => some e | .ok _ => none) = some .allocatorRequired ∧
    (match effective .cpp (Gen.fileConfig .cpp) [("ctor_convention", .str "nope")] with
      | .error e => some e | .ok _ => none) = some .badCtor := by
  decide +kernel

-- the expression model on the corners, and a form outside it (the seeded `type_definition_option` helper type)
example : evalAssert (.constexprVar .uint32) .eq 4294967301 5 = some true ∧
    evalAssert .macro .eq 4294967301 5 = some false ∧
    evalAssert (.constexprVar .uint32) .eq (-1) 4294967295 = some true ∧
    evalAssert (.constexprVar .uint32) .eq 2147483648 (-2147483648) = some false ∧
    evalAssert (.constexprVar .uint32) .eq 4294967295 (-1) = some true ∧
    evalAssert (.constexprVar (.other "type_definition_option")) .eq 1 2 = none := by decide +kernel

-- the three doctests of `filter_to_static_assertion_value`, and its `ValueError`
example : enc (.str "Any") = some 1556001108 ∧ enc (.int 123) = some 123 ∧ enc (.bool true) = some 1 ∧
    enc .other = none := by decide +kernel
example : crc32 [] = 0 ∧ crc32Str "é" = crc32 [0xC3, 0xA9] ∧ utf8 "€😀" = [0xE2, 0x82, 0xAC, 0xF0, 0x9F, 0x98, 0x80] := by
  decide +kernel

example : Documented (Gen.domain .c) (defaultsOf (Gen.domain .c)) := by decide +kernel
example : Documented (Gen.domain .cpp) (defaultsOf (Gen.domain .cpp)) := by decide +kernel
example : (defaultsOf (Gen.domain .cpp)).length = 14 ∧ 5 ≤ (defaultsOf (Gen.domain .c)).length := by decide +kernel

/-- A single-option difference: little-endian types against an `any` support header, C. -/
example :
    let o₁ := defaultsOf (Gen.domain .c)
    let o₂ := o₁.map fun kv => if kv.1 = "target_endianness" then (kv.1, OptVal.str "little") else kv
    Documented (Gen.domain .c) o₂ ∧
    together .c false (nameOf (Gen.domain .c)) o₁ o₂
      = some [.mismatch (nameOf (Gen.domain .c) "target_endianness")] := by
  decide +kernel

/-- A multi-option difference in C++ (`c++17-pmr` types against the default support header): one diagnostic per
differing option, in the order of the type header.  Names are taken from the generated table (`key | id` strops:
since repo commit ab91152 the key `std` is rendered `_std` on both sides). -/
example :
    let o₁ := defaultsOf (Gen.domain .cpp)
    let o₂ := o₁.map fun kv =>
      if kv.1 = "std" then (kv.1, OptVal.str "c++17")
      else if kv.1 = "std_flavor" then (kv.1, OptVal.str "pmr")
      else if kv.1 = "allocator_include" then (kv.1, OptVal.str "<memory_resource>")
      else kv
    Documented (Gen.domain .cpp) o₂ ∧
    together .cpp false (nameOf (Gen.domain .cpp)) o₁ o₂
      = some (["std", "std_flavor", "allocator_include"].map fun k => .mismatch (nameOf (Gen.domain .cpp) k)) := by
  decide +kernel

/-- A type header asserting a key the support header does not define. -/
example : together .c false id [("a", .bool true)] [("a", .bool true), ("b", .str "x")] = some [.undefined "b"] := by
  decide +kernel

/-- The C++ `uint32` storage (outside the documented domain): an int option ≥ 2^32 does not even compile against
itself, and two different ints can pass. -/
example : together .cpp false id [("n", .int 4294967301)] [("n", .int 4294967301)] = some [.mismatch "n"] ∧
    together .cpp false id [("n", .int 4294967301)] [("n", .int 5)] = some [] ∧
    together .c false id [("n", .int 4294967301)] [("n", .int 5)] = some [.mismatch "n"] := by decide +kernel

/-- Before the fix (`std` had no built-in default in the C language options: it existed only under
`--language-standard`).  The documented C domain as it was then: -/
def domainCBeforeFix : List DocOpt := [
  { key := "target_endianness", name := "NUNAVUT_SUPPORT_LANGUAGE_OPTION_TARGET_ENDIANNESS",
    values := [.str "any", .str "big", .str "little"], always := true, defined := true, asserted := true },
  { key := "omit_float_serialization_support", name := "NUNAVUT_SUPPORT_LANGUAGE_OPTION_OMIT_FLOAT_SERIALIZATION_SUPPORT",
    values := [.bool false, .bool true], always := true, defined := true, asserted := true },
  { key := "enable_serialization_asserts", name := "NUNAVUT_SUPPORT_LANGUAGE_OPTION_ENABLE_SERIALIZATION_ASSERTS",
    values := [.bool false, .bool true], always := true, defined := true, asserted := true },
  { key := "enable_override_variable_array_capacity",
    name := "NUNAVUT_SUPPORT_LANGUAGE_OPTION_ENABLE_OVERRIDE_VARIABLE_ARRAY_CAPACITY",
    values := [.bool false, .bool true], always := true, defined := true, asserted := true },
  { key := "cast_format", name := "NUNAVUT_SUPPORT_LANGUAGE_OPTION_CAST_FORMAT",
    values := [.str "(({type}) {value})", .str "static_cast<{type}>({value})"],
    always := true, defined := true, asserted := true },
  { key := "std", name := "NUNAVUT_SUPPORT_LANGUAGE_OPTION_STD",
    values := [.str "c11", .str "c++14", .str "cetl++14-17", .str "c++17", .str "c++17-pmr", .str "c++20"],
    always := false, defined := true, asserted := true }]

/-- The negation of the property on the old domain: `nnvg -std c11` for the support header, no `-std` for the type
headers — two documented option sets that differ (in `std`) and compile together. -/
example :
    let o₂ := defaultsOf domainCBeforeFix
    let o₁ := o₂ ++ [("std", OptVal.str "c11")]
    Documented domainCBeforeFix o₁ ∧ Documented domainCBeforeFix o₂ ∧ o₁ ≠ o₂ ∧
    together .c false (nameOf domainCBeforeFix) o₁ o₂ = some [] := by
  decide +kernel

end NunavutVerif.Options
