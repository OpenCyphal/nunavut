import NunavutVerif.Lemmas.Html
import NunavutVerif.Lemmas.HtmlPage
import NunavutVerif.Gen.HtmlTpl
import NunavutVerif.Gen.HtmlRefs
/-!
# C20 — generated HTML documentation is well-formed, escaped and internally linked

The template abstraction `Gen/HtmlTpl.lean` and the reference inventory `Gen/HtmlRefs.lean` are regenerated from the tree
under check by `translate/htmltpl.py` on every run.

Quantifiers: all strings (escaping), all renderings of the template terms (balance), all page namespaces and all
type references with front-end-valid name components (links); `decide` only over the generated tables, whole.

The model describes the tree *after* the proposed fixes (autoescaping for the HTML language, `display_type` returns
escaped Markup, depth-aware link prefix, service request/response links, back link of type pages); the behaviour
before is kept as `…BeforeFix` with the negations as `example`s at the end.
-/
namespace NunavutVerif.Html
open NunavutVerif.Gen

/-- `escape s` contains none of `<`, `>`, `"`, `'`. -/
theorem C20_escape_no_markup_chars (s : Str) : ∀ c ∈ escape s, c ≠ '<' ∧ c ≠ '>' ∧ c ≠ '"' ∧ c ≠ '\'' :=
  fun _ h => mem_escape h

/-- Every `&` in `escape s` starts one of the five references, every other character is plain. -/
theorem C20_escape_amp_starts_entity (s : Str) : CharData entities (escape s) := escape_charData s

/-- Decoding the references gives back exactly the original text: the text appears as text, unchanged. -/
theorem C20_escape_roundtrip (s : Str) : unescape (escape s) = s := by
  induction s with
  | nil => rfl
  | cons c s ih => rw [escape_eq_flatMap, List.flatMap_cons, ← escape_eq_flatMap, unescape_escChar, ih]

/-- An escaped leaf is character data in each context: no prefix of it moves the tokenizer out of element text,
out of a quoted attribute value, or out of a raw-text element. -/
theorem C20_escaped_leaf_is_character_data (s pre : Str) (hp : pre <+: escape s) :
    lexRun .data pre = .data ∧ lexRun .attrDq pre = .attrDq ∧ lexRun .attrSq pre = .attrSq ∧
    lexRun .rawText pre = .rawText :=
  lexRun_stays_of_no_markup fun c hc => C20_escape_no_markup_chars s c (hp.subset hc)

/-- The same, in element text and in quoted attribute values, for the standard library's `html.escape`, which
`filter_make_unique` applies itself. -/
theorem C20_std_escape_is_character_data (s pre : Str) (hp : pre <+: escapeStd s) :
    CharData entitiesStd (escapeStd s) ∧
    lexRun .data pre = .data ∧ lexRun .attrDq pre = .attrDq ∧ lexRun .attrSq pre = .attrSq :=
  have ⟨h1, h2, h3, _⟩ := lexRun_stays_of_no_markup fun _ hc => mem_escapeStd (hp.subset hc)
  ⟨escapeStd_charData s, h1, h2, h3⟩

/-- Escaping has no history: in any run (any values before and after, in particular Markup values with the same
characters), what is emitted for a value is `escapeVal` of that value alone; a plain (non-Markup) value therefore always
comes out as character data, and a Markup value always unchanged. -/
theorem C20_escape_value_history_independent (before after : List Val) (v : Val) :
    (escapeRun (before ++ v :: after))[before.length]? = some (escapeVal v) ∧
    (v.markup = false → (∀ c ∈ escapeVal v, c ≠ '<' ∧ c ≠ '>' ∧ c ≠ '"' ∧ c ≠ '\'') ∧ unescape (escapeVal v) = v.text) ∧
    (v.markup = true → escapeVal v = v.text) := by
  refine ⟨by simp [escapeRun], ?_, ?_⟩
  · intro h
    simp only [escapeVal, h]
    exact ⟨fun _ hc => mem_escape hc, C20_escape_roundtrip _⟩
  · intro h; simp [escapeVal, h]

/-- Inside a quoted JS string literal HTML escaping is not a protection; there only text over the front end's name
alphabet is placed (table check below), and such text is unchanged by escaping and stays inside the literal. -/
theorem C20_name_text_stays_in_js_string (s : Str) (h : ∀ c ∈ s, isNameOrDot c = true) (q : Char)
    (hq : q = '\'' ∨ q = '"') : escape s = s ∧ jsRun q (escape s) = true := by
  refine ⟨escape_of_nameOrDot h, ?_⟩
  rw [escape_of_nameOrDot h]
  apply jsRun_stays
  intro c hc
  obtain ⟨_, _, _, h4, h5, h6, h7, h8⟩ := nameOrDot_not_special (h c hc)
  rcases hq with rfl | rfl <;> simp [jsStep, h4, h5, h6, h7, h8]

/-- Ids are made of name characters when the name components are. -/
theorem C20_tag_id_alphabet (t : CType) (h : ∀ c ∈ t.comps, ValidComp c) : ∀ c ∈ tagId t, isNameChar c = true :=
  tagId_nameChars h

/-- Every `{{ }}` whose value comes from the DSDL definitions is escaped on every path (by the environment's real
autoescape answer for the defining template, an explicit `|e`, or the escaping filter that produced it). -/
theorem C20_every_dsdl_leaf_escaped : ∀ l ∈ HtmlTpl.leaves, l.origin.isDsdl = true → l.escaped = true := by
  decide +kernel

/-- The escaping decision is a function of the target language and the template name only: for the html target it is
ON for every template name, under every option variation the translator builds the real environment for (output
extension .xhtml/.txt/.HTML/.htm/.php/empty, namespace file stem, configuration overrides of the html section);
for another language the real answers are the file-name rule.  (`decide +kernel` over the whole generated table.) -/
theorem C20_escaping_decision_is_language_rule :
    (∀ r ∈ HtmlTpl.escapingDecisions, r.2.2.2 = autoescapeRule r.1 r.2.2.1) ∧
    (∀ r ∈ HtmlTpl.escapingDecisions, r.1 = "html" → r.2.2.2 = true) ∧
    (∀ name, autoescapeRule "html" name = true) := by
  refine ⟨by decide +kernel, by decide +kernel, fun _ => by simp [autoescapeRule]⟩

/-- The full per-leaf requirement: additionally, inside JS string literals only restricted-alphabet text, markup and
macro results only in element content. -/
theorem C20_every_leaf_ok : ∀ l ∈ HtmlTpl.leaves, l.ok = true := by decide +kernel

/-- The terms agree with the table: a hole is abstracted to character data only if its leaf is escaped or constant,
to a balanced snippet only if it is a markup-filter leaf; and no hole is left unescaped. -/
theorem C20_terms_match_leaf_table :
    (∀ m ∈ HtmlTpl.macros, termLeavesOk HtmlTpl.leaves m = true ∧ hasUnsafe m = false) ∧
    (∀ r ∈ HtmlTpl.roots, termLeavesOk HtmlTpl.leaves r.2 = true ∧ hasUnsafe r.2 = false) := by decide +kernel

/-- Soundness of the static stack-effect analysis, for any macro environment and any term: if every macro body is
neutral (under the assumption that macro calls are) and the term is neutral, every rendering is well nested. -/
theorem C20_balance_analysis_sound (env : List Tm) (t : Tm) (s : List Tok) (hm : macrosOk env = true)
    (hn : isNeutral env.length t = true) (hr : Renders env t s) : wellNested s = true := by
  have h := effect_sound hm hr .neutral (isNeutral_iff.mp hn) []
  simp [Eff.neutral] at h
  simp [wellNested, h]

/-- More generally the analysis computes the effect on the stack of open elements. -/
theorem C20_effect_sound (env : List Tm) (t : Tm) (s : List Tok) (e : Eff) (hm : macrosOk env = true)
    (he : effect env.length t = some e) (hr : Renders env t s) (st : List Tag) :
    runToks (e.pops ++ st) s = some (e.pushes ++ st) :=
  effect_sound hm hr e he st

/-- The analysis answers "neutral" for every macro and every root template of the generated abstraction. -/
theorem C20_templates_neutral :
    macrosOk HtmlTpl.macros = true ∧ ∀ r ∈ HtmlTpl.roots, isNeutral HtmlTpl.macros.length r.2 = true := by decide +kernel

/-- Hence every rendering of every root template is well nested. -/
theorem C20_every_page_well_nested (name : String) (t : Tm) (h : (name, t) ∈ HtmlTpl.roots) (s : List Tok)
    (hr : Renders HtmlTpl.macros t s) : wellNested s = true :=
  C20_balance_analysis_sound _ _ _ C20_templates_neutral.1 (C20_templates_neutral.2 _ h) hr

/-- The markup filter contributes balanced snippets only, for every type/attribute it is applied to, and each of
its pieces is a constant `span` tag or escaped text. -/
theorem C20_display_type_balanced (span : Tag) (d : DT) :
    Balanced (displayToks span d) ∧
    ∀ p ∈ displayPieces d, (∃ col, renderPiece p = spanOpen col) ∨ renderPiece p = spanClose ∨
      ∃ s, renderPiece p = escape s := by
  refine ⟨displayToks_balanced span d, ?_⟩
  intro p _
  cases p with
  | spanO col => exact .inl ⟨col, rfl⟩
  | spanC => exact .inr (.inl rfl)
  | lit s => exact .inr (.inr ⟨s, rfl⟩)
  | txt s => exact .inr (.inr ⟨s, rfl⟩)

/-- The fragment of `url_from_type t` is the id of the entry that documents `t` (`tag_id` of `t`, or of its service
for a request/response type). -/
theorem C20_link_fragment_is_entry_id (t : CType) (h : '#' ∉ t.rootNamespace) :
    (splitFragment (urlFromType t)).2 = tagId t.entry := by
  have hno : '#' ∉ "../".toList ++ t.rootNamespace ++ ['/'] := by
    simp only [List.mem_append, not_or]
    exact ⟨⟨by decide, h⟩, by decide⟩
  rw [urlFromType_eq, splitFragment_append hno]

/-- A reference to `t` on the page of *any* namespace `ns` (any depth) resolves to the page the generator writes
for `t`'s root namespace, with the entry id as fragment. -/
theorem C20_type_link_resolves (ns : List Str) (t : CType) (hns : ns ≠ []) (hv : ∀ c ∈ ns, ValidComp c)
    (hr : ValidComp t.rootNamespace) :
    resolve (nsPagePath ns) (typeHref ns t) = some (nsPagePath [t.rootNamespace], tagId t.entry) := by
  unfold typeHref upPrefix nsPagePath
  rw [countDots_join hv, urlFromType_eq]
  have hlen : ns.length - 1 + 1 = ns.length := Nat.sub_add_cancel (List.length_pos_iff.mpr hns)
  -- the `"../"` of the page for every dot of its name and the one `url_from_type` starts with: one for every component
  have e : repeatStr "../".toList (ns.length - 1) ++ (("../".toList ++ t.rootNamespace ++ ['/']) ++ '#' :: tagId t.entry) =
      (repeatStr "../".toList ns.length ++ (t.rootNamespace ++ ['/'])) ++ '#' :: tagId t.entry := by
    rw [← hlen, ← repeatStr_append_self]
    simp [hlen]
  rw [e]
  exact resolve_up_root hr

/-- …and that page contains the entry: the page of a namespace lists every type of the namespace and of all
namespaces nested in it (except the doc holder `_`). -/
theorem C20_namespace_page_lists_every_type (tree : NsTree) (t : CType) (ht : t ∈ allTypes tree)
    (hs : t.comps.getLastD [] ≠ ['_']) : tagId t ∈ entryIds tree :=
  entryIds_complete tree t ht hs

/-- The back link of a type page resolves to the page of the type's own namespace, fragment = the id of that
namespace's entry, which is the first namespace entry of that page. -/
theorem C20_back_link_resolves (t : CType) :
    resolve (typePagePath t) (backHref t) = some (nsPagePath t.comps.dropLast, nsId t.comps.dropLast) ∧
    ∀ types children, nsId t.comps.dropLast ∈ nsEntryIds (.node t.comps.dropLast types children) :=
  ⟨backHref_resolves t, fun _ _ => by simp [nsEntryIds]⟩

/-- Every `href=` in the templates has one of the recognised forms; a type reference is only emitted for types
that have an entry of their own (guard `t.short_name != "_"`); the link prefix parameter is only ever
`"../" * T.full_name.count(".")` (at the root call) or passed through. -/
theorem C20_href_forms_recognised :
    (∀ h ∈ HtmlTpl.hrefs, hrefFormOk h.2.1 h.2.2 = true) ∧ (∀ b ∈ HtmlTpl.bindings, upBindingOk b = true) := by
  -- Row by row, so that `String.toList` meets the literals and can be rewritten to their characters before the kernel
  -- evaluates: left to the kernel, each literal is decoded from its UTF-8 bytes.
  constructor
  · unfold HtmlTpl.hrefs
    simp only [List.forall_mem_cons, hrefFormOk]
    repeat rw [String.toList_ofList]
    decide +kernel
  · unfold HtmlTpl.bindings
    simp only [List.forall_mem_cons, upBindingOk]
    repeat rw [String.toList_ofList]
    decide +kernel

/-! `Model/HtmlPage.lean` computes, from the namespace tree of a run, every `id` and every reference (`href`, `data-target`,
`onclick`, `aria-controls`, `for`, the id selector of the inline script) of every page in document order; the tie compares
that list with the attributes a strict parser finds on the real pages, item by item. -/

/-- The model implements the whole inventory: the table of all anchor / reference / URL / event-handler attributes that the
translator finds in the templates equals the forms `nsPageItems` / `typePageItems` are written from; so do the page-dependent
DOM lookups of the templates' own scripts and the signature (default root) of `toggleCollapse`.  (`rfl` and `decide +kernel`,
whole tables.) -/
theorem C20_reference_inventory_is_modelled :
    HtmlRefs.refs = expectedRefs ∧
    HtmlRefs.jsLookups.filter JsLookup.dynamic = expectedDynamicLookups ∧
    ("namespace_base.js", "toggleCollapse", expectedToggleSignature) ∈ HtmlRefs.jsFunctions :=
  -- the two tables are the same list of literals; the other two facts need evaluation
  ⟨rfl, by decide +kernel, by decide +kernel⟩

/-- the constant ids of a namespace page, from the generated table -/
def constIds : List String :=
  HtmlRefs.refs.filterMap fun r =>
    if r.scope == "root:Namespace.j2" && r.attr == "id" then (match r.parts with | [.lit s] => some s | _ => none) else none

/-- References with a constant target: every `getElementById("…")` of the templates' scripts and every `#id` selector of
their style sheets names one of the constant ids of the namespace page, which are the ids of the model's constant part. -/
theorem C20_constant_references_resolve :
    (∀ l ∈ HtmlRefs.jsLookups, ∀ s, l.constId = some s → s ∈ constIds) ∧
    (∀ c ∈ HtmlRefs.cssIds, c.1 = "root:Namespace.j2" ∧ c.2 ∈ constIds) ∧
    idsOf (nsPageHead ++ nsPageMid) = constIds.map String.toList := by decide +kernel

/-- **Every same-page reference resolves**, for every namespace tree: each `data-target="#s"`, `onclick="toggleCollapse(event,
's'…)"`, `aria-controls="s"`, `for="s"`, `href="#s"` and the inline script's `querySelector("#s")` on the page of a namespace
names an `id` that the same page defines; and the root element a `toggleCollapse` call names exists too. -/
theorem C20_same_page_references_resolve (tr : NsD) : ∀ it ∈ nsPageItems tr,
    (∀ s, it.sameRef = some s → s ∈ idsOf (nsPageItems tr)) ∧ (∀ r, it.rootRef = some r → r ∈ idsOf (nsPageItems tr)) :=
  fun it hit => ⟨nsPageItems_refsSelf tr it hit, nsPageItems_rootRef tr it hit⟩

/-- The entries of all namespaces of the tree and of all listed types (the targets of the sidebar links and of the links
from other pages) are on the page, and so is the `…_sidebar` twin that `toggleCollapse` / `scrollSidebar` look up. -/
theorem C20_listed_entries_and_sidebar_twins (tr : NsD) : ∀ s ∈ topTargets tr,
    s ∈ idsOf (nsPageItems tr) ∧ s ++ sidebarSuffix ∈ idsOf (nsPageItems tr) :=
  fun s hs => ⟨topTargets_sub tr s hs, sidebar_ids_sub tr _ (twins_in_sidebar tr s hs)⟩

/-- **Every relative link of the output resolves**: for runs (one per root namespace) written into one output directory
that are laid out by name (`RunOk`) and closed under reference (`Closed`: the type a link is made for has its entry — its own,
or its service's for a request / response type — among the listed types of the run of its root namespace), every relative
`href` on every page the generator writes (the page of every namespace at every depth, the page of every type) resolves to a
file the generator writes, and its fragment is an `id` of that file. -/
theorem C20_every_link_of_the_site_resolves (runs : List NsD) (hok : ∀ run ∈ runs, RunOk run) (hcl : Closed runs) :
    ∀ f ∈ site runs, ∀ it ∈ f.2, ∀ h, it.relLink = some h → Resolves (site runs) f.1 h := by
  intro f hf it hit h hrel
  obtain ⟨run, hrun, hfp⟩ := List.mem_flatMap.mp hf
  have hsite : ∀ r ∈ runs, ∀ g ∈ pages r, g ∈ site runs := fun r hr g hg => List.mem_flatMap.mpr ⟨r, hr, hg⟩
  rcases pages_cases run f hfp with ⟨m, hm, rfl⟩ | ⟨m, hm, hty⟩
  · -- a namespace page: the link of a nested entry
    obtain ⟨ct, hct, rfl⟩ := (nsPageItems_shape m it hit).2 h hrel
    obtain ⟨hroot, tgt, htgt, hname, hentry⟩ := hcl run hrun ct (linkedNs_of_subtree run m hm ct hct)
    obtain ⟨hne, hvalid⟩ := (hok run hrun).names m hm
    refine ⟨_, _, C20_type_link_resolves m.name ct hne hvalid hroot, nsPageItems tgt, ?_, .inr ?_⟩
    · have := pages_of_subtree tgt tgt (subtrees_self tgt)
      rw [hname] at this
      exact hsite tgt htgt _ this
    · exact topTargets_sub tgt _ (listedTypes_targets tgt _ hentry)
  · -- a type page: the back link
    obtain ⟨ct, sv, attrs, hmem, rfl⟩ := mem_typePagesOf hty
    cases sv with
    | true => simp at hit
    | false =>
      simp only [Bool.false_eq_true, if_false, typePageItems, List.mem_cons, List.not_mem_nil, or_false] at hit
      subst hit
      have := relLink_href hrel
      subst this
      have hns := wf_type_namespace (wf_of_subtree run (hok run hrun).wf m hm) hmem
      refine ⟨_, _, backHref_resolves ct, nsPageItems m, ?_, .inr ?_⟩
      · rw [hns]; exact hsite run hrun _ (pages_of_subtree run m hm)
      · rw [hns]; exact topTargets_sub m _ (topTargets_head m)

/-- The same with the hypotheses in executable form (`runOkB`, `closedB`: what the driver evaluates for the real runs of the
tie, and what the examples below decide). -/
theorem C20_every_link_of_the_site_resolves_checked (runs : List NsD) (hok : runs.all runOkB = true) (hcl : closedB runs = true) :
    ∀ f ∈ site runs, ∀ it ∈ f.2, ∀ h, it.relLink = some h → Resolves (site runs) f.1 h :=
  C20_every_link_of_the_site_resolves runs (fun run hrun => runOk_of_runOkB (List.all_eq_true.mp hok run hrun))
    (closed_of_closedB hcl)

/-- The files of a run do not overwrite each other: two types are written to the same path only if they have the same name
and version, and no type page has the path of a namespace page. -/
theorem C20_page_files_distinct (a b : CType) (ha : a.comps ≠ []) (hb : b.comps ≠ []) :
    (typePagePath a = typePagePath b → a.comps = b.comps ∧ a.major = b.major ∧ a.minor = b.minor) ∧
    ∀ ns, typePagePath a ≠ nsPagePath ns :=
  ⟨typePagePath_inj ha hb, typePagePath_ne_nsPagePath a⟩

/-- **The bytes of a page are a function of the run's input only.**  `_generate_code` opens each output file with
`open(path, "w")`, i.e. replaces whatever is there (`writeFile`); the files of a run have pairwise different paths
(`C20_page_files_distinct`).  Then, whatever the output directory held before — the longer pages of an earlier state of the
definitions, pages of types that no longer exist — every file of the run reads back exactly the content rendered for it: a
regenerated page is well formed, escaped and linked iff the freshly generated one is.  (The tie generates an earlier, longer
and an earlier, shorter state into the same output directory first and compares every file with a fresh run, byte for byte.) -/
theorem C20_page_content_independent_of_previous_output {α : Type} (files : List (List Str × α)) (before₁ before₂ : OutDir α)
    (hpaths : (files.map (·.1)).Nodup) : ∀ f ∈ files,
    readFile (writeAll before₁ files) f.1 = some f.2 ∧ readFile (writeAll before₂ files) f.1 = some f.2 :=
  fun f hf => ⟨readFile_writeAll files before₁ hpaths f hf, readFile_writeAll files before₂ hpaths f hf⟩

/-- Which links a page has: every relative link of the page of namespace `tr` is `"../" * depth` + `url_from_type` of one
of the types `linkedNs tr` lists (nested entries with `short_name != "_"`). -/
theorem C20_relative_links_are_type_links (tr : NsD) : ∀ it ∈ nsPageItems tr, ∀ h, it.relLink = some h →
    ∃ ct ∈ linkedNs tr, h = typeHref tr.name ct :=
  fun it hit => (nsPageItems_shape tr it hit).2

/-- **Exactly when two tag ids coincide**: when the dot-to-underscore flattenings of the two full names coincide and the
versions are equal.  The version suffix is never the cause (`_<major>_<minor>` is read back from the right). -/
theorem C20_tag_id_collision_iff (a b : CType) :
    tagId a = tagId b ↔ nsId a.comps = nsId b.comps ∧ a.major = b.major ∧ a.minor = b.minor := tagId_eq_iff a b

/-- The flattening is not injective: wherever a component `u_v` stands, the two components `u`, `v` give the same id —
`a.b_c.D` and `a.b.c_D`, a namespace `r.b_c` and a namespace `r.b.c` (for dot-free components). -/
theorem C20_flattening_collides (pre post : List Str) (u v : Str)
    (h : ∀ c ∈ pre ++ u :: v :: post, '.' ∉ c) :
    nsId (pre ++ (u ++ '_' :: v) :: post) = nsId (pre ++ u :: v :: post) ∧
    ∀ M m hps, tagId ⟨pre ++ (u ++ '_' :: v) :: post, M, m, hps⟩ = tagId ⟨pre ++ u :: v :: post, M, m, hps⟩ := by
  -- `h` is not needed: a dot inside a component is flattened on both sides alike
  have e := nsId_underscore_collides pre post u v
  exact ⟨e, fun M m hps => (tagId_eq_iff _ _).mpr ⟨e, rfl, rfl⟩⟩

/-- …and that is the only cause: on names whose components contain no underscore the ids of namespaces are distinct and
the tag ids of types with distinct (name, version) are distinct. -/
theorem C20_ids_distinct_without_underscores (a b : CType)
    (ha : ∀ c ∈ a.comps, ValidComp c ∧ '_' ∉ c) (hb : ∀ c ∈ b.comps, ValidComp c ∧ '_' ∉ c) :
    (nsId a.comps = nsId b.comps → a.comps = b.comps) ∧
    (tagId a = tagId b → a.comps = b.comps ∧ a.major = b.major ∧ a.minor = b.minor) := by
  have hinj : nsId a.comps = nsId b.comps → a.comps = b.comps := nsId_inj ha hb
  exact ⟨hinj, fun h => let ⟨h1, h2, h3⟩ := (tagId_eq_iff a b).mp h; ⟨hinj h1, h2, h3⟩⟩

/-- **Ids are unique on a page** when the names are simple (`simpleRun`, decidable): every name component is alphanumeric
and starts with a letter — in particular has no underscore —, no namespace component is `sidebar` or `array<digits>`, no
namespace id is one of the page's constant ids, every minor version is below 10, request / response types are not listed,
and the namespaces and listed types of the tree are pairwise different.  Then all `id`s of the page of the namespace — the
constant ones, the sidebar twins, the namespace and type entries and every `make_unique` result of the nested entries — are
pairwise distinct, so a fragment link or a script lookup reaches exactly the intended element.  The examples below have two
equal ids and violate one condition each: an underscore in a component, a minor version of two digits, a namespace named
like a constant id. -/
theorem C20_page_ids_unique (tr : NsD) (h : simpleRun tr = true) : (idsOf (nsPageItems tr)).Nodup := by
  simp only [simpleRun, Bool.and_eq_true, List.all_eq_true, decide_eq_true_eq] at h
  obtain ⟨hok, hnd⟩ := h
  have hT : ∀ x ∈ topTargets tr, x ∉ pageConsts ++ pageMid ∧ ('_' ∉ x ∨ HasGroup x 4 ∨ HasGroup x 1) := by
    intro x hx
    rw [← srcNs_plain] at hx
    obtain ⟨s, hs, hsx⟩ := List.mem_filterMap.mp hx
    exact top_shape (hok s hs) hsx
  have hW : ∀ w ∈ (topTargets tr).map (· ++ sidebarSuffix), HasGroup w 0 := by
    intro w hw
    obtain ⟨x, _, rfl⟩ := List.mem_map.mp hw
    exact shape_twin x
  obtain ⟨_, _, _, hCM, hC⟩ := page_consts
  have hTnd : (topTargets tr).Nodup := by
    rw [← srcNs_plain]
    refine List.pairwise_filterMap.mpr ((List.pairwise_filter.mp hnd).imp_of_mem fun ha hb hne x hx y hy e => ?_)
    exact hne (by simp [Source.isTop, hx]) (by simp [Source.isTop, hy]) (top_inj (hok _ ha) (hok _ hb) hx (e ▸ hy))
  have hWnd : ((topTargets tr).map (· ++ sidebarSuffix)).Nodup := by
    rw [List.Nodup, List.pairwise_map]
    exact List.Pairwise.imp (fun hne e => hne (List.append_cancel_right e)) hTnd
  refine (page_ids_perm tr).nodup_iff.mpr (List.nodup_append.mpr ⟨List.nodup_append.mpr ⟨hCM, List.nodup_append.mpr ⟨hWnd, hTnd, ?_⟩, ?_⟩,
    uniqs_nodup _ _ ?_, ?_⟩)
  · -- a twin is no listed entry
    intro w hw t ht e
    have g0 : HasGroup t 0 := e ▸ hW w hw
    rcases (hT t ht).2 with h | h | h
    · exact h g0.mem
    · exact absurd (g0.unique h) (by decide)
    · exact absurd (g0.unique h) (by decide)
  · -- a constant is neither
    intro c hc x hx e
    rcases List.mem_append.mp hx with h | h
    · exact hC c hc (e ▸ (hW x h).mem)
    · exact (hT x h).1 (e ▸ hc)
  · -- a `make_unique` result determines token and counter
    intro b₁ hb₁ b₂ hb₂ k₁ k₂ e
    obtain ⟨s₁, hs₁, hsb₁⟩ := List.mem_filterMap.mp hb₁
    obtain ⟨s₂, hs₂, hsb₂⟩ := List.mem_filterMap.mp hb₂
    exact nested_decode (hok s₁ hs₁) (hok s₂ hs₂) hsb₁ hsb₂ e
  · -- a `make_unique` result is none of the others
    intro a ha x hx e
    obtain ⟨b, hb, k, rfl, _⟩ := uniqs_mem _ _ x hx
    obtain ⟨s, hs, hsb⟩ := List.mem_filterMap.mp hb
    have g := nested_shape (hok s hs) hsb k
    have hmem : '_' ∈ uniqTok b ++ dec k := g.elim HasGroup.mem HasGroup.mem
    rw [← e] at g hmem
    simp only [List.mem_append] at ha
    rcases ha with h | h | h
    · exact hC a (List.mem_append.mpr h) hmem
    · rcases g with g | g <;> exact absurd (g.unique (hW a h)) (by decide)
    · rcases (hT a h).2 with h | h | h
      · exact h hmem
      · rcases g with g | g <;> exact absurd (g.unique h) (by decide)
      · rcases g with g | g <;> exact absurd (g.unique h) (by decide)

/-- Ids are used by the scripts as `#` + id selectors built by plain concatenation.  For front-end-valid names (components of
name characters, the first one not starting with a digit) every kind of id the templates make is a CSS identifier, so the
selector selects by id: the id of a namespace entry, of a type entry, their `_sidebar` twins, the result of `make_unique`
on any of them, and the id of an array entry. -/
theorem C20_ids_are_css_identifiers :
    (∀ name : List Str, (∀ c ∈ name, ValidComp c) → FirstOk name →
      isCssIdent (nsId name) = true ∧ isCssIdent (nsId name ++ sidebarSuffix) = true) ∧
    (∀ t : CType, (∀ c ∈ t.comps, ValidComp c) → FirstOk t.comps →
      isCssIdent (tagId t) = true ∧ isCssIdent (tagId t ++ sidebarSuffix) = true ∧
      ∀ seen, isCssIdent (makeUnique seen (tagId t)).1 = true) ∧
    (∀ es : Str, (∀ ch ∈ es, isNameOrDot ch = true ∨ ch = ' ') → (∃ c t, es = c :: t ∧ (c.isAlpha = true ∨ c = '_')) →
      isCssIdent (tagIdArray es) = true ∧ ∀ seen, isCssIdent (makeUnique seen (tagIdArray es)).1 = true) := by
  refine ⟨fun name hv hf => ?_, fun t hv hf => ?_, fun es hs hf => ?_⟩
  · exact ⟨isCssIdent_of_identLike (nsId_identLike hv hf),
      isCssIdent_of_identLike ((nsId_identLike hv hf).append sidebarSuffix_nameChars)⟩
  · exact ⟨isCssIdent_of_identLike (tagId_identLike hv hf),
      isCssIdent_of_identLike ((tagId_identLike hv hf).append sidebarSuffix_nameChars),
      fun seen => isCssIdent_of_identLike (makeUnique_identLike (tagId_identLike hv hf) seen)⟩
  · exact ⟨isCssIdent_of_identLike (tagIdArray_identLike hs hf),
      fun seen => isCssIdent_of_identLike (makeUnique_identLike (tagIdArray_identLike hs hf) seen)⟩

/-- The URL context.  The templates HTML-escape the value of `href` but nothing percent-encodes it; the links made from
DSDL names need neither: every character of a type link and of a back link stands for itself in a URL path / fragment,
escaping leaves the link unchanged, and there is no `:` (no scheme can be formed), `%` or `?`. -/
theorem C20_links_are_plain_urls (ns : List Str) (t : CType) (hv : ∀ c ∈ t.comps, ValidComp c) :
    (urlSafe (typeHref ns t) = true ∧ escape (typeHref ns t) = typeHref ns t ∧ ':' ∉ typeHref ns t ∧ '%' ∉ typeHref ns t ∧
      '?' ∉ typeHref ns t) ∧
    (urlSafe (backHref t) = true ∧ escape (backHref t) = backHref t ∧ ':' ∉ backHref t ∧ '%' ∉ backHref t ∧ '?' ∉ backHref t) := by
  refine ⟨allLinkChars_props ?_, allLinkChars_props (backHref_linkChars hv)⟩
  intro c hc
  rcases List.mem_append.mp hc with h | h
  · exact upPrefix_linkChars _ c h
  · exact urlFromType_linkChars hv c h

/-- Every context the templates place an expression in is one of those with a lemma above (element text and quoted
attribute values: `C20_escaped_leaf_is_character_data`; JS string literals: `C20_name_text_stays_in_js_string`; URL
attributes: `C20_links_are_plain_urls`); none is placed in a style sheet or a single-quoted attribute; and free text — a
documentation comment — is only ever placed in element content.  (`decide +kernel`, whole leaf table.) -/
theorem C20_every_context_is_covered :
    (∀ l ∈ HtmlTpl.leaves, l.ctx = .data ∨ l.ctx = .attrDq ∨ l.ctx = .attrJs ∨ l.ctx = .script ∨ l.ctx = .attrUrl) ∧
    (∀ l ∈ HtmlTpl.leaves, l.origin = .doc → l.ctx = .data) ∧
    (∀ l ∈ HtmlTpl.leaves, l.ctx = .attrUrl → l.origin = .const ∨ l.origin = .name ∨ l.origin = .ident ∨ l.origin = .url) := by decide +kernel

/-- Every tag of the constant template text is well formed (unique attribute names, every value quoted, void elements never
closed, only void elements self-closing, no attributes on end tags); every `&` is a complete known character reference
or the parameter separator of a URL inside an attribute; no raw-text element contains `<!--`, the bundled assets contain no
expression; every page template is empty (`ServiceType.j2`: the page of a service is an empty file) or starts
`<!DOCTYPE html><html><head>` and has a `<title>` and a `<meta charset>`.  (`decide`, whole tables.) -/
theorem C20_constant_markup_well_formed :
    (∀ t ∈ HtmlRefs.tagFacts, t.ok = true) ∧ (∀ r ∈ HtmlRefs.charRefs, charRefOk r = true) ∧
    (∀ r ∈ HtmlRefs.rawTexts, r.ok = true) ∧ (∀ h ∈ HtmlRefs.pageHeads, h.ok = true) ∧
    (HtmlRefs.pageHeads.filter (·.empty)).map (·.root) = ["ServiceType.j2"] := by decide +kernel

/-! Non-vacuity: examples evaluated by the kernel.  Where it pays, `String.toList` of a literal is first rewritten to the
list of its characters (`String.toList_ofList`): the kernel would decode it from the UTF-8 bytes, which costs more than
running the model. -/

example : escape "</pre><script>alert(1)</script> & \"q\" 'x' -->".toList =
    "&lt;/pre&gt;&lt;script&gt;alert(1)&lt;/script&gt; &amp; &#34;q&#34; &#39;x&#39; --&gt;".toList := by
  repeat rw [String.toList_ofList]
  decide +kernel

example : (HtmlTpl.leaves.filter fun l => l.origin == .doc).length ≥ 5 := by decide
example : HtmlTpl.roots.length = 5 ∧ HtmlTpl.macros.length = 3 := by decide

/-- a real rendering shape: `<p><a></a></p><div><pre></pre><hr></div>` -/
example : wellNested [.op 8, .op 6, .cl 6, .cl 8, .op 10, .op 9, .cl 9, .vd 16, .cl 10] = true := by decide
example : wellNested [.op 8, .op 6, .cl 8, .cl 6] = false := by decide

/-- the analysis rejects a template with an unbalanced `</div>` in one branch -/
example : isNeutral 0 (Tm.sq [Tm.o 10, Tm.al [Tm.sq [Tm.c 10], Tm.sq []], Tm.c 10]) = false := by decide

example : resolve (nsPagePath ["reg".toList, "udral".toList, "service".toList])
    (typeHref ["reg".toList, "udral".toList, "service".toList] ⟨["uavcan".toList, "si".toList, "Scalar".toList], 1, 0, false⟩) =
    some (["uavcan".toList, indexPage], "uavcan_si_Scalar_1_0".toList) := by
  repeat rw [String.toList_ofList]
  decide +kernel

/-- equal characters, different kind: the plain one is escaped, the Markup one is not, in either order -/
example : escapeRun [⟨true, "<b>".toList⟩, ⟨false, "<b>".toList⟩, ⟨true, "<b>".toList⟩] =
    ["<b>".toList, "&lt;b&gt;".toList, "<b>".toList] := by decide +kernel

/-! A run with every kind of id collision (replayed on the real generator by the tie, corpus set `07_id_collisions`). -/

def collisionRun : NsD :=
  let ty (comps : List String) (M m : Nat) (attrs : List Ent) : Ent := .comp ⟨comps.map String.toList, M, m, false⟩ false attrs
  let b11 := ty ["r", "B"] 1 1 []
  .node ["r".toList]
    [ty ["r", "A"] 1 0 [], ty ["r", "B"] 1 10 [], b11, ty ["r", "H"] 1 0 [b11, b11]]
    [.node ["r".toList, "A_1_0".toList] [ty ["r", "A_1_0", "Q"] 1 0 []] [],
     .node ["r".toList, "b".toList] [ty ["r", "b", "c_D"] 1 0 []] [],
     .node ["r".toList, "b_c".toList] [ty ["r", "b_c", "D"] 1 0 []] [],
     .node ["r".toList, "x".toList] [ty ["r", "x", "Y"] 1 0 []] [],
     .node ["r".toList, "x_sidebar".toList] [ty ["r", "x_sidebar", "Z"] 1 0 []] []]

/-- ids are NOT unique in general: flattened names (`r.b_c.D` / `r.b.c_D`, the type `r.A` v1.0 / the namespace `r.A_1_0`),
the counter `make_unique` appends (`r.B` v1.1 nested, first occurrence → `r_B_1_10` = the entry of `r.B` v1.10), the
`_sidebar` suffix (namespace `r.x_sidebar` / the sidebar twin of `r.x`). -/
example : (idsOf (nsPageItems collisionRun)).count "r_b_c_D_1_0".toList = 2 ∧
    (idsOf (nsPageItems collisionRun)).count "r_A_1_0".toList = 2 ∧
    (idsOf (nsPageItems collisionRun)).count "r_B_1_10".toList = 2 ∧
    (idsOf (nsPageItems collisionRun)).count "r_x_sidebar".toList = 2 := by
  repeat rw [String.toList_ofList]
  decide +kernel

/-- a run with simple names: nested entries of the same type twice, arrays, a service, several versions -/
def simpleExampleRun : NsD :=
  let ct (comps : List String) (M m : Nat) (hps := false) : CType := ⟨comps.map String.toList, M, m, hps⟩
  let u := Ent.comp (ct ["reg", "U"] 1 2) false []
  let v := Ent.comp (ct ["reg", "n1", "V"] 1 0) false [u, .arr "reg.U.1.2".toList [u], .arr "saturated uint8".toList []]
  .node ["reg".toList]
    [.comp (ct ["reg", "Svc"] 2 0) true
       [.comp (ct ["reg", "Svc", "Request"] 2 0 true) false [u], .comp (ct ["reg", "Svc", "Response"] 2 0 true) false [v]],
     u, .comp (ct ["reg", "U"] 1 0) false []]
    [.node ["reg".toList, "n1".toList] [v] [.node ["reg".toList, "n1".toList, "Deep".toList] [] []]]

example : simpleRun simpleExampleRun = true ∧ (idsOf (nsPageItems simpleExampleRun)).length = 36 := by decide +kernel

/-- the hypotheses of the link theorem hold for both example runs (and all their links resolve, above) -/
example : [collisionRun, simpleExampleRun].all runOkB = true ∧ closedB [collisionRun] = true ∧ closedB [simpleExampleRun] = true := by
  decide +kernel

/-- each collision witness violates the condition -/
example : simpleRun collisionRun = false ∧ simpleRun (.node ["search".toList] [] []) = false := by decide +kernel

/-- what an opener that does not truncate would leave behind when the new page is shorter: the new page followed by the tail
of the old one (a second `</html>`): not the rendered content -/
example : overwriteInPlace "<html><pre>long old text</pre></html>".toList "<html><pre>new</pre></html>".toList =
    "<html><pre>new</pre></html>re></html>".toList ∧
    readFile (writeFile [(["ns".toList, indexPage], "<html><pre>long old text</pre></html>".toList)] ["ns".toList, indexPage]
      "<html><pre>new</pre></html>".toList) ["ns".toList, indexPage] = some "<html><pre>new</pre></html>".toList := by
  repeat rw [String.toList_ofList]
  decide +kernel

/-- a root namespace named like a constant id of the page -/
example : (idsOf (nsPageItems (.node ["search".toList] [] []))).count "search".toList = 2 := by decide +kernel

/-- still every relative link of the collision run resolves: the eleven verdicts of the executable `resolveIn` -/
example : (siteLinkVerdicts (site [collisionRun])).length = 11 ∧ (siteLinkVerdicts (site [collisionRun])).all (·.2.2) = true := by decide +kernel

/-- a nested entry has no `_sidebar` twin (the script's lookup `#r_B_1_10_sidebar` would find the twin of another entry,
`#r_B_1_11_sidebar` nothing): an observation outside the property, only listed entries have twins -/
example : "r_B_1_11".toList ∈ idsOf (nsPageItems collisionRun) ∧
    "r_B_1_11_sidebar".toList ∉ idsOf (nsPageItems collisionRun) := by
  repeat rw [String.toList_ofList]
  decide +kernel

example : HtmlRefs.refs.length = 39 ∧ HtmlRefs.tagFacts.length ≥ 200 ∧ HtmlRefs.jsLookups.length ≥ 25 := by decide +kernel

/-- F16: with `select_autoescape(("htm","html","xml","json"))` keyed on template names that all end in `.j2`, no
leaf was escaped; this is the row of `<pre class="docs">{{ t.doc }}</pre>` as the translator produced it then. -/
def docLeafBeforeFix : Leaf := ⟨"type_info.j2", 60, "t.doc", .doc, .data, false, false, "none"⟩

example : docLeafBeforeFix.origin.isDsdl = true ∧ docLeafBeforeFix.escaped = false ∧ docLeafBeforeFix.ok = false := by
  decide

example : autoescapeRuleBeforeFix "html" (some "type_info.j2") = false ∧ autoescapeRule "c" (some "page.HTML") = true ∧
    autoescapeRule "c" (some "type_info.j2") = false ∧ (HtmlTpl.escapingDecisions.filter (·.1 == "html")).length ≥ 60 := by decide +kernel

/-- Unescaped, the doc text leaves character data … -/
example : lexRun .data "</pre><script>alert(1)</script>".toList ≠ .data := by
  repeat rw [String.toList_ofList]
  decide +kernel

/-- … the hole is `wild`, the analysis refuses the term, and there is a rendering that is not well nested
(`<pre>` `</pre><script>…</script>` `</pre>`). -/
def docBlockBeforeFix : Tm := Tm.sq [Tm.o 9, Tm.un 0, Tm.c 9]

example : isNeutral 0 docBlockBeforeFix = false := by decide

example : ∃ s, Renders [] docBlockBeforeFix s ∧ wellNested s = false :=
  ⟨[.op 9] ++ ([.cl 9, .op 4, .cl 4] ++ [.cl 9]),
   .seq (.tok _) (.seq (.wild 0 _) (.tok _)), by decide⟩

/-- `display_type` wrote the array bound `[<=N]` with a raw `<`. -/
example : '<' ∈ displayTypeBeforeFix (.varArr (.other "ns.B.1.0".toList) 2) ∧
    (∀ pre, pre <+: displayTypeBeforeFix (.varArr (.other "ns.B.1.0".toList) 2) → True) ∧
    displayType (.varArr (.other "ns.B.1.0".toList) 2) =
      "ns.B.1.0<span style=\"color: green\">[&lt;=2]</span>".toList := by
  repeat rw [String.toList_ofList]
  refine ⟨by decide +kernel, fun _ _ => trivial, by decide +kernel⟩

/-- Links on the page of a nested namespace pointed one directory too low (`ns/ns/` instead of `ns/`). -/
example : resolve (nsPagePath ["ns".toList, "sub".toList])
    (typeHrefBeforeFix ["ns".toList, "sub".toList] ⟨["ns".toList, "A".toList], 1, 0, false⟩) =
    some (["ns".toList, "ns".toList, indexPage], "ns_A_1_0".toList) := by
  repeat rw [String.toList_ofList]
  decide +kernel

/-- Links to a service's request type pointed to an anchor no page contains. -/
example : (splitFragment (urlFromTypeBeforeFix ⟨["ns".toList, "S".toList, "Request".toList], 1, 0, true⟩)).2 =
    "ns_S_Request_1_0".toList ∧
    tagId (CType.entry ⟨["ns".toList, "S".toList, "Request".toList], 1, 0, true⟩) = "ns_S_1_0".toList := by
  repeat rw [String.toList_ofList]
  decide +kernel

/-- A field of a doc-holder type (`ns._.0.1`) was linked to an entry that no page has. -/
example : hrefFormOk ["nested"] [.ex "up", .ex "t|url_from_type"] = false := by decide +kernel

/-- The back link of every type page was the constant `/reg/Namespace.html`. -/
example : hrefFormOk [] [.lit "/reg/Namespace.html"] = false := by decide +kernel

/-- The inline script of a nested namespace's page selected `"#" + T.full_name`: with a dot inside this is not an id
selector (`#r.b` = id `r` with class `b`), the lookup finds nothing and the script throws. -/
example : (nsPageItemsBeforeFix (.node ["r".toList, "b".toList] [] [])).getLast? = some (.jsSel "r.b".toList) ∧
    isCssIdent "r.b".toList = false ∧ "r.b".toList ∉ idsOf (nsPageItemsBeforeFix (.node ["r".toList, "b".toList] [] [])) ∧
    (nsPageItems (.node ["r".toList, "b".toList] [] [])).getLast? = some (.jsSel "r_b".toList) ∧ isCssIdent "r_b".toList = true := by
  decide +kernel

/-- No page declared its character encoding (the row of `Namespace.j2` as the translator produced it then). -/
example : PageHead.ok ⟨"Namespace.j2", false, true, ["html", "head", "title"], true, false⟩ = false := by decide

end NunavutVerif.Html
