import NunavutVerif.Lemmas.Float16Unpack
import NunavutVerif.Lemmas.Float16Fixed
/-!
# C14 (float part) — half-precision conversion of the generated C / C++ support code

`pack`, `unpack` (`Model/Float16.lean`) transcribe `nunavutFloat16Pack` / `nunavutFloat16Unpack` on bit patterns;
`F32.val`, `F16.val`, `F32.mag`, `F16.mag` are the exact values in units of `2^-149`.

Quantifiers: **all** `2^32` binary32 patterns for `pack`, **all** `2^16` binary16 patterns for `unpack`; proved by
argument, not by enumeration.

Modelled, not proved: the hardware binary32 multiplication / addition are `f32mul` / `f32add` (IEEE-754
round-to-nearest-even).  `pack` is the packer as shipped (ties away from zero), `packRneC` the repaired one
(ties to even); both theorem sets are kept, the harness ties the one whose shape the template has.
-/
namespace NunavutVerif.Float16

/-- `unpack` is exact on every finite half: the returned single denotes the same real number
(signed zero keeps its sign, see `C14_unpack_sign`). -/
theorem C14_unpack_exact (h : Nat) (hh : h < 65536) (hf : F16.isFinite h = true) :
    F32.isFinite (unpack h) = true ∧ F32.val (unpack h) = F16.val h := by
  obtain ⟨h1, h2⟩ := unpackMag_finite _ ((F16.isFinite_iff h).1 hf)
  rw [← unpack_mod h hh] at h1 h2
  refine ⟨(F32.isFinite_iff _).2 h1, ?_⟩
  unfold F32.val F16.val
  rw [unpack_neg h hh, F32.mag_mod, h2, ← F16.mag_mod]

/-- The sign bit travels unchanged through `unpack`, for every pattern including NaNs; the result is a
32-bit pattern. -/
theorem C14_unpack_sign (h : Nat) (hh : h < 65536) :
    unpack h < 4294967296 ∧ F32.neg (unpack h) = F16.neg h := by
  exact ⟨unpack_lt h hh, unpack_neg h hh⟩

/-- Infinities stay infinities, NaNs stay NaNs (and nothing else becomes one). -/
theorem C14_unpack_inf_nan (h : Nat) (hh : h < 65536) :
    F32.isInf (unpack h) = F16.isInf h ∧ F32.isNaN (unpack h) = F16.isNaN h := by
  have hc : (h % 32768 < 31744 → unpackMag (h % 32768) < 2139095040) ∧
      (31744 ≤ h % 32768 → unpackMag (h % 32768) = 2139095040 + (h % 32768 - 31744) * 8192) :=
    ⟨fun c => (unpackMag_finite _ c).1, fun c => unpackMag_top _ c (by omega)⟩
  constructor
  · rw [Bool.eq_iff_iff, F32.isInf_iff, F16.isInf_iff, unpack_mod h hh]; omega
  · rw [Bool.eq_iff_iff, F32.isNaN_iff, F16.isNaN_iff, unpack_mod h hh]; omega

/-- Round trip: every non-NaN half is reproduced bit for bit; a NaN comes back as a NaN. -/
theorem C14_roundtrip (h : Nat) (hh : h < 65536) :
    (F16.isNaN h = false → pack (unpack h) = h) ∧ (F16.isNaN h = true → F16.isNaN (pack (unpack h)) = true) := by
  exact gen_roundtrip packs_pack magLaw_pack h hh

/-- The result is a 16-bit pattern carrying the sign bit of the argument (also for NaNs and zeros). -/
theorem C14_pack_sign (x : Nat) (hx : x < 4294967296) :
    pack x < 65536 ∧ F16.neg (pack x) = F32.neg x := by
  exact ⟨gen_lt packs_pack magLaw_pack x hx, gen_neg packs_pack magLaw_pack x hx⟩

/-- NaN ↦ NaN, and only NaNs. -/
theorem C14_pack_nan (x : Nat) (hx : x < 4294967296) : F16.isNaN (pack x) = F32.isNaN x := by
  exact gen_nan packs_pack magLaw_pack x hx

/-- ±infinity ↦ ±infinity. -/
theorem C14_pack_inf (x : Nat) (hx : x < 4294967296) (hi : F32.isInf x = true) : F16.isInf (pack x) = true := by
  exact gen_inf packs_pack magLaw_pack x hx hi

/-- The overflow boundary the code really has: a finite argument becomes ±infinity exactly when
`|x| ≥ 65520` (= the midpoint between the largest finite half 65504 and 2^16, the IEEE-754 threshold). -/
theorem C14_pack_overflow (x : Nat) (hx : x < 4294967296) (hf : F32.isFinite x = true) :
    F16.isInf (pack x) = true ↔ 65520 * 2 ^ 149 ≤ F32.mag x := by
  exact gen_overflow packs_pack magLaw_pack x hx hf

/-- Below the threshold (`|x| < 65520`, which excludes infinities and NaNs) the result is finite and is a
**nearest** finite half: no finite half is closer to the argument.  (Stronger than "faithful".) -/
theorem C14_pack_nearest (x : Nat) (hx : x < 4294967296) (hlt : F32.mag x < 65520 * 2 ^ 149) :
    F16.isFinite (pack x) = true ∧
    ∀ h, h < 65536 → F16.isFinite h = true →
      (F16.val (pack x) - F32.val x).natAbs ≤ (F16.val h - F32.val x).natAbs := by
  exact gen_nearest packs_pack magLaw_pack x hx hlt

/-- Faithfulness: no finite half lies strictly between the argument and the result; in particular the
result is the argument itself whenever that is representable. -/
theorem C14_pack_faithful (x : Nat) (hx : x < 4294967296)
    (hlt : F32.mag x < 65520 * 2 ^ 149) (h : Nat) (hh : h < 65536) (hhf : F16.isFinite h = true) :
    ¬ (F16.val (pack x) < F16.val h ∧ F16.val h < F32.val x) ∧
    ¬ (F32.val x < F16.val h ∧ F16.val h < F16.val (pack x)) ∧
    (F16.val h = F32.val x → F16.val (pack x) = F32.val x) := by
  exact gen_faithful packs_pack magLaw_pack x hx hlt h hh hhf

/-- Every finite half is strictly inside the threshold, so for `|x| ≥ 65520` the infinity delivered by
`C14_pack_overflow` is the representable neighbour on the far side (nothing finite lies beyond `x`). -/
theorem C14_half_below_threshold (h : Nat) (hf : F16.isFinite h = true) : F16.mag h < 65520 * 2 ^ 149 := by
  rw [F16.mag_mod h]
  exact F16.mag_lt_threshold _ ((F16.isFinite_iff h).1 hf)

/-- Monotone on all non-NaN arguments, infinities included (`val` of an infinity is `±2^(emax+1)`, which
keeps the order of the extended reals inside each format). -/
theorem C14_pack_monotone (x y : Nat) (hx : x < 4294967296) (hy : y < 4294967296)
    (nx : F32.isNaN x = false) (ny : F32.isNaN y = false) (hle : F32.val x ≤ F32.val y) :
    F16.val (pack x) ≤ F16.val (pack y) := by
  exact gen_monotone packs_pack magLaw_pack x y hx hy nx ny hle

/-- The `2^(emax+1)` convention is order-preserving: every finite pattern is strictly below the infinity of
its format in magnitude. -/
theorem C14_inf_convention (x h : Nat) (hf : F32.isFinite x = true) (hhf : F16.isFinite h = true) :
    F32.mag x < F32.mag 0x7F800000 ∧ F16.mag h < F16.mag 0x7C00 := by
  have h1 := (F32.isFinite_iff x).1 hf
  have h2 := (F16.isFinite_iff h).1 hhf
  rw [F32.mag_mod x, F16.mag_mod h]
  exact ⟨F32.mag_strict _ _ h1 (by omega), F16.mag_strict _ _ h2 (by omega)⟩

/-- `pack` ignores the 12 least significant bits of a finite argument (they are masked off before the
multiplication): it factors through the sign and `|x| / 4096`.  This is what reduces the `2^32` inputs to
`2 · 522 240` classes. -/
theorem C14_pack_factors (x y : Nat) (hx : x < 4294967296) (hy : y < 4294967296)
    (hf : F32.isFinite x = true) (hk : x / 4096 = y / 4096) : pack x = pack y := by
  have h1 := (F32.isFinite_iff x).1 hf
  have e1 : ∀ z, z % 2147483648 / 4096 = z / 4096 % 524288 := fun z => Nat.mod_mul_right_div_self z 4096 524288
  have e2 : ∀ z, z / 2147483648 = z / 4096 / 524288 := fun z => (Nat.div_div_eq_div_mul z 4096 524288).symm
  have hk' : x % 2147483648 / 4096 = y % 2147483648 / 4096 := by rw [e1, e1, hk]
  rw [pack_eq x hx, pack_eq y hy, packMag_fin _ h1, packMag_fin _ (by omega), hk', e2 x, e2 y, hk]

/-- The round-to-nearest-even packer that models the Python target (`struct.pack("<e", …)`) also reproduces
every non-NaN half after `unpack` and keeps NaNs NaN. -/
theorem C14_packRne_roundtrip (h : Nat) (hh : h < 65536) :
    (F16.isNaN h = false → packRne (unpack h) = h) ∧
    (F16.isNaN h = true → F16.isNaN (packRne (unpack h)) = true) := by
  exact gen_roundtrip packs_packRne magLaw_packRneC h hh

/-! The repaired packer `packRneC` (ties to even; fix for F14), all `2^32` patterns: same statements as for `pack`,
plus ties-to-even and the equality with the round-to-nearest-even model `packRne` of the Python target.  Which of
the two theorem sets applies to the tree under check is decided by the harness from the shape of the template
(`mant_odd` present ⇒ `packRneC`). -/

theorem C14_packRneC_sign (x : Nat) (hx : x < 4294967296) :
    packRneC x < 65536 ∧ F16.neg (packRneC x) = F32.neg x := by
  exact ⟨gen_lt packs_packRneC magLaw_packRneC x hx, gen_neg packs_packRneC magLaw_packRneC x hx⟩

theorem C14_packRneC_nan (x : Nat) (hx : x < 4294967296) : F16.isNaN (packRneC x) = F32.isNaN x := by
  exact gen_nan packs_packRneC magLaw_packRneC x hx

theorem C14_packRneC_inf (x : Nat) (hx : x < 4294967296) (hi : F32.isInf x = true) :
    F16.isInf (packRneC x) = true := by
  exact gen_inf packs_packRneC magLaw_packRneC x hx hi

/-- Same overflow boundary as before the repair: `|x| ≥ 65520` ⇔ ±infinity. -/
theorem C14_packRneC_overflow (x : Nat) (hx : x < 4294967296) (hf : F32.isFinite x = true) :
    F16.isInf (packRneC x) = true ↔ 65520 * 2 ^ 149 ≤ F32.mag x := by
  exact gen_overflow packs_packRneC magLaw_packRneC x hx hf

theorem C14_packRneC_nearest (x : Nat) (hx : x < 4294967296) (hlt : F32.mag x < 65520 * 2 ^ 149) :
    F16.isFinite (packRneC x) = true ∧
    ∀ h, h < 65536 → F16.isFinite h = true →
      (F16.val (packRneC x) - F32.val x).natAbs ≤ (F16.val h - F32.val x).natAbs := by
  exact gen_nearest packs_packRneC magLaw_packRneC x hx hlt

theorem C14_packRneC_faithful (x : Nat) (hx : x < 4294967296)
    (hlt : F32.mag x < 65520 * 2 ^ 149) (h : Nat) (hh : h < 65536) (hhf : F16.isFinite h = true) :
    ¬ (F16.val (packRneC x) < F16.val h ∧ F16.val h < F32.val x) ∧
    ¬ (F32.val x < F16.val h ∧ F16.val h < F16.val (packRneC x)) ∧
    (F16.val h = F32.val x → F16.val (packRneC x) = F32.val x) := by
  exact gen_faithful packs_packRneC magLaw_packRneC x hx hlt h hh hhf

theorem C14_packRneC_monotone (x y : Nat) (hx : x < 4294967296) (hy : y < 4294967296)
    (nx : F32.isNaN x = false) (ny : F32.isNaN y = false) (hle : F32.val x ≤ F32.val y) :
    F16.val (packRneC x) ≤ F16.val (packRneC y) := by
  exact gen_monotone packs_packRneC magLaw_packRneC x y hx hy nx ny hle

/-- Ties go to even: if `|x|` is exactly half-way between the adjacent finite halves with magnitude patterns
`p` and `p+1`, the magnitude of the result is the even one of the two patterns (its sign is that of `x`:
`C14_packRneC_sign`). -/
theorem C14_packRneC_ties_to_even (x p : Nat) (hx : x < 4294967296) (hp : p + 1 < 31744)
    (hmid : 2 * F32.mag x = F16.mag p + F16.mag (p + 1)) :
    packRneC x % 32768 = if p % 2 = 0 then p else p + 1 := by
  exact gen_ties_to_even packs_packRneC magLaw_packRneC (fun a ha => (packMag2_bracket a ha).2) x p hx hp hmid

/-- Round trip through the repaired packer. -/
theorem C14_packRneC_roundtrip (h : Nat) (hh : h < 65536) :
    (F16.isNaN h = false → packRneC (unpack h) = h) ∧
    (F16.isNaN h = true → F16.isNaN (packRneC (unpack h)) = true) := by
  exact gen_roundtrip packs_packRneC magLaw_packRneC h hh

/-- The repaired C/C++ packer and the round-to-nearest-even model of the Python target
(`struct.pack("<e", …)`) are the same function on all `2^32` patterns (this is the cross-target statement behind
F14; the tie of `packRne` to CPython is by correspondence, see the harness). -/
theorem C14_packRneC_eq_packRne (x : Nat) (hx : x < 4294967296) : packRneC x = packRne x := by
  rw [packRneC_eq x hx, packRne_eq x hx]

/-! The behaviour of `pack` on ties, as it is (documented for F14; not demanded by C14). -/

/-- Ties go away from zero: `1 + 2^-11` packs to `0x3C01` (round-to-nearest-even would give `0x3C00`),
`2^-25` packs to `0x0001`. -/
example : pack 0x3F801000 = 0x3C01 ∧ packRne 0x3F801000 = 0x3C00 ∧ pack 0x33000000 = 1 ∧ packRne 0x33000000 = 0 := by
  decide
/-- The packer before the repair does not round ties to even (regression witness for F14). -/
example : ¬ (pack 0x3F801000 % 32768 = if 0x3C00 % 2 = 0 then 0x3C00 else 0x3C00 + 1) ∧
    2 * F32.mag 0x3F801000 = F16.mag 0x3C00 + F16.mag (0x3C00 + 1) ∧ packRneC 0x3F801000 = 0x3C00 := by
  decide

example : pack 0x3F800000 = 0x3C00 ∧ unpack 0x3C00 = 0x3F800000 := by decide
example : F32.isFinite 0x477FEFFF = true ∧ F32.mag 0x477FEFFF < 65520 * 2 ^ 149 ∧ pack 0x477FEFFF = 0x7BFF := by decide
example : F32.isFinite 0x477FF000 = true ∧ F32.mag 0x477FF000 = 65520 * 2 ^ 149 ∧ pack 0x477FF000 = 0x7C00 := by decide
example : F16.isNaN 0xFE01 = true ∧ F16.isNaN (pack (unpack 0xFE01)) = true ∧ pack (unpack 0xFE01) ≠ 0xFE01 := by decide
example : F32.val 0xBF800000 ≤ F32.val 0x00000001 ∧ F16.val (pack 0xBF800000) ≤ F16.val (pack 0x00000001) := by decide
example : packRneC 0x3F800000 = 0x3C00 ∧ packRneC 0x477FEFFF = 0x7BFF ∧ packRneC 0x477FF000 = 0x7C00 ∧
    packRneC 0x33000001 = 1 ∧ packRneC 0x33000000 = 0 ∧ packRneC 0xFFC00001 = 0xFE00 := by decide

end NunavutVerif.Float16
