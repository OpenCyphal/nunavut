import NunavutVerif.Lemmas.Strop
import NunavutVerif.Lemmas.StropGlue
import NunavutVerif.Gen.StropCfg
import NunavutVerif.Gen.StropGlue
/-!
# C09 — identifier stropping always yields valid, unreserved, deterministic identifiers

The property theorems, each group followed by evaluated examples that meet its hypotheses: first `strop` itself
(`Model/Strop.lean`), then the glue around it (`Model/StropGlue.lean`).
-/
namespace NunavutVerif.Strop
open NunavutVerif.Regex NunavutVerif.Gen.StropCfg

/-- T1 (structural, ANY configuration, any handler): a token that `strop` returns is not reserved, matches no
reserved pattern of `all` / its id type, and no encoding rule of `all` / its id type matches at its start.
(For the code as found this holds only when no failure handler supplied the token — `stropTraceBeforeFix`,
see the witness below.) -/
theorem C09_structural_recheck (cfg : Cfg) (tok ty r : Str) (h : strop cfg tok ty = .ok r) :
    isReserved cfg r = false ∧
    patDry cfg tyAll r = false ∧ patDry cfg (lowerAscii ty) r = false ∧
    encodeDry cfg tyAll r = false ∧ encodeDry cfg (lowerAscii ty) r = false := by
  obtain ⟨g, hg⟩ := strop_ok_iff.mp h
  have hr := stropTrace_rechecked hg
  exact ⟨hr.reserved, hr.patAll, hr.patTy, hr.encAll, hr.encTy⟩

/-- T2 (the three shipped configurations as generated from the tree under check, every non-empty token, every
id type incl. unknown ones): whatever `strop` returns is `[A-Za-z_][A-Za-z0-9_]*`, is not a reserved identifier
and matches no reserved pattern of `all` / its id type (`acceptable`) — handler paths included. -/
theorem C09_shipped_valid_unreserved (cfg : Cfg) (hcfg : cfg = cfgC ∨ cfg = cfgCpp ∨ cfg = cfgPy)
    (tok ty r : Str) (ht : tok ≠ []) (h : strop cfg tok ty = .ok r) :
    acceptable cfg (lowerAscii ty) r = true := by
  obtain ⟨hw, hr, hd⟩ := shipped_ingredients hcfg
  exact strop_acceptable hw hr hd ht h

/-- T2 for any configuration that has the three recognisable ingredients (prefix / suffix / encoding prefix /
whitespace character made of word characters; an `all` encoding rule `[K]+` whose complement is word
characters; a leading ASCII digit caught by an `all` pattern or encoding rule) — e.g. the override stream of
the harness with word-character prefixes. -/
theorem C09_valid_unreserved_of_ingredients (cfg : Cfg) (hw : WordCfg cfg) (hr : HasNonWordRule cfg)
    (hd : CatchesLeadingDigit cfg) (tok ty r : Str) (ht : tok ≠ []) (h : strop cfg tok ty = .ok r) :
    acceptable cfg (lowerAscii ty) r = true :=
  strop_acceptable hw hr hd ht h

/-- T3 (fixed point, ANY configuration): a token that is not reserved, matches no reserved pattern of `all` /
its id type and in which no encoding rule of `all` / its id type matches anywhere is returned unchanged, with
no handler involved.  (In particular every token that satisfies `acceptable` and `encodingFree`.) -/
theorem C09_fixed_point (cfg : Cfg) (tok ty : Str) (hty : lowerAscii ty ≠ tyAll)
    (hres : isReserved cfg tok = false) (hp1 : patDry cfg tyAll tok = false)
    (hp2 : patDry cfg (lowerAscii ty) tok = false) (henc : encodingFree cfg (lowerAscii ty) tok = true) :
    strop cfg tok ty = .ok tok ∧ stropTrace cfg tok ty = .ok (tok, false) := by
  have h := strop_fixed hty hres hp1 hp2 henc
  exact ⟨by simp [strop, h, Except.map], h⟩

/-- T3 in the property's words. -/
theorem C09_acceptable_unchanged (cfg : Cfg) (tok ty : Str) (hty : lowerAscii ty ≠ tyAll)
    (hacc : acceptable cfg (lowerAscii ty) tok = true) (henc : encodingFree cfg (lowerAscii ty) tok = true) :
    strop cfg tok ty = .ok tok := by
  simp only [acceptable, Bool.and_eq_true, Bool.not_eq_true'] at hacc
  exact (C09_fixed_point cfg tok ty hty hacc.1.1.2 hacc.1.2 hacc.2 henc).1

/-- The id type `all` (any ASCII spelling) is refused. -/
theorem C09_type_all_is_value_error (cfg : Cfg) (tok ty : Str) (hty : lowerAscii ty = tyAll) :
    strop cfg tok ty = .error .valueError := by
  simp [strop, stropTrace, stropTraceBeforeFix, hty, Except.map]

/-- For the shipped configurations the proposed fix changes nothing, on any input: no reserved identifier has
the form of a handler token (`_`, or `_` + a character that is neither `_` nor `A-Z`) and no reserved pattern or
encoding rule can match at the start of one (`handlerSafe`, decided over the whole generated tables); py has no
handler. -/
theorem C09_shipped_fix_is_identity (cfg : Cfg) (hcfg : cfg = cfgC ∨ cfg = cfgCpp ∨ cfg = cfgPy) (tok ty : Str) :
    stropBeforeFix cfg tok ty = strop cfg tok ty := by
  unfold stropBeforeFix strop
  rcases hcfg with rfl | rfl | rfl
  · rw [stropTrace_eq_beforeFix handlerSafeC]
  · rw [stropTrace_eq_beforeFix handlerSafeCpp]
  · rw [stropTrace_eq_beforeFix_of_no_handler rfl rfl]

/-- T2 for the code as found (`stropBeforeFix`), shipped configurations. -/
theorem C09_shipped_valid_unreserved_before_fix (cfg : Cfg) (hcfg : cfg = cfgC ∨ cfg = cfgCpp ∨ cfg = cfgPy)
    (tok ty r : Str) (ht : tok ≠ []) (h : stropBeforeFix cfg tok ty = .ok r) :
    acceptable cfg (lowerAscii ty) r = true := by
  rw [C09_shipped_fix_is_identity cfg hcfg] at h
  exact C09_shipped_valid_unreserved cfg hcfg tok ty r ht h

/-! ### non-vacuity: the theorems' hypotheses are met by non-trivial runs (strings as code points) -/
section examples
private def lit (x : String) : Str := x.toList.map Char.toNat

-- keyword, prefix: `for` ↦ `_for`; suffix: `if` ↦ `if_`
example : strop cfgC (lit "for") (lit "any") = .ok (lit "_for") := by decide +kernel
example : strop cfgPy (lit "if") (lit "any") = .ok (lit "if_") := by decide +kernel
-- encoding, then a reserved pattern of C++ (`^\d{1}`): `1 a-` ↦ `_1_azX002D`
example : strop cfgCpp (lit "1 a-") (lit "path") = .ok (lit "_1_azX002D") := by decide +kernel
example : strop cfgC (lit "1 a-") (lit "path") = .ok (lit "zX0031_azX002D") := by decide +kernel
-- typed patterns: `isfoo` is reserved for functions only
example : strop cfgC (lit "isfoo") (lit "function") = .ok (lit "_isfoo") := by decide +kernel
example : strop cfgC (lit "isfoo") (lit "macro") = .ok (lit "isfoo") := by decide +kernel
example : strop cfgC (lit "isfoo") (lit "ANY") = .ok (lit "_isfoo") := by decide +kernel
-- the failure handler fires and its token survives the final verification
example : stropTrace cfgC (lit "__Bool") (lit "any") = .ok (lit "_bool", true) := by decide +kernel
example : stropTrace cfgCpp (lit "_A") (lit "any") = .ok (lit "_a", true) := by decide +kernel
-- fixed point and its side condition: `a__` is a C identifier but C++'s rule `_{2,}$` encodes it
example : acceptable cfgCpp (lit "any") (lit "abc") = true ∧ encodingFree cfgCpp (lit "any") (lit "abc") = true := by decide +kernel
example : acceptable cfgCpp (lit "any") (lit "a__") = true ∧ encodingFree cfgCpp (lit "any") (lit "a__") = false ∧
    strop cfgCpp (lit "a__") (lit "any") = .ok (lit "azX005FzX005F") := by decide +kernel
example : strop cfgC (lit "x") (lit "All") = .error .valueError := by decide +kernel
end examples

/-! ### The defect of the code as found (regression witness, replayed on the implementation by the harness)

C configuration with the single extra reserved identifier `_for`: `for` ↦ `_for` ↦ `__for` (keyword, twice)
↦ `___for` ↦ `____for` (pattern `^__`, for `all` and for `any`) ↦ handler ↦ `_for`, which is reserved, ↦ handler again
↦ `_for`, returned. -/
def cfgWitness : Cfg := { cfgC with reserved := [95, 102, 111, 114] :: cfgC.reserved }

example : stropBeforeFix cfgWitness [102, 111, 114] [97, 110, 121] = .ok [95, 102, 111, 114] ∧
    isReserved cfgWitness [95, 102, 111, 114] = true := by decide +kernel

/-- the repaired code raises instead -/
example : strop cfgWitness [102, 111, 114] [97, 110, 121] = .error .illegalToken := by decide +kernel

end NunavutVerif.Strop

/-!
# The glue around `strop` (`Model/StropGlue.lean`)

A: configuration ↦ encoder tables (`TokenEncoder.__init__` over an explicit heap of `list` objects);
B: `Language.filter_id` (string conversion in front, the id types templates and Python sources really pass);
C: determinism at full strength — the caches (`cached_property _token_encoder`, `lru_cache` on `strop`) as a state machine.
-/
namespace NunavutVerif.Strop
open NunavutVerif.Regex NunavutVerif.StropGlue NunavutVerif.Gen.StropCfg NunavutVerif.Gen.StropGlue

/-- A1 (the shipped languages, decided over the generated data): the tables the real `TokenEncoder` objects hold
(`cfgC`, `cfgCpp`, `cfgPy`: dumped by translate/stropcfg.py) are exactly what `assemble` makes of the loaded defaults
(`doc`: sections, list objects and their sharing regenerated by translate/stropglue.py) and of the language classes' own
contributions (`code_*`: additional reserved identifiers, failure handlers). -/
theorem C09_shipped_tables_are_assembled :
    aget doc.sections [99] = some section_c ∧ aget doc.sections [99, 112, 112] = some section_cpp ∧
    aget doc.sections [112, 121] = some section_py ∧
    assemble rangesIsSpace compile doc.cells section_c code_c = .ok cfgC ∧
    assemble rangesIsSpace compile doc.cells section_cpp code_cpp = .ok cfgCpp ∧
    assemble rangesIsSpace compile doc.cells section_py code_py = .ok cfgPy :=
  ⟨by rfl, by rfl, by rfl, by rfl, by rfl, by rfl⟩

/-- A2 (any configuration, any heap): constructing an encoder never writes to an existing `list` object — the heap
afterwards is the heap before plus fresh objects — and the object the encoder holds exists. -/
theorem C09_encoder_construction_only_allocates (compile : Str → Option Re) (h : Heap) (sec : Section) (lc : LangCode)
    (e : Enc) (h' : Heap) (hn : newEncoder compile h sec lc = .ok (e, h')) :
    ∃ ext, h' = h ++ ext ∧ e.reserved < h'.length := by
  obtain ⟨⟨ext, rfl⟩, hlt⟩ := newEncoder_frame hn
  exact ⟨ext, rfl, hlt⟩

/-- A3 (isolation, any configurations): whatever other encoders are constructed — any sections, any language classes,
any number, any order, successfully or not — (1) an encoder that exists shows the same tables afterwards, although it may
hold a `list` object that other sections share, and (2) a section assembles to the same tables afterwards.  One
language's additions never reach another language's tables. -/
theorem C09_tables_unaffected_by_other_encoders (space : List (Nat × Nat)) (compile : Str → Option Re) (h : Heap)
    (others : List (Section × LangCode)) :
    (∀ e : Enc, e.reserved < h.length → e.cfg space (buildAll compile h others) = e.cfg space h) ∧
    (∀ sec lc, secWf h.length sec = true →
      assemble space compile (buildAll compile h others) sec lc = assemble space compile h sec lc) := by
  obtain ⟨ext, hext⟩ := buildAll_append compile h others
  rw [← hext]
  exact ⟨fun e he => cfg_append he, fun sec lc hwf => assemble_append hwf⟩

/-- the generated defaults document is closed: its sections name its own list objects only -/
theorem C09_generated_document_closed : docWf Gen.StropGlue.env.doc = true := by decide +kernel

/-- A3 on the shipped data: in one `LanguageContext` (one loaded document: `c` and `cpp` name the same list object),
after the encoders of the other languages were built in any order and any multiplicity, each shipped language still
assembles to its tables. -/
theorem C09_shipped_tables_in_every_construction_order (others : List (Section × LangCode)) :
    assemble rangesIsSpace compile (buildAll compile doc.cells others) section_c code_c = .ok cfgC ∧
    assemble rangesIsSpace compile (buildAll compile doc.cells others) section_cpp code_cpp = .ok cfgCpp ∧
    assemble rangesIsSpace compile (buildAll compile doc.cells others) section_py code_py = .ok cfgPy := by
  have h := (C09_tables_unaffected_by_other_encoders rangesIsSpace compile doc.cells others).2
  have t := C09_shipped_tables_are_assembled
  have hd := C09_generated_document_closed
  rw [h _ _ (docWf_get hd t.1), h _ _ (docWf_get hd t.2.1), h _ _ (docWf_get hd t.2.2.1)]
  exact t.2.2.2

/-! non-vacuity of A3: the two sections really share an object, and the statement separates `a = a + b` from `a += b`:
with the in-place variant (NOT the code) building a C++ encoder that brings `std` along changes what the C section
assembles to. -/
example : getList section_c kReserved = getList section_cpp kReserved ∧ (getList section_c kReserved).isSome = true := by
  decide +kernel

example : (match newEncoderExtendInPlace compile doc.cells section_cpp { code_cpp with additional := some [[115, 116, 100]] } with
    | .ok (_, h2) => decide (assemble rangesIsSpace compile h2 section_c code_c ≠ .ok cfgC)
    | .error _ => false) = true := by decide +kernel

example : (match newEncoder compile doc.cells section_cpp { code_cpp with additional := some [[115, 116, 100]] } with
    | .ok (_, h2) => decide (assemble rangesIsSpace compile h2 section_c code_c = .ok cfgC)
    | .error _ => false) = true := by
  split
  · -- A2, A3 and A1 apply
    rename_i e h2 hn
    obtain ⟨⟨ext, rfl⟩, _⟩ := newEncoder_frame hn
    have t := C09_shipped_tables_are_assembled
    rw [decide_eq_true_eq, assemble_append (docWf_get (d := doc) C09_generated_document_closed t.1)]
    exact t.2.2.2.1
  · -- the construction does not fail (evaluated)
    rename_i e hn
    have hok : (newEncoder compile doc.cells section_cpp { code_cpp with additional := some [[115, 116, 100]] }).toBool = true := by
      decide +kernel
    rw [hn] at hok
    cases hok

/-- B1 (shipped configurations, every instance — string, number, bool, `None`, object with a `name` — whose string form
is not empty, every id type): what `filter_id` returns is a valid, unreserved identifier. -/
theorem C09_filter_id_valid_unreserved (cfg : Cfg) (hcfg : cfg = cfgC ∨ cfg = cfgCpp ∨ cfg = cfgPy)
    (i : Inst) (ty r : Str) (hne : rawName i ≠ []) (h : filterId true cfg i ty = .ok r) :
    acceptable cfg (lowerAscii ty) r = true := by
  simp only [filterId, ↓reduceIte] at h
  exact C09_shipped_valid_unreserved cfg hcfg (rawName i) ty r hne h

/-- B1 for instances that are not strings (numbers, bools, `None`, directly or as the `name` of an object): no side
condition, `str()` of them is never empty. -/
theorem C09_filter_id_of_non_string_instance (cfg : Cfg) (hcfg : cfg = cfgC ∨ cfg = cfgCpp ∨ cfg = cfgPy)
    (a : Atom) (ha : ∀ s, a ≠ .text s) (ty r : Str) :
    (filterId true cfg (.plain a) ty = .ok r → acceptable cfg (lowerAscii ty) r = true) ∧
    (filterId true cfg (.named a) ty = .ok r → acceptable cfg (lowerAscii ty) r = true) :=
  ⟨C09_filter_id_valid_unreserved cfg hcfg (.plain a) ty r (atomStr_ne_nil a ha),
   C09_filter_id_valid_unreserved cfg hcfg (.named a) ty r (atomStr_ne_nil a ha)⟩

/-- B2 (recorded reading, ANY configuration): an id type that has no entry of its own — neither reserved patterns nor
encoding rules — is treated exactly as if the configuration had its `all` entries only. -/
theorem C09_unknown_id_type_falls_back_to_all (cfg : Cfg) (tok ty : Str) (hu : unknownType cfg ty = true) :
    strop cfg tok ty = strop (allOnly cfg) tok ty := by
  simp only [unknownType, Bool.and_eq_true, Option.isNone_iff_eq_none] at hu
  have lp : ∀ k, k = tyAll ∨ lookup cfg.patterns k = none → lookup (allOnly cfg).patterns k = lookup cfg.patterns k :=
    lookup_allOnly cfg.patterns
  have lr : ∀ k, k = tyAll ∨ lookup cfg.rules k = none → lookup (allOnly cfg).rules k = lookup cfg.rules k :=
    lookup_allOnly cfg.rules
  -- `strop` reads the two tables through these four look-ups only; every other field is the same by definition
  unfold strop stropTrace stropTraceBeforeFix verify realPipeline patStrop kwStrop patDry encodeDry encodeReal
  simp only [lp tyAll (Or.inl rfl), lp _ (Or.inr hu.1), lr tyAll (Or.inl rfl), lr _ (Or.inr hu.2)]
  rfl

/-- `ValueError` is raised for the id type `all` and for nothing else (any configuration). -/
theorem C09_value_error_iff_type_all (cfg : Cfg) (tok ty : Str) :
    strop cfg tok ty = .error .valueError ↔ lowerAscii ty = tyAll :=
  ⟨strop_valueError, C09_type_all_is_value_error cfg tok ty⟩

/-- B3 (a fact about the generated call-site table: every `| id…` / `short_reference_name(id_type=…)` in every shipped
template, every call of `filter_id` / `filter_short_reference_name` / `strop` / `filter_id_for_target` in the Python
sources, with its literal id type): the site belongs to a stropping language; its id type is never `all`; it is `any`, or
an id type the language configures, or — the only id type in use that falls back to `all` — `path`. -/
theorem C09_id_site_table_facts :
    idSites ≠ [] ∧
    ∀ s ∈ idSites, (cfgOfLang s.lang).isSome = true ∧ lowerAscii s.ty ≠ tyAll ∧
      ∀ cfg, cfgOfLang s.lang = some cfg →
        (unknownType cfg s.ty = false ∨ s.ty = [112, 97, 116, 104]) := by
  decide +kernel

/-- B3, the property at every call site: for every id type a shipped template or Python source passes, on every
instance with a non-empty string form, `filter_id` does not raise `ValueError`, whatever it returns is a valid, unreserved
identifier, and where the language has no entries for the id type the answer is the `all`-only answer. -/
theorem C09_every_used_id_type_is_handled (s : Site) (hs : s ∈ idSites) :
    ∃ cfg, cfgOfLang s.lang = some cfg ∧ ∀ (i : Inst), rawName i ≠ [] →
      filterId true cfg i s.ty ≠ .error .valueError ∧
      (∀ r, filterId true cfg i s.ty = .ok r → acceptable cfg (lowerAscii s.ty) r = true) ∧
      (unknownType cfg s.ty = true → filterId true cfg i s.ty = filterId true (allOnly cfg) i s.ty) := by
  obtain ⟨hsome, hall, _⟩ := C09_id_site_table_facts.2 s hs
  cases hc : cfgOfLang s.lang with
  | none => simp [hc] at hsome
  | some cfg =>
    refine ⟨cfg, rfl, ?_⟩
    have hcfg : cfg = cfgC ∨ cfg = cfgCpp ∨ cfg = cfgPy := by
      unfold cfgOfLang at hc
      repeat' split at hc
      all_goals cases hc
      · exact Or.inl rfl
      · exact Or.inr (Or.inl rfl)
      · exact Or.inr (Or.inr rfl)
    intro i hne
    refine ⟨?_, fun r hr => C09_filter_id_valid_unreserved cfg hcfg i s.ty r hne hr, ?_⟩
    · simp only [filterId, ↓reduceIte]
      intro hv
      exact hall ((C09_value_error_iff_type_all cfg _ _).mp hv)
    · intro hu
      simp only [filterId, ↓reduceIte]
      exact C09_unknown_id_type_falls_back_to_all cfg _ _ hu

/-- C1: the invariant — every cached `_token_encoder` shows what its section assembles to, every entry of the
`lru_cache` is what `strop` answers for its key, all references are live — holds initially and is preserved by every
step (a new context with any overrides, any call of any context's `filter_id`). -/
theorem C09_cache_invariant (env : Env) (hd : docWf env.doc = true) :
    Inv env Proc.init ∧ ∀ p op, Inv env p → Inv env (step env p op) :=
  ⟨inv_init env, fun _ op hi => (step_extends hd hi op).inv⟩

/-- C2: in every state that satisfies the invariant a call answers what the specification answers — a fresh encoder
assembled from the context's configuration, `strop` on it, no cache — whatever the caches hold. -/
theorem C09_answer_is_pure_function (env : Env) (p : Proc) (hi : Inv env p) (ci : Nat) (ctx : Ctx)
    (hc : p.ctxs[ci]? = some ctx) (lang : Str) (inst : Inst) (ty : Str) :
    (use env p ci lang inst ty).2.result = pureAnswer env p.heap ctx.sections lang inst ty :=
  (use_spec hi ci lang inst ty).2 ctx hc

/-- C3 (history independence, full strength): after ANY further history — new contexts in any languages with any
overrides, calls of any context's any language with any instances and id types, cache hits, misses, evictions, failed
constructions — the answer of a context is still the function of (its configuration, language, instance, id type) it
was before. -/
theorem C09_answer_independent_of_history (env : Env) (hd : docWf env.doc = true) (p : Proc) (hi : Inv env p)
    (ops : List Op) (ci : Nat) (ctx : Ctx) (hc : p.ctxs[ci]? = some ctx) (lang : Str) (inst : Inst) (ty : Str) :
    (use env (run env p ops) ci lang inst ty).2.result = pureAnswer env p.heap ctx.sections lang inst ty := by
  have hx := run_extends hd ops hi
  obtain ⟨ctx', hc', hsec⟩ := hx.ctxs ci ctx hc
  obtain ⟨ext, hext⟩ := hx.heap
  rw [C09_answer_is_pure_function env _ hx.inv ci ctx' hc' lang inst ty, hsec, ← hext]
  exact pureAnswer_append env p.heap ext ctx.sections lang inst ty
    (fun sec hs => hi.secs ctx (List.mem_of_getElem? hc) lang sec hs)

/-- C3 in the property's words: two processes that created the same context and then went through different histories
answer the same call alike. -/
theorem C09_same_call_same_answer (env : Env) (hd : docWf env.doc = true) (p : Proc) (hi : Inv env p)
    (ops1 ops2 : List Op) (ci : Nat) (hc : ci < p.ctxs.length) (lang : Str) (inst : Inst) (ty : Str) :
    (use env (run env p ops1) ci lang inst ty).2.result = (use env (run env p ops2) ci lang inst ty).2.result := by
  have hget : p.ctxs[ci]? = some p.ctxs[ci] := List.getElem?_eq_getElem hc
  rw [C09_answer_independent_of_history env hd p hi ops1 ci _ hget, C09_answer_independent_of_history env hd p hi ops2 ci _ hget]

/-- C4 (same in every process): a context created at ANY point of ANY history — whatever contexts, encoders and cache
entries the process already has — answers every later call, after any further history, exactly as `standalone`
does: the same configuration (defaults document + overrides of the target language) assembled in a process that does
nothing else.  Together with C3: an answer is a function of (defaults, target language, overrides, language, instance,
id type) and of nothing else. -/
theorem C09_context_answers_as_in_fresh_process (env : Env) (hd : docWf env.doc = true) (p : Proc) (hi : Inv env p)
    (target : Str) (ov : List (Str × OVal)) :
    (standalone env target ov = none ∧ load env p target ov = .error .keyError) ∨
    ∃ h0 s0 p', standalone env target ov = some (h0, s0) ∧ load env p target ov = .ok p' ∧
      ∀ (ops : List Op) (lang : Str) (inst : Inst) (ty : Str),
        (use env (run env p' ops) p.ctxs.length lang inst ty).2.result = pureAnswer env h0 s0 lang inst ty := by
  rcases load_eq_standalone env p target ov with hnone | ⟨h0, s0, hs, hl⟩
  · exact Or.inl hnone
  · refine Or.inr ⟨h0, s0, _, hs, hl, ?_⟩
    intro ops lang inst ty
    have hx := load_extends hd hi target ov hl
    rw [C09_answer_independent_of_history env hd _ hx.inv ops p.ctxs.length _ List.getElem?_concat_length lang inst ty]
    exact pureAnswer_reloc env p.heap h0 s0 lang inst ty

/-! non-vacuity of C: on the generated environment, after a history with a second context (with an override) and a
refused call, the cache answers a repeated call in either context (`hit`); a new call in the first context is a miss and
does not see the second context's override; the answer is the specification's.  (`hist` is `sampleHistory` of
`Lemmas/StropGlue.lean`, where the three observations are evaluated together.) -/
section examples
private def lit2 (x : String) : Str := x.toList.map Char.toNat
private def hist : List Op :=
  [.load (lit2 "c") [], .use 0 (lit2 "c") (.plain (.text (lit2 "for"))) (lit2 "any"),
   .load (lit2 "cpp") [(lit2 "stropping_suffix", .str (lit2 "_s"))], .use 1 (lit2 "cpp") (.named (.text (lit2 "std"))) (lit2 "any"),
   .use 0 (lit2 "cpp") (.plain (.int false 7)) (lit2 "any"), .use 0 (lit2 "c") (.plain (.text (lit2 "x"))) (lit2 "all")]

example : (use Gen.StropGlue.env (run Gen.StropGlue.env Proc.init hist) 0 (lit2 "c") (.plain (.text (lit2 "for"))) (lit2 "any")).2
    = ⟨.ok (lit2 "_for"), false, true⟩ := sampleHistory_observed.1
example : (use Gen.StropGlue.env (run Gen.StropGlue.env Proc.init hist) 1 (lit2 "cpp") (.plain (.text (lit2 "std"))) (lit2 "any")).2
    = ⟨.ok (lit2 "_std_s"), false, true⟩ := sampleHistory_observed.2.1
example : (use Gen.StropGlue.env (run Gen.StropGlue.env Proc.init hist) 0 (lit2 "cpp") (.plain (.text (lit2 "std"))) (lit2 "any")).2
    = ⟨.ok (lit2 "_std"), false, false⟩ := sampleHistory_observed.2.2
-- the same context created third in a busy process and alone in a fresh one
example : (standalone Gen.StropGlue.env (lit2 "cpp") [(lit2 "stropping_suffix", .str (lit2 "_s"))]).isSome = true ∧
    (match standalone Gen.StropGlue.env (lit2 "cpp") [(lit2 "stropping_suffix", .str (lit2 "_s"))] with
     | some (h0, s0) => pureAnswer Gen.StropGlue.env h0 s0 (lit2 "cpp") (.plain (.text (lit2 "std"))) (lit2 "any")
     | none => .error .noContext) = .ok (lit2 "_std_s") := by decide +kernel
example : filterId true cfgPy (.plain (.int true 12)) (lit2 "any") = .ok (lit2 "zX002D12") ∧
    filterId true cfgC (.named .none) (lit2 "any") = .ok (lit2 "None") ∧
    filterId true cfgPy (.named .none) (lit2 "any") = .ok (lit2 "None_") := by decide +kernel
example : unknownType cfgC (lit2 "path") = true ∧ unknownType cfgC (lit2 "macro") = false ∧ unknownType cfgPy (lit2 "macro") = true := by
  decide +kernel
end examples

end NunavutVerif.Strop

