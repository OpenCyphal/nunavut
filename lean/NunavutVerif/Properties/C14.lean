import NunavutVerif.Lemmas.BitsC
import NunavutVerif.Lemmas.BitsCpp
import NunavutVerif.Lemmas.BitsPy
import NunavutVerif.Lemmas.BitsPyDe
/-!
# C14 — support-library bit primitives are correct for all offsets, lengths and values (integer/bit part)

The models are `Model/Bits.lean` (C), `Model/BitsCpp.lean` (C++ `bitspan`), `Model/BitsPy.lean` (Python
`Serializer`/`Deserializer`); the half-float part of C14 is in `Properties/C14Float.lean`.

Every theorem quantifies over *all* buffers, offsets, lengths, sizes and values.  A model function returns
`Except Err …`; `Err.oob` is an access outside a buffer, so `… = .ok r` *is* the statement "no out-of-bounds
access" (and no signed overflow, no wrap-around, no fuel exhaustion).  `bitAt b i` is bit `i` of buffer `b`
(LSB first in each byte, `false` outside), `zbit b size i` the same with only the first `size` bytes counted
(implicit zero extension), `fieldOf bit n` the number with bits `bit 0 … bit (n-1)`.
-/
namespace NunavutVerif.Bits

/-- T1 `nunavutCopyBits`, both branches (aligned `memmove` + last-byte mask; unaligned loop): under the documented
size precondition ("both source and destination shall be large enough") no access is out of bounds, the
destination keeps its size, and bit `i` of the result is source bit `sOff + (i - dOff)` inside
`[dOff, dOff+len)` and the old destination bit everywhere else. -/
theorem C14_copyBits (dst : Buf) (dOff len : Nat) (src : Buf) (sOff : Nat)
    (hs : len ≠ 0 → sOff + len ≤ src.length * 8) (hd : len ≠ 0 → dOff + len ≤ dst.length * 8) :
    ∃ r, copyBits dst dOff len src sOff = .ok r ∧ r.length = dst.length ∧ (WF src → WF dst → WF r) ∧
      ∀ i, bitAt r i = if dOff ≤ i ∧ i < dOff + len then bitAt src (sOff + (i - dOff)) else bitAt dst i :=
  copyBits_ok dst dOff len src sOff hs hd

/-- T1 companion: the bit specification of `C14_copyBits` *determines* the result, whichever branch produced it: any
two buffers of the destination's size whose bytes are bytes and whose bits are the specified ones are equal. -/
theorem C14_copyBits_unique (dst r₁ r₂ : Buf) (h₁ : r₁.length = dst.length) (h₂ : r₂.length = dst.length)
    (w₁ : WF r₁) (w₂ : WF r₂) (spec : Nat → Bool)
    (b₁ : ∀ i, bitAt r₁ i = spec i) (b₂ : ∀ i, bitAt r₂ i = spec i) : r₁ = r₂ :=
  eq_of_bitAt (by omega) w₁ w₂ (fun i => by rw [b₁, b₂])

/-- Fuel sufficiency of the loop model: for *any* buffers, offsets and length (also outside the size precondition)
the model of `nunavutCopyBits` never runs out of fuel, i.e. the `while (last_bit > src_off)` loop terminates
within `length_bits` iterations; the only possible failure is an access outside a buffer. -/
theorem C14_copyBits_fuel_sufficient (dst : Buf) (dOff len : Nat) (src : Buf) (sOff : Nat) :
    copyBits dst dOff len src sOff ≠ .error .fuel := by
  unfold copyBits
  split
  · -- the aligned branch has no loop with fuel: every error comes from a checked access
    simp only [memmove_guard]
    refine bind_ne_fuel (memmove_no_fuel src _ dst _ _) fun d1 => ?_
    split
    · exact bind_ne_fuel (get?_ne_fuel _ _) fun ld => bind_ne_fuel (get?_ne_fuel _ _) fun ls => set?_ne_fuel _ _ _
    · exact nofun
  · exact copyLoop_no_fuel len dst dOff src sOff (sOff + len) (by omega)

/-- `nunavutSaturateBufferFragmentBitLength` is `min len (size·8 ∸ off)`. -/
theorem C14_saturate (size off len : Nat) : saturate size off len = min len (size * 8 - off) :=
  saturate_eq size off len

/-- T2 `nunavutGetBits`: for every offset, length and buffer size there is no out-of-bounds access (given an
output of at least `ceil(len/8)` bytes, as documented), the first `ceil(len/8)` output bytes hold bits
`[off, off+len)` of the buffer with bits beyond the buffer read as 0 and zero padding up to the byte, and the rest
of the output is untouched. -/
theorem C14_getBits (out buf : Buf) (size off len : Nat) (hsize : size ≤ buf.length)
    (hout : (len + 7) / 8 ≤ out.length) :
    ∃ r, getBits out buf size off len = .ok r ∧ r.length = out.length ∧ (WF buf → WF out → WF r) ∧
      ∀ i, bitAt r i =
        if i < (len + 7) / 8 * 8 then (decide (i < len) && zbit buf size (off + i)) else bitAt out i :=
  getBits_spec out buf size off len hsize hout

/-- T3a `nunavutSetUxx` (both `target_endianness` renderings): a too-small buffer is reported and left unchanged. -/
theorem C14_setUxx_too_small (little : Bool) (buf : Buf) (size off value len : Nat) (h : size * 8 < off + len) :
    setUxx little buf size off value len = .ok (errTooSmall, buf) :=
  setUxx_small little buf size off value len h

/-- T3b `nunavutSetUxx`: otherwise success is returned, nothing is accessed out of bounds, and exactly the
`min len 64` addressed bits change, to the low bits of the value. -/
theorem C14_setUxx_writes (little : Bool) (buf : Buf) (size off value len : Nat) (hsize : size ≤ buf.length)
    (h : ¬ size * 8 < off + len) :
    ∃ r, setUxx little buf size off value len = .ok (0, r) ∧ r.length = buf.length ∧ (WF buf → WF r) ∧
      ∀ i, bitAt r i = if off ≤ i ∧ i < off + min len 64 then value.testBit (i - off) else bitAt buf i :=
  setUxx_spec little buf size off value len hsize h

/-- T3c `nunavutSetIxx`: as `SetUxx`, the written bits are the two's-complement bits of the value. -/
theorem C14_setIxx (little : Bool) (buf : Buf) (size off : Nat) (value : Int) (len : Nat)
    (hsize : size ≤ buf.length) :
    (size * 8 < off + len → setIxx little buf size off value len = .ok (errTooSmall, buf)) ∧
    (¬ size * 8 < off + len →
      ∃ r, setIxx little buf size off value len = .ok (0, r) ∧ r.length = buf.length ∧ (WF buf → WF r) ∧
        ∀ i, bitAt r i =
          if off ≤ i ∧ i < off + min len 64 then (value % 2 ^ 64).toNat.testBit (i - off) else bitAt buf i) :=
  ⟨fun h => setUxx_small little buf size off _ len h, fun h => setUxx_spec little buf size off _ len hsize h⟩

/-- T3d `nunavutSetBit`: error ⇔ the bit lies outside the buffer (buffer unchanged); otherwise exactly that bit is
set to the value. -/
theorem C14_setBit (buf : Buf) (size off : Nat) (value : Bool) (hsize : size ≤ buf.length) :
    (size * 8 ≤ off → setBit buf size off value = .ok (errTooSmall, buf)) ∧
    (¬ size * 8 ≤ off →
      ∃ r, setBit buf size off value = .ok (0, r) ∧ r.length = buf.length ∧ (WF buf → WF r) ∧
        ∀ i, bitAt r i = if i = off then value else bitAt buf i) :=
  ⟨setBit_small buf size off value, setBit_spec buf size off value hsize⟩

/-- `fieldOf` is characterised by its bits (so the statements below determine the returned numbers). -/
theorem C14_fieldOf_bits (bit : Nat → Bool) (n i : Nat) :
    (fieldOf bit n).testBit i = (decide (i < n) && bit i) :=
  testBit_fieldOf bit n i

/-- T4a `nunavutGetU8/16/32/64` (`W` = 8, 16, 32, 64; both renderings): for every offset, length and size the
result is the zero-extended bit field of saturated width `min len W`; nothing is read out of bounds. -/
theorem C14_getU (little : Bool) (W : Nat) (buf : Buf) (size off len : Nat) (hW : W % 8 = 0)
    (hsize : size ≤ buf.length) (hw : WF buf) :
    getU little W buf size off len = .ok (fieldOf (fun i => zbit buf size (off + i)) (min len W)) :=
  getU_spec little W buf size off len hW hsize hw

/-- T4b `nunavutGetI8/16/32/64`: two's-complement sign extension of the field of `sat = min len W` bits
(`u - 2^sat` when its top bit is set), through the `(-(intW_t) ~val) - 1` formulation, without signed overflow. -/
theorem C14_getI (little : Bool) (W : Nat) (buf : Buf) (size off len : Nat) (hW : W % 8 = 0) (hW0 : 0 < W)
    (hW64 : W ≤ 64) (hsize : size ≤ buf.length) (hw : WF buf) :
    getI little W buf size off len = .ok
      (let sat := min len W
       let u := fieldOf (fun i => zbit buf size (off + i)) sat
       if sat > 0 ∧ u.testBit (sat - 1) then (u : Int) - 2 ^ sat else (u : Int)) :=
  getI_spec little W buf size off len hW hW0 hW64 hsize hw

/-- T4c `nunavutGetBit`: the addressed bit, `false` beyond the buffer. -/
theorem C14_getBit (buf : Buf) (size off : Nat) (hsize : size ≤ buf.length) (hw : WF buf) :
    getBit buf size off = .ok (zbit buf size off) := by
  unfold getBit
  rw [getU_spec false 8 buf size off 1 (by omega) hsize hw]
  simp only [bind, Except.bind]
  cases h : zbit buf size off <;> simp [fieldOf, h]

/-- The `target_endianness: little` rendering computes the same functions as the portable one. -/
theorem C14_little_eq_any (W : Nat) (buf : Buf) (size off len value : Nat) (v : Int) (hW : W % 8 = 0)
    (hW0 : 0 < W) (hW64 : W ≤ 64) (hsize : size ≤ buf.length) (hw : WF buf) :
    getU true W buf size off len = getU false W buf size off len ∧
    getI true W buf size off len = getI false W buf size off len ∧
    setUxx true buf size off value len = setUxx false buf size off value len ∧
    setIxx true buf size off v len = setIxx false buf size off v len := by
  -- both renderings copy from the same source bytes (`u64Tmp_eq`)
  have hset : ∀ value, setUxx true buf size off value len = setUxx false buf size off value len := fun value => by
    simp only [setUxx, u64Tmp_eq, ite_self]
  refine ⟨?_, ?_, hset value, hset _⟩
  · rw [getU_spec _ _ _ _ _ _ hW hsize hw, getU_spec _ _ _ _ _ _ hW hsize hw]
  · rw [getI_spec _ _ _ _ _ _ hW hW0 hW64 hsize hw, getI_spec _ _ _ _ _ _ hW hW0 hW64 hsize hw]

-- unaligned copy of 11 bits from source bit 3 to destination bit 5
example : copyBits [0xFF, 0x00, 0xFF] 5 11 [0xA5, 0x3C, 0x7E] 3 = .ok [0x9F, 0xF2, 0xFF] := by decide
-- aligned copy of 11 bits (memmove + last-byte mask)
example : copyBits [0xFF, 0xFF, 0xFF] 8 11 [0xA5, 0x3C, 0x7E] 8 = .ok [0xFF, 0x3C, 0xFE] := by decide
-- a destination that is too small is detected by the model (the precondition of T1 is not vacuous)
example : copyBits [0xFF] 5 11 [0xA5, 0x3C, 0x7E] 3 = .error .oob := by decide
-- zero extension beyond the buffer
example : getBits [0xAA, 0xAA, 0xAA] [0xFF, 0xFF] 2 12 9 = .ok [0x0F, 0x00, 0xAA] := by decide
example : setUxx false [0, 0, 0] 3 7 0x1FF 9 = .ok (0, [0x80, 0xFF, 0]) := by decide
example : setUxx true [0, 0] 2 8 1 9 = .ok (errTooSmall, [0, 0]) := by decide
example : getU false 16 [0x80, 0xFF, 0] 3 7 9 = .ok 0x1FF := by decide
example : getI false 16 [0x80, 0xFF, 0] 3 7 9 = .ok (-1) := by decide
example : getI true 8 [0xFF] 1 4 8 = .ok 15 := by decide
example : getI true 8 [0xFF] 1 4 3 = .ok (-1) := by decide

/-! A C++ span (`bitspan`, `const_bitspan`) is `⟨data, off⟩`: the bytes `data_` refers to and `offset_bits_`. -/

/-- T1 (C++) `const_bitspan::copyTo`: the length is clamped to the size of the source; under the asserted
precondition `length_bits <= dst.size()` (for the clamped length) nothing is accessed outside either span and
exactly the addressed destination bits receive the source bits. -/
theorem C14_cpp_copyTo (src dst : Cpp.Span) (len : Nat)
    (hd : min len src.size ≠ 0 → dst.off + min len src.size ≤ dst.data.length * 8) :
    ∃ r, Cpp.copyTo src dst len = .ok r ∧ r.length = dst.data.length ∧ (WF src.data → WF dst.data → WF r) ∧
      ∀ i, bitAt r i = if dst.off ≤ i ∧ i < dst.off + min len src.size
        then bitAt src.data (src.off + (i - dst.off)) else bitAt dst.data i := by
  rw [Cpp.copyTo_eq]
  refine copyBits_ok _ _ _ _ _ (fun _ => ?_) hd
  have := Cpp.size_eq src
  omega

/-- `copyTo` is the C `nunavutCopyBits` on the clamped length (both branches). -/
theorem C14_cpp_copyTo_eq_c (src dst : Cpp.Span) (len : Nat) :
    Cpp.copyTo src dst len = copyBits dst.data dst.off (min len src.size) src.data src.off :=
  Cpp.copyTo_eq src dst len

/-- T2 (C++) `const_bitspan::getBits`: zero-extended, zero-padded, never out of bounds (output of at least
`ceil(len/8)` bytes, as asserted). -/
theorem C14_cpp_getBits (src : Cpp.Span) (out : Buf) (len : Nat) (hout : (len + 7) / 8 ≤ out.length) :
    ∃ r, Cpp.getBits src out len = .ok r ∧ r.length = out.length ∧ (WF src.data → WF out → WF r) ∧
      ∀ i, bitAt r i =
        if i < (len + 7) / 8 * 8 then (decide (i < len) && bitAt src.data (src.off + i)) else bitAt out i := by
  rw [Cpp.getBits_eq]
  obtain ⟨r, h1, h2, h3, h4⟩ := getBits_spec out src.data src.data.length src.off len (Nat.le_refl _) hout
  exact ⟨r, h1, h2, h3, fun i => by rw [h4 i, zbit_length]⟩

/-- T3 (C++) `bitspan::setUxx`: error ⇔ `size·8 < off + len`, then unchanged; otherwise exactly the `min len 64`
addressed bits become the low bits of the value. -/
theorem C14_cpp_setUxx (sp : Cpp.Span) (value len : Nat) :
    (sp.data.length * 8 < sp.off + len → Cpp.setUxx sp value len = .ok (errTooSmall, sp.data)) ∧
    (¬ sp.data.length * 8 < sp.off + len →
      ∃ r, Cpp.setUxx sp value len = .ok (0, r) ∧ r.length = sp.data.length ∧ (WF sp.data → WF r) ∧
        ∀ i, bitAt r i =
          if sp.off ≤ i ∧ i < sp.off + min len 64 then value.testBit (i - sp.off) else bitAt sp.data i) := by
  rw [Cpp.setUxx_eq]
  exact ⟨setUxx_small false sp.data _ sp.off value len,
    setUxx_spec false sp.data _ sp.off value len (Nat.le_refl _)⟩

/-- T3 (C++) `bitspan::setIxx`: the same with the two's-complement bits of the value. -/
theorem C14_cpp_setIxx (sp : Cpp.Span) (value : Int) (len : Nat) :
    (sp.data.length * 8 < sp.off + len → Cpp.setIxx sp value len = .ok (errTooSmall, sp.data)) ∧
    (¬ sp.data.length * 8 < sp.off + len →
      ∃ r, Cpp.setIxx sp value len = .ok (0, r) ∧ r.length = sp.data.length ∧ (WF sp.data → WF r) ∧
        ∀ i, bitAt r i =
          if sp.off ≤ i ∧ i < sp.off + min len 64 then (value % 2 ^ 64).toNat.testBit (i - sp.off)
          else bitAt sp.data i) :=
  C14_cpp_setUxx sp (toU64 value) len

/-- T3 (C++) `bitspan::setBit`. -/
theorem C14_cpp_setBit (sp : Cpp.Span) (value : Bool) :
    (sp.data.length * 8 ≤ sp.off → Cpp.setBit sp value = .ok (errTooSmall, sp.data)) ∧
    (¬ sp.data.length * 8 ≤ sp.off →
      ∃ r, Cpp.setBit sp value = .ok (0, r) ∧ r.length = sp.data.length ∧ (WF sp.data → WF r) ∧
        ∀ i, bitAt r i = if i = sp.off then value else bitAt sp.data i) := by
  rw [Cpp.setBit_eq]
  exact ⟨setBit_small sp.data _ sp.off value, setBit_spec sp.data _ sp.off value (Nat.le_refl _)⟩

/-- T4 (C++) `const_bitspan::getU8/16/32/64`: the zero-extended field of `min len W` bits. -/
theorem C14_cpp_getU (W : Nat) (sp : Cpp.Span) (len : Nat) (hW : W % 8 = 0) (hw : WF sp.data) :
    Cpp.getU W sp len = .ok (fieldOf (fun i => bitAt sp.data (sp.off + i)) (min len W)) :=
  Cpp.getU_spec W sp len hW hw

/-- T4 (C++) `const_bitspan::getI8/16/32/64`: two's-complement sign extension, no signed overflow. -/
theorem C14_cpp_getI (W : Nat) (sp : Cpp.Span) (len : Nat) (hW : W % 8 = 0) (hW0 : 0 < W) (hW64 : W ≤ 64)
    (hw : WF sp.data) :
    Cpp.getI W sp len = .ok
      (let sat := min len W
       let u := fieldOf (fun i => bitAt sp.data (sp.off + i)) sat
       if sat > 0 ∧ u.testBit (sat - 1) then (u : Int) - 2 ^ sat else (u : Int)) :=
  Cpp.getI_spec W sp len hW hW0 hW64 hw

/-- T4 (C++) `const_bitspan::getBit`. -/
theorem C14_cpp_getBit (sp : Cpp.Span) (hw : WF sp.data) : Cpp.getBit sp = .ok (bitAt sp.data sp.off) := by
  unfold Cpp.getBit
  rw [Cpp.getU_spec 8 sp 1 (by omega) hw]
  simp only [bind, Except.bind]
  cases h : bitAt sp.data sp.off <;> simp [fieldOf, h]

/-- T7 `bitspan::setZeros` (after the proposed fix), full statement: a range that does not fit is reported
(`-3`, nothing changed); otherwise every bit of `[off, off+len)` is zero afterwards, every other bit is
untouched, and no access leaves the span. -/
theorem C14_cpp_setZeros (sp : Cpp.Span) (len : Nat) :
    (len > sp.size → Cpp.setZeros sp len = .ok (errTooSmall, sp.data)) ∧
    (¬ len > sp.size →
      ∃ r, Cpp.setZeros sp len = .ok (0, r) ∧ r.length = sp.data.length ∧ (WF sp.data → WF r) ∧
        ∀ i, bitAt r i = if sp.off ≤ i ∧ i < sp.off + len then false else bitAt sp.data i) :=
  ⟨Cpp.setZeros_small sp len, Cpp.setZeros_spec sp len⟩

/-- `bitspan::padAndMoveToAlignment(n)` for `0 < n < 256` (the generated code uses 8, 16, 32, 64), on top of the
repaired `setZeros`: pads with zeros exactly up to the next multiple of `n`, or reports `-3`. -/
theorem C14_cpp_padAndMoveToAlignment (sp : Cpp.Span) (n : Nat) (hn0 : 0 < n) (hn : n < 256) :
    (sp.off % n = 0 → Cpp.padAndMoveToAlignment sp n = .ok (0, sp.data, sp.off)) ∧
    (sp.off % n ≠ 0 → n - sp.off % n > sp.size →
      Cpp.padAndMoveToAlignment sp n = .ok (errTooSmall, sp.data, sp.off)) ∧
    (sp.off % n ≠ 0 → ¬ n - sp.off % n > sp.size →
      ∃ r, Cpp.padAndMoveToAlignment sp n = .ok (0, r, sp.off + (n - sp.off % n)) ∧
        (sp.off + (n - sp.off % n)) % n = 0 ∧ r.length = sp.data.length ∧ (WF sp.data → WF r) ∧
        ∀ i, bitAt r i = if sp.off ≤ i ∧ i < sp.off + (n - sp.off % n) then false else bitAt sp.data i) := by
  have hlt : sp.off % n < n := Nat.mod_lt _ hn0
  have hp : (n - sp.off % n) % 256 = n - sp.off % n := Nat.mod_eq_of_lt (by omega)
  unfold Cpp.padAndMoveToAlignment
  rw [if_neg (by omega)]
  simp only [hp]
  refine ⟨fun h => ?_, fun h hs => ?_, fun h hs => ?_⟩
  · rw [h]; simp
  · rw [if_pos (by omega), Cpp.setZeros_small sp _ hs]
    simp [bind, Except.bind, errTooSmall]
  · obtain ⟨r, hr, hlen, hwf, hb⟩ := Cpp.setZeros_spec sp _ hs
    refine ⟨r, ?_, ?_, hlen, hwf, hb⟩
    · rw [if_pos (by omega), hr]
      simp [bind, Except.bind]
    · have : sp.off + (n - sp.off % n) = n * (sp.off / n + 1) := by
        have := Nat.div_add_mod sp.off n
        rw [Nat.mul_add, Nat.mul_one]; omega
      rw [this, Nat.mul_mod_right]

/-- `bitspan::subspan(bits_at, size_bits)`: error ⇔ the window ends after the data; otherwise the window lies
inside the data and starts at the addressed bit (its byte count is rounded down). -/
theorem C14_cpp_subspan (sp : Cpp.Span) (bitsAt sizeBits : Nat) :
    (sp.data.length * 8 < sp.off + bitsAt + sizeBits → Cpp.subspan sp bitsAt sizeBits = (errTooSmall, 0, 0, 0)) ∧
    (¬ sp.data.length * 8 < sp.off + bitsAt + sizeBits →
      ∃ first nbytes noff, Cpp.subspan sp bitsAt sizeBits = (0, first, nbytes, noff) ∧
        first * 8 + noff = sp.off + bitsAt ∧ noff < 8 ∧ first + nbytes ≤ sp.data.length ∧
        nbytes = (noff + sizeBits) / 8) :=
  Cpp.subspan_spec sp bitsAt sizeBits

/-! ### the shipped `setZeros` violates the statement (DESIGN F8) — regression witnesses

`uint7 a; void2; uint7 b`: two zero bits at offset 7 — bit 8 is addressed and stays 1. -/
example : Cpp.setZerosBeforeFix ⟨[0xFF, 0xFF], 7⟩ 2 = .ok (0, [0x7F, 0xFF]) := by decide
example : ¬ (∃ r, Cpp.setZerosBeforeFix ⟨[0xFF, 0xFF], 7⟩ 2 = .ok (0, r) ∧
    ∀ i, bitAt r i = if 7 ≤ i ∧ i < 7 + 2 then false else bitAt [0xFF, 0xFF] i) := by
  rintro ⟨r, h, hb⟩
  have hr : r = [0x7F, 0xFF] := by
    have : Cpp.setZerosBeforeFix ⟨[0xFF, 0xFF], 7⟩ 2 = .ok (0, [0x7F, 0xFF]) := by decide
    rw [this] at h; injection h with h; injection h with _ h; exact h.symm
  subst hr
  have := hb 8
  revert this; decide
-- 14 bits at offset 3 need three bytes, `ceil(14/8) = 2` are cleared: bit 16 stays 1
example : Cpp.setZerosBeforeFix ⟨[0xFF, 0xFF, 0xFF], 3⟩ 14 = .ok (0, [0x07, 0x00, 0xFF]) := by decide
-- and bits after the range are cleared: one bit at offset 0 wipes the whole byte
example : Cpp.setZerosBeforeFix ⟨[0xFF], 0⟩ 1 = .ok (0, [0x00]) := by decide
-- `padAndMoveToAlignment` is not affected in this instance (its range ends on a byte boundary); `void` fields, which call
-- `setZeros` with their own length, are
example : Cpp.padAndMoveToAlignmentBeforeFix ⟨[0xFF, 0xFF], 7⟩ 8 = .ok (0, [0x7F, 0xFF], 8) := by decide
-- the repaired function on the same inputs
example : Cpp.setZeros ⟨[0xFF, 0xFF], 7⟩ 2 = .ok (0, [0x7F, 0xFE]) := by decide
example : Cpp.setZeros ⟨[0xFF, 0xFF, 0xFF], 3⟩ 14 = .ok (0, [0x07, 0x00, 0xFE]) := by decide
example : Cpp.setZeros ⟨[0xFF], 0⟩ 1 = .ok (0, [0xFE]) := by decide
example : Cpp.padAndMoveToAlignment ⟨[0xFF, 0xFF, 0xFF], 7⟩ 16 = .ok (0, [0x7F, 0x00, 0xFF], 16) := by decide
-- other non-vacuity witnesses
example : Cpp.subspan ⟨[1, 2, 3, 4], 3⟩ 7 12 = (0, 1, 1, 2) := by decide
example : Cpp.getI 16 ⟨[0x80, 0xFF, 0], 7⟩ 9 = .ok (-1) := by decide
example : Cpp.setUxx ⟨[0, 0, 0], 7⟩ 0x1FF 9 = .ok (0, [0x80, 0xFF, 0]) := by decide
example : Cpp.getBits ⟨[0xFF, 0xFF], 12⟩ [0xAA, 0xAA, 0xAA] 9 = .ok [0x0F, 0x00, 0xAA] := by decide

/-! A Python serializer state is `⟨buf, off⟩` (`_buf` including the spare byte of `Serializer.new`, `_bit_offset`).
`s.Inv`: every bit at or above the cursor is zero — true for a fresh serializer and, by the theorems below,
preserved by every `add_*`.  `Py.Appends s s' n bit`: the cursor advanced by `n`, the buffer kept its size, the bits
below the old cursor are untouched, the `n` bits from the old cursor are `bit 0 … bit (n-1)`, everything from the
new cursor on is zero (so `s'.Inv` again).  "Room" hypotheses are the capacity the caller allocates; the
unaligned byte loop needs the one spare byte (strict `<`).  An `Except.ok` result means no `IndexError`, no
broadcast `ValueError`, no failed assertion.  A deserializer state is `⟨buf, off⟩`; `Py.deField d n` is the
zero-extended field of `n` bits at the cursor. -/

/-- T6 the invariant holds initially: `Serializer.new(n)` is `n+1` zero bytes with the cursor at 0. -/
theorem C14_py_new_inv (n : Nat) : (⟨List.replicate (n + 1) 0, 0⟩ : Py.Ser).Inv :=
  ⟨WF_replicate _, fun i _ => bitAt_replicate_zero _ i⟩

/-- T6 `add_unaligned_bytes` appends exactly the bytes of the value (any cursor). -/
theorem C14_py_add_unaligned_bytes (s : Py.Ser) (value : Buf) (hinv : s.Inv) (hwv : WF value)
    (hroom : s.off / 8 + value.length < s.buf.length) :
    ∃ s', Py.addUnalignedBytes s value = .ok s' ∧ Py.Appends s s' (8 * value.length) (bitAt value) :=
  Py.addUnalignedBytes_spec s value hinv hwv hroom

/-- T6 `add_unaligned_unsigned` appends exactly the low `bl` bits of the value (wider values are truncated,
as documented). -/
theorem C14_py_add_unaligned_unsigned (s : Py.Ser) (value : Int) (bl : Nat) (hinv : s.Inv) (hv : 0 ≤ value)
    (hbl : 1 ≤ bl) (hroom : s.off / 8 + (bl + 7) / 8 < s.buf.length) :
    ∃ s', Py.addUnalignedUnsigned s value bl = .ok s' ∧ Py.Appends s s' bl value.toNat.testBit :=
  Py.addUnalignedUnsigned_spec s value bl hinv hv hbl hroom

/-- T6 `add_unaligned_signed` appends the two's-complement bits (`2^bl + value` for a negative value). -/
theorem C14_py_add_unaligned_signed (s : Py.Ser) (value : Int) (bl : Nat) (hinv : s.Inv) (hbl : 2 ≤ bl)
    (hlo : -(2 ^ bl) ≤ value) (hroom : s.off / 8 + (bl + 7) / 8 < s.buf.length) :
    ∃ s', Py.addUnalignedSigned s value bl = .ok s' ∧
      Py.Appends s s' bl (if value < 0 then 2 ^ bl + value else value).toNat.testBit :=
  Py.addUnalignedSigned_spec s value bl hinv hbl hlo hroom

/-- T6 `add_unaligned_bit`. -/
theorem C14_py_add_unaligned_bit (s : Py.Ser) (x : Bool) (hinv : s.Inv) (hroom : s.off / 8 < s.buf.length) :
    ∃ s', Py.addUnalignedBit s x = .ok s' ∧ Py.Appends s s' 1 (fun _ => x) :=
  Py.addUnalignedBit_spec s x hinv hroom

/-- T6 `add_unaligned_array_of_bits` (`numpy.packbits` + byte loop + backtrack). -/
theorem C14_py_add_unaligned_array_of_bits (s : Py.Ser) (x : List Bool) (hinv : s.Inv)
    (hroom : s.off / 8 + (x.length + 7) / 8 < s.buf.length) :
    ∃ s', Py.addUnalignedArrayOfBits s x = .ok s' ∧ Py.Appends s s' x.length (Py.bitOf x) :=
  Py.addUnalignedArrayOfBits_spec s x hinv hroom

/-- T6 `add_aligned_bytes` (byte-aligned cursor). -/
theorem C14_py_add_aligned_bytes (s : Py.Ser) (x : Buf) (hinv : s.Inv) (ha : s.off % 8 = 0) (hw : WF x)
    (hroom : s.off / 8 + x.length ≤ s.buf.length) :
    ∃ s', Py.addAlignedBytes s x = .ok s' ∧ Py.Appends s s' (8 * x.length) (bitAt x) :=
  Py.addAlignedBytes_spec s x hinv ha hw hroom

/-- T6 `add_aligned_array_of_bits`. -/
theorem C14_py_add_aligned_array_of_bits (s : Py.Ser) (x : List Bool) (hinv : s.Inv) (ha : s.off % 8 = 0)
    (hroom : s.off / 8 + (x.length + 7) / 8 ≤ s.buf.length) :
    ∃ s', Py.addAlignedArrayOfBits s x = .ok s' ∧ Py.Appends s s' x.length (Py.bitOf x) :=
  Py.addAlignedArrayOfBits_spec s x hinv ha hroom

/-- T6 `add_aligned_unsigned` / `add_aligned_signed` (arbitrary width at an aligned cursor). -/
theorem C14_py_add_aligned_unsigned (s : Py.Ser) (value : Int) (bl : Nat) (hinv : s.Inv) (ha : s.off % 8 = 0)
    (hv : 0 ≤ value) (hbl : 1 ≤ bl) (hroom : s.off / 8 + (bl + 7) / 8 ≤ s.buf.length) :
    ∃ s', Py.addAlignedUnsigned s value bl = .ok s' ∧ Py.Appends s s' bl value.toNat.testBit :=
  Py.addAlignedUnsigned_spec s value bl hinv ha hv hbl hroom

theorem C14_py_add_aligned_signed (s : Py.Ser) (value : Int) (bl : Nat) (hinv : s.Inv) (ha : s.off % 8 = 0)
    (hbl : 2 ≤ bl) (hlo : -(2 ^ bl) ≤ value) (hroom : s.off / 8 + (bl + 7) / 8 ≤ s.buf.length) :
    ∃ s', Py.addAlignedSigned s value bl = .ok s' ∧
      Py.Appends s s' bl (if value < 0 then 2 ^ bl + value else value).toNat.testBit :=
  Py.addAlignedSigned_spec s value bl hinv ha hbl hlo hroom

/-- T6 `add_aligned_u8/u16/u32/u64`: the low 8/16/32/64 bits of a non-negative value (`u8` requires `< 256`). -/
theorem C14_py_add_aligned_uW (s : Py.Ser) (x : Int) (hinv : s.Inv) (ha : s.off % 8 = 0) (hx : 0 ≤ x) :
    (x < 256 → s.off / 8 + 1 ≤ s.buf.length →
      ∃ s', Py.addAlignedU8 s x = .ok s' ∧ Py.Appends s s' 8 x.toNat.testBit) ∧
    (s.off / 8 + 2 ≤ s.buf.length → ∃ s', Py.addAlignedU16 s x = .ok s' ∧ Py.Appends s s' 16 x.toNat.testBit) ∧
    (s.off / 8 + 4 ≤ s.buf.length → ∃ s', Py.addAlignedU32 s x = .ok s' ∧ Py.Appends s s' 32 x.toNat.testBit) ∧
    (s.off / 8 + 8 ≤ s.buf.length → ∃ s', Py.addAlignedU64 s x = .ok s' ∧ Py.Appends s s' 64 x.toNat.testBit) :=
  ⟨fun h r => Py.addAlignedU8_spec s x hinv ha hx h r, Py.addAlignedU16_spec s x hinv ha hx,
   Py.addAlignedU32_spec s x hinv ha hx, Py.addAlignedU64_spec s x hinv ha hx⟩

/-- T6 `add_aligned_i8/i16/i32/i64` on an in-range value: its two's-complement bits. -/
theorem C14_py_add_aligned_iW (W : Nat) (s : Py.Ser) (x : Int) (hW : W = 8 ∨ W = 16 ∨ W = 32 ∨ W = 64)
    (hinv : s.Inv) (ha : s.off % 8 = 0) (hlo : -(2 ^ (W - 1)) ≤ x) (hhi : x < 2 ^ (W - 1))
    (hroom : s.off / 8 + W / 8 ≤ s.buf.length) :
    ∃ s', Py.addAlignedI W s x = .ok s' ∧ Py.Appends s s' W (if x < 0 then 2 ^ W + x else x).toNat.testBit :=
  Py.addAlignedI_spec W s x hW hinv ha hlo hhi hroom

/-- `Serializer.pad_to_alignment(n)`: zero bits up to the next multiple of `n`. -/
theorem C14_py_pad_to_alignment (s : Py.Ser) (n : Nat) (hn : 0 < n) (hinv : s.Inv)
    (hroom : Py.padBits s.off n ≠ 0 → (s.off + Py.padBits s.off n - 1) / 8 < s.buf.length) :
    ∃ s', Py.padToAlignment s n = .ok s' ∧ Py.Appends s s' (Py.padBits s.off n) (fun _ => false) ∧
      s'.off % n = 0 :=
  Py.padToAlignment_spec s n hn hinv hroom

/-- T6 `fetch_unaligned_bytes`, for every buffer, cursor and count: never raises, never indexes outside, returns
`count` bytes with the zero-extended bits from the cursor on, advances the cursor by `8·count`. -/
theorem C14_py_fetch_unaligned_bytes (d : Py.De) (count : Nat) (hw : WF d.buf) :
    ∃ bs, Py.fetchUnalignedBytes d count = .ok (bs, ⟨d.buf, d.off + count * 8⟩) ∧ bs.length = count ∧ WF bs ∧
      ∀ i, bitAt bs i = (decide (i < 8 * count) && bitAt d.buf (d.off + i)) :=
  Py.fetchUnalignedBytes_spec d count hw

/-- T6 `fetch_unaligned_unsigned` / `fetch_aligned_unsigned`: the zero-extended field. -/
theorem C14_py_fetch_unsigned (d : Py.De) (bl : Nat) (hw : WF d.buf) (hbl : 1 ≤ bl) :
    Py.fetchUnalignedUnsigned d bl = .ok (Py.deField d bl, ⟨d.buf, d.off + bl⟩) ∧
    (d.off % 8 = 0 → Py.fetchAlignedUnsigned d bl = .ok (Py.deField d bl, ⟨d.buf, d.off + bl⟩)) :=
  ⟨Py.fetchUnalignedUnsigned_spec d bl hw hbl, Py.fetchAlignedUnsigned_spec d bl hw hbl⟩

/-- T6 `fetch_unaligned_signed` / `fetch_aligned_signed`: two's-complement sign extension. -/
theorem C14_py_fetch_signed (d : Py.De) (bl : Nat) (hw : WF d.buf) (hbl : 2 ≤ bl) :
    let v : Int := if (Py.deField d bl).testBit (bl - 1) then (Py.deField d bl : Int) - 2 ^ bl
                   else (Py.deField d bl : Int)
    Py.fetchUnalignedSigned d bl = .ok (v, ⟨d.buf, d.off + bl⟩) ∧
    (d.off % 8 = 0 → Py.fetchAlignedSigned d bl = .ok (v, ⟨d.buf, d.off + bl⟩)) :=
  ⟨Py.fetchUnalignedSigned_spec d bl hw hbl, Py.fetchAlignedSigned_spec d bl hw hbl⟩

/-- T6 `fetch_unaligned_bit`. -/
theorem C14_py_fetch_unaligned_bit (d : Py.De) :
    Py.fetchUnalignedBit d = .ok (bitAt d.buf d.off, ⟨d.buf, d.off + 1⟩) :=
  Py.fetchUnalignedBit_spec d

/-- T6 `fetch_aligned_u8…u64` / `fetch_aligned_i8…i64`. -/
theorem C14_py_fetch_aligned_W (W : Nat) (d : Py.De) (hW : W = 8 ∨ W = 16 ∨ W = 32 ∨ W = 64)
    (ha : d.off % 8 = 0) (hw : WF d.buf) :
    Py.fetchAlignedU W d = .ok (Py.deField d W, ⟨d.buf, d.off + W⟩) ∧
    Py.fetchAlignedI W d = .ok
      (if (Py.deField d W).testBit (W - 1) then (Py.deField d W : Int) - 2 ^ W else (Py.deField d W : Int),
       ⟨d.buf, d.off + W⟩) :=
  ⟨Py.fetchAlignedU_spec W d hW ha hw, Py.fetchAlignedI_spec W d hW ha hw⟩

/-- T6 `fetch_unaligned_array_of_bits` / `fetch_aligned_array_of_bits`, `fetch_aligned_bytes`. -/
theorem C14_py_fetch_arrays (d : Py.De) (count : Nat) (hw : WF d.buf) :
    Py.fetchUnalignedArrayOfBits d count
      = .ok ((List.range count).map (fun i => bitAt d.buf (d.off + i)), ⟨d.buf, d.off + count⟩) ∧
    (d.off % 8 = 0 → Py.fetchAlignedArrayOfBits d count
      = .ok ((List.range count).map (fun i => bitAt d.buf (d.off + i)), ⟨d.buf, d.off + count⟩)) ∧
    (d.off % 8 = 0 → ∃ bs, Py.fetchAlignedBytes d count = .ok (bs, ⟨d.buf, d.off + count * 8⟩) ∧
      bs.length = count ∧ ∀ i, bitAt bs i = (decide (i < 8 * count) && bitAt d.buf (d.off + i))) :=
  ⟨Py.fetchUnalignedArrayOfBits_spec d count hw, Py.fetchAlignedArrayOfBits_spec d count, fun ha => by
    obtain ⟨bs, h1, h2, _, h4⟩ := Py.fetchAlignedBytes_spec d count ha
    exact ⟨bs, h1, h2, h4⟩⟩

/-- `Deserializer.pad_to_alignment(n)`. -/
theorem C14_py_fetch_pad_to_alignment (d : Py.De) (n : Nat) (hn : 0 < n) :
    Py.dePadToAlignment d n = .ok ⟨d.buf, d.off + Py.padBits d.off n⟩ ∧ (d.off + Py.padBits d.off n) % n = 0 :=
  ⟨Py.dePadToAlignment_spec d n hn, Py.padBits_aligned _ _ hn⟩

/-- `ZeroExtendingBuffer.get_unsigned_slice(l, r)` for `l ≤ r`: `r - l` bytes, zero beyond the buffer. -/
theorem C14_py_get_unsigned_slice (buf : Buf) (l r : Nat) (h : l ≤ r) :
    ∃ out, Py.getUnsignedSlice buf l r = .ok out ∧ out.length = r - l ∧
      ∀ i, bitAt out i = (decide (i < 8 * (r - l)) && bitAt buf (8 * l + i)) := by
  obtain ⟨out, h1, h2, _, h4⟩ := Py.slice_bits buf l r h
  exact ⟨out, h1, h2, h4⟩

/-- serialize-then-deserialize at an arbitrary cursor: what `add_unaligned_unsigned` appended is what
`fetch_unaligned_unsigned` reads back (for a value that fits). -/
theorem C14_py_unsigned_round_trip (s : Py.Ser) (value : Int) (bl : Nat) (hinv : s.Inv) (hv : 0 ≤ value)
    (hfit : value < 2 ^ bl) (hbl : 1 ≤ bl) (hroom : s.off / 8 + (bl + 7) / 8 < s.buf.length) :
    ∃ s', Py.addUnalignedUnsigned s value bl = .ok s' ∧
      Py.fetchUnalignedUnsigned ⟨s'.buf, s.off⟩ bl = .ok (value.toNat, ⟨s'.buf, s.off + bl⟩) := by
  obtain ⟨s', h1, a⟩ := Py.addUnalignedUnsigned_spec s value bl hinv hv hbl hroom
  have hlt : value.toNat < 2 ^ bl := by
    have : ((value.toNat : Nat) : Int) < ((2 ^ bl : Nat) : Int) := by
      rw [Int.toNat_of_nonneg hv]; exact_mod_cast hfit
    exact_mod_cast this
  exact ⟨s', h1, by rw [Py.fetchUnalignedUnsigned_spec ⟨s'.buf, s.off⟩ bl a.2.2.1.1 hbl, a.deField_eq hlt]⟩

example : Py.addUnalignedUnsigned ⟨[0, 0, 0, 0], 0⟩ 5 3 = .ok ⟨[5, 0, 0, 0], 3⟩ := by decide
example : Py.addUnalignedBytes ⟨[5, 0, 0, 0], 3⟩ [0xAB, 0xCD] = .ok ⟨[0x5D, 0x6D, 0x06, 0], 19⟩ := by decide
-- without the spare byte the byte loop raises IndexError
example : Py.addUnalignedBytes ⟨[5, 0], 3⟩ [0xAB, 0xCD] = .error .oob := by decide
-- a one-byte write past the end of the array is silently dropped by NumPy (outside the room hypothesis)
example : Py.addAlignedBytes ⟨[0, 0], 16⟩ [7] = .ok ⟨[0, 0], 24⟩ := by decide
example : Py.fetchUnalignedUnsigned ⟨[0xFF, 0x01], 3⟩ 9 = .ok (63, ⟨[0xFF, 0x01], 12⟩) := by decide
example : Py.fetchUnalignedSigned ⟨[0xFF, 0x01], 3⟩ 6 = .ok (-1, ⟨[0xFF, 0x01], 9⟩) := by decide
example : Py.addAlignedI 16 ⟨[0, 0, 0], 8⟩ (-2) = .ok ⟨[0, 0xFE, 0xFF], 24⟩ := by decide

end NunavutVerif.Bits
