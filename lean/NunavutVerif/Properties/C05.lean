import NunavutVerif.Lemmas.DsdlLen
import NunavutVerif.Lemmas.DsdlBytes
/-!
# C05 — size bounds (specification level)

Property theorems only.  Quantifiers: all well-formed types (`wf` = PyDSDL's side conditions, in particular
`extent ≥ inner.extent` for delimited types), all values, all buffer capacities.
`maxBits` is what the generated `_SERIALIZATION_BUFFER_SIZE_BYTES_ = ceil(maxBits/8)` advertises, `extent` what
`_EXTENT_BYTES_` advertises (both compared with the generated constants by the harness through `bounds`).
The constant-literal half of C05 (`Model/CLiteral.lean`) is a separate slice.
-/
namespace NunavutVerif.Dsdl

/-- The serialized length never exceeds `maxBits`. -/
theorem C05_length_le_max (t : Ty) (hw : wf t = true) (v : Val) (bs : List Bool)
    (hs : serBits t v = .ok bs) : bs.length ≤ maxBits t :=
  (lenOK t hw v bs hs).2.1

/-- … and is at least `minBits`. -/
theorem C05_min_le_length (t : Ty) (hw : wf t = true) (v : Val) (bs : List Bool)
    (hs : serBits t v = .ok bs) : minBits t ≤ bs.length :=
  (lenOK t hw v bs hs).1

/-- The length is a multiple of the alignment: every composite (and every array of composites) occupies
whole bytes. -/
theorem C05_length_aligned (t : Ty) (hw : wf t = true) (v : Val) (bs : List Bool)
    (hs : serBits t v = .ok bs) : bs.length % align t = 0 :=
  (lenOK t hw v bs hs).2.2

/-- The advertised maximum never exceeds the advertised extent (top-level view: a delimited type's own
routine handles the inner composite; `wf` carries PyDSDL's `extent ≥ inner maximum`). -/
theorem C05_max_le_extent (t : Ty) (hw : wf t = true) : maxBits (topInner t) ≤ extent t :=
  maxBits_topInner_le_extent hw

/-- Bounds of composites are whole bytes: minimum, maximum and extent. -/
theorem C05_composite_bounds_whole_bytes (t : Ty) (hw : wf t = true) :
    (isComposite t = true ∨ ∃ e c, t = .delim e c) →
      minBits t % 8 = 0 ∧ maxBits t % 8 = 0 ∧ extent t % 8 = 0 := by
  intro h
  have h8 := padTo_mod (Or.inr rfl : (8 : Nat) = 1 ∨ 8 = 8)
  rcases h with h | ⟨e, c, rfl⟩
  · cases t with
    | struct fs => exact ⟨h8 _, h8 _, h8 _⟩
    | union fs => exact ⟨h8 _, h8 _, h8 _⟩
    | _ => cases h
  · have he8 := (wf_delim hw).1.2.1
    show 32 % 8 = 0 ∧ (32 + e) % 8 = 0 ∧ e % 8 = 0
    exact ⟨rfl, add_mod_zero rfl he8, he8⟩

/-- A buffer of the advertised size (and hence one of extent size) always suffices. -/
theorem C05_buffer_suffices (t : Ty) (hw : wf t = true) (v : Val) (bytes : List Nat)
    (hs : serBytes t v = .ok bytes) :
    bytes.length ≤ (maxBits (topInner t) + 7) / 8 ∧ bytes.length ≤ (extent t + 7) / 8 := by
  obtain ⟨bs, hb, rfl⟩ := map_eq_ok.1 hs
  have h1 := (lenOK (topInner t) (wf_topInner hw) v bs hb).2.1
  rw [packBytes_length]
  exact ⟨Nat.div_le_div_right (Nat.add_le_add_right h1 7),
    Nat.div_le_div_right (Nat.add_le_add_right (Nat.le_trans h1 (maxBits_topInner_le_extent hw)) 7)⟩

/-- A buffer smaller than the maximal serialized size is refused, whatever the value. -/
theorem C05_serbuf_too_small (t : Ty) (v : Val) (cap : Nat) (h : cap * 8 < maxBits (topInner t)) :
    serBuf t v cap = .error .bufferTooSmall := by
  simp only [serBuf, if_pos h]

/-- Otherwise `serbuf` is `ser`, and the produced bytes fit the buffer. -/
theorem C05_serbuf_large_enough (t : Ty) (hw : wf t = true) (v : Val) (cap : Nat)
    (h : ¬ cap * 8 < maxBits (topInner t)) :
    serBuf t v cap = serBytes t v ∧ ∀ bytes, serBytes t v = .ok bytes → bytes.length ≤ cap := by
  refine ⟨if_neg h, fun bytes hs => ?_⟩
  have := (C05_buffer_suffices t hw v bytes hs).1
  omega

/-- The length of the byte string is the bit length rounded up. -/
theorem C05_bytes_length (t : Ty) (v : Val) (bs : List Bool) (hs : serTop t v = .ok bs) :
    ∃ bytes, serBytes t v = .ok bytes ∧ bytes.length = (bs.length + 7) / 8 := by
  exact ⟨packBytes bs, congrArg (Except.map packBytes) hs, packBytes_length bs⟩

/-- `{uint3 a; Inner b; uint8[<=300] c}` with a delimited `Inner` of extent 64 bits. -/
def exTy5 : Ty :=
  .struct [.uint 3 .sat, .delim 64 (.struct [.uint 8 .sat, .varr (.uint 8 .sat) 3]),
    .varr (.uint 8 .trunc) 300]

example : wf exTy5 = true := by decide +kernel
example : boundsTop exTy5 = (56, 2520, 2520) := by decide +kernel
example : boundsTop (.delim 64 (.struct [.uint 8 .sat, .varr (.uint 8 .sat) 3])) = (16, 40, 64) := by
  decide +kernel
example : serBuf exTy5 (.struct [.int 1, .struct [.int 2, .arr []], .arr []]) 314 =
    .error .bufferTooSmall := by decide +kernel
example : serBuf exTy5 (.struct [.int 1, .struct [.int 2, .arr []], .arr [.int 7]]) 315 =
    .ok [1, 2, 0, 0, 0, 2, 0, 1, 0, 7] := by decide +kernel

end NunavutVerif.Dsdl
