import NunavutVerif.Lemmas.GenCppSer
import NunavutVerif.Lemmas.GenCppDe
import NunavutVerif.Lemmas.GenCppFrame
import NunavutVerif.Lemmas.DsdlRepr
import NunavutVerif.Lemmas.DsdlDecode
import NunavutVerif.Properties.C01Refine
import NunavutVerif.Properties.C01RefinePy
import NunavutVerif.Properties.C02
/-!
# C01 / C02 / C03 / C04 — the generated C++ codecs refine the DSDL specification

`Model/GenCpp.lean` transcribes what the C++ templates emit into `serialize(const T&, bitspan)` and
`deserialize(T&, const_bitspan)` (up-front capacity check, `bitspan` cursor, `padAndMoveToAlignment`, `setZeros`,
`setBit`, `setUxx`/`setIxx`/`setF*` with the emitted saturation code, element loops, length prefixes, `subspan` +
nested call, delimiter header written after the nested call, union tag chain; `getBit`/`getUxx`/`getIxx`/`getF*` with
implicit zero extension, `align_offset_to<8>`, in-place `std::array` elements, `clear()`/`reserve()`/`push_back` for
variable-length arrays, `subspan()` / `subspan_bytes(header)`, `set_x()`/`get_x_if()`, the `Error::…` codes,
`min(offset, capacity_bits) / 8`) on top of the C14 models of the `bitspan` operations (`Model/BitsCpp.lean`).
The theorems below say that this implementation-shaped model **refines** the specification `Model/Dsdl.lean` — for
*every* type, object, buffer (its length is the capacity), prior content of the destination object,
`enable_serialization_asserts` on and off and every sound alignment oracle; by induction along the recursion of the
generated code over the type, from the C14 contracts of the `bitspan` operations.

Hypotheses, all of them facts PyDSDL / the C++ type system guarantee: `wf`/`wfC` (widths, capacities),
`isComposite (topInner t)` (generated functions exist for composites), `hasTy` (the object — also the destination
object of `deserialize` — has the shape of the type), `storageOK` (integers fit the member's `std::uintN_t` /
`std::intN_t`, `float` members hold binary32 values), `WF buf` (bytes are bytes), `Opts.Sound` (the generation-time
oracle claims alignment only where it holds; it only decides which assertions are emitted),
`clearFirst = true` (the template as it is, with `reference.clear()` before the `push_back` loop).
-/
namespace NunavutVerif.GenCpp
open NunavutVerif.Dsdl NunavutVerif.Bits
open NunavutVerif.GenC (eTooSmall eBadArrayLength eBadUnionTag eBadDelimiterHeader embedS embedD storageOK wfC
  exactOrc trivVal)

/-- The oracle of the driver (GenC's exact residue analysis; by the structural tie: PyDSDL's `is_aligned_at_byte`)
is sound. -/
theorem C01_genCpp_exact_oracle_sound (asserts clearFirst : Bool) :
    Opts.Sound { orc := exactOrc, asserts := asserts, clearFirst := clearFirst } :=
  fun _ h => h

-- the up-front check comes before every assertion: soundness of the oracle plays no part in (b)
set_option linter.unusedVariables false in
/-- (b) `out_buffer.size() < bit_length_set.max` ⇒ `-Error::SerializationBufferTooSmall`, returned before the
object is looked at and before any `bitspan` operation (the model's first branch). -/
theorem C01_genCpp_buffer_too_small (o : Opts) (hs : o.Sound) (t : Ty) (hc : isComposite (topInner t) = true)
    (v : Val) (ht : hasTy t v = true) (buf : Buf) (h : 8 * buf.length < maxBits (topInner t)) :
    serializeCpp o t v buf = .error eTooSmall :=
  serializeCpp_tooSmall o t hc v ht buf h

/-- (c) Otherwise the generated serializer returns `serBytes`'s length and leaves exactly `serBytes t obj` in the
first bytes of the buffer (whatever the buffer held before), or returns the code of the specification's error
(`SerializationBadArrayLength`, `RepresentationBadUnionTag`). -/
theorem C01_genCpp_serialize_refines (o : Opts) (hs : o.Sound) (t : Ty) (hw : wf t = true) (hwC : wfC t = true)
    (hc : isComposite (topInner t) = true) (v : Val) (ht : hasTy t v = true) (hst : storageOK t v = true)
    (buf : Buf) (hwf : WF buf) (hroom : maxBits (topInner t) ≤ 8 * buf.length) :
    match serBytes t v with
    | .ok bytes => ∃ buf', serializeCpp o t v buf = .ok (buf', bytes.length) ∧ buf'.take bytes.length = bytes ∧
        buf'.length = buf.length ∧ WF buf'
    | .error e => serializeCpp o t v buf = .error (embedS e) :=
  (serializeCpp_top o hs t hw hwC hc v ht hst buf hwf).refines hroom

/-- The same against `serBuf` (the spec's "serialize into a buffer of `cap` bytes"), all capacities at once. -/
theorem C01_genCpp_serialize_eq_serBuf (o : Opts) (hs : o.Sound) (t : Ty) (hw : wf t = true) (hwC : wfC t = true)
    (hc : isComposite (topInner t) = true) (v : Val) (ht : hasTy t v = true) (hst : storageOK t v = true)
    (buf : Buf) (hwf : WF buf) :
    (serializeCpp o t v buf).map (fun r => r.1.take r.2) = (serBuf t v buf.length).mapError embedS :=
  (serializeCpp_top o hs t hw hwC hc v ht hst buf hwf).eq_serBuf

/-- The returned size never exceeds the capacity of the span the caller supplied. -/
theorem C01_genCpp_reported_size_le_capacity (o : Opts) (hs : o.Sound) (t : Ty) (hw : wf t = true)
    (hwC : wfC t = true) (hc : isComposite (topInner t) = true) (v : Val) (ht : hasTy t v = true)
    (hst : storageOK t v = true) (buf : Buf) (hwf : WF buf) (buf' : Buf)
    (n : Nat) (h : serializeCpp o t v buf = .ok (buf', n)) : n ≤ buf.length := by
  obtain ⟨_, _, hn, hl, _⟩ := (serializeCpp_top o hs t hw hwC hc v ht hst buf hwf).ok h
  have := List.length_take_le' n buf'
  omega

/-- (a) Memory safety of serialization (serves C04): no `bitspan` operation of the generated serializer — `setZeros`,
`setBit`, `setUxx`, `setIxx`, `padAndMoveToAlignment`, the `copyTo` inside them — ever indexes outside the span it was
given, and no `subspan` window leaves the buffer (`Err.prim` — `oob`, and the `fuel`/`wrap`/`usage` conditions of the
primitive models — is unreachable), for all objects incl. counts and tags out of range, all buffers incl. empty. -/
theorem C04_genCpp_serialize_memory_safe (o : Opts) (hs : o.Sound) (t : Ty) (hw : wf t = true) (hwC : wfC t = true)
    (hc : isComposite (topInner t) = true) (v : Val) (ht : hasTy t v = true) (hst : storageOK t v = true)
    (buf : Buf) (hwf : WF buf) (e : Bits.Err) :
    serializeCpp o t v buf ≠ .error (.prim e) := by
  intro h
  obtain ⟨e', _, he⟩ := (serializeCpp_top o hs t hw hwC hc v ht hst buf hwf).error h
  cases e' <;> cases he

/-- Every exit of the generated serializer is success or one of the documented `Error` codes; in particular no
`bitspan` operation in the body ever answers `SerializationBufferTooSmall` once the up-front check has passed
(C04, totality). -/
theorem C04_genCpp_serialize_exits (o : Opts) (hs : o.Sound) (t : Ty) (hw : wf t = true) (hwC : wfC t = true)
    (hc : isComposite (topInner t) = true) (v : Val) (ht : hasTy t v = true) (hst : storageOK t v = true)
    (buf : Buf) (hwf : WF buf) :
    (∃ r, serializeCpp o t v buf = .ok r ∧ maxBits (topInner t) ≤ 8 * buf.length) ∨
      (serializeCpp o t v buf = .error eTooSmall ∧ 8 * buf.length < maxBits (topInner t)) ∨
      serializeCpp o t v buf = .error eBadArrayLength ∨ serializeCpp o t v buf = .error eBadUnionTag := by
  exact (serializeCpp_top o hs t hw hwC hc v ht hst buf hwf).exits ht

/-- Frame of the generated serializer (C04): a call that succeeds keeps the size of the buffer and leaves every byte
from the returned size on exactly as it was — it writes nothing beyond what it reports (every `bitspan` setter
changes exactly the addressed bits; unlike the C code there is no overrun to the next byte boundary).  No hypothesis
on the type, the object or the options: every successful run of the model.  (The compiled code is checked for the
same by the harness shim, `tail_untouched`.) -/
theorem C04_genCpp_serialize_writes_within_reported_size (o : Opts) (t : Ty) (v : Val) (buf buf' : Buf) (n : Nat)
    (hwf : WF buf) (h : serializeCpp o t v buf = .ok (buf', n)) :
    buf'.length = buf.length ∧ WF buf' ∧ buf'.drop n = buf.drop n :=
  ⟨(serializeCpp_frame o t v buf buf' n h).1, (serializeCpp_frame o t v buf buf' n h).2.1 hwf,
    serializeCpp_tail_untouched o t v buf buf' n hwf h⟩

/-- (d) The generated deserializer returns exactly what the specification returns on the supplied bytes: the object
(implicit zero extension where the data ends early, implicit truncation where it is longer, delimited members
confined to their header by `subspan_bytes`), the consumed size `min(offset, capacity_bits) / 8`, and the code of the
specification's error (`SerializationBadArrayLength`, `RepresentationBadUnionTag`,
`RepresentationBadDelimiterHeader`) — whatever the destination object held before the call. -/
theorem C02_genCpp_deserialize_refines (o : Opts) (hs : o.Sound) (hcl : o.clearFirst = true) (t : Ty)
    (hw : wf t = true) (hwC : wfC t = true) (hc : isComposite (topInner t) = true)
    (prior : Val) (hp : hasTy t prior = true) (buf : Buf) (hwf : WF buf) :
    deserializeCpp o t prior buf = (deBytes t buf).mapError embedD :=
  deserializeCpp_refines o hs hcl t hw hwC hc prior hp buf hwf

/-- `consumed ≤ supplied`, on the implementation model. -/
theorem C02_genCpp_consumed_le_supplied (o : Opts) (hs : o.Sound) (hcl : o.clearFirst = true) (t : Ty)
    (hw : wf t = true) (hwC : wfC t = true) (hc : isComposite (topInner t) = true)
    (prior : Val) (hp : hasTy t prior = true) (buf : Buf) (hwf : WF buf)
    (v : Val) (n : Nat) (h : deserializeCpp o t prior buf = .ok (v, n)) : n ≤ buf.length :=
  C02_consumed_le_supplied_bytes t buf v n
    (mapError_eq_ok (deserializeCpp_refines o hs hcl t hw hwC hc prior hp buf hwf) h)

/-- Implicit zero extension on the implementation model: the generated deserializer returns the same object for a
byte string and for the same string followed by any number of zero bytes (the getters of a `const_bitspan` read data
that ends early as zeros, also inside nested objects). -/
theorem C02_genCpp_zero_extension (o : Opts) (hs : o.Sound) (hcl : o.clearFirst = true) (t : Ty)
    (hw : wf t = true) (hwC : wfC t = true) (hc : isComposite (topInner t) = true)
    (prior : Val) (hp : hasTy t prior = true) (bytes : Buf) (hwf : WF bytes) (k : Nat) (v : Val) (n : Nat)
    (h : deserializeCpp o t prior bytes = .ok (v, n)) :
    ∃ n', deserializeCpp o t prior (bytes ++ List.replicate k 0) = .ok (v, n') := by
  obtain ⟨n', hn'⟩ :=
    C02_zero_extension_bytes t bytes v n k
      (mapError_eq_ok (deserializeCpp_refines o hs hcl t hw hwC hc prior hp bytes hwf) h)
  have hwf' : WF (bytes ++ List.replicate k 0) := WF_append hwf (WF_replicate k)
  refine ⟨n', ?_⟩
  rw [deserializeCpp_refines o hs hcl t hw hwC hc prior hp _ hwf', hn']
  rfl

/-- Implicit truncation on the implementation model: bytes that follow a complete object change neither the object
nor the consumed size. -/
theorem C02_genCpp_surplus_ignored (o : Opts) (hs : o.Sound) (hcl : o.clearFirst = true) (t : Ty)
    (hw : wf t = true) (hwC : wfC t = true) (hc : isComposite (topInner t) = true)
    (prior : Val) (hp : hasTy t prior = true) (bytes extra : Buf) (hwf : WF bytes) (hwe : WF extra) (v : Val)
    (h : deserializeCpp o t prior bytes = .ok (v, bytes.length))
    (hfull : ∀ u, deBits (topInner t) (unpackBytes bytes) = .ok (v, u) → u = 8 * bytes.length) :
    deserializeCpp o t prior (bytes ++ extra) = .ok (v, bytes.length) := by
  have hd := mapError_eq_ok (deserializeCpp_refines o hs hcl t hw hwC hc prior hp bytes hwf) h
  have hl : (unpackBytes bytes).length = 8 * bytes.length := unpackBytes_length bytes
  -- the object occupies exactly the bits of `bytes`
  obtain ⟨m, hm, _⟩ := deBytes_ok hd
  obtain ⟨u, hu, _⟩ := deTop_ok hm
  have htop := C02_surplus_ignored t (unpackBytes bytes) (unpackBytes extra) v u hu (by rw [hfull u hu, hl])
  rw [deserializeCpp_refines o hs hcl t hw hwC hc prior hp _ (WF_append hwf hwe)]
  unfold deBytes
  rw [unpackBytes_append, htop, hfull u hu]
  simp only [Except.mapError]
  congr 2
  omega

/-- Every exit of the generated deserializer is success or one of the three representation errors; the error is
the specification's. -/
theorem C02_genCpp_deserialize_exits (o : Opts) (hs : o.Sound) (hcl : o.clearFirst = true) (t : Ty)
    (hw : wf t = true) (hwC : wfC t = true) (hc : isComposite (topInner t) = true)
    (prior : Val) (hp : hasTy t prior = true) (buf : Buf) (hwf : WF buf) :
    (∃ r, deserializeCpp o t prior buf = .ok r) ∨ deserializeCpp o t prior buf = .error eBadArrayLength ∨
      deserializeCpp o t prior buf = .error eBadUnionTag ∨
      deserializeCpp o t prior buf = .error eBadDelimiterHeader := by
  rw [deserializeCpp_refines o hs hcl t hw hwC hc prior hp buf hwf]
  exact GenC.mapError_embedD_exits _

/-- (a) Memory safety of deserialization (serves C04): no getter of a `const_bitspan` and no `copyTo` inside it ever
indexes outside the supplied bytes or its temporary (`Err.prim` unreachable; this includes the signed-overflow
condition of the `getIxx` sign extension), for all byte strings incl. empty, lengths and tags out of range,
delimiter headers pointing anywhere, cursors beyond the end of the data. -/
theorem C04_genCpp_deserialize_memory_safe (o : Opts) (hs : o.Sound) (hcl : o.clearFirst = true) (t : Ty)
    (hw : wf t = true) (hwC : wfC t = true) (hc : isComposite (topInner t) = true)
    (prior : Val) (hp : hasTy t prior = true) (buf : Buf) (hwf : WF buf)
    (e : Bits.Err) : deserializeCpp o t prior buf ≠ .error (.prim e) := by
  intro h
  obtain ⟨e', _, h'⟩ := mapError_eq_error (deserializeCpp_refines o hs hcl t hw hwC hc prior hp buf hwf) h
  cases e' <;> cases h'

/-- With `enable_serialization_asserts` no `NUNAVUT_ASSERT` the two templates emit can fail (C04, totality under that
option): the alignment claims of the generator (`offset.is_aligned_at_byte()` turned into
`NUNAVUT_ASSERT(…offset_alings_to_byte())`), the room assertions `max <= out_buffer.size()` at every site, the size
bounds after arrays and nested calls, the alignment of every `subspan`, the final size assertions — on any object,
buffer and destination object. -/
theorem C04_genCpp_no_assertion_fails (o : Opts) (hs : o.Sound) (hcl : o.clearFirst = true) (t : Ty)
    (hw : wf t = true) (hwC : wfC t = true)
    (hc : isComposite (topInner t) = true) (v : Val) (ht : hasTy t v = true) (hst : storageOK t v = true)
    (prior : Val) (hp : hasTy t prior = true) (buf : Buf) (hwf : WF buf) :
    serializeCpp o t v buf ≠ .error .assert ∧ deserializeCpp o t prior buf ≠ .error .assert := by
  constructor
  · intro h
    obtain ⟨e', _, he⟩ := (serializeCpp_top o hs t hw hwC hc v ht hst buf hwf).error h
    cases e' <;> cases he
  · intro h
    obtain ⟨e', _, h'⟩ := mapError_eq_error (deserializeCpp_refines o hs hcl t hw hwC hc prior hp buf hwf) h
    cases e' <;> cases h'

/-- Prior-state independence (C04): what the destination object held before the call — members, `std::array`
elements, container contents, the active union alternative — and which assertions / oracle the code was generated
with have no influence on the decoded object, the consumed size or the error. -/
theorem C04_genCpp_deserialize_prior_state_independent (o₁ o₂ : Opts) (h₁ : o₁.Sound) (h₂ : o₂.Sound)
    (hc₁ : o₁.clearFirst = true) (hc₂ : o₂.clearFirst = true) (t : Ty)
    (hw : wf t = true) (hwC : wfC t = true) (hc : isComposite (topInner t) = true)
    (prior₁ prior₂ : Val) (hp₁ : hasTy t prior₁ = true) (hp₂ : hasTy t prior₂ = true) (buf : Buf) (hwf : WF buf) :
    deserializeCpp o₁ t prior₁ buf = deserializeCpp o₂ t prior₂ buf := by
  rw [deserializeCpp_refines o₁ h₁ hc₁ t hw hwC hc prior₁ hp₁ buf hwf,
    deserializeCpp_refines o₂ h₂ hc₂ t hw hwC hc prior₂ hp₂ buf hwf]

/-- Round trip through the two generated functions (C03 on the implementation model): what the serializer leaves
in the buffer, the deserializer maps back as the specification says, into any destination object. -/
theorem C03_genCpp_round_trip (o : Opts) (hs : o.Sound) (hcl : o.clearFirst = true) (t : Ty) (hw : wf t = true)
    (hwC : wfC t = true) (hc : isComposite (topInner t) = true) (v : Val) (ht : hasTy t v = true)
    (hst : storageOK t v = true) (prior : Val) (hp : hasTy t prior = true)
    (buf : Buf) (hwf : WF buf) (buf' : Buf) (n : Nat)
    (h : serializeCpp o t v buf = .ok (buf', n)) :
    deserializeCpp o t prior (buf'.take n) = (deBytes t (buf'.take n)).mapError embedD ∧
      serBytes t v = .ok (buf'.take n) := by
  obtain ⟨_, hsb, _, _, hwf'⟩ := (serializeCpp_top o hs t hw hwC hc v ht hst buf hwf).ok h
  exact ⟨deserializeCpp_refines o hs hcl t hw hwC hc prior hp _ (WF_take hwf' _), hsb⟩

/-- Options do not matter (C03): with or without `enable_serialization_asserts`, under any two sound oracles, the
generated serializer produces the same reported bytes (or the same error). -/
theorem C03_genCpp_serialize_options_agree (o₁ o₂ : Opts) (h₁ : o₁.Sound) (h₂ : o₂.Sound) (t : Ty) (hw : wf t = true)
    (hwC : wfC t = true) (hc : isComposite (topInner t) = true) (v : Val) (ht : hasTy t v = true)
    (hst : storageOK t v = true) (buf : Buf) (hwf : WF buf) :
    (serializeCpp o₁ t v buf).map (fun r => r.1.take r.2) = (serializeCpp o₂ t v buf).map (fun r => r.1.take r.2) := by
  rw [C01_genCpp_serialize_eq_serBuf o₁ h₁ t hw hwC hc v ht hst buf hwf,
    C01_genCpp_serialize_eq_serBuf o₂ h₂ t hw hwC hc v ht hst buf hwf]

/-- Cross-target agreement, serialization (C03): the implementation-shaped models of the generated **C++** and **C**
code report the same bytes or return the same error code, for either `target_endianness` rendering of the C code. -/
theorem C03_cpp_c_serialize_agree (oX : Opts) (oC : GenC.Opts) (hX : oX.Sound) (hC : oC.Sound) (t : Ty)
    (hw : wf t = true) (hwC : wfC t = true) (hc : isComposite (topInner t) = true) (v : Val)
    (ht : hasTy t v = true) (hst : storageOK t v = true) (buf : Buf) (hwf : WF buf) :
    (serializeCpp oX t v buf).map (fun r => r.1.take r.2)
      = (GenC.serializeC oC t v buf buf.length).map (fun r => r.1.take r.2) := by
  rw [C01_genCpp_serialize_eq_serBuf oX hX t hw hwC hc v ht hst buf hwf,
    GenC.C01_genC_serialize_eq_serBuf oC hC t hw hwC hc v ht hst buf buf.length hwf (Nat.le_refl _)]

/-- Cross-target agreement, deserialization (C03): the C++ and the C model decode every byte string to the same
object with the same consumed size, or reject it with the same error code. -/
theorem C03_cpp_c_deserialize_agree (oX : Opts) (oC : GenC.Opts) (hX : oX.Sound) (hcl : oX.clearFirst = true)
    (hC : oC.Sound) (t : Ty) (hw : wf t = true) (hwC : wfC t = true) (hc : isComposite (topInner t) = true)
    (prior : Val) (hp : hasTy t prior = true) (buf : Buf) (hwf : WF buf) :
    deserializeCpp oX t prior buf = GenC.deserializeC oC t buf buf.length := by
  rw [deserializeCpp_refines oX hX hcl t hw hwC hc prior hp buf hwf,
    GenC.C02_genC_deserialize_bytes oC hC t hw hwC hc buf hwf]

/-- Cross-target agreement with the **Python** model, serialization (C03): on the objects all three targets accept,
whenever one of the C++ / C / Python implementation-shaped models produces bytes, all three produce exactly these
bytes (= `serBytes`); whenever the specification rejects the object, each reports its rendering of that error. -/
theorem C03_cpp_c_py_serialize_agree (oX : Opts) (oC : GenC.Opts) (env : GenPy.Env) (hX : oX.Sound) (hC : oC.Sound)
    (hE : GenPy.EnvSound env) (t : Ty) (hw : wf t = true) (hwC : wfC t = true) (hpw : GenPy.pyWf t = true)
    (hc : isComposite (topInner t) = true) (v : Val) (ht : hasTy t v = true) (hst : storageOK t v = true)
    (hdom : GenPy.inDom false t v = true) (buf : Buf) (hwf : WF buf)
    (hroom : maxBits (topInner t) ≤ 8 * buf.length) :
    (serializeCpp oX t v buf).map (fun r => r.1.take r.2) = (serBytes t v).mapError embedS ∧
    (GenC.serializeC oC t v buf buf.length).map (fun r => r.1.take r.2) = (serBytes t v).mapError embedS ∧
    GenPy.serializePy env t v = (serBytes t v).mapError GenPy.excOf := by
  have hb : serBuf t v buf.length = serBytes t v := by
    unfold serBuf; rw [if_neg (by omega)]
  refine ⟨?_, ?_, ?_⟩
  · rw [C01_genCpp_serialize_eq_serBuf oX hX t hw hwC hc v ht hst buf hwf, hb]
  · rw [GenC.C01_genC_serialize_eq_serBuf oC hC t hw hwC hc v ht hst buf buf.length hwf (Nat.le_refl _), hb]
  · rw [GenPy.C01_py_serialize_refines_spec env hE t v hw hpw hc hdom]
    cases serBytes t v <;> rfl

/-- Cross-target agreement with the Python model, deserialization (C03): every byte string is decoded to the same
object with the same consumed size by the three models; the C++ / C error codes correspond to Python's `None`. -/
theorem C03_cpp_c_py_deserialize_agree (oX : Opts) (oC : GenC.Opts) (env : GenPy.Env) (hX : oX.Sound)
    (hcl : oX.clearFirst = true) (hC : oC.Sound) (hE : GenPy.EnvSound env) (t : Ty) (hw : wf t = true)
    (hwC : wfC t = true) (hpw : GenPy.pyWf t = true) (hc : isComposite (topInner t) = true)
    (prior : Val) (hp : hasTy t prior = true) (bytes : Buf) (hwf : WF bytes) :
    deserializeCpp oX t prior bytes = GenC.deserializeC oC t bytes bytes.length ∧
    GenPy.deserializePy env t bytes = match deserializeCpp oX t prior bytes with
      | .ok r => .ok (some r)
      | .error _ => .ok none := by
  refine ⟨C03_cpp_c_deserialize_agree oX oC hX hcl hC t hw hwC hc prior hp bytes hwf, ?_⟩
  rw [deserializeCpp_refines oX hX hcl t hw hwC hc prior hp bytes hwf,
    GenPy.C02_py_deserialize_refines_spec env hE t bytes hw hpw hc hwf]
  cases deBytes t bytes <;> rfl

/-- `struct { truncated uint5 x; void3; int16 y; bool[3] f; Inner z }`-like type with a delimited member -/
def exTy : Ty :=
  .struct [.uint 5 .trunc, .void 3, .sint 16 .sat, .arr .bool 3,
    .delim 64 (.struct [.uint 3 .sat, .varr (.sint 12 .sat) 2])]

def exVal : Val :=
  .struct [.int 255, .void, .int (-2), .arr [.bool true, .bool false, .bool true],
    .struct [.int 9, .arr [.int (-5), .int 3000]]]

/-- what the destination object holds before `deserialize` -/
def exPrior : Val :=
  .struct [.int 17, .void, .int 99, .arr [.bool true, .bool true, .bool true],
    .struct [.int 5, .arr [.int 1, .int 2]]]

def optPlain : Opts := { orc := exactOrc }
def optAsserts : Opts := { orc := exactOrc, asserts := true }

example : wf exTy = true ∧ wfC exTy = true ∧ hasTy exTy exVal = true ∧ storageOK exTy exVal = true ∧
    hasTy exTy exPrior = true := by decide +kernel

example : maxBits exTy = 128 := by decide +kernel

example : (serializeCpp optPlain exTy exVal (List.replicate 16 255)).map (fun r => r.1.take r.2)
    = .ok [31, 254, 255, 5, 5, 0, 0, 0, 23, 216, 255, 255, 3] := by decide +kernel

example : (serializeCpp optAsserts exTy exVal (List.replicate 16 255)).map (fun r => r.1.take r.2)
    = (serBytes exTy exVal).mapError embedS := by decide +kernel

example : serializeCpp optAsserts exTy exVal (List.replicate 15 255) = .error eTooSmall := by decide +kernel

example : (serializeCpp optPlain exTy exVal (List.replicate 20 85)).map (fun r => r.1.drop r.2)
    = .ok (List.replicate 7 85) := by decide +kernel

example : serializeCpp optPlain (.struct [.varr .bool 2]) (.struct [.arr [.bool true, .bool true, .bool false]])
    (List.replicate 4 0) = .error eBadArrayLength := by decide +kernel

example : deserializeCpp optAsserts exTy exPrior [31, 254, 255, 5, 5, 0, 0, 0, 23, 216, 255, 255, 3]
    = .ok (.struct [.int 31, .void, .int (-2), .arr [.bool true, .bool false, .bool true],
        .struct [.int 7, .arr [.int (-5), .int 2047]]], 13) := by decide +kernel

/-- implicit zero extension: two bytes only; nothing of `exPrior` survives -/
example : deserializeCpp optPlain exTy exPrior [31, 254]
    = .ok (.struct [.int 31, .void, .int 254, .arr [.bool false, .bool false, .bool false],
        .struct [.int 0, .arr []]], 2) := by decide +kernel

example : deserializeCpp optPlain exTy exPrior [31, 254, 255, 5, 9, 0, 0, 0, 23] = .error eBadDelimiterHeader := by
  decide +kernel

example : deserializeCpp optPlain exTy exPrior [31, 254, 255, 5, 2, 0, 0, 0, 23, 3] = .error eBadArrayLength := by
  decide +kernel

/-! The hypothesis `clearFirst = true` is necessary: the template before fix 46d1abc (no `reference.clear()`) appends
the decoded elements to what the container held — the result depends on the destination's prior state. -/

def optNoClear : Opts := { orc := exactOrc, clearFirst := false }
def exTy3 : Ty := .struct [.varr (.uint 8 .sat) 4]

example : deserializeCpp optPlain exTy3 (.struct [.arr [.int 9, .int 9]]) [1, 7] = .ok (.struct [.arr [.int 7]], 2) := by
  decide +kernel
example : deserializeCpp optNoClear exTy3 (.struct [.arr [.int 9, .int 9]]) [1, 7]
    = .ok (.struct [.arr [.int 9, .int 9, .int 7]], 2) := by decide +kernel
example : deserializeCpp optNoClear exTy3 (.struct [.arr [.int 9, .int 9]]) [1, 7]
    ≠ (deBytes exTy3 [1, 7]).mapError embedD := by decide +kernel

/-! The soundness hypothesis on the oracle is what keeps the emitted alignment assertions from firing: an oracle that
claims alignment everywhere makes the generator emit `NUNAVUT_ASSERT(out_buffer.offset_alings_to_byte())` before the
`uint8` member of `struct { uint3 a; uint8 b }`, which aborts.  (Unlike in C, the bytes do not depend on the oracle:
the C++ templates have no alignment-dependent fast path.) -/

def liar (a : Bool) : Opts := { orc := fun _ => true, asserts := a }
def exTy2 : Ty := .struct [.uint 3 .sat, .uint 8 .sat]
def exVal2 : Val := .struct [.int 5, .int 255]

example : serBytes exTy2 exVal2 = .ok [253, 7] := by decide +kernel
example : serializeCpp (liar false) exTy2 exVal2 [0, 0] = .ok ([253, 7], 2) := by decide +kernel
example : serializeCpp (liar true) exTy2 exVal2 [0, 0] = .error .assert := by decide +kernel
example : deserializeCpp (liar true) exTy2 (trivVal exTy2) [253, 7] = .error .assert := by decide +kernel

end NunavutVerif.GenCpp
