import NunavutVerif.Lemmas.Lexer
import NunavutVerif.Lemmas.LexerFull
import NunavutVerif.Lemmas.Autoindent
/-!
# C19 — the bundled template engine is a conservative extension of stock Jinja2

The parts of the property: T1 a template without marker sequence means what it means upstream; T2 a marker captures the blanks
in front of it as the prefix; T3 what `lineprefix` does; T4 the `assert` and `ifuses` tags; T5 the source normalisation.
Quantifiers: all source texts, all behaviours of the (unmodified, shared) tag states, both settings of
`lstrip_blocks`, all prefixes and strings of `lineprefix`, all query valuations and `ifuses` chains.
The rest of the engine (expressions and the inside of statements, compiler, runtime) is not modelled; it is covered by
the differential tie.
-/
namespace NunavutVerif.Lexer

/-- `hasMarker` is "contains one of the marker sequences of this lexer as a substring". -/
theorem C19_hasMarker_iff (cfg : Cfg) (s : Str) :
    hasMarker cfg s = true ↔
      ∃ a c b, s = a ++ '{' :: c :: '*' :: b ∧
        ((cfg.star = true ∧ (c = '{' ∨ c = '%')) ∨ (cfg.commentStar = true ∧ c = '#')) :=
  hasMarker_iff cfg s

/-- T1 (one step): on a text without marker sequence the root rule of the edited lexer finds the same data,
begin kind and begin token as the rule without Nunavut's alternatives. -/
theorem C19_rootStep_eq_without_marker (cfg : Cfg) (bol : Bool) (src : Str)
    (h : hasMarker cfg src = false) :
    rootStep cfg bol src = rootStep (stock cfg.lstrip) bol src :=
  rootStep_upstream cfg bol src h

/-- T1: for EVERY source text that contains none of `{{*`, `{%*` (this includes the raw-begin variant), the
bundled lexer's scan equals the upstream scan, whatever the tag states do and for both `lstrip_blocks`
settings: the edit is invisible to ordinary templates. -/
theorem C19_bundled_eq_stock_without_marker (lstrip : Bool) (inner : Kind → Str → Option Nat)
    (fuel : Nat) (bol : Bool) (src : Str) (h : hasMarker (bundled lstrip) src = false) :
    scan (bundled lstrip) inner fuel bol src = scan (stock lstrip) inner fuel bol src :=
  scan_upstream (bundled lstrip) inner fuel bol src h

/-- T1 for the lexer as found (before the fix): the same holds once `{#*` is counted as a marker too. -/
theorem C19_beforeFix_eq_stock_without_marker (lstrip : Bool) (inner : Kind → Str → Option Nat)
    (fuel : Nat) (bol : Bool) (src : Str) (h : hasMarker (bundledBeforeFix lstrip) src = false) :
    scan (bundledBeforeFix lstrip) inner fuel bol src = scan (stock lstrip) inner fuel bol src :=
  scan_upstream (bundledBeforeFix lstrip) inner fuel bol src h

/-- T2: a marker `{{*` / `{%*` preceded by the blanks `w` (and before that by data `d` without `{` that does
not end in a blank — e.g. `d` empty or ending in a newline: the marker is preceded on its line by `[ \t]*`):
the data token is exactly `d` (the blanks are removed from it), the begin token is `w` + marker, and the
prefix the parser hands to `lineprefix` (`token.value[:-3]`) is exactly `w`.  (`{%*` followed by
`\s*raw\s*-?%}` is a raw begin instead, hence `hraw`.) -/
theorem C19_marker_captures_prefix (lstrip bol : Bool) (d w rest : Str) (c : Char)
    (hc : c = '{' ∨ c = '%')
    (hd : ∀ x ∈ d, x ≠ '{') (hlast : ∀ x, d.getLast? = some x → isBlank x = false)
    (hw : ∀ x ∈ w, isBlank x = true) (hraw : c = '%' → rawTail rest = none) :
    rootStep (bundled lstrip) bol (d ++ (w ++ '{' :: c :: '*' :: rest)) =
        some ⟨d, if c = '{' then Kind.variable else Kind.block, w ++ ['{', c, '*'], rest⟩ ∧
      autoindentPrefix (w ++ ['{', c, '*']) = w ∧
      isAutoindent (if c = '{' then Kind.variable else Kind.block) (w ++ ['{', c, '*']) = true := by
  have hf := findBegin_marker (bundled lstrip) rfl bol c d w rest hc hd hlast hw hraw
  refine ⟨rootStep_of_findBegin (x := w ++ ['{', c, '*']) (by simp) (by simpa [kindOf] using hf),
    by simp [autoindentPrefix], ?_⟩
  rcases hc with rfl | rfl <;> simp [isAutoindent]

/-- T3 (exact description of the code): `lineprefix` puts `p` in front of every non-empty line AND rewrites the
terminators — each becomes `\n`, the final one disappears. -/
theorem C19_lineprefix_exact (p s : Str) :
    lineprefix p s = ((normTerms (linesT s)).map fun lt => pre p lt.1 ++ lt.2).flatten := by
  unfold lineprefix splitlines
  rw [List.map_map]
  exact joinNl_eq_normTerms (pre p) (linesT s)

/-- The specification is sound as a reading of "nothing else changes": it only inserts — with the empty
prefix it returns the string itself (terminators, final newline and all). -/
theorem C19_spec_inserts_only (s : Str) : specPrefix [] s = s := by
  simp only [specPrefix, pre_nil]
  exact linesT_flatten s

/-
T3, full statement (NOT provable, the code violates it — see the witnesses below and agent_out/C19/REPORT.txt, known
findings `lineprefix-final-newline` and `lineprefix-terminator-rewritten`):

  theorem C19_lineprefix (p s : Str) : lineprefix p s = specPrefix p s

What is missing in the `_partial` version: strings that end in a line terminator, and terminators other than `\n`.
-/

/-- T3 (partial): on strings whose only line boundary is `\n` and that do not end in one, `lineprefix p s` is
`s` with `p` in front of every non-empty line and nothing else changed. -/
theorem C19_lineprefix_partial (p s : Str) (h : plainLines s = true) :
    lineprefix p s = specPrefix p s := by
  obtain ⟨hb, hl⟩ := of_plainLines h
  rw [C19_lineprefix_exact, normTerms_linesT_plain s hb hl]; rfl

/-- T5a (`Lexer.tokeniter`, shared upstream code): without `keep_trailing_newline` the normalisation removes
exactly ONE final newline — `t` may itself end in newlines, they stay. -/
theorem C19_normalize_drops_exactly_one_newline (t : Str) (hb : ∀ c ∈ t, isBreak c = true → c = '\n') :
    normalizeSource false (t ++ ['\n']) = t := by
  unfold normalizeSource
  simp only [Bool.false_and, Bool.false_eq_true, if_false, List.append_nil]
  exact joinNl_splitlines_snoc_nl t hb

/-- T5b: with `keep_trailing_newline` (Nunavut's setting) the final newline stays. -/
theorem C19_normalize_keeps_trailing_newline (t : Str) (hb : ∀ c ∈ t, isBreak c = true → c = '\n') :
    normalizeSource true (t ++ ['\n']) = t ++ ['\n'] := by
  unfold normalizeSource
  have he : endsNl (t ++ ['\n']) = true := by simp [endsNl]
  simp only [he, Bool.and_self, if_true]
  have hne : splitlines (t ++ ['\n']) ≠ [] := by
    unfold splitlines
    simpa using linesT_ne_nil (s := t ++ ['\n']) (by simp)
  rw [joinNl_snoc_nil _ hne, joinNl_splitlines_snoc_nl t hb]

/-- T5c: a source with only `\n` line breaks and no final newline is lexed as written, under both settings. -/
theorem C19_normalize_identity (keep : Bool) (s : Str) (h : plainLines s = true) :
    normalizeSource keep s = s := by
  obtain ⟨hb, hl⟩ := of_plainLines h
  have he : endsNl s = false := by
    simp only [endsNl, Bool.or_eq_false_iff, beq_eq_false_iff_ne]
    exact ⟨hl, fun hr => absurd (hb _ (List.mem_of_getLast? hr) (by decide)) (by decide)⟩
  unfold normalizeSource splitlines
  simp only [he, Bool.and_false, Bool.false_eq_true, if_false, List.append_nil]
  rw [joinNl_eq_normTerms (fun l => l) (linesT s), normTerms_linesT_plain s hb hl]
  exact linesT_flatten s

/-- T4a: `{% assert e %}` renders the empty string iff `e` is truthy … -/
theorem C19_assert_renders_nothing_iff_truthy (truthy : Bool) (msg : Str) :
    doAssert truthy msg = .ok [] ↔ truthy = true := by
  cases truthy <;> simp [doAssert]

/-- … and raises the assertion error with its message otherwise (it never renders anything else). -/
theorem C19_assert_raises_otherwise (truthy : Bool) (msg : Str) :
    (truthy = false → doAssert truthy msg = .error (.assertion msg)) ∧
      (∀ out, doAssert truthy msg = .ok out → out = []) := by
  cases truthy <;> simp [doAssert]

/-- T4b: whatever `UseQuery.parse` builds for a chain `ifuses/ifnuses … elifuses/elifnuses … else … end`
evaluates as the ordinary `if / elif / else` over the query results, negated for the `…nuses` tags; an
undefined query raises when (and only when) its clause is reached. -/
theorem C19_ifuses_is_if_elif_else (q : Str → Option Bool) (openNegate : Bool) (name body : Str)
    (segs : List Seg) (node : IfNode) (h : parseUses openNegate name body segs = .ok node) :
    evalIf q node =
      ifElifElse ((clausesOf openNegate name body segs).map fun c => (useQuery q c.1 c.2.1, c.2.2))
        (elseOf segs) := by
  unfold parseUses at h
  split at h <;> cases h
  rename_i ng n b cs e hp
  obtain ⟨h1, h2⟩ := parseLoop_ok hp
  rw [evalIf, evalClauses_eq_ifElifElse, h1, h2]

/-! The whole state machine of the lexer (`Model/LexerFull.lean`):
`lexF` is `Lexer.tokeniter` from the root state with every tag state concrete (block / variable / line statement
tokenisation with brace balancing, comments, raw blocks, line comments, `-` / `+` signs, `trim_blocks`,
`lstrip_blocks`, line statement / comment prefixes), `tokeniter` adds the source normalisation, `tokenize` adds
`Lexer.wrap` (what the parser sees).  `Tables` (character classes of names / digits, operator list) are arbitrary. -/

/-- T1, whole lexer, every environment setting: on a text without marker sequence the edited lexer produces the
same token stream as the lexer without Nunavut's alternatives, from any root-state position. -/
theorem C19_lexer_eq_stock_without_marker (e : Env) (tb : Tables) (fuel : Nat) (prev : Option Char) (src : Str)
    (h : hasMarker e.cfg src = false) : lexF e tb fuel prev src = lexF e.upstream tb fuel prev src :=
  lexF_upstream e tb fuel prev src h

/-- T1 for `Lexer.tokeniter` / `Lexer.tokenize` on the template source as written (before normalisation): for every
source without `{{*` / `{%*`, every `trim_blocks`, `lstrip_blocks`, `keep_trailing_newline`, `newline_sequence`,
line statement and line comment prefix, the token stream with line numbers — and what `wrap` hands to the parser,
including which begin tokens the parser would wrap in `lineprefix` — is the upstream one. -/
theorem C19_tokeniter_eq_stock_without_marker (e : Env) (tb : Tables) (keep : Bool) (seq source : Str)
    (h : hasMarker e.cfg source = false) :
    tokeniter e tb keep source = tokeniter e.upstream tb keep source ∧
      tokenize e tb keep seq source = tokenize e.upstream tb keep seq source := by
  have := tokeniter_upstream e tb keep source h
  exact ⟨this, by unfold tokenize; rw [this]⟩

/-- The states entered by a begin token are upstream code: what they tokenise does not depend on the edit, and a
block / variable state does not see whether its begin token ended in `*` (the only look-behind, `(?<!\.)` of the
float rule, asks for a dot). -/
theorem C19_tag_state_ignores_the_marker (e : Env) (tb : Tables) (hops : ∀ op ∈ tb.operators, op ≠ [])
    (c : Char) (hc : c = '{' ∨ c = '%') (rest : Str) :
    innerF e.lstrip e.trim tb (kindOf c).toR (some '*') rest =
      innerF e.upstream.lstrip e.upstream.trim tb (kindOf c).toR (some c) rest := by
  rcases hc with rfl | rfl
  · exact innerF_prev e.lstrip e.trim tb _ (Or.inl rfl) _ _ rest (by decide)
  · exact innerF_prev e.lstrip e.trim tb _ (Or.inr rfl) _ _ rest (by decide)

/-- T2 for whole token streams (Nunavut's settings: no line statement / comment prefixes).  Source
`d w {c* rest` (marker) against `d w {c rest` (the plain construct; `rest` does not begin with a sign), `d` data
without `{` that does not end in a blank, `w` blanks.  Tokenised from the same root-state position by the bundled
lexer, the two streams are

    marker:  data d            , begin (w{c*) , K
    plain:   data (d w)        , begin ({c)   , K        (or  data d, begin (w{c), K  when `lstrip_blocks`
                                                          strips the blanks of a block at the start of a line)

with the SAME continuation `K` (tokens of the tag up to its end token, then the rest of the template): (a) the begin
token is rewritten, (b) the captured blanks are removed from the preceding data token (an empty data token is not
emitted), and nothing else changes.  (`{%*` followed by `\s*raw\s*-?%}` is a raw begin instead, hence `hraw`.) -/
theorem C19_marker_rewrites_two_tokens (e : Env) (tb : Tables) (hs : e.star = true) (hl : e.noLinePrefixes)
    (hops : ∀ op ∈ tb.operators, op ≠ [])
    (fuel : Nat) (prev : Option Char) (c : Char) (d w rest : Str) (hc : c = '{' ∨ c = '%')
    (hd : ∀ x ∈ d, x ≠ '{') (hlast : ∀ x, d.getLast? = some x → isBlank x = false)
    (hw : ∀ x ∈ w, isBlank x = true) (ht : noSign rest) (hraw : c = '%' → rawTail rest = none) :
    let K := (innerF e.lstrip e.trim tb (kindOf c).toR (some c) rest).andThen (lexF e tb fuel)
    let b := (kindOf c).toR.beginTT
    lexF e tb (fuel + 1) prev (d ++ (w ++ '{' :: c :: '*' :: rest)) =
        optTok .data d ++ .tok b (w ++ ['{', c, '*']) :: K ∧
      lexF e tb (fuel + 1) prev (d ++ (w ++ '{' :: c :: rest)) =
        (if (e.lstrip && bolAfter (isBol prev) d && c == '%') = true
          then optTok .data d ++ [.tok b (w ++ ['{', c])]
          else optTok .data (d ++ w) ++ [.tok b ['{', c]]) ++ K := by
  intro K b
  refine ⟨?_, lexF_plain e tb hl fuel prev c d w rest hc hd hlast hw ht hraw⟩
  have hf := findBegin_marker e.cfg hs (isBol prev) c d w rest hc hd hlast hw hraw
  rw [lexF_step e tb hl fuel prev d (w ++ ['{', c, '*']) rest '*' (by simp) (by simp) (by simpa using hf),
    C19_tag_state_ignores_the_marker e tb hops c hc rest]
  rfl

/-- … and the plain construct is tokenised by the lexer WITHOUT Nunavut's alternatives exactly as by the bundled
one when no further marker follows: the stream of the marker construct is the upstream stream of the plain
construct with the two tokens rewritten. -/
theorem C19_marker_stream_vs_stock_plain (e : Env) (tb : Tables) (hl : e.noLinePrefixes)
    (fuel : Nat) (prev : Option Char) (c : Char) (d w rest : Str) (hc : c = '{' ∨ c = '%')
    (hd : ∀ x ∈ d, x ≠ '{') (hlast : ∀ x, d.getLast? = some x → isBlank x = false)
    (hw : ∀ x ∈ w, isBlank x = true) (ht : noSign rest) (hraw : c = '%' → rawTail rest = none)
    (hm : hasMarker e.cfg ('{' :: c :: rest) = false) :
    lexF e.upstream tb (fuel + 1) prev (d ++ (w ++ '{' :: c :: rest)) =
      (if (e.lstrip && bolAfter (isBol prev) d && c == '%') = true
        then optTok .data d ++ [.tok (kindOf c).toR.beginTT (w ++ ['{', c])]
        else optTok .data (d ++ w) ++ [.tok (kindOf c).toR.beginTT ['{', c]]) ++
        (innerF e.lstrip e.trim tb (kindOf c).toR (some c) rest).andThen (lexF e tb fuel) := by
  have hno : hasMarker e.cfg (d ++ (w ++ '{' :: c :: rest)) = false := by
    rw [hasMarker_append_noBrace e.cfg d _ hd,
      hasMarker_append_noBrace e.cfg w _ (fun x hx => (ne_brace_of_isBlank (hw x hx)).symm), hm]
  rw [← lexF_upstream e tb (fuel + 1) prev _ hno]
  exact lexF_plain e tb hl fuel prev c d w rest hc hd hlast hw ht hraw

/-- What `subparse` (repaired: the marker is the start string followed by `*`) does with a begin token: `{{* e }}` at
indentation `w` (begin token `w{{*`, T2) becomes the `lineprefix` filter with argument exactly `w` around the expression and
renders as `lineprefix w (output of e)`; a statement `{%* … %}` becomes a filter block and renders as
`lineprefix w (output of the statement)`; a begin token that is not a marker is not wrapped; a `*` on an end /
intermediate tag (`{%* endif %}`) is ignored — the enclosing statement is closed exactly as by the plain tag. -/
theorem C19_subparse_wraps_marked_constructs (bo : Str → Option (List Str × Str)) (V : Val) (fuel : Nat)
    (ends : List Str) (w e : Str) (v name arg : Str) (n : Node) (is : List Item) :
    (subparse (repaired bo) (fuel + 1) ends (.var (w ++ ['{', '{', '*']) e :: is) =
        (match subparse (repaired bo) fuel ends is with
         | .ok (ns, e', r) => .ok (.exprWrapped w e :: ns, e', r)
         | .error x => .error x)) ∧
      renderNode V (.exprWrapped w e) = lineprefix w (V.expr e) ∧
      renderNode V (wrapStmt (repaired bo) (w ++ ['{', '%', '*']) n) = lineprefix w (renderNode V n) ∧
      (markerTest true v = false →
        subparse (repaired bo) (fuel + 1) ends (.var v e :: is) =
            (match subparse (repaired bo) fuel ends is with
             | .ok (ns, e', r) => .ok (.expr e :: ns, e', r)
             | .error x => .error x)) ∧
      (markerTest false v = false → wrapStmt (repaired bo) v n = n) ∧
      (ends.contains name = true →
        subparse (repaired bo) (fuel + 1) ends (.tag v name arg :: is) = .ok ([], some name, is)) := by
  refine ⟨?_, ?_, ?_, ?_, ?_, ?_⟩
  · simp only [subparse, repaired, markerTest_variable, autoindentPrefix_marker, if_true]
    cases subparse ⟨bo, markerTest⟩ fuel ends is with
    | error x => rfl
    | ok r => obtain ⟨ns, e', r⟩ := r; rfl
  · simp [renderNode]
  · simp [wrapStmt, repaired, markerTest_block, autoindentPrefix_marker, renderNode, renderNodes]
  · intro hv
    simp only [subparse, repaired, hv, Bool.false_eq_true, if_false]
    cases subparse ⟨bo, markerTest⟩ fuel ends is with
    | error x => rfl
    | ok r => obtain ⟨ns, e', r⟩ := r; rfl
  · intro hv; exact wrapStmt_noStar n hv
  · intro hn
    simp only [subparse, hn, if_true]

/-- T1 (ordinary templates keep their meaning) for the PARSER edit, EVERY environment setting whose line statement prefix does not itself end in `{%*`
(in particular prefixes that merely end in `*`, like `//*`): in the token stream of a source without `{{*` / `{%*` no
begin token is a marker for the parser (the upstream alternatives end in `-`, `+`, or the last character of the start
string; a line statement begin ends in its prefix; raw begin tokens never reach the parser), so `Parser.subparse` builds
no `lineprefix` wrapper anywhere — the tree is the one the unedited parser builds — and the whole model pipeline
source → text is the same with the upstream lexer.  (For the parser as found — marker test `endswith('*')` — this is
FALSE under a line statement prefix ending in `*`: see the witnesses below.) -/
theorem C19_parser_edit_invisible_without_marker (e : Env) (hP : ∀ p, e.lineStmt = some p → isBlockMarker p = false)
    (tb : Tables) (bo : Str → Option (List Str × Str)) (keep : Bool) (seq source : Str)
    (h : hasMarker e.cfg source = false) :
    (∀ p ∈ tokenize e tb keep seq source, parserWraps p = false) ∧
      (∀ items ns, groupItems none (tokenize e tb keep seq source) = some items →
        parseItems (repaired bo) items = .ok ns → wrapperFreeL ns = true) ∧
      (∀ st V, renderTemplate e tb st V keep seq source = renderTemplate e.upstream tb st V keep seq source) := by
  have hno := tokenize_no_parserWraps e hP tb keep seq source h
  refine ⟨hno, ?_, ?_⟩
  · intro items ns hg hp
    exact parseItems_wrapperFree bo items
      (groupItems_noStar none _ items hg hno (by intro b v acc hc; cases hc)) ns hp
  · intro st V
    unfold renderTemplate
    rw [(C19_tokeniter_eq_stock_without_marker e tb keep seq source h).2]

/-- `lineprefix` on a text given by its lines (no line boundary inside a line): every non-empty line gets the prefix,
lines are joined by `\n`, and a final empty line (= the text ended in a terminator) disappears. -/
theorem C19_lineprefix_lines (p : Str) (ls : List Str) (h : ∀ l ∈ ls, breakFree l) :
    lineprefix p (joinNl ls) = joinNl ((dropTrailingEmpty ls).map (pre p)) := by
  unfold lineprefix
  rw [splitlines_joinNl ls h]

/-- Nested markers, exact law: the prefixes ACCUMULATE (outer ++ inner), and each of the two applications drops one
final line terminator.  `p2` is a captured prefix: blanks, in particular without line boundary. -/
theorem C19_lineprefix_nested (p1 p2 x : Str) (hp : breakFree p2) :
    lineprefix p1 (lineprefix p2 x) = lineprefix (p1 ++ p2) (lineprefix [] x) := by
  have hL := breakFree_splitlines x
  have h0 : (splitlines x).map (pre []) = splitlines x := by
    rw [List.map_congr_left (fun l _ => pre_nil l)]; simp
  conv => lhs; arg 2; unfold lineprefix
  conv => rhs; arg 2; unfold lineprefix
  rw [C19_lineprefix_lines p1 _ (breakFree_map_pre hp hL), h0, C19_lineprefix_lines (p1 ++ p2) _ hL,
    dropTrailingEmpty_map_pre, map_pre_pre]

/-- Nested markers in context: an inner marked construct at indentation `p2` that contributes the lines `lx` (already
prefixed: `lx.map (pre p2)`) to the body of an outer marked block at indentation `p1`, between the lines `la` and
`lb` of that body.  In the output of the outer block the inner lines carry `p1 ++ p2`, the other lines `p1`, empty
lines nothing (the body does not end in an empty line — else that line disappears, see `C19_lineprefix_lines`). -/
theorem C19_lineprefix_prefixes_accumulate (p1 p2 : Str) (la lx lb : List Str) (hp : breakFree p2)
    (ha : ∀ l ∈ la, breakFree l) (hx : ∀ l ∈ lx, breakFree l) (hb : ∀ l ∈ lb, breakFree l)
    (hlast : (la ++ lx ++ lb).getLast? ≠ some []) :
    lineprefix p1 (joinNl (la ++ lx.map (pre p2) ++ lb)) =
      joinNl (la.map (pre p1) ++ lx.map (pre (p1 ++ p2)) ++ lb.map (pre p1)) := by
  have hall : ∀ l ∈ la ++ lx.map (pre p2) ++ lb, breakFree l := by
    simp only [List.forall_mem_append]
    exact ⟨⟨ha, breakFree_map_pre hp hx⟩, hb⟩
  -- the last line is empty iff it was empty before prefixing
  have hl2 : (la ++ lx.map (pre p2) ++ lb).getLast? ≠ some [] := by
    simp only [List.getLast?_append, List.getLast?_map] at hlast ⊢
    cases h1 : lb.getLast? <;> cases h2 : lx.getLast? <;> simpa [h1, h2, pre_eq_nil_iff] using hlast
  rw [C19_lineprefix_lines p1 _ hall, dropTrailingEmpty_eq, if_neg hl2]
  simp only [List.map_append, map_pre_pre]

/-- Output ending in a line terminator (known finding F15c, exact form): appending ONE terminator to an output that
does not end in one changes nothing — the marked construct renders as if the terminator were not there. -/
theorem C19_lineprefix_final_terminator_dropped (p x : Str) (c : Char) (hc : isBreak c = true)
    (hlast : ∀ y, x.getLast? = some y → isBreak y = false) :
    lineprefix p (x ++ [c]) = lineprefix p x := by
  by_cases hne : x = []
  · subst hne
    simp [lineprefix, splitlines, linesT_break hc, linesT, joinNl, pre]
  · unfold lineprefix
    rw [splitlines_snoc_break x c hc hne hlast]

/-- Empty output: a marked construct that prints nothing renders nothing (and the captured blanks are gone from the
data, T2); more generally output without a non-empty line gets no prefix anywhere. -/
theorem C19_lineprefix_empty_output (p x : Str) :
    lineprefix p [] = [] ∧ ((∀ l ∈ splitlines x, l = []) → lineprefix p x = lineprefix [] x) := by
  refine ⟨by simp [lineprefix, splitlines, linesT, joinNl], fun h => ?_⟩
  unfold lineprefix
  congr 1
  apply List.map_congr_left
  intro l hl
  rw [h l hl]; rfl

/-- `{% assert e %}` / `{% assert e, m %}`: a falsy `e` raises with the given message — or the default one when none is
given — and with the line of the tag and the name of the template that contains it; a truthy `e` renders nothing. -/
theorem C19_assert_reports_message_line_and_template (truthy : Bool) (given : Option Str) (lineno : Nat) (name : Str) :
    (truthy = false → doAssertAt truthy given lineno name =
        .error ⟨given.getD "Template assertion failed.".toList, lineno, name⟩) ∧
      (truthy = true → doAssertAt truthy given lineno name = .ok []) := by
  cases truthy
  · exact ⟨fun _ => rfl, fun h => (nomatch h)⟩
  · exact ⟨fun h => (nomatch h), fun _ => rfl⟩

/-- The argument of `ifuses` / `ifnuses` / `elifuses` / `elifnuses` is an expression: `None` raises the template
assertion error and a non-string raises `TypeError` for BOTH polarities (the negation is applied to the result of
`_use_query_common`, after it raised); a string is looked up in the target language's `uses_queries` namespace and
the clause is `negate xor query()`, an unknown name is `UndefinedError`. -/
theorem C19_use_query_argument (q : Str → Option Bool) (negate : Bool) (s : Str) :
    useQueryV q negate .none_ = .error .unknownQueryName ∧ useQueryV q negate .other = .error .typeError ∧
      (q s = none → useQueryV q negate (.str s) = .error (.undefinedQuery s)) ∧
      (∀ b, q s = some b → useQueryV q negate (.str s) = .ok (negate != b)) := by
  refine ⟨rfl, rfl, ?_, ?_⟩
  · intro h; simp [useQueryV, useQuery, h]
  · intro b h; cases negate <;> cases b <;> simp [useQueryV, useQuery, h]

/-- Every environment `CodeGenEnvironmentBuilder` can create (any `set_trim_blocks` / `set_lstrip_blocks`) has the
default delimiters, no line statement / line comment prefix and `keep_trailing_newline`: the lexer of every Nunavut
environment is `lexF` at an `Env` that satisfies the hypotheses of the marker theorems. -/
theorem C19_builder_environments_meet_the_lexer_model (b : BuilderState) :
    let s := builderSettings b
    (s.blockStart, s.blockEnd, s.variableStart, s.variableEnd, s.commentStart, s.commentEnd) =
        ("{%".toList, "%}".toList, "{{".toList, "}}".toList, "{#".toList, "#}".toList) ∧
      s.keepTrailingNewline = true ∧ s.newlineSequence = "\n".toList ∧
      (⟨true, false, s.lstripBlocks, s.trimBlocks, s.lineStatementPrefix, s.lineCommentPrefix⟩ : Env).noLinePrefixes ∧
      s.trimBlocks = b.trim ∧ s.lstripBlocks = b.lstrip := by
  simp [builderSettings, Env.noLinePrefixes]

/-! Non-vacuity and negation witnesses, evaluated by the kernel.  Where it pays, `String.toList` of a literal is first
rewritten to the list of its characters (`String.toList_ofList`): left to the kernel it is decoded from the UTF-8 bytes,
which costs more than running the model. -/

-- T1 is not vacuous and its hypothesis is needed: with a marker the scans differ.
example : hasMarker (bundled false) "a {% if x %} b {{ y }}".toList = false := by
  repeat rw [String.toList_ofList]
  decide +kernel
example : rootStep (bundled false) true "  {{* x }}".toList ≠ rootStep (stock false) true "  {{* x }}".toList := by
  repeat rw [String.toList_ofList]
  decide +kernel
-- the lexer as found: a comment that merely starts with `*` loses the blanks in front of it (F15) …
example : rootStep (bundledBeforeFix false) true "  {#* note #}x".toList =
    some ⟨[], .comment, "  {#*".toList, " note #}x".toList⟩ := by
  repeat rw [String.toList_ofList]
  decide +kernel
-- … upstream and the repaired lexer keep them in the data:
example : rootStep (stock false) true "  {#* note #}x".toList =
    some ⟨"  ".toList, .comment, "{#".toList, "* note #}x".toList⟩ := by
  repeat rw [String.toList_ofList]
  decide +kernel
example : rootStep (bundled false) true "  {#* note #}x".toList =
    rootStep (stock false) true "  {#* note #}x".toList := by
  repeat rw [String.toList_ofList]
  decide +kernel
-- T2: an instance, and the same text with a plain tag keeps the blanks in the data
example : rootStep (bundled false) true "ab\n  {%* include x %}".toList =
    some ⟨"ab\n".toList, .block, "  {%*".toList, " include x %}".toList⟩ := by
  repeat rw [String.toList_ofList]
  decide +kernel
example : rootStep (bundled false) true "ab\n  {% include x %}".toList =
    some ⟨"ab\n  ".toList, .block, "{%".toList, " include x %}".toList⟩ := by
  repeat rw [String.toList_ofList]
  decide +kernel
-- `{%* raw %}` is a raw begin: nothing will be prefixed (known finding `marker-raw-not-prefixed`)
example : (rootStep (bundled false) true "  {%* raw %}x{% endraw %}".toList).map (·.kind) = some .raw := by
  repeat rw [String.toList_ofList]
  decide +kernel
-- T3: negation of the full statement, one witness per defect class
example : lineprefix [] "a\n".toList ≠ specPrefix [] "a\n".toList := by decide +kernel
example : lineprefix " ".toList "a\r\nb".toList ≠ specPrefix " ".toList "a\r\nb".toList := by decide +kernel
example : lineprefix " ".toList "a\x0cb".toList = " a\n b".toList := by
  repeat rw [String.toList_ofList]
  decide +kernel
example : lineprefix "  ".toList "a\n\nb".toList = "  a\n\n  b".toList ∧ plainLines "a\n\nb".toList = true := by
  repeat rw [String.toList_ofList]
  decide +kernel
-- T5: two final newlines, one is removed (not both); exotic boundaries become `\n` (upstream 2.x behaviour)
example : normalizeSource false "a\n\n".toList = "a\n".toList ∧ normalizeSource true "a\r\n\r".toList = "a\n\n".toList ∧
    normalizeSource false "a\x0cb".toList = "a\nb".toList := by
  repeat rw [String.toList_ofList]
  decide +kernel
-- T4
example : doAssert false "m".toList = .error (.assertion "m".toList) := by rfl
example : parseUses true "a".toList "A".toList [⟨.elifuses, "b".toList, "B".toList⟩, ⟨.else_, [], "C".toList⟩, ⟨.end_, [], []⟩]
    = .ok ⟨true, "a".toList, "A".toList, [(false, "b".toList, "B".toList)], "C".toList⟩ := by rfl

-- The whole lexer.  A marker construct and its plain form, tokenised by the bundled lexer (ASCII tables):
def envN (star lstrip trim : Bool) : Env := ⟨star, false, lstrip, trim, none, none⟩
example : lexF (envN true false false) asciiTables 20 none "a\n  {{* x }}b".toList =
    [.tok .data "a\n".toList, .tok .variableBegin "  {{*".toList, .tok .whitespace " ".toList, .tok .name "x".toList,
     .tok .whitespace " ".toList, .tok .variableEnd "}}".toList, .tok .data "b".toList] := by
  repeat rw [String.toList_ofList]
  decide +kernel
example : lexF (envN true false false) asciiTables 20 none "a\n  {{ x }}b".toList =
    [.tok .data "a\n  ".toList, .tok .variableBegin "{{".toList, .tok .whitespace " ".toList, .tok .name "x".toList,
     .tok .whitespace " ".toList, .tok .variableEnd "}}".toList, .tok .data "b".toList] := by
  repeat rw [String.toList_ofList]
  decide +kernel
-- lstrip_blocks strips the blanks of a plain block at the start of a line; the marker captures them either way
example : lexF (envN true true true) asciiTables 20 none "  {% x %}\nb".toList =
    [.tok .blockBegin "  {%".toList, .tok .whitespace " ".toList, .tok .name "x".toList,
     .tok .whitespace " ".toList, .tok .blockEnd "%}\n".toList, .tok .data "b".toList] := by
  repeat rw [String.toList_ofList]
  decide +kernel
-- the upstream lexer reads `{{*` as `{{` followed by the operator `*`; braces inside the tag are balanced
example : lexF (envN false false false) asciiTables 20 none "  {{* {1:2}}}".toList =
    [.tok .data "  ".toList, .tok .variableBegin "{{".toList, .tok .operator "*".toList, .tok .whitespace " ".toList,
     .tok .operator "{".toList, .tok .integer "1".toList, .tok .operator ":".toList, .tok .integer "2".toList,
     .tok .operator "}".toList, .tok .variableEnd "}}".toList] := by
  repeat rw [String.toList_ofList]
  decide +kernel
-- `{%* raw %}`: the begin token is a raw begin, `wrap` drops it — the parser never sees a marker (known finding)
example : tokenize (envN true false false) asciiTables true "\n".toList "  {%* raw %}x{% endraw %}".toList =
    [.tok 1 .data "x".toList] := by
  repeat rw [String.toList_ofList]
  decide +kernel
-- … whereas for `{%* if %}` the parser-visible begin token ends in `*` (and only that one is wrapped)
example : (tokenize (envN true false false) asciiTables true "\n".toList "  {%* if y %}".toList).map parserWraps =
    [true, false, false, false] := by
  repeat rw [String.toList_ofList]
  decide +kernel
-- T1 needs its hypothesis, also for the whole lexer
example : lexF (envN true false false) asciiTables 20 none " {%* x %}".toList ≠
    lexF (envN true false false).upstream asciiTables 20 none " {%* x %}".toList := by
  repeat rw [String.toList_ofList]
  decide +kernel
-- line statements / line comments (not configured by Nunavut, covered by T1 all the same)
example : lexF ⟨true, false, false, false, some "%%".toList, some "##".toList⟩ asciiTables 20 none "%% if x\na ## c".toList =
    [.tok .lstmtBegin "%%".toList, .tok .whitespace " ".toList, .tok .name "if".toList, .tok .whitespace " ".toList,
     .tok .name "x".toList, .tok .lstmtEnd "\n".toList, .tok .data "a".toList, .tok .lcmtBegin " ##".toList,
     .tok .lcmt " c".toList, .tok .lcmtEnd []] := by
  repeat rw [String.toList_ofList]
  decide +kernel

-- subparse + lineprefix end to end on the model (lexer → items → subparse → render)
def valX : Val := ⟨fun e => if e = "v".toList then "a\nb".toList else "?".toList, fun _ => true, fun _ => 2, fun _ _ => []⟩
example : renderTemplate (envN true false false) asciiTables coreStmts valX true "\n".toList "x:\n  {{* v }}!".toList =
    some "x:\n  a\n  b!".toList := by
  repeat rw [String.toList_ofList]
  decide +kernel
-- nested: outer block at 2 blanks, inner expression at 1 blank: inner lines carry 3 blanks
example : renderTemplate (envN true false false) asciiTables coreStmts valX true "\n".toList
    "  {%* if c %}\nk\n {{* v }}\n{% endif %}".toList = some "\n  k\n   a\n   b".toList := by
  repeat rw [String.toList_ofList]
  decide +kernel
-- a `*` on the end tag is ignored; without markers nothing is wrapped
example : renderTemplate (envN true false false) asciiTables coreStmts valX true "\n".toList
    "{% if c %}k{%* endif %}|".toList = some "k|".toList := by
  repeat rw [String.toList_ofList]
  decide +kernel
-- the parser edit is invisible without marker (wrapper-free tree) and visible with one
def treeOf (src : String) : Option (List Node) :=
  match groupItems none (tokenize (envN true false false) asciiTables true "\n".toList src.toList) with
  | some is => (match parseItems coreStmts is with | .ok ns => some ns | .error _ => none)
  | none => none
-- (the literal is made a `String.ofList _` before `treeOf` is unfolded by its equation: once it stands under the `match`,
-- the kernel compares the two forms of the string by evaluating the whole discriminant on both sides)
example : (treeOf "a {%- if c %} x{{ v * 2 }}{% else %}{% include 'p' %}{% endif %}").map wrapperFreeL = some true := by
  show (treeOf (String.ofList _)).map wrapperFreeL = _
  rw [treeOf]
  simp only [String.toList_ofList]
  decide +kernel
example : (treeOf "a {% if c %}\n  {{* v }}{% endif %}").map wrapperFreeL = some false := by
  show (treeOf (String.ofList _)).map wrapperFreeL = _
  rw [treeOf]
  simp only [String.toList_ofList]
  decide +kernel
-- the parser as found (marker test `endswith('*')`): under `line_statement_prefix = '//*'` every line statement is taken for an
-- auto-indent block — a template WITHOUT marker renders differently (genuine defect, fix_marker_is_start_plus_star); repaired: as upstream
def envLS : Env := ⟨true, false, false, false, some "//*".toList, none⟩
def valL : Val := ⟨fun _ => "1".toList, fun _ => true, fun _ => 2, fun _ _ => []⟩
example : hasMarker envLS.cfg "//* for x in xs\n{{ x }}\n//* endfor\nend".toList = false := by
  repeat rw [String.toList_ofList]
  decide +kernel
example : renderTemplate envLS asciiTables coreStmtsBeforeFix valL true "\n".toList "//* for x in xs\n{{ x }}\n//* endfor\nend".toList =
    some "1\n1end".toList := by
  repeat rw [String.toList_ofList]
  decide +kernel
example : renderTemplate envLS asciiTables coreStmts valL true "\n".toList "//* for x in xs\n{{ x }}\n//* endfor\nend".toList =
    some "1\n1\nend".toList := by
  repeat rw [String.toList_ofList]
  decide +kernel
example : (tokenize envLS asciiTables true "\n".toList "  //* if c".toList).map parserWrapsBeforeFix = [true, false, false, false] ∧
    (tokenize envLS asciiTables true "\n".toList "  //* if c".toList).map parserWraps = [false, false, false, false] := by
  repeat rw [String.toList_ofList]
  decide +kernel
-- the two composition laws at work, and why the exact laws need their side conditions
example : lineprefix " ".toList (lineprefix "\t".toList "a\n\nb".toList) = " \ta\n\n \tb".toList := by
  repeat rw [String.toList_ofList]
  decide +kernel
example : lineprefix " ".toList (lineprefix "\t".toList "a\n\n".toList) = " \ta".toList ∧
    lineprefix " \t".toList "a\n\n".toList = " \ta\n".toList := by
  repeat rw [String.toList_ofList]
  decide +kernel
example : lineprefix "  ".toList "a\n".toList = lineprefix "  ".toList "a".toList := by
  repeat rw [String.toList_ofList]
  decide +kernel
example : lineprefix "  ".toList "\n\n".toList = "\n".toList := by decide +kernel

end NunavutVerif.Lexer
