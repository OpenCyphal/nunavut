import NunavutVerif.Lemmas.Resolve
import NunavutVerif.Lemmas.ResolveDirs
import NunavutVerif.Lemmas.EnvCtor
/-!
# C16 — template resolution and environment contract

The property theorems, with witnesses and counterfactuals evaluated on small instances.  The PyDSDL class table
(`Gen/PydsdlClasses.lean`) and the constructor's statement list (`Gen/EnvCtor.lean`) are regenerated on every run.

Quantifiers.  `type_to_template` (`C16_lookup_*`): every hierarchy `H` (classes, `__bases__`, `__name__` arbitrary
functions) that is single-inheritance and ranked (= acyclic), every pair of template sets (each loader present or
absent), every cache reachable by any sequence of earlier look-ups with any fuel, every class, every sufficient fuel.
The PyDSDL hierarchy (`C16_pydsdl_*`) and the instance tests over it: the generated PyDSDL table, by `decide` over the
whole table (`C16_isSub_is_chain_membership`: by `isSub_eq_chain_contains`, which holds of every such table; only its
hypotheses are evaluated).  `get_source` (`C16_getSource_*`): every list of user directories, every package content,
every template name.  The environment (`construct`): every configuration of built-in names, every list of user
globals / filters / tests.  Directory lists (`C16_dirs_*`, `C16_enumeration_lists_what_resolution_returns`): every
ORDERED LIST of user directories (each an arbitrary name ↦ content store), every package, hierarchy, cache, class.
The constructor as a state machine (`constructSM`): every loader configuration (any boolean attributes of the loader
object), every constructor argument, every additional_* map, each of the three ways an environment is constructed.
`C16_env_instance_tests_per_language`: the instance tests of the finished environment of every target language
(regenerated), by `decide` over the whole tables.

Which names of the environment are protected against additional filters / tests / globals, and by what
(all four mechanisms are in `construct`; `C16_user_additions_never_replace_builtins` covers them together):
  (a) RESERVED_GLOBAL_NAMESPACES / _NAMES: explicit check in the `additional_globals` loop — raise, any allow flag
      (`C16_reserved_global_raises`); their values are (re)installed after the loop anyway;
  (b) names present when the user's items are added — Jinja's default globals, filters and tests; the filters and
      tests of the language support (`ln.<lang>.<x>` for every supported language, `<x>` for the target) and of the
      environment itself, all installed BEFORE the user's filters/tests: `_add_to_environment` finds the name —
      raise unless the allow flag is set (`C16_colliding_filter_or_test_raises`, `C16_colliding_global_raises`);
  (c) names installed AFTER the user's globals by unconditional assignment — the target language's globals
      (`globals.update(target_language.get_globals())`), the reserved namespace objects, `now_utc`: the built-in
      value overwrites the user's, with or without the allow flag; no error, but the built-in is never replaced
      (`C16_language_and_reserved_globals_installed_last`);
  (d) names installed after `create()` through `_add_to_environment` — instance tests, the generator's own
      `filter_*` / `is_*` methods: the installation finds the user's item and raises unless the allow flag is set.

`lookup`, `construct` describe the code with the two repairs proposed by this check; `lookupBeforeFix`,
`constructBeforeFix` the code before them, with the violated statements refuted by concrete witnesses.
-/
namespace NunavutVerif.Resolve

/-- T1: with any reachable cache and enough fuel the look-up terminates and returns the template named after
the nearest class of the inheritance chain (self first) that has a template in either set; at that class the
user's (file-system) template shadows the built-in (package) one (`mfind`).  The cache it leaves is again
reachable. -/
theorem C16_lookup_nearest {H : Hier} {rank : Cls → Nat} (hS : SingleInheritance H) (hR : RankedBy H rank)
    (fs pkg : Option Templates) {cache : Cache} (hc : Reachable H fs pkg cache) (c : Cls) (fuel : Nat)
    (hf : rank c < fuel) :
    ∃ cache', lookup H fuel cache fs pkg c = some (nearestAncestor H (mfind fs pkg) rank c, cache') ∧
      Reachable H fs pkg cache' := by
  rcases lookup_spec hS hR fs pkg hc c fuel with ⟨_, h⟩ | h
  · omega
  · exact h

/-- T1 (any fuel): whenever a look-up returns at all, it returns the specified template. -/
theorem C16_lookup_sound {H : Hier} {rank : Cls → Nat} (hS : SingleInheritance H) (hR : RankedBy H rank)
    (fs pkg : Option Templates) {cache : Cache} (hc : Reachable H fs pkg cache) (c : Cls) (fuel : Nat)
    (r : Option Path) (cache' : Cache) (h : lookup H fuel cache fs pkg c = some (r, cache')) :
    r = nearestAncestor H (mfind fs pkg) rank c := by
  rcases lookup_spec hS hR fs pkg hc c fuel with ⟨h1, _⟩ | ⟨_, h1, _⟩
  · rw [h1] at h; cases h
  · rw [h1] at h; cases h; rfl

/-- T1 (independent of earlier look-ups): two loader objects with the same template sets, whatever was
looked up on each before, give the same template for the same class. -/
theorem C16_lookup_independent_of_history {H : Hier} {rank : Cls → Nat} (hS : SingleInheritance H)
    (hR : RankedBy H rank) (fs pkg : Option Templates) {cache₁ cache₂ : Cache}
    (h₁ : Reachable H fs pkg cache₁) (h₂ : Reachable H fs pkg cache₂) (c : Cls) (f₁ f₂ : Nat)
    (r₁ r₂ : Option Path) (c₁ c₂ : Cache)
    (e₁ : lookup H f₁ cache₁ fs pkg c = some (r₁, c₁)) (e₂ : lookup H f₂ cache₂ fs pkg c = some (r₂, c₂)) :
    r₁ = r₂ := by
  rw [C16_lookup_sound hS hR fs pkg h₁ c f₁ r₁ c₁ e₁, C16_lookup_sound hS hR fs pkg h₂ c f₂ r₂ c₂ e₂]

/-- T1 (independent of enumeration order): when no two listed templates of a set share a stem, permuting the
listings changes nothing. -/
theorem C16_lookup_order_independent (H : Hier) (rank : Cls → Nat) (fs fs' pkg pkg' : Templates)
    (hfs : fs.Perm fs') (hpkg : pkg.Perm pkg') (ufs : (fs.map Prod.fst).Nodup) (upkg : (pkg.map Prod.fst).Nodup)
    (c : Cls) :
    nearestAncestor H (mfind (some fs) (some pkg)) rank c = nearestAncestor H (mfind (some fs') (some pkg')) rank c := by
  have : mfind (some fs) (some pkg) = mfind (some fs') (some pkg') := by
    funext n
    simp only [mfind, Option.bind]
    rw [tfind_perm hfs ufs n, tfind_perm hpkg upkg n]
  rw [this]

/-- T1 (precedence): a class that has a user template resolves to it, whatever the built-in set contains. -/
theorem C16_user_template_shadows_builtin {H : Hier} {rank : Cls → Nat} (hS : SingleInheritance H)
    (hR : RankedBy H rank) (fs : Templates) (pkg : Option Templates) {cache : Cache}
    (hc : Reachable H (some fs) pkg cache) (c : Cls) (p : Path) (hp : tfind fs (H.name c) = some p)
    (fuel : Nat) (hf : rank c < fuel) :
    ∃ cache', lookup H fuel cache (some fs) pkg c = some (some p, cache') := by
  obtain ⟨cache', h, _⟩ := C16_lookup_nearest hS hR (some fs) pkg hc c fuel hf
  refine ⟨cache', ?_⟩
  rw [h, nearestAncestor_step hR]
  simp [mfind, Option.bind, hp]

/-- T1 (a class without a template of its own resolves like its base; a root without one has none). -/
theorem C16_lookup_falls_back_to_base {H : Hier} {rank : Cls → Nat} (hR : RankedBy H rank)
    (fs pkg : Option Templates) (c : Cls) (h : mfind fs pkg (H.name c) = none) :
    nearestAncestor H (mfind fs pkg) rank c =
      match H.bases c with
      | [] => none
      | b :: _ => nearestAncestor H (mfind fs pkg) rank b := by
  rw [nearestAncestor_step hR, h]
  rfl

/-- The code before the repair is the same function whenever only one loader exists — which is what
`DSDLCodeGenerator` (search policy FIND_FIRST) always constructs. -/
theorem C16_beforeFix_single_loader (H : Hier) (fuel : Nat) (cache : Cache) (t : Templates) (c : Cls) :
    lookupBeforeFix H fuel cache (some t) none c = lookup H fuel cache (some t) none c ∧
    lookupBeforeFix H fuel cache none (some t) c = lookup H fuel cache none (some t) c := by
  constructor
  · simp only [lookupBeforeFix, lookup, merged, Option.getD, List.nil_append]
    cases bfs H t fuel cache [c] [] with
    | none => rfl
    | some rc => obtain ⟨r, cache'⟩ := rc; cases r <;> rfl
  · simp [lookupBeforeFix, lookup, merged]

/-! Here and below, before a closed instance is evaluated, `String.toList` of a literal is rewritten to the list of its
characters (`String.toList_ofList`; a definition that holds literals is unfolded for it): the kernel would decode each
literal from its UTF-8 bytes, which costs more than running the model. -/

/-- Three classes `A ← B ← C` (0, 1, 2). -/
def exH : Hier where
  bases c := if c = 2 then [1] else if c = 1 then [0] else []
  name c := if c = 0 then ['A'] else if c = 1 then ['B'] else ['C']

example : SingleInheritance exH := by
  intro c
  unfold exH
  dsimp only
  split
  · simp
  · split <;> simp

example : RankedBy exH id := by
  intro c b hb
  unfold exH at hb
  dsimp only at hb
  split at hb
  · simp at hb; subst hb; subst_vars; decide
  · split at hb
    · simp at hb; subst hb; subst_vars; decide
    · simp at hb

/-- Dependence on earlier look-ups: built-in templates for `B` and `C`, an empty user directory.  Cold, `C`
resolves to `C.j2`; after a look-up of `B` it resolves to `B.j2`. -/
example :
    let pkg : Templates := [(['B'], "B.j2".toList), (['C'], "C.j2".toList)]
    (lookupBeforeFix exH 9 [] (some []) (some pkg) 2).map (·.1) = some (some "C.j2".toList) ∧
    ((lookupBeforeFix exH 9 [] (some []) (some pkg) 1).bind fun r =>
        (lookupBeforeFix exH 9 r.2 (some []) (some pkg) 2).map (·.1)) = some (some "B.j2".toList) ∧
    (lookup exH 9 [] (some []) (some pkg) 2).map (·.1) = some (some "C.j2".toList) ∧
    ((lookup exH 9 [] (some []) (some pkg) 1).bind fun r =>
        (lookup exH 9 r.2 (some []) (some pkg) 2).map (·.1)) = some (some "C.j2".toList) := by
  repeat rw [String.toList_ofList]
  decide +kernel

/-- Not the nearest class: a user template for the far ancestor `A`, a built-in one for `C` itself.  Before
the repair `C` resolved to the user's `A.j2`; now to `C.j2`. -/
example :
    let fs : Templates := [(['A'], "usr/A.j2".toList)]
    let pkg : Templates := [(['C'], "C.j2".toList)]
    (lookupBeforeFix exH 9 [] (some fs) (some pkg) 2).map (·.1) = some (some "usr/A.j2".toList) ∧
    (lookup exH 9 [] (some fs) (some pkg) 2).map (·.1) = some (some "C.j2".toList) ∧
    nearestAncestor exH (mfind (some fs) (some pkg)) id 2 = some "C.j2".toList := by
  repeat rw [String.toList_ofList]
  decide +kernel

/-- The hierarchy the loader walks for PyDSDL objects: class = row of the generated table. -/
def pydsdlHier : Hier := Hier.ofTable genTable genStops

/-- The table is well formed: names are unique and every base is a row. -/
theorem C16_pydsdl_table_wellformed :
    (genTable.map Prod.fst).Nodup ∧ ∀ e ∈ genTable, ∀ b ∈ e.2, (indexOf genTable b).isSome = true := by
  decide +kernel

theorem C16_pydsdl_single_inheritance : SingleInheritance pydsdlHier :=
  singleInheritance_ofTable _ genTable_single

/-- Acyclic: every base precedes its subclasses in the table, so the row index is a rank. -/
theorem C16_pydsdl_acyclic : RankedBy pydsdlHier id :=
  rankedBy_ofTable (by decide +kernel)

/-- T1 for PyDSDL objects: every class of the running PyDSDL, every pair of template sets, every history. -/
theorem C16_pydsdl_lookup (fs pkg : Option Templates) {cache : Cache} (hc : Reachable pydsdlHier fs pkg cache)
    (c : Cls) :
    ∃ cache', lookup pydsdlHier (c + 1) cache fs pkg c =
        some (nearestAncestor pydsdlHier (mfind fs pkg) id c, cache') ∧ Reachable pydsdlHier fs pkg cache' :=
  C16_lookup_nearest C16_pydsdl_single_inheritance C16_pydsdl_acyclic fs pkg hc c (c + 1) (Nat.lt_succ_self c)

/-- "Ending at `Any`": the chain the search walks from any class under `pydsdl.Any` ends at `Any` (it does not
go on to `abc.ABC`, the base of `Any`). -/
theorem C16_pydsdl_chain_ends_at_any :
    ∀ n ∈ Gen.PydsdlClasses.underAny, ∃ c, indexOf genTable n = some c ∧
      ((chain pydsdlHier (c + 1) c).getLast?.map pydsdlHier.name) = some ['A', 'n', 'y'] := by
  decide +kernel

example : (indexOf genTable "StructureType".toList).map (fun c => (chain pydsdlHier (c + 1) c).map pydsdlHier.name) =
    some ["StructureType".toList, "CompositeType".toList, "SerializableType".toList, "Any".toList] := by
  repeat rw [String.toList_ofList]
  decide +kernel

/-- The user's template is loaded whenever a user directory has a file of that name — however the request spells
the name (`./x`, `a//x`, `/x`; canonical form `c`), whether or not a listing shows the file, whatever the package
contains: the first such directory in search-path order. -/
theorem C16_getSource_user_first (dirs : List Store) (pkg : Option Store) (t c : Path)
    (hc : canonicalName t = some c) (h : ∃ d ∈ dirs, (sfind d c).isSome = true) :
    ∃ v, fsSource dirs c = some v ∧ getSource (some dirs) pkg t = some (.user, v) := by
  have hv : ∃ v, fsSource dirs c = some v := Option.isSome_iff_exists.mp <|
    (fsSource_isSome_iff c dirs).mpr (h.imp fun d hd => ⟨hd.1, (sfind_isSome_iff c d).mp hd.2⟩)
  obtain ⟨v, hv⟩ := hv
  exact ⟨v, hv, by simp [getSource, getSourceAt, hc, Option.bind, hv]⟩

/-- Only when no user directory has the name is the built-in template loaded; with neither, `TemplateNotFound`. -/
theorem C16_getSource_builtin_fallback (fs : Option (List Store)) (pkg : Option Store) (t c : Path)
    (hc : canonicalName t = some c) (h : fs.bind (fsSource · c) = none) :
    getSource fs pkg t = (pkg.bind (sfind · c)).map fun v => (Origin.builtin, v) := by
  simp only [getSource, getSourceAt, hc, h]
  cases pkg <;> rfl

/-- Two spellings of one name are served from the same source; a name with a `..` piece is never served. -/
theorem C16_getSource_spelling_irrelevant (fs : Option (List Store)) (pkg : Option Store) (t t' : Path) :
    (canonicalName t = canonicalName t' → getSource fs pkg t = getSource fs pkg t') ∧
    (canonicalName t = none → getSource fs pkg t = none) := by
  constructor
  · intro h; simp only [getSource, h]
  · intro h; simp only [getSource, h]

example : canonicalName "./a//b/./c.j2".toList = some "a/b/c.j2".toList ∧ canonicalName "/x.j2/".toList = some "x.j2".toList ∧
    canonicalName "sub/../x.j2".toList = none ∧ canonicalName "a/..b/x".toList = some "a/..b/x".toList := by
  repeat rw [String.toList_ofList]
  decide +kernel

/-- The stem a template is filed under is its name minus the LAST suffix only: for every name `s.x` (`s`, `x`
non-empty, no dot in `x`) `Path.stem = s` and `Path.suffix = .x`, whatever dots `s` contains.  So `UnionType.orig.j2`
is filed under `UnionType.orig` — it is nobody's template. -/
theorem C16_stem_drops_last_suffix_only (s x : List Char) (hs : s ≠ []) (hx : x ≠ []) (hdot : '.' ∉ x) :
    splitExt (s ++ '.' :: x) = (s, '.' :: x) :=
  splitExt_last_suffix s x hs hx hdot

example : templatesOf ".j2".toList ["UnionType.orig.j2".toList, "StructureType.j2.bak".toList, ".Any.j2".toList,
      "UNIONTYPE.j2".toList, "sub/UnionType.j2".toList, "UnionType.j2/readme.txt".toList] =
    [("UnionType.orig".toList, "UnionType.orig.j2".toList), (".Any".toList, ".Any.j2".toList),
     ("UNIONTYPE".toList, "UNIONTYPE.j2".toList), ("UnionType".toList, "sub/UnionType.j2".toList)] := by
  repeat rw [String.toList_ofList]
  decide +kernel

/-- `_create_all_dsdl_tests()` as computed by the model over the generated table (evaluated by the kernel). -/
def genTestList : List (Name × Name) := genTests.getD []

/-- The enumeration terminates (fuel suffices). -/
theorem C16_tests_enumerated : genTests = some genTestList := by
  have h := genTests_agree_with_code.1
  unfold genTestList
  cases hg : genTests with
  | none => rw [hg] at h; cases h
  | some l => rfl

/-- The model's enumeration is exactly what the code's `_create_all_dsdl_tests()` returns (names and the class
each closure is bound to, read from the running code by the translator). -/
theorem C16_tests_agree_with_code :
    (∀ e ∈ genTestList, e ∈ genCodeTests) ∧ (∀ e ∈ genCodeTests, e ∈ genTestList) :=
  genTests_agree_with_code.2

/-- The name → class map is a function: no alias collides with another alias or with a class name. -/
theorem C16_test_names_unambiguous :
    ∀ a ∈ genTestList, ∀ b ∈ genTestList, a.1 = b.1 → a.2 = b.2 := by
  -- read off the code's table, which has the same members
  have h : genCodeTests.Pairwise fun a b => a.1 = b.1 → a.2 = b.2 := by decide +kernel
  exact fun a ha b hb =>
    unambiguous_of_pairwise h a (C16_tests_agree_with_code.1 a ha) b (C16_tests_agree_with_code.1 b hb)

/-- `cls` is in one of the sub-trees `_create_all_dsdl_tests` starts from. -/
def underRoot (cls : Name) : Bool := genRoots.any fun r => isSub genTable genTable.length cls r

/-- Every class of the `SerializableType` and `Attribute` sub-trees has a test of its own name and one of its
short alias, both bound to that class. -/
theorem C16_every_class_has_test_and_alias :
    ∀ e ∈ genTable, underRoot e.1 = true →
      testClass genTestList e.1 = some e.1 ∧ testClass genTestList (aliasOf e.1) = some e.1 := by
  have h : ∀ e ∈ genTable, underRoot e.1 = true →
      (e.1, e.1) ∈ genCodeTests ∧ (aliasOf e.1, e.1) ∈ genCodeTests := by decide +kernel
  intro e he hr
  have hm : ∀ n, (n, e.1) ∈ genCodeTests → testClass genTestList n = some e.1 := fun n hn =>
    testClass_eq_tfind ▸ tfind_of_mem C16_test_names_unambiguous (C16_tests_agree_with_code.2 _ hn)
  exact ⟨hm _ (h e he hr).1, hm _ (h e he hr).2⟩

/-- Sub-class membership as computed on names (`issubclass`) is membership in the chain the search walks, for
every class under `pydsdl.Any` as the ancestor. -/
theorem C16_isSub_is_chain_membership :
    ∀ i, i < genTable.length → ∀ j, j < genTable.length → Gen.PydsdlClasses.underAny.contains (pydsdlHier.name j) = true →
      isSub genTable genTable.length (pydsdlHier.name i) (pydsdlHier.name j) = (chain pydsdlHier (i + 1) i).contains j := by
  -- `Any`, where the search stops, is a proper subclass of no class under `Any`
  have hstop : ∀ n ∈ Gen.PydsdlClasses.underAny, ∀ s ∈ genStops, s ≠ n → isSub genTable genTable.length s n = false := by
    decide +kernel
  intro i hi j hj hu
  have hn : ∀ {k} (hk : k < genTable.length), pydsdlHier.name k = genTable[k].1 :=
    fun hk => ofTable_name (List.getElem?_eq_getElem hk)
  rw [hn hj] at hu ⊢
  rw [hn hi, chain_fuel C16_pydsdl_acyclic (i + 1) (genTable.length + 1) i (Nat.lt_succ_self i) (Nat.lt_succ_of_lt hi)]
  exact isSub_eq_chain_contains C16_pydsdl_table_wellformed.1 C16_pydsdl_table_wellformed.2 genTable_single
    (List.getElem?_eq_getElem hj) (hstop _ (List.contains_iff_mem.mp hu)) _ (Nat.le_refl _) i _
    (List.getElem?_eq_getElem hi)

/-- The value of a test, by its class name or by its alias, on any value: sub-class membership of the value's
class — or, when the value is an attribute, of its `data_type`'s class. -/
theorem C16_test_value (e : Name × List Name) (he : e ∈ genTable) (hr : underRoot e.1 = true)
    (vcls : Name) (dt : Option Name) :
    evalTest genTable genTestList genRedirect (aliasOf e.1) vcls dt =
      evalTest genTable genTestList genRedirect e.1 vcls dt ∧
    evalTest genTable genTestList genRedirect e.1 vcls dt =
      if isSub genTable genTable.length vcls genRedirect then
        match dt with
        | some d => .ok (isSub genTable genTable.length d e.1)
        | none => .error .noDataType
      else .ok (isSub genTable genTable.length vcls e.1) := by
  obtain ⟨h1, h2⟩ := C16_every_class_has_test_and_alias e he hr
  rw [evalTest_of_testClass h1, evalTest_of_testClass h2]
  exact ⟨rfl, by unfold fieldIsInstance; cases dt <;> rfl⟩

/-- A test's answer is a function of the value alone (its class, its data_type's class): after any earlier queries in
the same environment the answers for `qs` are those of `qs` asked in a fresh environment.  This only spells out a
modelling decision: the code's closures hold no state (no memo keyed by object identity), so `evalSeq` maps `evalTest`
over the queries, and the equation holds of any such map. -/
theorem C16_tests_independent_of_history (t : Table) (tests : List (Name × Name)) (redirect : Name)
    (earlier qs : List (Name × Name × Option Name)) :
    (evalSeq t tests redirect (earlier ++ qs)).drop earlier.length = evalSeq t tests redirect qs := by
  induction earlier with
  | nil => rfl
  | cons q earlier ih => simpa [evalSeq] using ih

/-- Consequence of the redirection (recorded as observation O1 in agent_out/C16/REPORT.txt): the tests named after the attribute classes
(`Attribute`, `Field`, `PaddingField`, `Constant` and their aliases) are false on every attribute. -/
theorem C16_attribute_class_tests_false_on_attributes :
    ∀ e ∈ genTable.filter (fun e => isSub genTable genTable.length e.1 genRedirect),
    ∀ v ∈ genTable.filter (fun e => isSub genTable genTable.length e.1 genRedirect),
    ∀ d ∈ genTable.filter (fun e => !isSub genTable genTable.length e.1 genRedirect),
      (match evalTest genTable genTestList genRedirect e.1 v.1 (some d.1) with
        | .ok b => b
        | .error _ => true) = false := by
  -- the value is redirected to its data_type, and no other class is a sub-class of an attribute class
  have hsub : ∀ e ∈ genTable.filter (fun e => isSub genTable genTable.length e.1 genRedirect),
      ∀ d ∈ genTable.filter (fun e => !isSub genTable genTable.length e.1 genRedirect),
        isSub genTable genTable.length d.1 e.1 = false := by decide +kernel
  have hroot : genRedirect ∈ genRoots := by decide +kernel
  intro e he v hv d hd
  obtain ⟨he', hea⟩ := List.mem_filter.mp he
  have hr : underRoot e.1 = true := List.any_eq_true.mpr ⟨_, hroot, hea⟩
  rw [(C16_test_value e he' hr v.1 (some d.1)).2, if_pos (List.mem_filter.mp hv).2]
  exact hsub e he d hd

/-- The environment with no user additions. -/
def builtinEnv (cfg : EnvCfg) : Except Err Env := construct cfg false [] [] []

/-- T5 (main): without the allow flag, if construction with the user's globals, filters and tests succeeds,
every name the environment defines without them — Jinja defaults, reserved namespaces, language globals,
language support, instance tests, the generator's own filters and tests — still has its built-in value. -/
theorem C16_user_additions_never_replace_builtins (cfg : EnvCfg) (ug uf ut : List (Name × Owner))
    (env env₀ : Env) (h : construct cfg false ug uf ut = .ok env) (h₀ : builtinEnv cfg = .ok env₀) :
    (∀ n v, cget env₀.filters n = some v → cget env.filters n = some v) ∧
    (∀ n v, cget env₀.tests n = some v → cget env.tests n = some v) ∧
    (∀ n v, cget env₀.globals n = some v → cget env.globals n = some v) := by
  obtain ⟨g, ⟨hg, _⟩, hr⟩ := construct_ok h
  obtain ⟨g₀, ⟨hg₀, _⟩, hr₀⟩ := construct_ok h₀
  cases hg₀
  obtain ⟨hF, hT, hG⟩ := constructRest_ok hr
  obtain ⟨hF₀, hT₀, hG₀⟩ := constructRest_ok hr₀
  simp only [conv, List.map_nil, List.append_nil] at hF₀ hT₀
  refine ⟨(addAll_false_insert hF₀ hF).1, (addAll_false_insert hT₀ hT).1, fun n v hn => ?_⟩
  rw [hG₀, builtinGlobals_eq_setAll] at hn
  rw [hG, builtinGlobals_eq_setAll]
  exact cget_setAll_mono ((addAll_false_ok hg).1 n v) hn

/-- T5 (the user's own additions are effective): after a successful construction each user filter / test is
registered under its conventional name (`is_` / `filter_` / `uses_` prefix removed) with the user's value. -/
theorem C16_user_additions_registered (cfg : EnvCfg) (ug uf ut : List (Name × Owner)) (env : Env)
    (h : construct cfg false ug uf ut = .ok env) :
    (∀ e ∈ uf, cget env.filters (conventionalName e.1) = some e.2) ∧
    (∀ e ∈ ut, cget env.tests (conventionalName e.1) = some e.2) := by
  obtain ⟨g, _, hr⟩ := construct_ok h
  obtain ⟨hF, hT, _⟩ := constructRest_ok hr
  have hm : ∀ {a c u : List (Name × Owner)} (e : Name × Owner), e ∈ u → (conventionalName e.1, e.2) ∈ a ++ conv u ++ c :=
    fun e he => List.mem_append_left _ (List.mem_append_right _ (List.mem_map_of_mem he))
  exact ⟨fun e he => (addAll_false_ok hF).2.1 _ (hm e he), fun e he => (addAll_false_ok hT).2.1 _ (hm e he)⟩

/-- T5 (never silently): a user filter or test whose conventional name is a name the environment defines
without the user's additions makes the construction raise. -/
theorem C16_colliding_filter_or_test_raises (cfg : EnvCfg) (ug uf ut : List (Name × Owner)) (env₀ : Env)
    (h₀ : builtinEnv cfg = .ok env₀) (e : Name × Owner)
    (hcol : (e ∈ uf ∧ (cget env₀.filters (conventionalName e.1)).isSome = true) ∨
            (e ∈ ut ∧ (cget env₀.tests (conventionalName e.1)).isSome = true)) :
    ∃ x, construct cfg false ug uf ut = .error x :=
  exists_error_of_forall_ne_ok fun env h => by
    obtain ⟨g, _, hr⟩ := construct_ok h
    obtain ⟨g₀, _, hr₀⟩ := construct_ok h₀
    obtain ⟨hF, hT, _⟩ := constructRest_ok hr
    obtain ⟨hF₀, hT₀, _⟩ := constructRest_ok hr₀
    simp only [conv, List.map_nil, List.append_nil] at hF₀ hT₀
    -- the user's batch is inserted into the sequence of built-in additions: its names are not among theirs
    rcases hcol with ⟨he, hs⟩ | ⟨he, hs⟩
    · rw [(addAll_false_insert hF₀ hF).2.2 _ (List.mem_map_of_mem he)] at hs; cases hs
    · rw [(addAll_false_insert hT₀ hT).2.2 _ (List.mem_map_of_mem he)] at hs; cases hs

/-- T5 (reserved globals): a user global named like a reserved namespace or reserved name raises, with or
without the allow flag, in the repaired and in the unrepaired code. -/
theorem C16_reserved_global_raises (cfg : EnvCfg) (allow : Bool) (ug uf ut : List (Name × Owner))
    (e : Name × Owner) (he : e ∈ ug) (hr : e.1 ∈ cfg.reservedNs ++ cfg.reservedNames) :
    (∃ x, construct cfg allow ug uf ut = .error x) ∧ (∃ x, constructBeforeFix cfg allow ug uf ut = .error x) :=
  ⟨exists_error_of_forall_ne_ok fun _ h => by obtain ⟨_, ⟨_, hres⟩, _⟩ := construct_ok h; exact hres e he hr,
   exists_error_of_forall_ne_ok fun _ h => (constructBeforeFix_ok h).1 e he hr⟩

/-- T5 (default globals, repaired code): a user global named like a global Jinja defines (`range`, `dict`,
`namespace`, …) raises without the allow flag. -/
theorem C16_colliding_global_raises (cfg : EnvCfg) (ug uf ut : List (Name × Owner)) (e : Name × Owner)
    (he : e ∈ ug) (w : Owner) (hw : cget cfg.jinjaGlobals e.1 = some w) :
    ∃ x, construct cfg false ug uf ut = .error x :=
  exists_error_of_forall_ne_ok fun _ h => by
    obtain ⟨g, ⟨hg, _⟩, _⟩ := construct_ok h
    obtain ⟨x, hx⟩ := addAll_false_collision ug cfg.jinjaGlobals e he w hw
    rw [hg] at hx
    cases hx

/-- T5 (order of installation, globals): the target language's globals (`typename_*`, `valuetoken_*`,
`ConstructorConvention`, …), the reserved namespaces and `now_utc` are installed AFTER the user's globals were
taken, by unconditional assignment (`globals.update(get_globals())`, `globals[ns] = …`).  Hence, with or without
the allow flag, in the repaired and in the unrepaired constructor, a successfully constructed environment holds the
built-in value at each of these names — a user global of that name is overwritten, never the other way round. -/
theorem C16_language_and_reserved_globals_installed_last (cfg : EnvCfg) (allow : Bool)
    (ug uf ut : List (Name × Owner)) (env : Env)
    (h : construct cfg allow ug uf ut = .ok env ∨ constructBeforeFix cfg allow ug uf ut = .ok env) (n : Name) :
    (∀ v, lastOf cfg.langGlobals n = some v → cget env.globals n = some v) ∧
    (lastOf cfg.langGlobals n = none → (n = nowUtc ∨ n ∈ cfg.reservedNs) → cget env.globals n = some .reserved) := by
  have hg : ∃ g, env.globals = builtinGlobals cfg g := by
    rcases h with h | h
    · obtain ⟨g, _, hr⟩ := construct_ok h
      exact ⟨g, (constructRest_ok hr).2.2⟩
    · exact ⟨_, (constructRest_ok (constructBeforeFix_ok h).2).2.2⟩
  obtain ⟨g, hg⟩ := hg
  rw [hg, cget_builtinGlobals]
  constructor
  · intro v hv; simp [hv]
  · intro hnone hres
    simp only [hnone]
    rcases hres with h1 | h1
    · simp [h1]
    · by_cases h2 : nowUtc = n <;> simp [h1, h2]

def exCfg₁ : EnvCfg where
  jinjaFilters := []
  jinjaTests := []
  jinjaGlobals := [("range".toList, .jinja)]
  reservedNs := ["ln".toList]
  reservedNames := ["now_utc".toList]
  langGlobals := []
  preFilters := []
  preTests := []
  post := []

/-- T5 (what the allow flag does): whatever the flag, a construction that does not raise is plain item assignment in
installation order — filters/tests: Jinja defaults, language support, the USER's, then instance tests and the
generator's own; globals: Jinja defaults, the USER's (none of them reserved), then reserved namespaces, `now_utc`
and the language globals.  The flag only decides whether a collision raises. -/
theorem C16_constructed_environment_is_installation_order (cfg : EnvCfg) (allow : Bool)
    (ug uf ut : List (Name × Owner)) (env : Env) (h : construct cfg allow ug uf ut = .ok env) :
    env.filters = setAll cfg.jinjaFilters (cfg.preFilters ++ conv uf ++ postOf .filter cfg.post) ∧
    env.tests = setAll cfg.jinjaTests (cfg.preTests ++ conv ut ++ postOf .test cfg.post) ∧
    env.globals = builtinGlobals cfg (setAll cfg.jinjaGlobals ug) ∧
    ∀ e ∈ ug, e.1 ∉ cfg.reservedNs ++ cfg.reservedNames := by
  obtain ⟨g, ⟨hg, hres⟩, hr⟩ := construct_ok h
  obtain ⟨hF, hT, hG⟩ := constructRest_ok hr
  exact ⟨addAll_ok hF, addAll_ok hT, by rw [hG, addAll_ok hg], hres⟩

/-- T5 (scope of the allow flag).  With the flag ON the user's item may replace only what was installed BEFORE it:
Jinja's default globals, filters and tests and the language-support filters/tests.  It may NOT touch
 * reserved globals: a reserved name among the additional globals raises whatever the flag
   (`C16_reserved_global_raises`), and the reserved namespaces, `now_utc` and the target language's globals hold
   their built-in value in every constructed environment (`C16_language_and_reserved_globals_installed_last`);
 * anything installed after it: at the name of an instance test or of one of the generator's own filters/tests
   the constructed environment holds the built-in item (it replaced the user's). -/
theorem C16_allow_flag_scope (cfg : EnvCfg) (allow : Bool) (ug uf ut : List (Name × Owner)) (env : Env)
    (h : construct cfg allow ug uf ut = .ok env) (n : Name) :
    (∀ v, lastOf (postOf .filter cfg.post) n = some v → cget env.filters n = some v) ∧
    (∀ v, lastOf (postOf .test cfg.post) n = some v → cget env.tests n = some v) ∧
    (∀ v, lastOf cfg.langGlobals n = some v → cget env.globals n = some v) ∧
    (lastOf cfg.langGlobals n = none → (n = nowUtc ∨ n ∈ cfg.reservedNs) → cget env.globals n = some .reserved) ∧
    (∀ e ∈ ug, e.1 ∉ cfg.reservedNs ++ cfg.reservedNames) := by
  obtain ⟨hF, hT, _, hR⟩ := C16_constructed_environment_is_installation_order cfg allow ug uf ut env h
  obtain ⟨hL, hRes⟩ := C16_language_and_reserved_globals_installed_last cfg allow ug uf ut env (Or.inl h) n
  refine ⟨?_, ?_, hL, hRes, hR⟩
  · intro v hv
    rw [hF, cget_setAll, lastOf_append, hv]
  · intro v hv
    rw [hT, cget_setAll, lastOf_append, hv]

/-- Why the explicit reserved-name check matters (counterfactual, seeded change C16-5): were reserved names left to
the generic "already defined" check of `_add_to_environment`, the allow flag would let the user's value in. -/
example :
    (addToEnv true [(nowUtc, Owner.reserved)] nowUtc (.user 0)).toOption.bind (cget · nowUtc) = some (.user 0) ∧
    (match construct exCfg₁ true [(nowUtc, .user 0)] [] [] with
      | .error (.reservedGlobal _) => true
      | _ => false) = true := by
  decide +kernel

/-- Why the order matters (counterfactual, seeded change C16-3): were the language globals installed with
`setdefault` instead of an overwrite, the user's value would stay in force without any error. -/
example :
    let tn := "typename_unsigned_length".toList
    cget (setAll [(tn, Owner.user 0)] [(tn, Owner.lang)]) tn = some .lang ∧
    cget (setDefaultAll [(tn, Owner.user 0)] [(tn, Owner.lang)]) tn = some (.user 0) := by
  repeat rw [String.toList_ofList]
  decide +kernel

/-- Before the repair: the user's `range` silently replaced Jinja's (no error, the user's value is what
templates see); the repaired constructor raises. -/
example :
    ((constructBeforeFix exCfg₁ false [("range".toList, .user 0)] [] []).toOption.bind
        fun env => cget env.globals "range".toList) = some (.user 0) ∧
    ((builtinEnv exCfg₁).toOption.bind fun env => cget env.globals "range".toList) = some .jinja ∧
    (match construct exCfg₁ false [("range".toList, .user 0)] [] [] with
      | .error (.alreadyDefined n) => n == "range".toList
      | _ => false) = true := by
  unfold exCfg₁
  repeat rw [String.toList_ofList]
  decide +kernel

def exCfg₂ : EnvCfg where
  jinjaFilters := [("upper".toList, .jinja)]
  jinjaTests := [("odd".toList, .jinja)]
  jinjaGlobals := [("range".toList, .jinja)]
  reservedNs := ["ln".toList]
  reservedNames := ["now_utc".toList]
  langGlobals := [("typename_byte".toList, .lang)]
  preFilters := [("id".toList, .pre 0)]
  preTests := []
  post := [(.test, "StructureType".toList, .post 0), (.filter, "type_to_template".toList, .post 1)]

/-- Non-vacuity of T5: a configuration with built-ins in every phase; user additions that do not collide are
accepted, colliding ones raise (before and after the user's phase), the allow flag lifts the check. -/
example :
    (construct exCfg₂ false [("mine".toList, .user 0)] [("filter_x".toList, .user 0)] [("is_y".toList, .user 0)]).isOk = true ∧
    (construct exCfg₂ false [] [("filter_upper".toList, .user 0)] []).isOk = false ∧
    (construct exCfg₂ false [] [] [("StructureType".toList, .user 0)]).isOk = false ∧
    (construct exCfg₂ true [] [] [("StructureType".toList, .user 0)]).isOk = true := by
  unfold exCfg₂
  repeat rw [String.toList_ofList]
  decide +kernel

/-- `FileSystemLoader.list_templates()` over a directory list: exactly the names some directory of the list has —
EVERY directory, not only the first —, each once, in Python's string order. -/
theorem C16_dirs_listing_is_union (dirs : List Store) :
    (∀ p, p ∈ fsList dirs ↔ ∃ d ∈ dirs, p ∈ names d) ∧ StrictSorted (fsList dirs) :=
  ⟨fun p => mem_fsList p dirs, strictSorted_sortDedup _⟩

/-- Resolution over a directory LIST is resolution over the UNION directory in which, under every name, the file of
the first directory that has the name shadows those of the later ones: for ANY single directory `u` with that content,
`type_to_template` (any hierarchy, fuel, cache, class) and `get_source` (any spelling) give the same answers; the
concatenation of the directories is such a `u`. -/
theorem C16_dirs_lookup_is_union_lookup (H : Hier) (sfx : Name) (fuel : Nat) (cache : Cache) (dirs : List Store)
    (u : Store) (hu : UnionOf u dirs) (pkg : Option Store) (c : Cls) (t : Path) :
    lookupDirs H sfx fuel cache (some dirs) pkg c = lookupDirs H sfx fuel cache (some [u]) pkg c ∧
    getSource (some dirs) pkg t = getSource (some [u]) pkg t ∧
    UnionOf dirs.flatten dirs := by
  refine ⟨?_, ?_, unionOf_flatten dirs⟩
  · simp only [lookupDirs, Option.map_some, dirsTemplates, fsList_union hu]
  · unfold getSource getSourceAt
    cases canonicalName t with
    | none => rfl
    | some c => simp only [Option.bind_some, fsSource, ← hu c]; cases sfind u c <;> rfl

/-- A class has a user template iff ANY directory of the list holds a template file with its name as the stem; then
the dict `type_to_template` searches holds a USER file for it, whatever the package has (precedence of the user's
templates, over every directory). -/
theorem C16_dirs_user_template_in_any_directory (sfx : Name) (dirs : List Store) (pkg : Option Store) (n : Name) :
    ((tfind (dirsTemplates sfx dirs) n).isSome ↔ ∃ d ∈ dirs, ∃ p ∈ names d, splitExt (baseName p) = (n, sfx)) ∧
    (∀ d ∈ dirs, ∀ p ∈ names d, splitExt (baseName p) = (n, sfx) →
      ∃ q, mfind (some (dirsTemplates sfx dirs)) (pkg.map (pkgTemplates sfx)) n = some q ∧
        (∃ d' ∈ dirs, q ∈ names d') ∧ splitExt (baseName q) = (n, sfx)) := by
  have key := mem_dirsTemplates sfx dirs n
  refine ⟨?_, fun d hd p hp hs => ?_⟩
  · rw [tfind_isSome_iff]
    simp only [key]
    exact ⟨fun ⟨p, ⟨d, hd, hp⟩, hs⟩ => ⟨d, hd, p, hp, hs⟩, fun ⟨d, hd, p, hp, hs⟩ => ⟨p, ⟨d, hd, hp⟩, hs⟩⟩
  · obtain ⟨q, hq⟩ := tfind_some_of_mem ((key p).mpr ⟨⟨d, hd, hp⟩, hs⟩)
    exact ⟨q, by simp [mfind, hq], (key q).mp (tfind_mem hq)⟩

/-- T1 for a loader over a directory list: the template of the nearest class of the chain that has one in ANY of
the user directories or in the package (`C16_dirs_user_template_in_any_directory` says when that is). -/
theorem C16_dirs_lookup_nearest {H : Hier} {rank : Cls → Nat} (hS : SingleInheritance H) (hR : RankedBy H rank)
    (sfx : Name) (dirs : Option (List Store)) (pkg : Option Store) {cache : Cache}
    (hc : Reachable H (dirs.map (dirsTemplates sfx)) (pkg.map (pkgTemplates sfx)) cache) (c : Cls) (fuel : Nat)
    (hf : rank c < fuel) :
    ∃ cache', lookupDirs H sfx fuel cache dirs pkg c =
        some (nearestAncestor H (mfind (dirs.map (dirsTemplates sfx)) (pkg.map (pkgTemplates sfx))) rank c, cache') ∧
      Reachable H (dirs.map (dirsTemplates sfx)) (pkg.map (pkgTemplates sfx)) cache' :=
  C16_lookup_nearest hS hR _ _ hc c fuel hf

/-- A name the file-system loader lists is loaded by `get_source` from the FIRST directory of the list that has it
(index `i`): that directory has it, no earlier one does, the package is not consulted. -/
theorem C16_dirs_listed_name_loads_from_first_directory (dirs : List Store) (pkg : Option Store) (p : Path)
    (hp : p ∈ fsList dirs) :
    ∃ i v, firstDir dirs p = some (i, v) ∧ getSourceAt (some dirs) pkg p = some (.user, v) ∧
      (∃ d, dirs[i]? = some d ∧ sfind d p = some v) ∧ ∀ j, j < i → ∀ d, dirs[j]? = some d → sfind d p = none := by
  have h1 : (fsSource dirs p).isSome := (fsSource_isSome_iff p dirs).mpr ((mem_fsList p dirs).mp hp)
  have h2 := firstDir_fsSource p dirs
  cases hf : firstDir dirs p with
  | none => rw [hf] at h2; rw [← h2] at h1; cases h1
  | some r =>
    obtain ⟨i, v⟩ := r
    rw [hf] at h2
    simp only [Option.map_some] at h2
    obtain ⟨h3, h4⟩ := firstDir_spec p dirs i v hf
    exact ⟨i, v, rfl, by simp [getSourceAt, ← h2], h3, h4⟩

/-- `type_to_template` returns only candidates (values of the dict it searches), and every candidate is returned for
some class: the one-class hierarchy whose class is named by the candidate's stem. -/
theorem C16_dirs_lookup_returns_candidates {H : Hier} {rank : Cls → Nat} (hS : SingleInheritance H) (hR : RankedBy H rank)
    (sfx : Name) (dirs : Option (List Store)) (pkg : Option Store) :
    (∀ {cache : Cache}, Reachable H (dirs.map (dirsTemplates sfx)) (pkg.map (pkgTemplates sfx)) cache →
      ∀ c fuel p cache', lookupDirs H sfx fuel cache dirs pkg c = some (some p, cache') →
        p ∈ candidates sfx dirs pkg) ∧
    (∀ p ∈ candidates sfx dirs pkg, ∃ n cache',
      lookupDirs ⟨fun _ => [], fun _ => n⟩ sfx 1 [] dirs pkg 0 = some (some p, cache')) := by
  constructor
  · intro cache hc c fuel p cache' h
    have := C16_lookup_sound hS hR _ _ hc c fuel (some p) cache' h
    obtain ⟨c', _, h2⟩ := nearest_some this.symm
    exact (mem_candidates sfx dirs pkg p).mpr ⟨_, h2⟩
  · intro p hp
    obtain ⟨n, hn⟩ := (mem_candidates sfx dirs pkg p).mp hp
    rw [← tfind_merged] at hn
    exact ⟨n, [(0, p)], by simp [lookupDirs, lookup, bfs, cfind, hn]⟩

/-- `get_templates()` (the templates among what `--list-inputs` reports) against resolution, user directories `dirs`, suffix `.x`:
(1) under the user directories it lists the files of EVERY directory that match `*.x`;
(2) every path resolution can return is listed — as the very file `get_source` opens for it: the copy in the first
    directory that has the name, or the package's when no directory has it;
(3) every listed file (other than one whose whole name is the bare suffix) names a stem for which resolution has a
    template — the listed file itself unless another file with the same stem takes precedence (user over built-in,
    the later name in the sorted listing within one loader, the earlier directory for the same name). -/
theorem C16_enumeration_lists_what_resolution_returns (x : List Char) (hx : x ≠ []) (hdot : '.' ∉ x)
    (dirs : List Store) (pkg : Option Store) :
    (∀ j p, (Origin.user, j, p) ∈ getTemplates ('.' :: x) (some dirs) pkg ↔
        ∃ d, dirs[j]? = some d ∧ p ∈ names d ∧ globMatch ('.' :: x) p = true) ∧
    (∀ p ∈ candidates ('.' :: x) (some dirs) pkg,
        (∃ i v, firstDir dirs p = some (i, v) ∧ (Origin.user, i, p) ∈ getTemplates ('.' :: x) (some dirs) pkg) ∨
        ((∀ d ∈ dirs, p ∉ names d) ∧ (Origin.builtin, 0, p) ∈ getTemplates ('.' :: x) (some dirs) pkg)) ∧
    (∀ o j p, (o, j, p) ∈ getTemplates ('.' :: x) (some dirs) pkg → baseName p ≠ '.' :: x →
        ∃ q ∈ candidates ('.' :: x) (some dirs) pkg, (splitExt (baseName q)).1 = (splitExt (baseName p)).1) := by
  refine ⟨mem_getTemplates_user _ dirs pkg, fun p hp => ?_, fun o j p hmem hbase => ?_⟩
  · obtain ⟨n, hn⟩ := (mem_candidates _ _ _ p).mp hp
    unfold mfind at hn
    simp only [Option.map_some, Option.bind_some] at hn
    cases hfs : tfind (dirsTemplates ('.' :: x) dirs) n with
    | some q =>
      rw [hfs] at hn
      cases hn
      obtain ⟨hl, hs⟩ := (mem_templatesOf ..).mp (tfind_mem hfs)
      obtain ⟨i, v, h1, _, ⟨d, h3, h4⟩, _⟩ := C16_dirs_listed_name_loads_from_first_directory dirs pkg p hl
      exact Or.inl ⟨i, v, h1, (mem_getTemplates_user ..).mpr
        ⟨d, h3, (sfind_isSome_iff p d).mp (by simp [h4]), suffixMatch_globMatch _ _ (by simp [suffixMatch, hs])⟩⟩
    | none =>
      rw [hfs] at hn
      cases pkg with
      | none => cases hn
      | some s =>
        obtain ⟨hl, hs⟩ := (mem_templatesOf ..).mp (tfind_mem hn)
        exact Or.inr ⟨fun d hd hpd => (tfind_none_iff _ n).mp hfs p ((mem_dirsTemplates ..).mpr ⟨⟨d, hd, hpd⟩, hs⟩),
          (mem_getTemplates_builtin ..).mpr ⟨s, rfl, rfl, hl, by simp [suffixMatch, hs]⟩⟩
  · -- a listed file is an entry of the merged dict under its stem; the dict's value at that stem is a candidate
    have hin : ((splitExt (baseName p)).1, p) ∈
        merged (some (dirsTemplates ('.' :: x) dirs)) (pkg.map (pkgTemplates ('.' :: x))) := by
      cases o with
      | user =>
        obtain ⟨d, h1, h2, h3⟩ := (mem_getTemplates_user ..).mp hmem
        have hsm := ((globMatch_iff x hx hdot p).mp h3).resolve_right hbase
        exact List.mem_append_right _ ((mem_dirsTemplates ..).mpr
          ⟨⟨d, List.mem_of_getElem? h1, h2⟩, Prod.ext rfl (of_decide_eq_true hsm)⟩)
      | builtin =>
        obtain ⟨s, rfl, _, h1, h2⟩ := (mem_getTemplates_builtin ..).mp hmem
        exact List.mem_append_left _ ((mem_templatesOf ..).mpr ⟨h1, Prod.ext rfl (of_decide_eq_true h2)⟩)
    obtain ⟨q, hq⟩ := tfind_some_of_mem hin
    refine ⟨q, (mem_candidates ..).mpr ⟨_, tfind_merged _ _ ▸ hq⟩, ?_⟩
    rw [stem_of_mem_merged (tfind_mem hq)]

/-- Non-vacuity: `Any.j2` in the first directory, `StructureType.j2` only in the second, a decoy and a shadowed copy. -/
def exDirs : List Store :=
  [[("Any.j2".toList, 10), ("readme.md".toList, 11)], [("StructureType.j2".toList, 20), ("Any.j2".toList, 21)]]

example : fsList exDirs = ["Any.j2".toList, "StructureType.j2".toList, "readme.md".toList] := by
  unfold exDirs
  repeat rw [String.toList_ofList]
  decide +kernel

example : (indexOf genTable "StructureType".toList).bind (fun c =>
      (lookupDirs (Hier.ofTable genTable genStops) ".j2".toList 100 [] (some exDirs) none c).map (·.1)) =
    some (some "StructureType.j2".toList) := by
  unfold exDirs
  repeat rw [String.toList_ofList]
  decide +kernel

example : firstDir exDirs "Any.j2".toList = some (0, 10) ∧ firstDir exDirs "StructureType.j2".toList = some (1, 20) ∧
    getSource (some exDirs) none "./Any.j2".toList = some (.user, 10) := by
  unfold exDirs
  repeat rw [String.toList_ofList]
  decide +kernel

example : getTemplates ".j2".toList (some exDirs) (some [("__init__.py".toList, 0), ("UnionType.j2".toList, 1)]) =
    [(.user, 0, "Any.j2".toList), (.user, 1, "StructureType.j2".toList), (.user, 1, "Any.j2".toList),
     (.builtin, 0, "UnionType.j2".toList)] := by
  unfold exDirs
  repeat rw [String.toList_ofList]
  decide +kernel

/-- COUNTERFACTUAL (seeded C16-13): a listing of the FIRST search path only does not see `StructureType.j2`. -/
example : tfind (templatesOf ".j2".toList (fsList (exDirs.take 1))) "StructureType".toList = none ∧
    tfind (dirsTemplates ".j2".toList exDirs) "StructureType".toList = some "StructureType.j2".toList := by
  unfold exDirs
  repeat rw [String.toList_ofList]
  decide +kernel

/-! `Gen/EnvCtor.lean` is rewritten from the source on every run (translate/env_ctor.py, Python `ast`): EVERY assignment to
`_allow_replacements` under src/nunavut with file, line, function and right-hand side; the statements of
`CodeGenEnvironment.__init__` in order; what the generators add after `create()`.  `constructSM` interprets that list;
the flag is the regenerated right-hand side evaluated over the constructor's inputs — the argument, the loader object,
and an arbitrary boolean for anything the translator did not understand. -/

open Gen.EnvCtor in
/-- Where the flag comes from: one assignment, in the constructor; the only input its right-hand side mentions is the
constructor argument; the only reader is `_add_to_environment`, whose guard is the flag itself (a name already present is
replaced iff the flag is set, else RuntimeError).  (An extra disjunct such as
`or getattr(loader, "masks_builtin_templates", False)` adds `loader.masks_builtin_templates` to `allowInputs`; an
assignment elsewhere adds a row: this theorem then fails with the file and line in `allowAssignments`.) -/
theorem C16_allow_flag_sources :
    allowAssignments.map (fun a => a.1.func) = ["CodeGenEnvironment.__init__"] ∧
    allowInputs = ["allow_filter_test_or_use_query_overwrite"] ∧
    allowReaders = ["CodeGenEnvironment._add_to_environment"] ∧
    addGuard = .ctorArg :=
  ⟨rfl, rfl, rfl, rfl⟩

/-- For EVERY loader configuration and every value of anything else the constructor could look at, each right-hand
side `_allow_replacements` is assigned from evaluates to the constructor argument. -/
theorem C16_allow_flag_is_constructor_argument (i : CtorInputs) :
    ∀ a ∈ Gen.EnvCtor.allowAssignments, evalAllow i a.2 = i.allowArg := by
  intro a ha
  simp only [Gen.EnvCtor.allowAssignments, List.mem_singleton] at ha
  subst ha
  rfl

/-- The order in which the constructor fills the collections, and what the generators add after `create()`, are the
ones `construct` describes: Jinja defaults; the flag; additional globals (reserved names raise, the others
through `_add_to_environment`); reserved namespaces, `now_utc`, language globals by plain assignment; language
modules' and the environment's own filters and tests; additional filters; additional tests; then — `DSDLCodeGenerator`
only — instance tests and the generator's own methods. -/
theorem C16_constructor_order :
    Gen.EnvCtor.ctorSteps = canonCtorSteps ∧ Gen.EnvCtor.dsdlGeneratorSteps = canonDsdlSteps ∧
    Gen.EnvCtor.supportGeneratorSteps = [] :=
  ⟨rfl, rfl, rfl⟩

/-- The three ways an environment comes to be (statement list, built-in items installed after `create()`):
`DSDLCodeGenerator`, `SupportGenerator`, a bare `CodeGenEnvironmentBuilder.create()`. -/
def ways (cfg : SMCfg) : List (List Gen.EnvCtor.Step × List (Kind × Name × Owner)) :=
  [(stepsDsdlGenerator, cfg.instanceTests ++ cfg.generatorMethods), (stepsSupportGenerator, []), (stepsBuilder, [])]

/-- The state machine over the regenerated list succeeds exactly when `construct` does, with the same environment, and
ends with `_allow_replacements` equal to the constructor argument — whatever the loader is. -/
theorem C16_state_machine_is_construct (cfg : SMCfg) (i : CtorInputs) : ∀ w ∈ ways cfg,
    okOf (constructSM cfg i w.1) =
      (okOf (construct (cfg.toEnvCfg w.2) i.allowArg i.ug i.uf i.ut)).map fun env => ⟨some i.allowArg, env⟩ := by
  obtain ⟨h1, h2, h3⟩ := C16_constructor_order
  have hg := C16_allow_flag_sources.2.2.2
  intro w hw
  simp only [ways, List.mem_cons, List.not_mem_nil, or_false] at hw
  rcases hw with rfl | rfl | rfl
  · simp only [stepsDsdlGenerator, h1, h2]; exact constructSM_canon_generator hg cfg i
  · simp only [stepsSupportGenerator, h1, h3, List.append_nil]; exact constructSM_canon_builder hg cfg i
  · simp only [stepsBuilder, h1]; exact constructSM_canon_builder hg cfg i

/-- `_allow_replacements` after a construction is a function of the constructor argument only: any loader
configuration, any additional globals / filters / tests, any of the three ways. -/
theorem C16_allow_flag_after_construction (cfg : SMCfg) (i : CtorInputs) (w) (hw : w ∈ ways cfg) (st : SMState)
    (h : constructSM cfg i w.1 = .ok st) : st.allow = some i.allowArg := by
  obtain ⟨env, _, rfl⟩ := ok_of_okOf_map (C16_state_machine_is_construct cfg i w hw) h
  rfl

/-- For EVERY loader configuration (`i.loader`: any set of boolean attributes the loader object may have, e.g.
`masks_builtin_templates = true`), every additional_* map and each of the three ways: with the constructor argument off,
a construction that succeeds leaves every built-in name — of all three collections, whichever statement installs it, before
or after the user's — with its built-in value. -/
theorem C16_every_loader_configuration_keeps_builtins (cfg : SMCfg) (i : CtorInputs) (hoff : i.allowArg = false)
    (w) (hw : w ∈ ways cfg) (st st₀ : SMState) (h : constructSM cfg i w.1 = .ok st)
    (h₀ : constructSM cfg { i with ug := [], uf := [], ut := [] } w.1 = .ok st₀) :
    (∀ n v, cget st₀.env.filters n = some v → cget st.env.filters n = some v) ∧
    (∀ n v, cget st₀.env.tests n = some v → cget st.env.tests n = some v) ∧
    (∀ n v, cget st₀.env.globals n = some v → cget st.env.globals n = some v) := by
  obtain ⟨env, he, rfl⟩ := ok_of_okOf_map (C16_state_machine_is_construct cfg i w hw) h
  obtain ⟨env₀, he₀, rfl⟩ :=
    ok_of_okOf_map (C16_state_machine_is_construct cfg { i with ug := [], uf := [], ut := [] } w hw) h₀
  rw [hoff] at he he₀
  exact C16_user_additions_never_replace_builtins _ _ _ _ env env₀ he he₀

open Gen.EnvCtor in
/-- The generators cannot switch the flag on: `CodeGenerator.__init__` never calls the builder's setter, the builder
starts with the flag off, only its setter assigns it, and `create()` hands exactly that flag to the constructor.  So
through `DSDLCodeGenerator` / `SupportGenerator` — with or without template directories — a colliding addition raises. -/
theorem C16_generators_never_allow_replacements (i : CtorInputs) :
    evalAllow i generatorAllow = false ∧ builderHandsOn = .ctorArg ∧
    builderFlagAssignments.map (fun a => (a.1.func, a.2)) =
      [("CodeGenEnvironmentBuilder.__init__", .const false),
       ("CodeGenEnvironmentBuilder.set_allow_filter_test_or_use_query_overwrite", .ctorArg)] :=
  ⟨rfl, rfl, rfl⟩

/-- Which Jinja loaders exist: FIND_FIRST with user directories drops the package (the user's set REPLACES the built-in
one — `DSDLCodeGenerator`), FIND_ALL keeps both (`SupportGenerator`), without user directories the package is used
under either policy. -/
theorem C16_loader_sources (dirs : List Store) (pkg : Option Store) :
    loaderSources .findFirst (some dirs) pkg = (some dirs, none) ∧
    loaderSources .findAll (some dirs) pkg = (some dirs, pkg) ∧
    loaderSources .findFirst none pkg = (none, pkg) ∧ loaderSources .findAll none pkg = (none, pkg) ∧
    Gen.EnvCtor.dsdlGeneratorFindFirst = true ∧ Gen.EnvCtor.supportGeneratorFindFirst = false := by
  cases pkg <;> simp [loaderSources] <;> decide

/-- Non-vacuity and the counterfactual: over a loader that has `masks_builtin_templates = true`, with the constructor
argument off, (1) a non-colliding additional filter is installed, (2) a filter named like a Jinja built-in raises;
(3) had the flag been assigned from `arg or getattr(loader, "masks_builtin_templates", False)` the same construction
would have replaced the built-in silently. -/
def exSM : SMCfg :=
  { jinjaFilters := [("upper".toList, .jinja)], jinjaTests := [("defined".toList, .jinja)], jinjaGlobals := [("range".toList, .jinja)],
    reservedNs := ["ln".toList], reservedNames := [nowUtc], langGlobals := [("typename_x".toList, .lang)],
    langFilters := [("id".toList, .pre 0)], langTests := [("zero_cost".toList, .pre 0)],
    ownFilters := [("own".toList, .pre 1)], ownTests := [],
    instanceTests := [(.test, "boolean".toList, .post 0)], generatorMethods := [(.filter, "yamlfy".toList, .post 1)] }

def exIn (uf : List (Name × Owner)) : CtorInputs :=
  { allowArg := false, loader := ⟨[("masks_builtin_templates".toList, true)]⟩, unknown := fun _ => true, ug := [], uf := uf, ut := [] }

example : (okOf (constructSM exSM (exIn [("mine".toList, .user 0)]) stepsDsdlGenerator)).map
    (fun st => (cget st.env.filters "mine".toList, cget st.env.filters "upper".toList, st.allow)) =
    some (some (.user 0), some .jinja, some false) := by
  unfold exSM exIn
  repeat rw [String.toList_ofList]
  decide +kernel

example : (match constructSM exSM (exIn [("upper".toList, .user 0)]) stepsDsdlGenerator with
    | .error e => some e
    | .ok _ => none) = some (.env (.alreadyDefined "upper".toList)) := by decide +kernel

example : (okOf (constructSM exSM (exIn [("upper".toList, .user 0)])
      ([.jinjaDefaults, .setAllow (.or .ctorArg (.loaderAttr "masks_builtin_templates".toList false))] ++
        Gen.EnvCtor.ctorSteps.drop 2 ++ Gen.EnvCtor.dsdlGeneratorSteps))).map
    (fun st => cget st.env.filters "upper".toList) = some (some (.user 0)) := by
  unfold exSM exIn
  repeat rw [String.toList_ofList]
  decide +kernel

/-- For each target language (c, cpp, py, html) the instance tests found in `env.tests` of a real `DSDLCodeGenerator`
(name and the class the closure is bound to, regenerated on every run) are exactly the model's enumeration over the
class table: none missing, none replaced by a language's own test, none bound to another class.  To be read together
with `C16_test_names_unambiguous`: no name or alias is claimed by two classes — over ALL roots the code enumerates
from, observed by the translator, so a newly registered class such as `pydsdl.Boolean` whose alias `boolean` is also
`BooleanType`'s breaks it. -/
theorem C16_env_instance_tests_per_language :
    Gen.EnvCtor.envInstanceTests.map (·.1) = ["c".toList, "cpp".toList, "py".toList, "html".toList] ∧
    ∀ L ∈ Gen.EnvCtor.envInstanceTests, (∀ e ∈ genTestList, e ∈ L.2) ∧ (∀ e ∈ L.2, e ∈ genTestList) := by
  have h : Gen.EnvCtor.envInstanceTests.map (·.1) = ["c".toList, "cpp".toList, "py".toList, "html".toList] ∧
      ∀ L ∈ Gen.EnvCtor.envInstanceTests, L.2 = genCodeTests := by decide +kernel
  exact ⟨h.1, fun L hL => h.2 L hL ▸ C16_tests_agree_with_code⟩

end NunavutVerif.Resolve
