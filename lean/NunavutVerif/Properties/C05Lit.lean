import NunavutVerif.Lemmas.CLiteralFloat
/-!
# C05 (constants) — every DSDL constant is rendered as a literal that denotes exactly its value

Model: `Model/CLiteral.lean`; the language configurations `Gen.cCfg` / `Gen.cppCfg` are generated from
`properties.yaml`.

Quantifiers: every integer DSDL type (signed / unsigned, 1..64 bit) and **every** value of its range; `bool`;
`uint8` character constants; every floating constant given as a fraction inside the range of its type; both C
dialects of the literal model (C11, C++14; LP64) and the Python expression the Python target emits.
`evalStr` returning `.ok` includes: the string lexes and parses as an expression of the fragment, every integer
literal has a type of its candidate list, no signed operation overflows, no floating literal is out of range.
-/
namespace NunavutVerif.CLiteral

/-- **Integer constants, all types, all values.**  For every integer DSDL type of 1..64 bits and every value in
its range the literal `filter_literal` renders — alone (C++ initializer) and inside the parentheses of the C macro
body — lexes, parses and evaluates, in both dialects, without any intermediate overflow, to exactly the DSDL value,
in the type `expectedCType` (`int` / `long` / `long long`, unsigned for unsigned DSDL types).  This includes the
minimum of `int64`, which is not a literal but `(-9223372036854775807LL - 1)`. -/
theorem C05_int_literal_exact (d : Dialect) (cfg : LangCfg) (fmt : List FmtPiece) (hcfg : cfg.castFormat = some fmt)
    (unsigned : Bool) (w : Nat) (hw : 1 ≤ w ∧ w ≤ 64) (v : Int) (hv : intInRange unsigned w v) :
    ∃ s, filterLiteral cfg (.frac ⟨v, 1⟩) (if unsigned then .uint w else .sint w) = .ok s ∧
      evalStr d s = .ok (.int (expectedCType unsigned w) v) ∧
      evalStr d (cMacroBody s) = .ok (.int (expectedCType unsigned w) v) := by
  refine ⟨_, filterLiteral_int hcfg unsigned w v, ?_⟩
  have hl := lOf_le w
  have hfit := fitsWidth_of_inRange hw.2 hv
  cases v with
  | ofNat n =>
    have hs := evalStr_both (lexesAs_int n unsigned _ hl) (by decide) rfl rfl rfl d
    have hf := eval_ilit (d := d) (firstFit_expected unsigned w hw.2 n (decide (n ≠ 0)) hfit)
    rw [intStr, mostNegative_nonneg, hs.1, hs.2]
    exact ⟨hf, hf⟩
  | negSucc k =>
    cases unsigned with
    | true => exact absurd hfit.1 (by omega)
    | false =>
      have hk : k + 1 ≤ 2 ^ (w - 1) := by
        have := hfit.1
        omega
      rw [intStr, List.cons_append]
      by_cases hmin : k + 1 = 2 ^ 63
      · -- the minimum of int64 (`w = 64`): the rendering is a closed text.  It goes to the kernel as a list of characters:
        -- a string literal would be decoded there from its UTF-8 bytes, which costs more than running the model on it
        obtain rfl : w = 64 := by
          have := pow2_lt_iff (a := w - 1) (b := 63)
          omega
        rw [hmin, show lOf 64 = 2 from rfl, mostNegative_min, String.toList_ofList]
        obtain rfl : k = 9223372036854775807 := by omega
        cases d <;> decide +kernel
      · have hn : k + 1 ≤ 2 ^ (w - 1) ∧ k + 1 < 2 ^ 63 := by
          have := pow2_le (a := w - 1) (b := 63) (by omega)
          omega
        have hs := evalStr_both ((lexesAs_int (k + 1) false _ hl).cons lex_minus) (by decide) rfl rfl rfl d
        rw [mostNegative_neg _ _ _ (fun h => hmin h.1), hs.1, hs.2, show decide (k + 1 ≠ 0) = true by simp]
        exact ⟨eval_neg_ilit hw.2 hn, eval_neg_ilit hw.2 hn⟩

/-- The type `expectedCType` of `C05_int_literal_exact` has the signedness of the DSDL type, at most 64 bits, and its
range contains the value. -/
theorem C05_int_literal_type_fits (unsigned : Bool) (w : Nat) (hw : 1 ≤ w ∧ w ≤ 64) (v : Int)
    (hv : intInRange unsigned w v) :
    (expectedCType unsigned w).signed = !unsigned ∧ (expectedCType unsigned w).bits ≤ 64 ∧
      (expectedCType unsigned w).inRange v = true := by
  refine ⟨expected_signed unsigned w, ?_, expectedCType_inRange unsigned w hw.2 v (fitsWidth_of_inRange hw.2 hv)⟩
  rcases width_class w with ⟨_, _, ht⟩ | ⟨_, _, _, ht⟩ | ⟨_, _, ht⟩ <;> rw [ht] <;> cases unsigned <;> decide

/-- C++ initialises a member of the declared standard type (`std::intN_t` / `std::uintN_t`, `N = bestFit w`) with the
literal: the value is inside the range of that type, so the conversion keeps it. -/
theorem C05_cpp_declared_type_holds_value (unsigned : Bool) (w : Nat) (v : Int) (hv : intInRange unsigned w v)
    (fit : Nat) (hfit : bestFit w = .ok fit) : intInRange unsigned fit v := by
  have hle := bestFit_ge hfit
  have a : ((2 ^ w : Nat) : Int) ≤ (2 ^ fit : Nat) := Int.ofNat_le.2 (pow2_le hle)
  have b : -((2 ^ (fit - 1) : Nat) : Int) ≤ -(2 ^ (w - 1) : Nat) := Int.neg_le_neg (Int.ofNat_le.2 (pow2_le (by omega)))
  unfold intInRange at hv ⊢
  cases unsigned
  · exact ⟨Int.le_trans b hv.1, Int.lt_of_lt_of_le hv.2 (Int.neg_le_neg_iff.1 b)⟩
  · exact ⟨hv.1, Int.lt_of_lt_of_le hv.2 a⟩

/-- Before fix 8a97f8c the minimum of `int64` was rendered `-9223372036854775808LL`: the negation of a literal that
fits no type of its candidate list (gcc: "integer constant is so large that it is unsigned", `__int128`). -/
theorem C05_int64_min_literal_before_fix_has_no_type (d : Dialect) :
    filterLiteralBeforeFix Gen.cCfg (.frac ⟨-9223372036854775808, 1⟩) (.sint 64) = .ok "-9223372036854775808LL".toList ∧
      evalStr d "-9223372036854775808LL".toList = .error .intLiteralNoType := by
  repeat rw [String.toList_ofList]
  refine ⟨by decide +kernel, ?_⟩
  cases d <;> decide +kernel

/-- `bool` constants: C renders `true` / `false`, in C11 the `<stdbool.h>` macros of type `int` with values 1 / 0;
in C++ the keywords of type `bool`. -/
theorem C05_bool_literal (b : Bool) :
    (filterLiteral Gen.cCfg (.bool b) .bool = .ok (if b then "true".toList else "false".toList) ∧
      evalStr .c11 (if b then "true".toList else "false".toList) = .ok (.int .int (if b then 1 else 0)) ∧
      evalStr .c11 (cMacroBody (if b then "true".toList else "false".toList)) = .ok (.int .int (if b then 1 else 0))) ∧
    (filterLiteral Gen.cppCfg (.bool b) .bool = .ok (if b then "true".toList else "false".toList) ∧
      evalStr .cpp14 (if b then "true".toList else "false".toList) = .ok (.int .bool (if b then 1 else 0))) := by
  cases b <;> decide +kernel

/-- `uint8 X = 'c'`: PyDSDL stores the code of the (one byte) character; the literal is that number in an unsigned
type. -/
theorem C05_char_constant (d : Dialect) (cfg : LangCfg) (fmt : List FmtPiece) (hcfg : cfg.castFormat = some fmt)
    (c : Char) (hc : c.toNat < 128) :
    ∃ s, filterLiteral cfg (charConstant c) (.uint 8) = .ok s ∧
      evalStr d s = .ok (.int .uint c.toNat) ∧ evalStr d (cMacroBody s) = .ok (.int .uint c.toNat) := by
  have h := C05_int_literal_exact d cfg fmt hcfg true 8 (by decide) (c.toNat : Int)
    (by unfold intInRange; simp; omega)
  simpa [charConstant, expectedCType] using h

/-- **Floating constants whose numerator and denominator are exactly representable in binary64** (the quotient
branch of `_float_literal_expression`), every width up to 64 bits, every such fraction inside the range of the type:
the C rendering `((T) (n.0 / d.0))` — alone and as the macro body — and the C++ rendering
`static_cast<T>((n.0 / d.0))` lex, parse and evaluate without a range error to `floatDenotation`: for `double`
exactly the fraction rounded to nearest-even (`roundFrac binary64`, characterised by `C05_round_*` below), for
`float` that value converted once more to binary32; the result is a finite canonical member of the format. -/
theorem C05_float_quotient_literal (w : Nat) (hw : w ≤ 64) (f : Frac) (hd : 0 < f.den)
    (h1 : isExact f.num = true) (h2 : isExact (f.den : Int) = true) (hr : FloatInRange w f) :
    (∃ s, filterLiteral Gen.cCfg (.frac f) (.float w) = .ok s ∧
      evalStr .c11 s = .ok (.flt (floatCType w) (floatDenotation w f)) ∧
      evalStr .c11 (cMacroBody s) = .ok (.flt (floatCType w) (floatDenotation w f))) ∧
    (∃ s, filterLiteral Gen.cppCfg (.frac f) (.float w) = .ok s ∧
      evalStr .cpp14 s = .ok (.flt (floatCType w) (floatDenotation w f))) ∧
    (∃ m E, floatDenotation w f = .fin (decide (f.num < 0)) m E ∧ Canon (floatCType w).fmt m E) := by
  have hn : IsExactNat f.num.natAbs := (isExact_iff _).1 h1
  have hden : IsExactNat f.den := by have := (isExact_iff _).1 h2; simpa using this
  have hq := fun d => eval_quotAst d f hd hn hden
  have h := float_renderings_denote w hw f hd hr (floatLiteralExpression_exact f h1 h2) (readsAs_quotExpr f.num f.den) hq
  exact ⟨h.1, h.2, (eval_cast_denotation .c11 w f hd hr (hq _)).2⟩

/-- `float` constants of the quotient branch go through two roundings (binary64 division, then the cast).  The
result is not always the correctly rounded binary32 value — see the witness below — but it always lies **strictly
within one unit in the last place** of it, which is what the property demands:
`| m' * 2^E' / 2^149 - |num| / den | < 2^E' / 2^149`, stated on integers.  No exactness hypothesis: this is a fact
about `floatDenotation`, so it covers the decimal fallback as well. -/
theorem C05_float32_within_one_ulp (w : Nat) (hw : w ≤ 32) (f : Frac) (hd : 0 < f.den) (s : Bool) (m' E' : Nat)
    (h : floatDenotation w f = .fin s m' E') :
    m' * 2 ^ E' * f.den < f.num.natAbs * 2 ^ 149 + 2 ^ E' * f.den ∧
      f.num.natAbs * 2 ^ 149 < m' * 2 ^ E' * f.den + 2 ^ E' * f.den := by
  unfold floatDenotation at h
  rw [if_pos hw] at h
  exact float32_within_one_ulp f hd h

/-- Witness of the double rounding: `float32 X = 2251799947902975 / 2251799813685247` (both terms exact in binary64; the
fraction is `1 + 2^27 / (2^51 - 1) = 1 + 2^-24 + 2^-75 + …`, just above the midpoint of two adjacent binary32 numbers).  The
generated `((float) (2251799947902975.0 / 2251799813685247.0))` is `1.0f`, the correctly rounded binary32 value is the
next number up.  Within one ulp, as the property allows; replayed on gcc / clang / g++ by the harness. -/
example : floatDenotation 32 ⟨2251799947902975, 2251799813685247⟩ = .fin false 8388608 126 ∧
    roundFrac binary32 ⟨2251799947902975, 2251799813685247⟩ = .fin false 8388609 126 := by decide +kernel

/-
Full statement for the decimal-fallback branch of `_float_literal_expression` (numerator or denominator not exactly
representable in binary64: the filter renders `repr(numerator / denominator)`):

  for every fraction `f` in the range of the type, the rendered C / C++ literal evaluates to `floatDenotation w f`.

What is proved: exactly this, under the hypothesis that the decimal text `repr` prints for the (already correctly
rounded) quotient reads back as the same double — `reprReadsBack m E = true`, an executable check (the text is one
preprocessing number starting with a digit, it is a floating literal, and that literal correctly rounded is `m * 2^E`
again).  What is missing is the round-trip theorem of shortest-digit printing (17 significant digits always suffice;
`shortestDigits?` searches 1..17 digits by reading candidates back, so only the existence of a 17-digit candidate is
open).  The harness evaluates `reprReadsBack` on every double it meets (`short` requests): no counterexample.
The zero results (`0.0`, `-0.0`: fractions below half the smallest subnormal) need no hypothesis.
-/
theorem C05_float_fallback_literal_partial (w : Nat) (hw : w ≤ 64) (f : Frac) (hd : 0 < f.den)
    (hne : (isExact f.num && isExact (f.den : Int)) = false) (hr : FloatInRange w f)
    (hrb : ∀ s m E, roundFrac binary64 f = .fin s m E → reprReadsBack m E = true) :
    (∃ s, filterLiteral Gen.cCfg (.frac f) (.float w) = .ok s ∧
      evalStr .c11 s = .ok (.flt (floatCType w) (floatDenotation w f)) ∧
      evalStr .c11 (cMacroBody s) = .ok (.flt (floatCType w) (floatDenotation w f))) ∧
    (∃ s, filterLiteral Gen.cppCfg (.frac f) (.float w) = .ok s ∧
      evalStr .cpp14 s = .ok (.flt (floatCType w) (floatDenotation w f))) := by
  obtain ⟨m, E, e64, _⟩ := roundFrac64_fin f hd (inRange64_of_floatInRange hr)
  obtain ⟨mant, e10, hdig, hpp, htok, hrd⟩ := reprReadsBack_inv (hrb _ m E e64)
  exact float_renderings_denote w hw f hd hr (floatLiteralExpression_fallback f hd hne e64)
    (readsAs_repr _ hdig hpp htok) (fun d => e64 ▸ eval_sflt d _ hrd)

/-! The `C05_round_*` theorems say what "rounded to nearest-even" means, by characterising `roundFrac`.
`roundFrac g f = .fin s m E` denotes `(-1)^s * m * 2^E / 2^g.bias`.  Distances are stated on integers: both values
multiplied by `f.den * 2^g.bias`, i.e. `m * 2^E * f.den` against `|f.num| * 2^g.bias`. -/

/-- The result is a member of the format in canonical form with the sign of the fraction. -/
theorem C05_round_in_format (g : Fmt) (hp : 1 ≤ g.prec) (f : Frac) (hd : 0 < f.den) (s : Bool) (m E : Nat)
    (h : roundFrac g f = .fin s m E) :
    s = decide (f.num < 0) ∧ m < 2 ^ g.prec ∧ (E = 0 ∨ 2 ^ (g.prec - 1) ≤ m) ∧ E ≤ g.emax := by
  obtain ⟨hs, hr, he⟩ := roundFrac_fin_inv h
  exact ⟨hs, (roundNat_canonical hp hd hr).1, (roundNat_canonical hp hd hr).2, he⟩

/-- **Nearest**: no member `m' * 2^E'` of the format (any exponent, any significand below `2^prec`) is closer to
the fraction than the result. -/
theorem C05_round_nearest (g : Fmt) (hp : 1 ≤ g.prec) (f : Frac) (hd : 0 < f.den) (s : Bool) (m E : Nat)
    (h : roundFrac g f = .fin s m E) (m' E' : Nat) (hm' : m' < 2 ^ g.prec) :
    (((m * 2 ^ E * f.den : Nat) : Int) - ((f.num.natAbs * 2 ^ g.bias : Nat) : Int)).natAbs ≤
      (((m' * 2 ^ E' * f.den : Nat) : Int) - ((f.num.natAbs * 2 ^ g.bias : Nat) : Int)).natAbs :=
  roundNat_nearest hp hd (roundFrac_fin_inv h).2.1 m' E' hm'

/-- **Ties to even**: when the fraction lies exactly half way between two adjacent multiples of `2^E`, the
significand of the result is even. -/
theorem C05_round_ties_even (g : Fmt) (hp : 2 ≤ g.prec) (f : Frac) (hd : 0 < f.den) (s : Bool) (m E : Nat)
    (h : roundFrac g f = .fin s m E) (k : Nat)
    (htie : 2 * (f.num.natAbs * 2 ^ g.bias) = (2 * k + 1) * (2 ^ E * f.den)) : m % 2 = 0 :=
  roundNat_tie_even hp hd (roundFrac_fin_inv h).2.1 k htie

/-- **A member of the format is returned unchanged** (so the rounding is the identity on representable fractions;
with `C05_round_nearest` this is "correctly rounded"). -/
theorem C05_round_exact_on_members (g : Fmt) (hp : 1 ≤ g.prec) (s : Bool) (m E : Nat) (hc : Canon g m E) (hm : 0 < m) :
    roundFrac g ⟨if s then -((m * 2 ^ E : Nat) : Int) else ((m * 2 ^ E : Nat) : Int), 2 ^ g.bias⟩ = .fin s m E := by
  unfold roundFrac
  have hpos : 0 < m * 2 ^ E := Nat.mul_pos hm (Nat.two_pow_pos _)
  have hs : ∀ V : Nat, 0 < V → decide ((if s then -(V : Int) else (V : Int)) < 0) = s := by
    intro V hV; cases s <;> simp <;> omega
  have ha : ∀ V : Nat, (if s then -(V : Int) else (V : Int)).natAbs = V := by
    intro V; cases s <;> simp
  simp only [hs _ hpos, ha]
  exact roundTo_self hp (Nat.two_pow_pos _) hc

/-- `bool` constants of the generated Python class: `True` / `False` evaluate to the DSDL value. -/
theorem C05_py_bool_constant (b : Bool) :
    pyConstantExpr (.bool b) .bool = .ok (if b then "True".toList else "False".toList) ∧
      pyEvalStr (if b then "True".toList else "False".toList) = .ok (.bool b) := by
  cases b <;> decide +kernel

/-- Integer constants of the generated Python class: the decimal text evaluates to exactly the integer — for every
integer (Python integers are unbounded), hence for every value of every DSDL integer type. -/
theorem C05_py_int_constant (v : Int) (unsigned : Bool) (w : Nat) :
    ∃ s, pyConstantExpr (.frac ⟨v, 1⟩) (if unsigned then .uint w else .sint w) = .ok s ∧ pyEvalStr s = .ok (.int v) := by
  refine ⟨intStr v, by cases unsigned <;> rfl, ?_⟩
  obtain ⟨k, hk, h⟩ := lexesAs_intStr v
  have hl : lexStr (intStr v) = some (pyIntToks v) := lexStr_of_lexesAs h (by omega)
  rw [pyEvalStr_of hl (pyParse_int v)]
  exact pyEval_int v

/-- Floating constants of the generated Python class are written `numerator / denominator`: CPython's integer true
division is correctly rounded, so the attribute is the fraction rounded to nearest-even into binary64 (the only
floating type of Python) — for every fraction in the binary64 range, whatever its terms (no exactness condition, no
`OverflowError`). -/
theorem C05_py_float_constant (w : Nat) (f : Frac) (hd : 0 < f.den) (hr : InRange64 f) :
    ∃ s, pyConstantExpr (.frac f) (.float w) = .ok s ∧ pyEvalStr s = .ok (.float (roundFrac binary64 f)) ∧
      ∃ m E, roundFrac binary64 f = .fin (decide (f.num < 0)) m E ∧ Canon binary64 m E := by
  obtain ⟨m, E, e64, c64⟩ := roundFrac64_fin f hd hr
  refine ⟨_, rfl, ?_, m, E, e64, c64⟩
  show pyEvalStr (intStr f.num ++ " / ".toList ++ natStr f.den) = _
  rw [pyEvalStr_of (lexStr_py_quot f.num f.den) (pyParse_quot f.num f.den _), pyEval_quot f hd e64, e64]

/-! Non-vacuity: the hypotheses are met by real constants, the renderings are the real strings. -/

/-- `int64 X = -9223372036854775808` and `uint64 Y = 18446744073709551615` -/
example : ∃ s, filterLiteral Gen.cCfg (.frac ⟨-9223372036854775808, 1⟩) (.sint 64) = .ok s ∧
    evalStr .c11 s = .ok (.int .llong (-9223372036854775808)) ∧
    evalStr .c11 (cMacroBody s) = .ok (.int .llong (-9223372036854775808)) :=
  C05_int_literal_exact .c11 Gen.cCfg _ rfl false 64 (by decide) (-9223372036854775808) (by decide)
example : ∃ s, filterLiteral Gen.cppCfg (.frac ⟨18446744073709551615, 1⟩) (.uint 64) = .ok s ∧
    evalStr .cpp14 s = .ok (.int .ullong 18446744073709551615) ∧
    evalStr .cpp14 (cMacroBody s) = .ok (.int .ullong 18446744073709551615) :=
  C05_int_literal_exact .cpp14 Gen.cppCfg _ rfl true 64 (by decide) 18446744073709551615 (by decide)
example : filterLiteral Gen.cCfg (.frac ⟨-9223372036854775808, 1⟩) (.sint 64) = .ok "(-9223372036854775807LL - 1)".toList :=
  (filterLiteral_int rfl false 64 _).trans (congrArg _ mostNegative_min)
example : filterLiteral Gen.cCfg (.frac ⟨70000, 1⟩) (.uint 17) = .ok "70000UL".toList := by decide +kernel
example : filterLiteral Gen.cCfg (charConstant 'a') (.uint 8) = .ok "97U".toList := by decide +kernel

/-- `float32 X = 355 / 113`: quotient branch -/
example : filterLiteral Gen.cCfg (.frac ⟨355, 113⟩) (.float 32) = .ok "((float) (355.0 / 113.0))".toList := by
  rw [String.toList_ofList]
  decide +kernel
example : filterLiteral Gen.cppCfg (.frac ⟨-355, 113⟩) (.float 64) = .ok "static_cast<double>((-355.0 / 113.0))".toList := by
  rw [String.toList_ofList]
  decide +kernel
example := C05_float_quotient_literal 32 (by decide) ⟨355, 113⟩ (by decide) (by decide +kernel) (by decide +kernel)
  (by unfold FloatInRange; rw [if_pos (by decide)]; unfold InRange32; decide +kernel)

/-- `float64 X = 5e-324` (PyDSDL: the fraction `5 / 10^324`): decimal fallback, renders `((double) 5e-324)` -/
example : filterLiteral Gen.cCfg (.frac ⟨5, 10 ^ 324⟩) (.float 64) = .ok "((double) 5e-324)".toList := by
  rw [String.toList_ofList]
  decide +kernel
example := C05_float_fallback_literal_partial 64 (by decide) ⟨5, 10 ^ 324⟩ (Nat.pow_pos (by decide)) (by decide +kernel)
  (by unfold FloatInRange; rw [if_neg (by decide)]; unfold InRange64; decide +kernel)
  (by
    intro s m E h
    have e : roundFrac binary64 ⟨5, 10 ^ 324⟩ = .fin false 1 0 := by decide +kernel
    have h' : FVal.fin false 1 0 = FVal.fin s m E := e.symm.trans h
    obtain ⟨_, h2, h3⟩ := FVal.fin.inj h'
    rw [← h2, ← h3]
    decide +kernel)
/-- results that round to zero read back without any hypothesis -/
example : reprReadsBack 0 0 = true := by decide +kernel

/-- Before fix 8a97f8c a tiny `float64` constant was rendered as a quotient whose denominator is not a double:
"floating constant exceeds range" (known finding `float-constant-literal-range`); since the fix it is `5e-324`. -/
theorem C05_tiny_float_literal_before_fix_out_of_range :
    ∃ s, filterLiteralBeforeFix Gen.cppCfg (.frac ⟨1, 2 * 10 ^ 323⟩) (.float 64) = .ok s ∧
      evalStr .cpp14 s = .error .fltLiteralRange := by
  refine ⟨_, (filterLiteralBeforeFix_float rfl _ (by decide)).trans (congrArg _ (formatCast_cpp _ _)), ?_⟩
  -- the text reads as the cast of the quotient of two literals; the second one, `2 * 10^323`, is beyond the range
  rw [evalStr_cppCast (floatTyStr_cases 64) (readsAs_quotExpr _ _)]
  decide +kernel

example : pyConstantExpr (.frac ⟨-355, 113⟩) (.float 32) = .ok "-355 / 113".toList := by
  rw [String.toList_ofList]
  decide +kernel

end NunavutVerif.CLiteral
