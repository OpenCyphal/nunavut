import NunavutVerif.Lemmas.BitsGlue
import NunavutVerif.Lemmas.BitsPyArgs
import NunavutVerif.Properties.C14
/-!
# C14 — argument conversion of the Python primitives; the remaining public entry points

Definitions: `Model/BitsPyArgs.lean` (argument universe `PyVal`, the NumPy oracle with its
laws, the methods over `PyVal`), `Model/BitsGlue.lean` (float set/get as pattern moves, `any_bitspan` offset and
window arithmetic, convenience overloads, cursor bookkeeping, forks).  Every theorem is over all buffers, offsets,
sizes, values, and — where NumPy is involved — over **every lawful NumPy oracle** `np` (the laws are fields of
`Py.NumPy`; the instance the driver runs, `Py.numpy2`, carries their proofs).
-/
namespace NunavutVerif.Bits

/-- The conversion layer is exact: for an argument of any accepted type (Python `int`, `bool`, `numpy.bool_`, a NumPy
integer scalar holding a value of its type), `int(x)`, `x < 0` and `bool(x)` see the integer the argument denotes. -/
theorem C14_py_arg_conversion_exact (np : Py.NumPy) (x : Py.PyVal) (h : x.WF) :
    x.toInt np = x.denote ∧ x.lt0 np = decide (x.denote < 0) ∧ x.truth np = decide (x.denote ≠ 0) :=
  ⟨Py.PyVal.toInt_denote np x h, Py.PyVal.lt0_denote np x h, Py.PyVal.truth_denote np x h⟩

/-- `add_aligned_unsigned` / `add_unaligned_unsigned` (what generated code calls for the elements of `uintN[...]`
arrays of non-standard width): for an argument of **every** accepted type denoting `v ≥ 0`, exactly the low `bl` bits
of `v` are appended; a negative one is refused (`ValueError`; stated for `add_unaligned_unsigned`). -/
theorem C14_py_arg_add_unsigned (np : Py.NumPy) (s : Py.Ser) (x : Py.PyVal) (bl : Nat) (hx : x.WF) (hinv : s.Inv)
    (hbl : 1 ≤ bl) :
    (0 ≤ x.denote → s.off / 8 + (bl + 7) / 8 < s.buf.length →
      ∃ s', Py.addUnalignedUnsignedV np s x bl = .ok s' ∧ Py.Appends s s' bl x.denote.toNat.testBit) ∧
    (0 ≤ x.denote → s.off % 8 = 0 → s.off / 8 + (bl + 7) / 8 ≤ s.buf.length →
      ∃ s', Py.addAlignedUnsignedV np s x bl = .ok s' ∧ Py.Appends s s' bl x.denote.toNat.testBit) ∧
    (x.denote < 0 → Py.addUnalignedUnsignedV np s x bl = .error .usage) := by
  refine ⟨fun h0 hr => ?_, fun h0 ha hr => ?_, fun hneg => ?_⟩
  · rw [Py.addUnalignedUnsignedV_eq np s x bl hx]
    exact Py.addUnalignedUnsigned_spec s x.denote bl hinv h0 hbl hr
  · rw [Py.addAlignedUnsignedV_eq np s x bl hx]
    exact Py.addAlignedUnsigned_spec s x.denote bl hinv ha h0 hbl hr
  · simp [Py.addUnalignedUnsignedV, Py.ensureNotNegativeV_neg np x hx hneg, bind, Except.bind]

/-- `add_aligned_signed` / `add_unaligned_signed` (elements of `intN[...]` arrays of non-standard width — fixed-width
NumPy scalars): for an argument of every accepted type denoting `v` with `-2^bl ≤ v`, the two's-complement bits of `v`
are appended — in particular for a negative `numpy.int8/16/32/64` element of an `int7/15/31/63` array, where
`2**bl` itself is not representable in the element's type. -/
theorem C14_py_arg_add_signed (np : Py.NumPy) (s : Py.Ser) (x : Py.PyVal) (bl : Nat) (hx : x.WF) (hinv : s.Inv)
    (hbl : 2 ≤ bl) (hlo : -(2 ^ bl) ≤ x.denote) :
    (s.off / 8 + (bl + 7) / 8 < s.buf.length →
      ∃ s', Py.addUnalignedSignedV np s x bl = .ok s' ∧
        Py.Appends s s' bl (if x.denote < 0 then 2 ^ bl + x.denote else x.denote).toNat.testBit) ∧
    (s.off % 8 = 0 → s.off / 8 + (bl + 7) / 8 ≤ s.buf.length →
      ∃ s', Py.addAlignedSignedV np s x bl = .ok s' ∧
        Py.Appends s s' bl (if x.denote < 0 then 2 ^ bl + x.denote else x.denote).toNat.testBit) := by
  refine ⟨fun hr => ?_, fun ha hr => ?_⟩
  · rw [Py.addUnalignedSignedV_eq np s x bl hx]
    exact Py.addUnalignedSigned_spec s x.denote bl hinv hbl hlo hr
  · rw [Py.addAlignedSignedV_eq np s x bl hx]
    exact Py.addAlignedSigned_spec s x.denote bl hinv ha hbl hlo hr

/-- `add_unaligned_bit(x)`: one bit, set iff the argument is non-zero (`bool(x)`), whatever its type. -/
theorem C14_py_arg_add_bit (np : Py.NumPy) (s : Py.Ser) (x : Py.PyVal) (hx : x.WF) (hinv : s.Inv)
    (hroom : s.off / 8 < s.buf.length) :
    ∃ s', Py.addUnalignedBitV np s x = .ok s' ∧ Py.Appends s s' 1 (fun _ => decide (x.denote ≠ 0)) := by
  unfold Py.addUnalignedBitV
  rw [Py.PyVal.truth_denote np x hx]
  exact Py.addUnalignedBit_spec s _ hinv hroom

/-- `add_aligned_u8/u16/u32/u64` carry out `x & 0xFF`, `x >> 8`, … **in the argument's own type**: they append the low
`W` bits of `v ≥ 0` for every argument whose type can hold the constant `0xFF` (`AcceptsU`: all but `numpy.int8`;
nothing is required for `W = 8`, where the value must be below 256 as for a Python `int`). -/
theorem C14_py_arg_add_aligned_uW (np : Py.NumPy) (W : Nat) (s : Py.Ser) (x : Py.PyVal)
    (hW : W = 8 ∨ W = 16 ∨ W = 32 ∨ W = 64) (hx : x.WF) (hinv : s.Inv) (ha : s.off % 8 = 0) (h0 : 0 ≤ x.denote)
    (h8 : W = 8 → x.denote < 256) (hacc : Py.AcceptsU W x) (hroom : s.off / 8 + W / 8 ≤ s.buf.length) :
    ∃ s', (if W = 8 then Py.addAlignedU8V np s x else if W = 16 then Py.addAlignedU16V np s x
            else if W = 32 then Py.addAlignedU32V np s x else Py.addAlignedU64V np s x) = .ok s' ∧
      Py.Appends s s' W x.denote.toNat.testBit := by
  have e := Py.addAlignedUV_eq np W s x hx h0 h8 hacc
  have hs := Py.addAlignedU_spec W s x.denote hW hinv ha h0 h8 hroom
  -- for each of the four widths both dispatches reduce to the same method
  rcases hW with rfl | rfl | rfl | rfl <;> exact e ▸ hs

/-- `add_aligned_i8/i16/i32/i64` compute `2**W + x` in the argument's type: the two's-complement bits of an in-range
`v` are appended for every argument accepted by `AcceptsI` (negative: the type must hold `2**W`, i.e. a Python `int`
or a NumPy integer wider than `W` bits; non-negative: as the unsigned method). -/
theorem C14_py_arg_add_aligned_iW (np : Py.NumPy) (W : Nat) (s : Py.Ser) (x : Py.PyVal)
    (hW : W = 8 ∨ W = 16 ∨ W = 32 ∨ W = 64) (hx : x.WF) (hinv : s.Inv) (ha : s.off % 8 = 0)
    (hlo : -(2 ^ (W - 1)) ≤ x.denote) (hhi : x.denote < 2 ^ (W - 1)) (hacc : Py.AcceptsI W x)
    (hroom : s.off / 8 + W / 8 ≤ s.buf.length) :
    ∃ s', Py.addAlignedIV np W s x = .ok s' ∧
      Py.Appends s s' W (if x.denote < 0 then 2 ^ W + x.denote else x.denote).toNat.testBit := by
  rw [Py.addAlignedIV_eq np W s x hW hx hlo hhi hacc]
  exact Py.addAlignedI_spec W s x.denote hW hinv ha hlo hhi hroom

/-- A Python `int` / `bool` argument is always accepted. -/
theorem C14_py_arg_python_int_accepted (W : Nat) (v : Int) (b : Bool) :
    Py.AcceptsU W (.int v) ∧ Py.AcceptsI W (.int v) ∧ Py.AcceptsU W (.bool b) ∧ Py.AcceptsI W (.bool b) := by
  refine ⟨.inr rfl, ?_, .inr rfl, ?_⟩
  · unfold Py.AcceptsI; split
    · rfl
    · exact .inr rfl
  · unfold Py.AcceptsI; split
    · rfl
    · exact .inr rfl

-- the regression `fix:` 2f4c1c9 repaired (and a later "redundant conversion" clean-up would re-introduce): without
-- `value = int(value)` a negative int8 element of an `int7[...]` array cannot be serialized (`2**7` does not fit int8)
example : Py.addSignedNoInt Py.numpy2 true ⟨[0, 0], 0⟩ (.np .i8 (-3)) 7 = .error .usage := by decide
example : Py.addSignedNoInt Py.numpy2 false ⟨[0, 0, 0, 0, 0], 3⟩ (.np .i32 (-1)) 31 = .error .usage := by decide
example : Py.addAlignedSignedV Py.numpy2 ⟨[0, 0], 0⟩ (.np .i8 (-3)) 7 = .ok ⟨[0x7D, 0], 7⟩ := by decide
example : Py.addSignedNoInt Py.numpy2 true ⟨[0, 0], 0⟩ (.np .i8 (-3)) 6 = .ok ⟨[0x3D, 0], 6⟩ := by decide
example : Py.addSignedNoInt Py.numpy2 true ⟨[0, 0], 0⟩ (.int (-3)) 7 = .ok ⟨[0x7D, 0], 7⟩ := by decide
-- observations outside the acceptance predicates (not reachable from generated code: scalar attributes are `int`):
example : Py.addAlignedIV Py.numpy2 8 ⟨[0, 0], 0⟩ (.np .i8 (-1)) = .error .usage := by decide      -- 256 + int8
example : Py.addAlignedU16V Py.numpy2 ⟨[0, 0, 0], 0⟩ (.np .i8 5) = .error .usage := by decide      -- int8 & 0xFF
example : Py.addAlignedU8V Py.numpy2 ⟨[0, 0], 0⟩ (.np .u16 300) = .ok ⟨[44, 0], 8⟩ := by decide    -- cast, not an error
example : Py.addAlignedU8V Py.numpy2 ⟨[0, 0], 0⟩ (.int 300) = .error .usage := by decide
example : Py.addAlignedIV Py.numpy2 16 ⟨[0, 0, 0], 0⟩ (.np .i32 (-2)) = .ok ⟨[0xFE, 0xFF, 0], 16⟩ := by decide
example : Py.addAlignedU32V Py.numpy2 ⟨[0, 0, 0, 0, 0], 0⟩ (.np .u8 200) = .ok ⟨[200, 0, 0, 0, 0], 32⟩ := by decide
example : Py.addUnalignedBitV Py.numpy2 ⟨[0], 2⟩ (.np .i8 (-2)) = .ok ⟨[4], 3⟩ := by decide

/-- `nunavutChooseMin`. -/
theorem C14_chooseMin (a b : Nat) : chooseMin a b = min a b :=
  chooseMin_eq a b

/-- `nunavutSetF32/SetF64` move the float's bit pattern: a too-small buffer is reported (`-3`) and left unchanged;
otherwise exactly the `W` addressed bits become the pattern and everything else is untouched. -/
theorem C14_setF (little : Bool) (W : Nat) (buf : Buf) (size off bits : Nat) (hW64 : W ≤ 64)
    (hsize : size ≤ buf.length) :
    (size * 8 < off + W → setF little W buf size off bits = .ok (errTooSmall, buf)) ∧
    (¬ size * 8 < off + W →
      ∃ r, setF little W buf size off bits = .ok (0, r) ∧ r.length = buf.length ∧ (WF buf → WF r) ∧
        ∀ i, bitAt r i = if off ≤ i ∧ i < off + W then bits.testBit (i - off) else bitAt buf i) := by
  refine ⟨fun h => setUxx_small little buf size off bits W h, fun h => ?_⟩
  obtain ⟨r, h1, h2, h3, h4⟩ := setUxx_spec little buf size off bits W hsize h
  exact ⟨r, h1, h2, h3, fun i => by rw [h4, Nat.min_eq_left hW64]⟩

/-- `nunavutGetF32/GetF64` return the pattern of the zero-extended `W`-bit field, for every offset and size; and they
read back what `SetF` wrote (`W` = 32, 64: any multiple of 8 up to 64). -/
theorem C14_getF (little : Bool) (W : Nat) (buf : Buf) (size off bits : Nat) (hW : W % 8 = 0) (hW64 : W ≤ 64)
    (hsize : size ≤ buf.length) (hw : WF buf) :
    getF little W buf size off = .ok (fieldOf (fun i => zbit buf size (off + i)) W) ∧
    (bits < 2 ^ W → ¬ size * 8 < off + W →
      ∃ r, setF little W buf size off bits = .ok (0, r) ∧ getF little W r size off = .ok bits) := by
  refine ⟨?_, fun hb h => ?_⟩
  · unfold getF
    rw [getU_spec little W buf size off W hW hsize hw, Nat.min_self]
  · obtain ⟨r, h1, h2, h3, h4⟩ := setUxx_spec little buf size off bits W hsize h
    refine ⟨r, h1, ?_⟩
    unfold getF
    rw [getU_spec little W r size off W hW (by omega) (h3 hw), Nat.min_self]
    refine congrArg _ (fieldOf_eq_of_lt hb fun i hi => ?_)
    rw [zbit, decide_eq_true (show off + i < size * 8 by omega), Bool.true_and, h4,
      if_pos ⟨Nat.le_add_right _ _, by omega⟩, Nat.add_sub_cancel_left]

/-- `nunavutSetF16` writes exactly the 16 bits of `nunavutFloat16Pack(value)`; `nunavutGetF16` is
`nunavutFloat16Unpack` of the zero-extended 16-bit field (pack/unpack themselves: `Properties/C14Float.lean`). -/
theorem C14_setF16_getF16 (little : Bool) (pack unpack : Nat → Nat) (buf : Buf) (size off v : Nat)
    (hsize : size ≤ buf.length) (hw : WF buf) :
    (size * 8 < off + 16 → setF16 little pack buf size off v = .ok (errTooSmall, buf)) ∧
    (¬ size * 8 < off + 16 →
      ∃ r, setF16 little pack buf size off v = .ok (0, r) ∧ r.length = buf.length ∧
        ∀ i, bitAt r i = if off ≤ i ∧ i < off + 16 then (pack v).testBit (i - off) else bitAt buf i) ∧
    getF16 little unpack buf size off = .ok (unpack (fieldOf (fun i => zbit buf size (off + i)) 16)) := by
  refine ⟨fun h => setUxx_small little buf size off _ 16 h, fun h => ?_, ?_⟩
  · obtain ⟨r, h1, h2, _, h4⟩ := setUxx_spec little buf size off (pack v) 16 hsize h
    exact ⟨r, h1, h2, fun i => by rw [h4]; rfl⟩
  · unfold getF16
    rw [getU_spec little 16 buf size off 16 (by omega) hsize hw]
    rfl

/-- `at_offset` / `add_offset` / `set_offset` / `offset` / `offset_bytes` / `offset_bytes_ceil` / `size` /
`offset_misalignment` / `offset_alings_to` / `offset_alings_to_byte`: the bytes are shared, only the cursor moves; the
span shows the same bits further on; `size()` shrinks by what was skipped (never below zero). -/
theorem C14_cpp_offset_arithmetic (sp : Cpp.Span) (bits a : Nat) :
    (Cpp.atOffset sp bits).data = sp.data ∧ (Cpp.atOffset sp bits).off = sp.off + bits ∧
    (Cpp.atOffset sp bits).size = sp.size - bits ∧
    (∀ i, bitAt (Cpp.atOffset sp bits).data ((Cpp.atOffset sp bits).off + i) = bitAt sp.data (sp.off + bits + i)) ∧
    (Cpp.setOffset sp bits).data = sp.data ∧ (Cpp.setOffset sp bits).off = bits ∧
    sp.size = sp.data.length * 8 - sp.off ∧
    Cpp.offsetBytes sp * 8 ≤ sp.off ∧ sp.off < Cpp.offsetBytes sp * 8 + 8 ∧
    sp.off ≤ Cpp.offsetBytesCeil sp * 8 ∧ Cpp.offsetBytesCeil sp * 8 < sp.off + 8 ∧
    (0 < a → Cpp.offsetMisalignment sp a = .ok (sp.off % a) ∧
      Cpp.offsetAlignsTo sp a = .ok (decide (sp.off % a = 0))) := by
  refine ⟨rfl, rfl, ?_, fun i => rfl, rfl, rfl, Cpp.size_eq sp, ?_, ?_, ?_, ?_, fun ha => ?_⟩
  · rw [Cpp.size_eq, Cpp.size_eq]; show sp.data.length * 8 - (sp.off + bits) = _; omega
  · unfold Cpp.offsetBytes; omega
  · unfold Cpp.offsetBytes; omega
  · unfold Cpp.offsetBytesCeil; omega
  · unfold Cpp.offsetBytesCeil; omega
  · have : a ≠ 0 := by omega
    simp only [Cpp.offsetMisalignment, Cpp.offsetAlignsTo, this, if_false, bind, Except.bind, true_and]
    by_cases h : sp.off % a = 0 <;> simp [h]

/-- `any_bitspan::subspan(bits)`: the offset turned into a pointer — the result starts at the addressed bit, has a
bit offset below 8, shows exactly the same bits, and its `size()` is what remained. -/
theorem C14_cpp_subspan_bits (sp : Cpp.Span) (bits : Nat) :
    (Cpp.subspan1 sp bits).off = (sp.off + bits) % 8 ∧
    (Cpp.subspan1 sp bits).data.length = sp.data.length - (sp.off + bits) / 8 ∧
    (Cpp.subspan1 sp bits).size = sp.size - bits ∧
    ∀ i, bitAt (Cpp.subspan1 sp bits).data ((Cpp.subspan1 sp bits).off + i) = bitAt sp.data (sp.off + bits + i) := by
  rw [Cpp.subspan1_eq]
  refine ⟨rfl, List.length_drop, ?_, fun i => ?_⟩
  · rw [Cpp.size_eq, Cpp.size_eq, List.length_drop]
    show _ - (sp.off + bits) % 8 = _
    omega
  · show bitAt (sp.data.drop _) ((sp.off + bits) % 8 + i) = _
    rw [bitAt_drop, ← Nat.add_assoc, Nat.div_add_mod]

/-- `const_bitspan::subspan_bytes(n)` (the window of a delimited nested object): at most `n` bytes from the byte of
the offset on, fewer if the data ends earlier, offset 0; inside the window the bits are the parent's, **beyond it
they read as zero** whatever the parent holds there. -/
theorem C14_cpp_subspan_bytes (sp : Cpp.Span) (sizeBytes : Nat) :
    (Cpp.subspanBytes sp sizeBytes).off = 0 ∧
    (Cpp.subspanBytes sp sizeBytes).data.length = min sizeBytes (sp.data.length - sp.off / 8) ∧
    ∀ i, bitAt (Cpp.subspanBytes sp sizeBytes).data i =
      (decide (i / 8 < sizeBytes) && bitAt sp.data (8 * (sp.off / 8) + i)) := by
  rw [Cpp.subspanBytes_eq]
  exact ⟨rfl, by rw [List.length_take, List.length_drop], fun i => by rw [bitAt_take, bitAt_drop]⟩

/-- `aligned_ref(plus)` / `aligned_ptr(plus)`: the byte that holds bit `offset + plus`; the reference is an error
(assertion / out-of-bounds) exactly when that byte lies outside the data. -/
theorem C14_cpp_aligned_ref (sp : Cpp.Span) (plus : Nat) :
    8 * Cpp.alignedPtr sp plus + (sp.off + plus) % 8 = sp.off + plus ∧
    (Cpp.alignedPtr sp plus < sp.data.length →
      ∃ b, Cpp.alignedRef sp plus = .ok b ∧ sp.data[Cpp.alignedPtr sp plus]? = some b ∧
        b.testBit ((sp.off + plus) % 8) = bitAt sp.data (sp.off + plus)) ∧
    (¬ Cpp.alignedPtr sp plus < sp.data.length → Cpp.alignedRef sp plus = .error .oob) := by
  refine ⟨by unfold Cpp.alignedPtr; omega, fun h => ?_, fun h => ?_⟩
  · unfold Cpp.alignedPtr at h
    refine ⟨sp.data[(sp.off + plus) / 8], ?_, ?_, ?_⟩
    · simp [Cpp.alignedRef, get?, List.getElem?_eq_getElem h]
    · simp [Cpp.alignedPtr, List.getElem?_eq_getElem h]
    · simp [bitAt, List.getElem?_eq_getElem h]
  · unfold Cpp.alignedPtr at h
    simp [Cpp.alignedRef, get?, List.getElem?_eq_none (by omega : sp.data.length ≤ (sp.off + plus) / 8)]

/-- `copyTo(dst)` (whole source) and `setZeros()` (whole remaining span). -/
theorem C14_cpp_whole_span_overloads (src dst sp : Cpp.Span) :
    (src.size ≠ 0 → dst.off + src.size ≤ dst.data.length * 8 →
      ∃ r, Cpp.copyToAll src dst = .ok r ∧ r.length = dst.data.length ∧
        ∀ i, bitAt r i = if dst.off ≤ i ∧ i < dst.off + src.size
          then bitAt src.data (src.off + (i - dst.off)) else bitAt dst.data i) ∧
    (∃ r, Cpp.setZerosAll sp = .ok (0, r) ∧ r.length = sp.data.length ∧
        ∀ i, bitAt r i = if sp.off ≤ i ∧ i < sp.off + sp.size then false else bitAt sp.data i) := by
  constructor
  · intro _ hd
    obtain ⟨r, h1, h2, _, h4⟩ := C14_cpp_copyTo src dst src.size (by rw [Nat.min_self]; intro _; exact hd)
    refine ⟨r, h1, h2, fun i => ?_⟩
    rw [h4, Nat.min_self]
  · obtain ⟨r, h1, h2, _, h4⟩ := Cpp.setZeros_spec sp sp.size (by omega)
    exact ⟨r, h1, h2, h4⟩

/-- `align_offset_to<n>()` for the permitted `n` = 8, 16, 32, 64 (`2^k`, `3 ≤ k ≤ 6`; no `size_t` wrap): the offset
becomes the least multiple of `n` that is not below it. -/
theorem C14_cpp_align_offset_to (k : Nat) (sp : Cpp.Span) (hk : k ≤ 6) (hoff : sp.off + 2 ^ k ≤ 2 ^ 64) :
    (Cpp.alignOffsetTo (2 ^ k) sp).data = sp.data ∧
    sp.off ≤ (Cpp.alignOffsetTo (2 ^ k) sp).off ∧ (Cpp.alignOffsetTo (2 ^ k) sp).off < sp.off + 2 ^ k ∧
    (Cpp.alignOffsetTo (2 ^ k) sp).off % 2 ^ k = 0 := by
  obtain ⟨h1, h2⟩ := Cpp.alignOffsetTo_spec k sp (by omega) hoff
  obtain ⟨a, b, c⟩ := Cpp.roundUp_props sp.off (2 ^ k) (Nat.pow_pos (by omega))
  rw [h2]
  exact ⟨h1, a, b, c⟩

/-- `bitspan::setF32/setF64`, `const_bitspan::getF32/getF64`: pattern moves with the `setUxx` / `getU` contracts and
the round trip. -/
theorem C14_cpp_setF_getF (W : Nat) (sp : Cpp.Span) (bits : Nat) (hW : W % 8 = 0) (hW64 : W ≤ 64)
    (hw : WF sp.data) :
    (sp.data.length * 8 < sp.off + W → Cpp.setF W sp bits = .ok (errTooSmall, sp.data)) ∧
    (¬ sp.data.length * 8 < sp.off + W →
      ∃ r, Cpp.setF W sp bits = .ok (0, r) ∧ r.length = sp.data.length ∧
        (∀ i, bitAt r i = if sp.off ≤ i ∧ i < sp.off + W then bits.testBit (i - sp.off) else bitAt sp.data i) ∧
        (bits < 2 ^ W → Cpp.getF W ⟨r, sp.off⟩ = .ok bits)) ∧
    Cpp.getF W sp = .ok (fieldOf (fun i => bitAt sp.data (sp.off + i)) W) := by
  obtain ⟨hsmall, hfits⟩ := C14_cpp_setUxx sp bits W
  refine ⟨hsmall, fun h => ?_, ?_⟩
  · obtain ⟨r, h1, h2, h3, h4⟩ := hfits h
    refine ⟨r, h1, h2, fun i => by rw [h4, Nat.min_eq_left hW64], fun hb => ?_⟩
    unfold Cpp.getF
    rw [Cpp.getU_spec W ⟨r, sp.off⟩ W hW (h3 hw), Nat.min_self]
    refine congrArg _ (fieldOf_eq_of_lt hb fun i hi => ?_)
    show bitAt r (sp.off + i) = _
    rw [h4, if_pos ⟨Nat.le_add_right _ _, by omega⟩, Nat.add_sub_cancel_left]
  · unfold Cpp.getF
    rw [Cpp.getU_spec W sp W hW hw, Nat.min_self]

/-- `bitspan::setF16` / `const_bitspan::getF16` are the 16-bit instance of the pattern moves above, through
`float16Pack` / `float16Unpack`; `const_bitspan::saturateBufferFragmentBitLength` is `min len size()`. -/
theorem C14_cpp_setF16_getF16_saturate (pack unpack : Nat → Nat) (sp : Cpp.Span) (v len : Nat) :
    Cpp.setF16 pack sp v = Cpp.setF 16 sp (pack v) ∧
    Cpp.getF16 unpack sp = (Cpp.getF 16 sp).map unpack ∧
    sp.saturate len = min len sp.size := by
  refine ⟨rfl, ?_, ?_⟩
  · unfold Cpp.getF16 Cpp.getF
    cases Cpp.getU 16 sp 16 <;> rfl
  · rw [Cpp.size_eq, Cpp.Span.saturate_eq]

/-- `Serializer.skip_bits(n)` (`void` fields, fragments written by a fork): on an invariant state it appends `n` zero
bits without touching the buffer; `current_bit_length` is the cursor. -/
theorem C14_py_skip_bits (s : Py.Ser) (n : Nat) (hinv : s.Inv) :
    ∃ s', Py.skipBitsZ s n = .ok s' ∧ Py.Appends s s' n (fun _ => false) ∧
      Py.currentBitLength s' = Py.currentBitLength s + n ∧ s'.buf = s.buf := by
  refine ⟨⟨s.buf, s.off + n⟩, ?_, Py.skipBits_appends s n hinv, rfl, rfl⟩
  have : ¬ ((s.off : Int) + n < 0) := by omega
  simp only [Py.skipBitsZ, this, if_false]
  congr 2

/-- `Serializer.buffer`: the first `ceil(cursor/8)` bytes; on an invariant state the bits from the cursor up to the
byte boundary are zero ("zero-bit-padded to byte"). -/
theorem C14_py_buffer_view (s : Py.Ser) (hinv : s.Inv) (hroom : (s.off + 7) / 8 ≤ s.buf.length) :
    (Py.bufferView s).length = (s.off + 7) / 8 ∧
    (∀ i, i < s.off → bitAt (Py.bufferView s) i = bitAt s.buf i) ∧
    (∀ i, s.off ≤ i → bitAt (Py.bufferView s) i = false) := by
  obtain ⟨h1, h2⟩ := Py.bufferView_spec s
  refine ⟨by omega, fun i hi => ?_, fun i hi => ?_⟩
  · rw [h2]; simp [show i / 8 < (s.off + 7) / 8 by omega]
  · rw [h2, hinv.2 i hi]; simp

/-- `Serializer.fork_bytes(k)` (delimited serialization): refused (`ValueError`) iff the cursor is not byte aligned or
fewer than `k + 1` bytes remain; otherwise the fork is a fresh invariant serializer of `k + 1` bytes at cursor 0, and
**whatever a sequence of `add_*` appends to the fork is appended to the parent** once the parent skips it
(`joinFork`: the fork writes through a view of the parent's buffer). -/
theorem C14_py_fork_serializer (s : Py.Ser) (k : Nat) (hinv : s.Inv) :
    (s.off % 8 ≠ 0 ∨ s.buf.length < s.off / 8 + k + 1 → Py.forkBytes s k = .error .usage) ∧
    (s.off % 8 = 0 → s.off / 8 + k + 1 ≤ s.buf.length →
      ∃ f, Py.forkBytes s k = .ok f ∧ f.off = 0 ∧ f.buf.length = k + 1 ∧ f.Inv ∧
        ∀ f' n bit, Py.Appends f f' n bit → Py.Appends s ⟨Py.joinFork s f', s.off + n⟩ n bit) := by
  constructor
  · intro h
    unfold Py.forkBytes
    by_cases ha : s.off % 8 = 0
    · have : s.buf.length < s.off / 8 + k + 1 := by rcases h with h | h; exact absurd ha h; exact h
      simp only [ha, ne_eq, not_true_eq_false, if_false, List.length_drop]
      rw [if_pos (by omega)]
    · simp [ha]
  · intro ha hroom
    refine ⟨_, Py.forkBytes_ok s k ha hroom, rfl, ?_, Py.fork_inv s k hinv ha, fun f' n bit happ => ?_⟩
    · simp [List.length_take, List.length_drop]; omega
    · exact Py.fork_join_appends s f' k n bit hinv ha hroom happ

/-- The float methods (`struct.pack` outside the model: `bytes` is its 2/4/8-byte result) and the bulk array methods
(`x.view(Byte)`: the array's bytes on a little-endian host) append exactly those bytes. -/
theorem C14_py_add_float_and_std_array (aligned : Bool) (s : Py.Ser) (bytes : Buf) (hinv : s.Inv) (hw : WF bytes)
    (ha : aligned = true → s.off % 8 = 0)
    (hroom : if aligned then s.off / 8 + bytes.length ≤ s.buf.length else s.off / 8 + bytes.length < s.buf.length) :
    ∃ s', Py.addFloat aligned s bytes = .ok s' ∧ Py.addStdArray aligned s bytes = .ok s' ∧
      Py.Appends s s' (8 * bytes.length) (bitAt bytes) := by
  cases aligned with
  | true =>
    obtain ⟨s', h1, h2⟩ := Py.addAlignedBytes_spec s bytes hinv (ha rfl) hw (by simpa using hroom)
    exact ⟨s', by simpa [Py.addFloat] using h1, by simpa [Py.addStdArray] using h1, h2⟩
  | false =>
    obtain ⟨s', h1, h2⟩ := Py.addUnalignedBytes_spec s bytes hinv hw (by simpa using hroom)
    exact ⟨s', by simpa [Py.addFloat] using h1, by simpa [Py.addStdArray] using h1, h2⟩

/-- `Serializer._unsigned_to_bytes` / `Deserializer._unsigned_from_bytes`. -/
theorem C14_py_unsigned_bytes_helpers (v bl : Nat) (x : Buf) (hbl : 1 ≤ bl) (hw : WF x)
    (hlen : (bl + 7) / 8 ≤ x.length) :
    (∃ bs, Py.unsignedToBytes v bl = .ok bs ∧ bs.length = (bl + 7) / 8 ∧ WF bs ∧
      ∀ i, bitAt bs i = (decide (i < bl) && v.testBit i)) ∧
    Py.unsignedFromBytes x bl = .ok (fieldOf (bitAt x) bl) ∧
    Py.unsignedToBytes v 0 = .error .usage ∧ Py.unsignedFromBytes x 0 = .error .usage :=
  ⟨Py.unsignedToBytes_spec v bl hbl, Py.unsignedFromBytes_spec x bl hw hbl hlen, by simp [Py.unsignedToBytes],
   by simp [Py.unsignedFromBytes]⟩

/-- `ZeroExtendingBuffer`: construction concatenates the fragments; `bit_length`; `get_byte` / `get_unsigned_slice`
refuse negative (and inverted) indices and otherwise zero-extend. -/
theorem C14_py_zero_extending_buffer (frags : List Buf) (buf : Buf) (i l r : Int) :
    Py.zebNew frags = frags.flatten ∧ Py.zebBitLength buf = 8 * buf.length ∧
    (i < 0 → Py.getByteZ buf i = .error .usage) ∧
    (0 ≤ i → ∃ b, Py.getByteZ buf i = .ok b ∧ (i.toNat < buf.length → buf[i.toNat]? = some b) ∧
      (buf.length ≤ i.toNat → b = 0) ∧ ∀ j, j < 8 → b.testBit j = bitAt buf (8 * i.toNat + j)) ∧
    (¬ (0 ≤ l ∧ l ≤ r) → Py.getUnsignedSliceZ buf l r = .error .usage) ∧
    (0 ≤ l → l ≤ r → ∃ out, Py.getUnsignedSliceZ buf l r = .ok out ∧ out.length = r.toNat - l.toNat ∧
      ∀ j, bitAt out j = (decide (j < 8 * (r.toNat - l.toNat)) && bitAt buf (8 * l.toNat + j))) := by
  refine ⟨rfl, by simp [Py.zebBitLength, Nat.mul_comm], fun h => by simp [Py.getByteZ, h], fun h => ?_,
    fun h => by simp [Py.getUnsignedSliceZ, h], fun h0 h1 => ?_⟩
  · refine ⟨Py.getByte buf i.toNat, by simp [Py.getByteZ, show ¬ i < 0 by omega], fun hlt => ?_, fun hge => ?_,
      fun j hj => Py.getByte_testBit buf i.toNat j hj⟩
    · simp [Py.getByte, List.getElem?_eq_getElem hlt]
    · simp [Py.getByte, List.getElem?_eq_none hge]
  · obtain ⟨out, e1, e2, _, e4⟩ := Py.slice_bits buf l.toNat r.toNat (by omega)
    exact ⟨out, by simp [Py.getUnsignedSliceZ, h0, h1, e1], e2, e4⟩

/-- `ZeroExtendingBuffer.fork_bytes` and `Deserializer.fork_bytes(k)` (delimited deserialization): refused iff the
cursor is unaligned or the `k` bytes are not all inside the buffer (an empty fork is always fine, also in the
zero-extended area); otherwise the fork is a deserializer at cursor 0 over exactly `k` bytes, showing the parent's
bits from its cursor on and **zeros beyond the `k` bytes** — whatever follows in the parent. -/
theorem C14_py_fork_deserializer (d : Py.De) (k : Nat) :
    ((d.off % 8 = 0 ∧ d.off / 8 + k ≤ d.buf.length) ∨ (d.off % 8 = 0 ∧ k = 0) →
      ∃ f, Py.deForkBytes d k = .ok f ∧ f.off = 0 ∧ f.buf.length = k ∧
        Py.remainingBitLength f = 8 * (k : Int) ∧
        ∀ i, bitAt f.buf i = (decide (i / 8 < k) && bitAt d.buf (d.off + i))) ∧
    (¬ ((d.off % 8 = 0 ∧ d.off / 8 + k ≤ d.buf.length) ∨ (d.off % 8 = 0 ∧ k = 0)) →
      Py.deForkBytes d k = .error .usage) := by
  by_cases ha : d.off % 8 = 0
  · -- with the cursor at byte `p`, `remaining_bit_length` is `8 * (length - p)` (0 behind the end)
    obtain ⟨p, hp⟩ : ∃ p, d.off = 8 * p := ⟨d.off / 8, (mul_div_aligned ha).symm⟩
    have hdiv : d.off / 8 = p := by rw [hp, Nat.mul_div_cancel_left _ (by decide)]
    have hrem : ((max (Py.remainingBitLength d) 0).toNat) = (d.buf.length - p) * 8 := by
      simp only [Py.remainingBitLength, Py.zebBitLength]; omega
    unfold Py.deForkBytes
    simp only [ha, ne_eq, not_true_eq_false, if_false, hrem, Nat.mul_mod_left,
      Nat.mul_div_cancel _ (show 0 < 8 by decide), hdiv]
    constructor
    · intro h
      have hk : p + k ≤ d.buf.length ∨ k = 0 := by rcases h with h | h; exact .inl h.2; exact .inr h.2
      obtain ⟨out, ho, hol, hob⟩ := (Py.zebForkBytes_spec d.buf p k).1 hk
      refine ⟨⟨out, 0⟩, ?_, rfl, hol, ?_, fun i => by rw [hob, hp]⟩
      · rw [if_neg (by omega)]
        simp [ho, hol, bind, Except.bind]
      · simp only [Py.remainingBitLength, Py.zebBitLength, hol]; omega
    · intro h
      have h1 : ¬ p + k ≤ d.buf.length := fun e => h (.inl ⟨trivial, e⟩)
      have h2 : k ≠ 0 := fun e => h (.inr ⟨trivial, e⟩)
      rw [if_pos (by omega)]
  · constructor
    · intro h; rcases h with h | h <;> exact absurd h.1 ha
    · intro _; simp [Py.deForkBytes, ha]

/-- Cursor bookkeeping of the deserializer: `consumed_bit_length + remaining_bit_length = bit_length` in every state
(the constructor's assertion, kept by every operation); a new deserializer has consumed nothing; `skip_bits(n)` refuses
a negative `n` and otherwise consumes exactly `n` bits without looking at the data (also past the end: `remaining`
goes negative, the zero-extension area). -/
theorem C14_py_deserializer_bookkeeping (d : Py.De) (frags : List Buf) (n : Int) :
    (Py.consumedBitLength d : Int) + Py.remainingBitLength d = Py.zebBitLength d.buf ∧
    Py.consumedBitLength (Py.De.new frags) = 0 ∧ (Py.De.new frags).buf = frags.flatten ∧
    (n < 0 → Py.deSkipBitsZ d n = .error .usage) ∧
    (0 ≤ n → ∃ d', Py.deSkipBitsZ d n = .ok d' ∧ d'.buf = d.buf ∧
      (Py.consumedBitLength d' : Int) = Py.consumedBitLength d + n ∧
      Py.remainingBitLength d' = Py.remainingBitLength d - n) := by
  refine ⟨by simp only [Py.consumedBitLength, Py.remainingBitLength]; omega, rfl, rfl,
    fun h => by simp [Py.deSkipBitsZ, Py.ensureCardinal, h, bind, Except.bind], fun h => ?_⟩
  refine ⟨⟨d.buf, d.off + n.toNat⟩, by simp [Py.deSkipBitsZ, Py.ensureCardinal, show ¬ n < 0 by omega, bind, Except.bind],
    rfl, ?_, ?_⟩
  · simp only [Py.consumedBitLength]; omega
  · simp only [Py.remainingBitLength]; omega

/-- Every `fetch_*(count)` / `fetch_*_unsigned(bit_length)` starts with `_ensure_cardinal`: a negative argument is
refused before anything is read, a non-negative one is the operation `Properties/C14.lean` speaks of. -/
theorem C14_py_fetch_cardinal {α : Type} (f : Py.De → Nat → Except Err α) (d : Py.De) (count : Int) :
    (count < 0 → Py.fetchZ f d count = .error .usage) ∧ (0 ≤ count → Py.fetchZ f d count = f d count.toNat) := by
  constructor
  · intro h; simp [Py.fetchZ, Py.ensureCardinal, h, bind, Except.bind]
  · intro h; simp [Py.fetchZ, Py.ensureCardinal, show ¬ count < 0 by omega, bind, Except.bind]

/-- `fetch_*_f16/32/64` hand `struct.unpack` the `W/8` bytes at the cursor (zero-extended), and
`fetch_*_array_of_standard_bit_length_primitives(dtype, count)` reinterprets `count · itemsize` such bytes; the cursor
advances by exactly that many bits; never an error, for every buffer and cursor (byte aligned for the aligned
methods). -/
theorem C14_py_fetch_float_and_std_array (aligned : Bool) (d : Py.De) (W itemSize count : Nat) (hw : WF d.buf)
    (ha : aligned = true → d.off % 8 = 0) :
    (∃ bs, Py.fetchFloat aligned d W = .ok (bs, ⟨d.buf, d.off + W / 8 * 8⟩) ∧ bs.length = W / 8 ∧
      ∀ i, bitAt bs i = (decide (i < 8 * (W / 8)) && bitAt d.buf (d.off + i))) ∧
    (∃ bs, Py.fetchStdArray aligned d itemSize count = .ok (bs, ⟨d.buf, d.off + itemSize * count * 8⟩) ∧
      bs.length = itemSize * count ∧
      ∀ i, bitAt bs i = (decide (i < 8 * (itemSize * count)) && bitAt d.buf (d.off + i))) := by
  cases aligned with
  | true =>
    have ha' := ha rfl
    constructor
    · obtain ⟨bs, h1, h2, _, h4⟩ := Py.fetchAlignedBytes_spec d (W / 8) ha'
      exact ⟨bs, by simpa [Py.fetchFloat] using h1, h2, h4⟩
    · obtain ⟨out, e1, e2, _, e4⟩ := Py.slice_at_cursor d (count * itemSize) ha'
      rw [Nat.mul_comm count itemSize] at e2 e4
      exact ⟨out, by simp [Py.fetchStdArray, Py.assertAligned_ok ha', e1, e2, bind, Except.bind], e2, e4⟩
  | false =>
    constructor
    · obtain ⟨bs, h1, h2, _, h4⟩ := Py.fetchUnalignedBytes_spec d (W / 8) hw
      exact ⟨bs, by simpa [Py.fetchFloat] using h1, h2, h4⟩
    · obtain ⟨bs, h1, h2, _, h4⟩ := Py.fetchUnalignedBytes_spec d (itemSize * count) hw
      exact ⟨bs, by simpa [Py.fetchStdArray] using h1, h2, h4⟩

example : setF false 32 [0, 0, 0, 0, 0] 5 3 0x3FC00000 = .ok (0, [0, 0, 0, 0xFE, 0x01]) := by decide
example : getF true 32 [0, 0, 0, 0xFE, 0x01] 5 3 = .ok 0x3FC00000 := by decide
example : getF false 64 [0xFF, 0xFF] 2 4 = .ok 0xFFF := by decide
example : setF true 64 [0, 0, 0, 0, 0, 0, 0, 0] 8 1 5 = .ok (errTooSmall, [0, 0, 0, 0, 0, 0, 0, 0]) := by decide
example : Cpp.subspan1 ⟨[1, 2, 3, 4], 5⟩ 6 = ⟨[2, 3, 4], 3⟩ := by decide
example : Cpp.subspan1 ⟨[1, 2], 5⟩ 60 = ⟨[], 1⟩ := by decide
example : Cpp.subspanBytes ⟨[1, 2, 3, 4], 8⟩ 2 = ⟨[2, 3], 0⟩ := by decide
example : Cpp.subspanBytes ⟨[1, 2, 3, 4], 24⟩ 5 = ⟨[4], 0⟩ := by decide
example : (Cpp.alignOffsetTo 32 ⟨[], 33⟩).off = 64 ∧ (Cpp.alignOffsetTo 8 ⟨[], 16⟩).off = 16 := by decide
example : Cpp.alignedRef ⟨[1, 2], 9⟩ 8 = .error .oob ∧ Cpp.alignedRef ⟨[1, 2], 9⟩ 3 = .ok 2 := by decide
example : Py.forkBytes ⟨[7, 0, 0, 0, 0], 8⟩ 2 = .ok ⟨[0, 0, 0], 0⟩ ∧ Py.forkBytes ⟨[7, 0, 0, 0, 0], 8⟩ 4 = .error .usage ∧
    Py.forkBytes ⟨[7, 0, 0, 0, 0], 9⟩ 1 = .error .usage := by decide
example : Py.joinFork ⟨[7, 0, 0, 0, 0], 8⟩ ⟨[0xAB, 0x01, 0], 9⟩ = [7, 0xAB, 0x01, 0, 0] := by decide
example : Py.deForkBytes ⟨[1, 2, 3, 4], 8⟩ 2 = .ok ⟨[2, 3], 0⟩ ∧ Py.deForkBytes ⟨[1, 2, 3, 4], 8⟩ 4 = .error .usage ∧
    Py.deForkBytes ⟨[1, 2], 64⟩ 0 = .ok ⟨[], 0⟩ ∧ Py.deForkBytes ⟨[1, 2], 64⟩ 1 = .error .usage := by decide
example : Py.remainingBitLength ⟨[1, 2], 64⟩ = -48 := by decide
example : Py.bufferView ⟨[0xFF, 0x01, 0, 0], 9⟩ = [0xFF, 0x01] := by decide

end NunavutVerif.Bits
