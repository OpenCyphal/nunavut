import NunavutVerif.Lemmas.Deps
import NunavutVerif.Lemmas.DepsOpts
import NunavutVerif.Lemmas.Names
import NunavutVerif.Gen.OptionDomain
/-!
# C06 — generated code builds on its own: the part that is Nunavut's logic

Statement (properties.jsonl): every generated C header compiles on its own as C11 and inside a C++ translation unit, every
C++ header for each supported standard, every Python module imports, without diagnostics under the project's strict warning
set; no generated file refers to a header or module that generating the involved namespaces does not produce.

What is proved here, over **all** type shapes (`Top`, `Comp`, `Ty` — any nesting, any number of fields) and **all**
option sets (`Opts`), for the code with the proposed `fix:` commits (`Model/Deps.lean`):

1. *closure*: every project-relative include of a generated C / C++ header is `make_path` of a direct dependency — the
   same function that names the file written for that type (`Namespace.outputPath`, C11) — or a serialization-support
   header that is generated unless omitted; direct ⊆ transitive ⊆ the types below the type, which the front end has read
   (`Closed`); every Python `import` is the package of a direct dependency, every other module a generated Python
   module imports exists;
2. *facility coverage*: for every facility the emitted text uses (`facMust`) or may use (`facMay`) there is an emitted
   include that provides it (`provides`), with serialization enabled **and** omitted;
3. *names*: include guards decode uniquely into (macrofied name, major, minor); C++ namespace brackets balance;
4. *identifiers* (`Model/Names.lean`): when the C++ qualified names, the C reference names and the `#define`s of distinct
   DSDL entities in one translation unit are distinct, and when they are not.

The unchanged code violated 1 (Python, omitted support) and 2 (C with omitted support; non-sealed unions and services
with unions in C++17; unions in C++14, fixed port-IDs in C++ with omitted support): the negations are proved on
witnesses below (`…BeforeFix`), the harness replays them with the compilers.

Partial by nature (DESIGN §4 C06): that a header with the right includes and names draws no diagnostic at all is the
compilers' judgement (harness/c06.py); `facMust/facMay` and `provides` are hand-written from the templates and the
language standards and tied to every generated header by a token scan.  The C++ coverage theorem needs the two
option-given includes to be non-empty when the options that use them are on (`OptsOkCpp`); `use_standard_types` may be
on or off.  Include guards of different types can coincide because `macrofy` is not injective
(`guard.FooBar.1.0` / `guard.foo.Bar.1.0`): known finding, `C06_include_guards_distinct` carries injectivity as hypothesis.
-/
namespace NunavutVerif.Deps
open NunavutVerif.Namespace (Str Path PathR Err makePath asPosix includePath outputPath basePath pathJoin shortVer)

/-- T1a: `direct()` is contained in `transitive()`: the names and every flag. -/
theorem C06_direct_le_transitive (t : Top) : (direct t).Le (transitive t) := by
  rw [direct, transitive, buildMany_single, buildMany_single]
  exact extractList_false_le_true _ (Deps.Le.refl _)

/-- T1b: whatever the builder collects (either mode, either union test) is a composite below the type. -/
theorem C06_collected_names_are_below (u : Top → Bool) (tr : Bool) (t : Top) :
    ∀ n ∈ (buildMany u tr [t]).names, n ∈ t.reach := by
  intro n hn
  rw [buildMany_single] at hn
  rcases extractList_names tr _ _ n hn with h | h
  · split at h <;> simp at h
  · exact h

/-- The front end resolves every reference to a definition it has read: a set of top-level types is *closed* when every
composite below one of them is (by name) one of the message types of the set. -/
def Closed (U : List Top) : Prop := ∀ t ∈ U, ∀ n ∈ t.reach, ∃ t' ∈ U, t'.name = n

/-- T1c (C and C++): every `#include` operand of a generated header is a standard / option-given header chosen by
`get_includes` or the template, or a support header (only when support is generated), or the include path of a direct
dependency `n`; that path is `make_path(n)`, the file written for `n` is `outdir / make_path(n)`, and `n` is a type of
the closed set — generating its namespace into the same output directory produces exactly that file. -/
theorem C06_include_closure (lang : Lang) (pcfg : Namespace.Cfg) (o : Opts) (U : List Top) (hU : Closed U)
    (t : Top) (ht : t ∈ U) (incs : List Str) (h : emitted lang pcfg o t = .ok incs) :
    ∀ inc ∈ incs,
      (inc ∈ cStd o (direct t) ++ cOmitBlock o ++ cppGetIncludes o (direct t) ++ cppUnionBlock o t ++ [hCstdint])
      ∨ (o.omitSer = false ∧ ∃ s ∈ o.support, inc = punct o s)
      ∨ (∃ n ∈ (direct t).names, ∃ rel, includePath pcfg n = .ok rel ∧ inc = punct o (asPosix rel)
          ∧ outputPath pcfg n = .ok (pathJoin (basePath pcfg) rel)
          ∧ n ∈ (transitive t).names ∧ ∃ t' ∈ U, t'.name = n) := by
  intro inc hinc
  have hl : lang ≠ .py := by rintro rfl; cases h; nomatch hinc
  obtain ⟨ps, hps, hmem⟩ := emitted_inv h hl
  rcases (hmem inc).mp hinc with hp | hx
  · rcases pathIncludes_mem hps hp with h1 | ⟨n, hn, rel, hrel, rfl⟩
    · exact .inr (.inl h1)
    · refine .inr (.inr ⟨n, hn, rel, hrel, rfl, ?_, (C06_direct_le_transitive t).names n hn, ?_⟩)
      · simp only [outputPath, hrel]
      · exact hU t ht n (C06_collected_names_are_below _ _ t n hn)
  · -- the first alternative lists what either language adds
    left
    cases lang <;>
      simp only [extras, List.mem_append, List.mem_ite_nil_right, List.mem_singleton, List.not_mem_nil] at hx ⊢ <;> grind

/-- T1d (Python): every `import` emitted by `filter_imports` is the dotted, component-wise stropped namespace of a
composite that is a field type or the element type of an array field, i.e. of a direct dependency below the type. -/
theorem C06_py_imports_are_dependency_packages (strop : Str → Str) (enable : Bool) (t : Top) :
    ∀ imp ∈ pyImports strop enable t, ∃ c : Comp,
      (Ty.comp c ∈ t.dataTypes ∨ Ty.fixedArr (.comp c) ∈ t.dataTypes ∨ Ty.varArr (.comp c) ∈ t.dataTypes)
      ∧ imp = joinDots (if enable then c.name.ns.map strop else c.name.ns) := by
  intro imp himp
  simp only [pyImports, mem_sortS, List.mem_map] at himp
  obtain ⟨ns, hns, rfl⟩ := himp
  have h2 := mem_of_mem_dedupFirst hns
  simp only [List.mem_map, List.mem_append, List.mem_filterMap] at h2
  obtain ⟨c, hc, rfl⟩ := h2
  refine ⟨c, ?_, rfl⟩
  rcases hc with ⟨ty, hty, hsome⟩ | ⟨ty, hty, hsome⟩
  · cases ty <;> simp at hsome
    subst hsome; exact Or.inl hty
  · split at hsome <;> simp at hsome
    · subst hsome; exact Or.inr (Or.inl hty)
    · subst hsome; exact Or.inr (Or.inr hty)

/-- T1e (Python): every other module a generated module imports is there: the support module is written unless
omitted and is imported only then; NumPy / PyDSDL are the documented requirements; `warnings` is the standard library. -/
theorem C06_py_module_imports_available (o : Opts) (deprecated : Bool) :
    ∀ m ∈ pyModuleImports o deprecated, m ∈ pyAvailable o := by
  intro m hm
  simp only [pyModuleImports, pyAvailable, List.mem_append, List.mem_cons] at hm ⊢
  cases deprecated <;> grind

/-- What the options have to deliver for the C++ target: each include an option names is given when it is used. -/
structure OptsOkCpp (o : Opts) (t : Top) : Prop where
  alloc : o.allocCtor = true → o.allocInc ≠ []
  vla : (direct t).usesVla = true → o.vlaInc ≠ []
  support : o.omitSer = false → o.support ≠ []

/-- T2 (C): for every type shape and every option set — serialization enabled or omitted, `use_standard_types` on or
off — every facility the generated C header uses or may use is provided by one of its own `#include`s. -/
theorem C06_facilities_covered_c (pcfg : Namespace.Cfg) (o : Opts) (t : Top) (hs : o.omitSer = false → o.support ≠ [])
    (incs : List Str) (h : emitted .c pcfg o t = .ok incs) :
    ∀ f ∈ facilities .c o t, covered .c o incs f = true := by
  intro f hf
  cases ho : o.omitSer with
  | true =>
    -- support omitted: only the definition part is left, and the block of base.j2 covers it
    have hd : f ∈ cDefFacs := (facilities_c_sub hf).resolve_right (by simp [ho])
    obtain ⟨x, hx, hp⟩ := cOmitBlock_provides ho f hd
    exact covered_extras h (List.mem_append_right _ hx) (provides_of_std hp)
  | false =>
    -- support included: it brings everything
    exact covered_support h nofun ho (hs ho)
      (support_c_all f (List.mem_append.mpr ((facilities_c_sub hf).imp_right (·.2))))

/-- T2 (C++): for every type shape, every language standard and every option set that meets `OptsOkCpp` —
serialization enabled or omitted — every facility the generated C++ header uses or may use is provided by one of its
own `#include`s. -/
theorem C06_facilities_covered_cpp (pcfg : Namespace.Cfg) (o : Opts) (t : Top) (hok : OptsOkCpp o t)
    (incs : List Str) (h : emitted .cpp pcfg o t = .ok incs) :
    ∀ f ∈ facilities .cpp o t, covered .cpp o incs f = true := by
  intro f hf
  have limits : f ∈ [.xSizeT, .xLimits] → covered .cpp o incs f = true := fun hf =>
    covered_stdName h (n := lit "limits") (by simp [cppStdNames]) (std_limits f hf)
  rcases facilities_cpp_sub hf with hk | ⟨hp, rfl⟩ | ⟨ty, hty, hf⟩ | ⟨hd, hf⟩ | ⟨ha, hf⟩ | ⟨ho, hf⟩
  · exact limits hk
  · exact covered_fixedPort h hp
  · exact covered_of_xFlag h hok.vla (direct_flag hty hf)
  · exact covered_union h hd hf
  · exact covered_alloc h (hok.alloc ha) hf
  · -- the support header brings `nunavut::support` and what the serialization functions use, `<limits>` aside
    exact (support_cpp_all f hf).elim (fun hl => limits (by simp [hl])) (covered_support h nofun ho (hok.support ho))

/-!
`OptsOkCpp` is met by construction for every option map the tree under check documents: the option tables are the
generated ones (`Gen/CppDefaults`, `Gen/CliOptions`, `Gen/SupportFiles`, `Gen/OptionDomain` — regenerated from the tree on
every run), pushed through the model of `_validate_language_options` / `standard_version` (`Model/DepsOpts.lean`). -/

/-- T2 (C++, any validated option map, e.g. from a `--configuration` file): if the map delivers its includes
(`mapDelivers`: the allocator include is given when a constructor convention other than `default` is selected, the
variable-length-array include is given), then for every type shape, `use_standard_types` on or off, serialization support
enabled or omitted, every facility the generated header uses or may use is provided by one of its own `#include`s. -/
theorem C06_facilities_covered_cpp_map (pcfg : Namespace.Cfg) (m : OptMap) (hd : mapDelivers m = true)
    (omitSer useStd preferSys : Bool) (sup : List Str) (hsup : omitSer = false → sup ≠ []) (o : Opts)
    (ho : cppOptsOf m omitSer useStd preferSys sup = .ok o) (t : Top)
    (incs : List Str) (h : emitted .cpp pcfg o t = .ok incs) :
    ∀ f ∈ facilities .cpp o t, covered .cpp o incs f = true := by
  obtain ⟨h1, _, _, h4, _⟩ := cppOptsOf_ok ho
  obtain ⟨ha, hv⟩ := delivers_includes ho hd
  exact C06_facilities_covered_cpp pcfg o t ⟨ha, fun _ => hv, fun hom => by rw [h4]; exact hsup (by rw [← h1]; exact hom)⟩ incs h

/-- T2 (C++, the command line): for **every** choice of `--language-standard` the argparse definition offers (and for
none given), with or without `--omit-serialization-support`, `use_standard_types` / `prefer_system_includes` either way,
the option map `_validate_language_options` produces from the shipped `options` / `defaults` resolves, and for every type
shape every facility the generated header uses or may use is provided by one of its own `#include`s.  No hypothesis on the
options is left: the other documented options (`target_endianness`, `omit_float_serialization_support`,
`enable_serialization_asserts`, `enable_override_variable_array_capacity`, `cast_format`, …) do not enter the include logic
nor `facilities` (the tie scans headers generated under them). -/
theorem C06_facilities_covered_cpp_cli (std : Option String) (hstd : std ∈ none :: languageStandardChoices.map some)
    (omitSer useStd preferSys : Bool) :
    ∃ o, cliOpts std omitSer useStd preferSys = .ok o ∧
      ∀ (pcfg : Namespace.Cfg) (t : Top) (incs : List Str), emitted .cpp pcfg o t = .ok incs →
        ∀ f ∈ facilities .cpp o t, covered .cpp o incs f = true := by
  have hall : ∀ s ∈ none :: languageStandardChoices.map some, cliDelivers s = true := by decide +kernel
  obtain ⟨m, sup, o, _, _, hne, hd, hc, ho⟩ := cliOpts_of_delivers (hall std hstd) omitSer useStd preferSys
  exact ⟨o, ho, fun pcfg t incs h => C06_facilities_covered_cpp_map pcfg m hd omitSer useStd preferSys sup (fun _ => hne) o hc t incs h⟩

/-- The documented values of one C++ option (`Gen/OptionDomain.lean`, C17's translator: `properties.yaml` options and
defaults, CLI choices). -/
def docStrValues (key : String) : List String :=
  (NunavutVerif.Options.Gen.domainCpp.filter (fun d => d.key = key)).flatMap
    (fun d => d.values.filterMap (fun v => match v with | .str s => some s | _ => none))

/-- T2 (the product of documented values): over **all** combinations of documented values of `allocator_include`,
`variable_array_type_include` and `ctor_convention`, the combination delivers its includes exactly when it does not
select an allocator-aware constructor convention with an empty `allocator_include` — the variable-length-array include
is never empty in the documented domain.  That one region is accepted by `_validate_language_options` (which only asks for
`allocator_type`) and does not compile: known finding `cpp-allocator-without-include`, witness below. -/
theorem C06_documented_values_deliver_iff :
    ∀ a ∈ docStrValues "allocator_include", ∀ v ∈ docStrValues "variable_array_type_include",
      ∀ c ∈ docStrValues "ctor_convention",
        mapDelivers (.cons "allocator_include" (.scalar ("s:" ++ a)) (.cons "variable_array_type_include" (.scalar ("s:" ++ v))
          (.cons "ctor_convention" (.scalar ("s:" ++ c)) .nil))) = true ↔ (c = "default" ∨ a ≠ "") := by
  intro a _ v hv c _
  have hne : ∀ v ∈ docStrValues "variable_array_type_include", v ≠ "" := by simp [docStrValues, Options.Gen.domainCpp]
  rw [mapDelivers_three, and_iff_left (hne v hv)]

section BeforeFix
def wName (s : String) : TName := ⟨[lit "w"], lit s, 1, 0⟩
def wCfg : Namespace.Cfg := { strop := id, enable := false, ext := lit ".h", stem := lit "_", outDir := lit "o" }
def wOpts (omitSer : Bool) (std : Nat) : Opts :=
  { omitSer := omitSer, useStd := true, std := std, allocInc := [], vlaInc := lit "<vector>", allocCtor := false,
    preferSys := false, support := [lit "nunavut/support/serialization.h"] }
/-- `@union float32 a; float64 b; @extent …` — a non-sealed union. -/
def wDelimitedUnion : Top := .msg (.mk (wName "U") true false [.float, .float] []) false
/-- A service whose request is a (sealed) union. -/
def wUnionService : Top := .svc (wName "S") (.mk (wName "S.Request") true true [.int, .int] []) (.mk (wName "S.Response") false true [] []) false
/-- An empty sealed structure with a fixed port-ID. -/
def wEmptyFixed : Top := .msg (.mk (wName "E") false true [] []) true
def wSealedUnion : Top := .msg (.mk (wName "V") true true [.float, .float] []) false

/-- F10b: the outer-object test misses the union inside a `DelimitedType` (and inside a service) … -/
example : (directBeforeFix wDelimitedUnion).usesUnion = false ∧ (direct wDelimitedUnion).usesUnion = true := by decide
example : (directBeforeFix wUnionService).usesUnion = false ∧ (direct wUnionService).usesUnion = true := by decide
/-- … so the C++17 header used `std::variant` without `<variant>`; the fixed include list covers it. -/
example : ∃ incs, emittedBeforeFix .cpp wCfg (wOpts false 17) wDelimitedUnion = .ok incs ∧
    Fac.xVariant ∈ facMust .cpp (wOpts false 17) wDelimitedUnion ∧ covered .cpp (wOpts false 17) incs .xVariant = false :=
  ⟨_, rfl, by decide +kernel⟩
example : ∃ incs, emitted .cpp wCfg (wOpts false 17) wDelimitedUnion = .ok incs ∧ covered .cpp (wOpts false 17) incs .xVariant = true :=
  ⟨_, rfl, C06_facilities_covered_cpp wCfg (wOpts false 17) wDelimitedUnion ⟨by decide, by decide, by decide⟩ _ rfl _ (by decide)⟩
/-- F10a: C with `--omit-serialization-support`: the option `static_assert`s on support-header macros stayed (`cSupport`)
and nothing provided `static_assert` / `uint8_t`: an empty structure's header did not compile alone. -/
example : ∃ incs, emittedBeforeFix .c wCfg (wOpts true 0) wEmptyFixed = .ok incs ∧
    Fac.cSupport ∈ facMustBeforeFix .c (wOpts true 0) wEmptyFixed ∧ covered .c (wOpts true 0) incs .cSupport = false ∧
    Fac.cStaticAssert ∈ facMust .c (wOpts true 0) wEmptyFixed ∧ covered .c (wOpts true 0) incs .cStaticAssert = false ∧
    Fac.cFixedInt ∈ facMust .c (wOpts true 0) wEmptyFixed ∧ covered .c (wOpts true 0) incs .cFixedInt = false :=
  ⟨_, rfl, by decide +kernel⟩
/-- C++14 union with omitted support: `std::aligned_storage` without `<type_traits>`. -/
example : ∃ incs, emittedBeforeFix .cpp wCfg (wOpts true 14) wSealedUnion = .ok incs ∧
    Fac.xTypeTraits ∈ facMust .cpp (wOpts true 14) wSealedUnion ∧ covered .cpp (wOpts true 14) incs .xTypeTraits = false :=
  ⟨_, rfl, by decide +kernel⟩
/-- Fixed port-ID on a type without integer fields, omitted support: `std::uint16_t` without `<cstdint>`. -/
example : ∃ incs, emittedBeforeFix .cpp wCfg (wOpts true 17) wEmptyFixed = .ok incs ∧
    Fac.xFixedInt ∈ facMust .cpp (wOpts true 17) wEmptyFixed ∧ covered .cpp (wOpts true 17) incs .xFixedInt = false :=
  ⟨_, rfl, by decide +kernel⟩
/-- Python with omitted support imported the support module that is not written. -/
example : lit "nunavut_support" ∈ pyModuleImportsBeforeFix (wOpts true 0) false ∧ lit "nunavut_support" ∉ pyAvailable (wOpts true 0) := by
  -- the literals are first rewritten to the lists of their characters: evaluating `String.toList` of a literal decodes
  -- its UTF-8 bytes, which costs more than everything else
  unfold pyModuleImportsBeforeFix pyAvailable lit
  repeat rw [String.toList_ofList]
  decide +kernel
/-- C++ with `use_standard_types: false` (fixed in 3a07e2e): `<array>` / `<bitset>` were dropped although the declarations
spell `std::array` / `std::bitset` regardless: uncovered before, covered now. -/
def wNoStd : Opts := { wOpts true 17 with useStd := false }
def wArrays : Top := .msg (.mk (wName "B") false true [.fixedArr .bool, .fixedArr .int] []) false
example : ∃ incs, emittedCppBeforeStdFix wCfg wNoStd wArrays = .ok incs ∧
    Fac.xBitset ∈ facMust .cpp wNoStd wArrays ∧ covered .cpp wNoStd incs .xBitset = false ∧
    Fac.xArray ∈ facMust .cpp wNoStd wArrays ∧ covered .cpp wNoStd incs .xArray = false :=
  ⟨_, rfl, by decide +kernel⟩
example : ∃ incs, emitted .cpp wCfg wNoStd wArrays = .ok incs ∧
    covered .cpp wNoStd incs .xBitset = true ∧ covered .cpp wNoStd incs .xArray = true :=
  have hcov := C06_facilities_covered_cpp wCfg wNoStd wArrays ⟨by decide, by decide, by decide⟩ _ rfl
  ⟨_, rfl, hcov _ (by decide), hcov _ (by decide)⟩
end BeforeFix

/-! The hypotheses of `OptsOkCpp` are necessary (what is outside the documented option maps). -/

/-- An allocator-aware constructor convention with an empty `allocator_include` (accepted by
`_validate_language_options`, which only asks for `allocator_type`): nothing provides the allocator type.  Replayed on
the real generator by the harness (configuration `cpp/c++17+alloc-noinclude+omit`, known finding). -/
example : ∃ incs, emitted .cpp wCfg { wOpts true 17 with allocCtor := true } wEmptyFixed = .ok incs ∧
    Fac.xAlloc ∈ facMust .cpp { wOpts true 17 with allocCtor := true } wEmptyFixed ∧
    covered .cpp { wOpts true 17 with allocCtor := true } incs .xAlloc = false := ⟨_, rfl, by decide +kernel⟩
/-- An empty `variable_array_type_include` (not a documented value) with a variable-length array: nothing provides the
array template. -/
example : ∃ incs, emitted .cpp wCfg { wOpts true 17 with vlaInc := [] } (.msg (.mk (wName "L") false true [.varArr .int] []) false) = .ok incs ∧
    covered .cpp { wOpts true 17 with vlaInc := [] } incs .xVla = false := ⟨_, rfl, by decide +kernel⟩

/-! Non-vacuity: the hypotheses are met by ordinary inputs. -/

example : OptsOkCpp (wOpts false 17) wDelimitedUnion := ⟨by decide, by decide, by decide⟩
example : ∃ incs, emitted .cpp wCfg (wOpts true 14) wSealedUnion = .ok incs ∧ incs ≠ [] :=
  -- the union block alone is not empty
  ⟨_, rfl, List.append_ne_nil_of_left_ne_nil (List.append_ne_nil_of_right_ne_nil _ (List.cons_ne_nil _ _)) _⟩
/-- The command-line theorem is about something: six standards are offered, and e.g. `c++17-pmr` resolves to the PMR
group (`std` 17, `<memory_resource>`, `<vector>`, allocator-aware constructors, the generated support header). -/
example : languageStandardChoices.length = 6 := by simp [languageStandardChoices, Gen.cliOptions, Config.Gen.cliOptions]
example : (cliOpts (some "c++17-pmr") false true false).toOption.map
      (fun o => (o.omitSer, o.useStd, o.std, o.allocInc, o.vlaInc, o.allocCtor, o.support))
    = some ((false, true, 17, lit "<memory_resource>", lit "<vector>", true, [lit "nunavut/support/serialization.hpp"]) :
        Bool × Bool × Nat × List Char × List Char × Bool × List (List Char)) := by
  unfold lit
  repeat rw [String.toList_ofList]
  -- `==`: the search for `DecidableEq` of the 7-tuple exceeds the size limit of instance synthesis
  exact eq_of_beq (by decide +kernel)
example : (docStrValues "allocator_include").length = 3 ∧ (docStrValues "ctor_convention").length = 3
    ∧ (docStrValues "variable_array_type_include").length = 2 := by simp [docStrValues, Options.Gen.domainCpp]
/-- A nested type: the include of the dependency is its `make_path`. -/
example : emitted .c wCfg (wOpts true 0) (.msg (.mk (wName "N") false true [.comp (.mk (wName "D") false true [.bool] [])] []) false)
    = .ok [lit "\"w/D_1_0.h\"", lit "<stdlib.h>", hAssert, hStdbool, hStddef, hStdint] := by decide +kernel

/-- T3a: an include guard decodes uniquely: equal guards (same suffix) have equal macrofied names and versions.  With
`macrofy` injective on the full names involved, different types have different guards. (`macrofy` is *not* injective
in general — known finding `include-guard-collision`.) -/
theorem C06_include_guards_distinct (mac : Str → Str) (full₁ full₂ : Str) (M₁ m₁ M₂ m₂ : Nat) (suffix : Str)
    (hinj : mac full₁ = mac full₂ → full₁ = full₂)
    (h : includeGuard (mac full₁) M₁ m₁ suffix = includeGuard (mac full₂) M₂ m₂ suffix) :
    full₁ = full₂ ∧ M₁ = M₂ ∧ m₁ = m₂ := by
  simp only [includeGuard] at h
  have h' := List.append_cancel_right h
  have := NunavutVerif.Namespace.shortVer_inj h'
  exact ⟨hinj this.1, this.2.1, this.2.2⟩

/-- T3b: the text of `open_namespace` opens exactly one bracket per namespace component (names are identifiers:
no bracket, slash or newline) … -/
theorem C06_open_namespace_depth (names : List Str) (hn : ∀ n ∈ names, plainName n) (rest : Str) (d : Nat) :
    depthAfter (openNamespace names ++ rest) d = depthAfter rest (d + names.length) := by
  induction names generalizing d with
  | nil => simp [openNamespace]
  | cons n ns ih =>
    rw [depthAfter_openNamespace_cons n (hn n (List.mem_cons_self ..)), ih fun x hx => hn x (List.mem_cons_of_mem _ hx),
      List.length_cons, Nat.add_assoc, Nat.add_comm 1]

/-- … and the text of `close_namespace`, with its `// namespace x` comments removed, closes exactly as many: the pair
is balanced around any body that is balanced itself. -/
theorem C06_close_namespace_depth (names : List Str) (hn : ∀ n ∈ names, plainName n) (rest : Str) (d : Nat) :
    depthAfter (stripLineComments (closeNamespace names ++ nl ++ rest)) (d + names.length) =
      depthAfter (stripLineComments (nl ++ rest)) d := by
  have := depthAfter_closeNamespaceRev rest names.reverse (fun x hx => hn x (List.mem_reverse.mp hx)) d
  rwa [List.length_reverse] at this

end NunavutVerif.Deps

/-!
`Model/Names.lean`: the C / C++ reference names of composite types and the `#define`s of a C header.  Stropping enters as
the function `strop` (the real table on the tie; C09 proves its properties); collisions *through* stropping are excluded by
the property statement, so injectivity of `strop` on the names involved is a hypothesis where it is needed. -/
namespace NunavutVerif.Deps
open NunavutVerif.Names hiding lit
open NunavutVerif.Namespace (Str shortVer joinWith map_injOn shortVer_inj)

/-- T4a (C++): the qualified name `ns₁::…::nsₖ::Short_M_m` identifies (namespace components, short name, major, minor):
two composite types (also the request / response types nested in services) with the same qualified name are the same
type, provided stropping does not fold the names involved and its results are identifiers (no `:`). -/
theorem C06_cpp_qualified_names_injective (strop : Str → Str) (enable : Bool) (t u : TName)
    (hid : ∀ p ∈ cppParts strop enable t ++ cppParts strop enable u, ':' ∉ p)
    (hcomps : ∀ a ∈ t.ns, ∀ b ∈ u.ns, estrop strop enable a = estrop strop enable b → a = b)
    (hname : estrop strop enable (shortVer t) = estrop strop enable (shortVer u) → shortVer t = shortVer u)
    (h : cppFullRef strop enable t = cppFullRef strop enable u) : t = u := by
  have hp := Namespace.joinWith_inj ':' [':'] (cppParts strop enable t) (cppParts strop enable u) (by simp [cppParts])
    (by simp [cppParts]) (fun x hx => hid x (List.mem_append_left _ hx)) (fun x hx => hid x (List.mem_append_right _ hx)) h
  obtain ⟨h1, h2⟩ := List.append_inj' hp rfl
  obtain ⟨h3, h4, h5⟩ := shortVer_inj (hname (List.cons.inj h2).1)
  have h6 := map_injOn (estrop strop enable) t.ns u.ns hcomps h1
  cases t; cases u; dsimp only at h3 h4 h5 h6; subst_vars; rfl

/-- T4b (C): exactly when two composite types get the same C reference name `ns₁_…_nsₖ_Short_M_m`: the versions agree
and the namespace components and the short name, *cut at their underscores*, give the same sequence of words — where
one name ends and the next begins is lost (`a.b_c` / `a_b.c`).  (`hname`: stropping does not fold the two joined names;
void when stropping is off.) -/
theorem C06_c_reference_name_collision_iff (strop : Str → Str) (enable : Bool) (t u : TName)
    (hname : estrop strop enable (joinWith ['_'] (t.ns ++ [shortVer t])) = estrop strop enable (joinWith ['_'] (u.ns ++ [shortVer u]))
      → joinWith ['_'] (t.ns ++ [shortVer t]) = joinWith ['_'] (u.ns ++ [shortVer u])) :
    cFullRef strop enable t = cFullRef strop enable u ↔ (cWords t = cWords u ∧ t.major = u.major ∧ t.minor = u.minor) :=
  ⟨fun h => (cJoin_eq_iff t u).1 (hname h), fun h => congrArg (estrop strop enable) ((cJoin_eq_iff t u).2 h)⟩

/-- T4c (C): hence among types whose namespace components and short names contain no underscore the C reference name is
injective … -/
theorem C06_c_reference_names_injective_without_underscores (strop : Str → Str) (enable : Bool) (t u : TName)
    (hname : estrop strop enable (joinWith ['_'] (t.ns ++ [shortVer t])) = estrop strop enable (joinWith ['_'] (u.ns ++ [shortVer u]))
      → joinWith ['_'] (t.ns ++ [shortVer t]) = joinWith ['_'] (u.ns ++ [shortVer u]))
    (ht : ∀ x ∈ t.ns ++ [t.short], '_' ∉ x) (hu : ∀ x ∈ u.ns ++ [u.short], '_' ∉ x)
    (h : cFullRef strop enable t = cFullRef strop enable u) : t = u := by
  obtain ⟨hw, hM, hm⟩ := (C06_c_reference_name_collision_iff strop enable t u hname).1 h
  unfold cWords at hw
  rw [flatMap_splitU_of_no_underscore _ ht, flatMap_splitU_of_no_underscore _ hu] at hw
  obtain ⟨h1, h2⟩ := List.append_inj' hw rfl
  cases t; cases u; dsimp only at h1 h2 hM hm; cases h2; subst_vars; rfl

/-- … and in general it is not: the witness the harness replays on the real generator and compiler (corpus
`name_twins`, finding `c-reference-name-collision`). -/
example : cFullRef id false ⟨[lit "nm", lit "a"], lit "b_c", 1, 0⟩ = cFullRef id false ⟨[lit "nm", lit "a_b"], lit "c", 1, 0⟩
    ∧ (⟨[lit "nm", lit "a"], lit "b_c", 1, 0⟩ : TName) ≠ ⟨[lit "nm", lit "a_b"], lit "c", 1, 0⟩ := by decide +kernel
/-- The same two types keep different C++ names. -/
example : cppFullRef id false ⟨[lit "nm", lit "a"], lit "b_c", 1, 0⟩ ≠ cppFullRef id false ⟨[lit "nm", lit "a_b"], lit "c", 1, 0⟩ := by
  decide

/-- T4d (C): a collision of C reference names is also a collision of include guards.  What is stated: pass 0 of
`to_snake_case` (`snake0`) turns the dotted full name into the very `_`-join the reference name is made of, so it gives
two such names the same string.  The rest is not part of the statement: `macrofy` (`Names.macrofy`) applies `str.strip`
before pass 0 (a name of word components has nothing to strip) and the later passes, the case change and the stropping
after it — functions of that string — and the guard appends the version, which colliding reference names share
(`C06_c_reference_name_collision_iff`).  So the second of two such headers is skipped by the preprocessor — the
translation unit compiles, with the wrong definition. -/
theorem C06_c_name_collision_is_guard_collision (t u : TName) (ht : WordComps (t.ns ++ [t.short]))
    (hu : WordComps (u.ns ++ [u.short]))
    (h : joinWith ['_'] (t.ns ++ [t.short]) = joinWith ['_'] (u.ns ++ [u.short])) :
    snake0 (joinWith ['.'] (t.ns ++ [t.short])) = snake0 (joinWith ['.'] (u.ns ++ [u.short])) := by
  rw [snake0_dotted _ ht, snake0_dotted _ hu, h]

/-- T4e (C, inside one header): the `#define`s of a message type are `<ref>_<suffix>` for suffixes of
`compSuffixSet`, and these are pairwise distinct when the attribute names of the type are (DSDL demands it) and no
constant is named like a suffix of the templates (`EXTENT_BYTES_`, `FULL_NAME_`, `HAS_FIXED_PORT_ID_`, …) or like
`<array field>_ARRAY_CAPACITY_` / `<array field>_ARRAY_IS_VARIABLE_LENGTH_` (`constsClear`).  Distinct entities get distinct
names; the list `cDefinesMsg` itself may still repeat one name, `<ref>_DISABLE_SERIALIZATION_BUFFER_CHECK_`, once per
variable-length array field: the template defines it under `#elif !defined(…)`. -/
theorem C06_c_macro_names_distinct (ovr : Bool) (ref : Str) (fixedPort : Bool) (c : CompNames)
    (hnd : (c.fields.map (·.1) ++ c.consts).Nodup) (hclear : constsClear c = true) :
    (∀ n ∈ cDefinesMsg ovr ref fixedPort c, n ∈ (compSuffixSet c).map (macroName ref))
    ∧ ((compSuffixSet c).map (macroName ref)).Nodup := by
  constructor
  · intro n hn
    simp only [cDefinesMsg, List.mem_map, List.mem_append] at hn
    obtain ⟨x, hx, rfl⟩ := hn
    exact List.mem_map_of_mem (hx.elim (portSuffixes_sub fixedPort c x) (compSuffixes_sub ovr c x))
  · exact (compSuffixSet_nodup c hnd hclear).map _ fun _ _ hne e => hne (macroName_inj ref e)

/-- Without `constsClear` it fails: `uint8 EXTENT_BYTES_ = 1` defines `<ref>_EXTENT_BYTES_` twice (the harness replays
this on the real generator: corpus `name_clash`, finding `c-constant-named-like-generated-macro`). -/
example : constsClear ⟨[], [lit "EXTENT_BYTES_"], false⟩ = false
    ∧ ¬ (cDefinesMsg false (lit "nm_K_1_0") false ⟨[], [lit "EXTENT_BYTES_"], false⟩).Nodup := by
  unfold cDefinesMsg compSuffixes constsClear fixedSuffixes arraySuffixes sFullName sFullNameVer sExtent sBuffer sHasPort sPort
    sDisable sUnionCount sCap sIsVar lit Names.lit
  repeat rw [String.toList_ofList]
  decide +kernel
example : constsClear ⟨[(lit "x", .varArr)], [lit "x_ARRAY_CAPACITY_"], false⟩ = false
    ∧ ¬ (cDefinesMsg false (lit "nm_K_1_0") false ⟨[(lit "x", .varArr)], [lit "x_ARRAY_CAPACITY_"], false⟩).Nodup := by
  unfold cDefinesMsg compSuffixes constsClear fixedSuffixes arraySuffixes sFullName sFullNameVer sExtent sBuffer sHasPort sPort
    sDisable sUnionCount sCap sIsVar lit Names.lit
  repeat rw [String.toList_ofList]
  decide +kernel
/-- Non-vacuity: an ordinary type meets the hypotheses. -/
example : constsClear ⟨[(lit "x", .varArr), (lit "y", .scalar)], [lit "MAX"], true⟩ = true
    ∧ (cDefinesMsg true (lit "r") true ⟨[(lit "x", .varArr), (lit "y", .scalar)], [lit "MAX"], true⟩).length = 11 := by
  unfold cDefinesMsg compSuffixes constsClear fixedSuffixes arraySuffixes sFullName sFullNameVer sExtent sBuffer sHasPort sPort
    sDisable sUnionCount sCap sIsVar lit Names.lit
  repeat rw [String.toList_ofList]
  decide +kernel

end NunavutVerif.Deps
