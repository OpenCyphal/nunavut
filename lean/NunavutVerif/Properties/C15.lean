import NunavutVerif.Lemmas.LineBuffer
import NunavutVerif.Lemmas.PostProc
/-!
# C15 — line post-processing is chunking-independent and changes only what it documents

Quantifiers: all texts, all chunk lists (including empty chunks and a cut between `\r` and `\n`), all processor lists,
all limits `n`, all start counters.
-/
namespace NunavutVerif.LineBuffer

/-- T1 chunking independence: the `(line, terminator)` pairs handed to the processors for *any*
chunking are the lines of the concatenated text. -/
theorem C15_chunking_independent (chunks : List Str) :
    genLines chunks = specLines chunks.flatten := by
  have h := procChunks_cont ⟨[], false⟩ chunks []
  rw [List.append_nil, cont_start, cont_nil] at h
  rw [specLines, h, List.append_nil]
  rfl

/-- T5: the written file is the processors applied line by line to the complete text, for every
chunking, processor list and start state. -/
theorem C15_output_is_linewise (pps : List PP) (ss : List Nat) (chunks : List Str) :
    output pps ss chunks = write (pipeLines pps ss (specLines chunks.flatten)) := by
  unfold output; rw [C15_chunking_independent]

/-- Two chunkings of the same text give the same file. -/
theorem C15_same_text_same_output (pps : List PP) (ss : List Nat) (c₁ c₂ : List Str)
    (h : c₁.flatten = c₂.flatten) : output pps ss c₁ = output pps ss c₂ := by
  rw [C15_output_is_linewise, C15_output_is_linewise, h]

/-- T2: with no processor the file equals the concatenated output. -/
theorem C15_no_processor_identity (chunks : List Str) :
    output [] [] chunks = chunks.flatten := by
  rw [C15_output_is_linewise, pipeLines_nil, write_specLines]

/-- T3: trimming removes exactly the maximal trailing whitespace of the content and keeps the
terminator. -/
theorem C15_trim_exact (l : Line) :
    (trim l).term = l.term ∧
    ∃ ws, (trim l).content ++ ws = l.content ∧ (∀ c ∈ ws, isWs c = true) ∧
      (∀ c, (trim l).content.getLast? = some c → isWs c = false) :=
  ⟨rfl, trimStr_spec l.content⟩

/-- T4a: the limiter passes every line through unchanged or elides it, and only empty-content lines
are ever elided. -/
theorem C15_limit_pointwise (n cnt : Nat) (ls : List Line) :
    (limitLines n cnt ls).length = ls.length ∧
    ∀ p ∈ (limitLines n cnt ls).zip ls, p.1 = p.2 ∨ (p.1 = ⟨[], []⟩ ∧ p.2.content = []) := by
  induction ls generalizing cnt with
  | nil => exact ⟨rfl, fun _ h => absurd h List.not_mem_nil⟩
  | cons l ls ih =>
    obtain ⟨hlen, hzip⟩ := ih (limitStep n cnt l).2
    refine ⟨congrArg (· + 1) hlen, fun p hp => ?_⟩
    rcases List.mem_cons.mp hp with rfl | hp
    · exact limitStep_fst n cnt l
    · exact hzip p hp

/-- T4b: no non-empty line is removed, reordered or altered. -/
theorem C15_limit_keeps_nonempty (n cnt : Nat) (ls : List Line) :
    nonEmpty (limitLines n cnt ls) = nonEmpty ls := by
  induction ls generalizing cnt with
  | nil => rfl
  | cons l ls ih =>
    rcases limitStep_cases n cnt l with ⟨he, e⟩ | ⟨he, _, e⟩ | ⟨he, _, e⟩ <;> simp [limitLines, e, nonEmpty, he, ih]

/-- T4c: what the limiter leaves never contains more than `n` consecutive empty lines — from any
start counter `cnt` (the run already written is at most `min cnt n`). -/
theorem C15_limit_bounds_runs (n cnt : Nat) (ls : List Line) :
    emptyRunsLe n (min cnt n) (visible (limitLines n cnt ls)) = true := by
  induction ls generalizing cnt with
  | nil => rfl
  | cons l ls ih =>
    simp only [limitLines]
    rcases limitStep_cases n cnt l with ⟨he, e⟩ | ⟨he, hc, e⟩ | ⟨he, hc, e⟩ <;> rw [e]
    · simpa [visible, Line.elided, he, emptyRunsLe] using ih 0
    · have ih := ih (cnt + 1)
      rw [Nat.min_eq_left hc] at ih
      rw [Nat.min_eq_left (Nat.le_of_succ_le hc)]
      by_cases ht : l.term = []
      · -- an empty unterminated line writes nothing
        simp only [visible, Line.elided, he, ht, and_self, decide_true, if_true]
        exact emptyRunsLe_mono (Nat.le_succ cnt) ih
      · simp only [visible, Line.elided, he, ht, and_false, decide_false, Bool.false_eq_true,
          if_false, emptyRunsLe, if_true, Bool.and_eq_true, decide_eq_true_eq]
        exact ⟨hc, ih⟩
    · have ih := ih (cnt + 1)
      rw [Nat.min_eq_right (Nat.le_of_lt hc)] at ih
      rw [Nat.min_eq_right (Nat.le_of_lt_succ hc)]
      simpa [visible, Line.elided] using ih

/-- The single-limiter pipeline is `limitLines` (ties the vocabulary above to `pipeLines`). -/
theorem C15_pipe_limit (n cnt : Nat) (ls : List Line) :
    pipeLines [.limit n] [cnt] ls = limitLines n cnt ls := by
  induction ls generalizing cnt with
  | nil => rfl
  | cons l ls ih => simp [pipeLines, pipeLine, ppStep, limitLines, ih]

/-- T6: every file of a run is post-processed as if it were the only one: whatever the processors' state
when the run starts and whatever files came before, the k-th file is `output pps zeros` of its own chunks
(the processors are reset before the first line of each file). -/
theorem C15_files_independent (pps : List PP) (ss : List Nat) (files : List (List Str))
    (h : ss.length = pps.length) :
    genFiles pps ss files = files.map (fun f => output pps (List.replicate pps.length 0) f) := by
  induction files generalizing ss with
  | nil => rfl
  | cons f fs ih =>
    have hr : resetAll ss = List.replicate pps.length 0 := h ▸ resetAll_eq ss
    have hl : (genFile pps (resetAll ss) f).2.length = pps.length := by
      simp [genFile, pipeLinesSt_length, hr]
    simp only [genFiles, List.map_cons]
    rw [ih _ hl, genFile_fst, hr]

/-- T7: a raw (non-template) support file copied through line processors
(`SupportGenerator._copy_header_using_line_pps`: reset, then the file's lines — however the file object cuts
them — through the same line buffer) is the processors applied line by line to the file's text. -/
theorem C15_copy_is_linewise (pps : List PP) (ss : List Nat) (lines : List Str) (text : Str)
    (h : lines.flatten = text) (hl : ss.length = pps.length) :
    genFiles pps ss [lines] =
      [write (pipeLines pps (List.replicate pps.length 0) (specLines text))] := by
  rw [C15_files_independent pps ss [lines] hl]
  simp [C15_output_is_linewise, h]

/-- T8: the processor list a generator ends up with contains what the language configuration asks for and keeps the
caller's processors, in order, in front: a limiter whenever `limit_empty_lines` is configured (the caller's own if there is
one), a trimmer whenever `trim_trailing_whitespace` is on; nothing is added that was not asked for. -/
theorem C15_assembled_processors (given : Option (List Item)) (cfgLimit : Option Nat) (cfgTrim : Bool) :
    let r := (assemble given cfgLimit cfgTrim).getD []
    (cfgLimit.isSome → r.any Item.isLimit = true) ∧
    (cfgTrim = true → r.any Item.isTrim = true) ∧
    (∃ added, r = given.getD [] ++ added ∧ added.length ≤ 2 ∧
      (∀ i ∈ added, (i = .trim ∧ cfgTrim = true) ∨ (∃ n, i = .limit n ∧ cfgLimit = some n))) ∧
    ((assemble given cfgLimit cfgTrim).isNone ↔ (given.isNone ∧ cfgLimit.isNone ∧ cfgTrim = false)) := by
  cases given with
  | none =>
    cases cfgLimit <;> cases cfgTrim <;>
      simp [assemble, augmentLimit, augmentTrim, Item.isLimit, Item.isTrim]
  | some l =>
    cases cfgLimit <;> cases cfgTrim <;> cases hl : l.any Item.isLimit <;> cases ht : l.any Item.isTrim <;>
      simp [assemble, augmentLimit, augmentTrim, hl, ht, List.any_append, Item.isLimit, Item.isTrim]

/-- T9: on the command line the user's `--pp-max-emptylines N` is the limit that is enforced, for every `N` — `0`
included — whatever the language configuration says; without the option the configured limit (if any) applies; and
there is never more than one limiter. -/
theorem C15_cli_limit_is_the_users (trim : Bool) (maxEmpty : Option Nat) (prog : Bool)
    (cfgLimit : Option Nat) (cfgTrim : Bool) :
    firstLimit (cliProcessors trim maxEmpty prog cfgLimit cfgTrim) =
      (match maxEmpty with | some n => some n | none => cfgLimit) ∧
    ((cliProcessors trim maxEmpty prog cfgLimit cfgTrim).filter Item.isLimit).length ≤ 1 := by
  cases trim <;> cases maxEmpty <;> cases prog <;> cases cfgLimit <;> cases cfgTrim <;>
    simp [cliProcessors, cliList, assemble, augmentLimit, augmentTrim, firstLimit, Item.isLimit, Item.isTrim,
      List.filter_cons]

/-! ### The defect repaired by the `fix:` commit (kept as a regression witness)

Before the fix the generator loop had no carry for a `\r` that ends a chunk: the chunking
`["a \r", "\nb"]` produced the line `("a \r", "\n")` where the whole text has `("a ", "\r\n")`.
Chunking independence was false of that code. -/
example : genLinesBeforeFix [['a', ' ', '\r'], ['\n', 'b']] ≠ specLines ['a', ' ', '\r', '\n', 'b'] := by
  decide +kernel

/-- Before the `reset()` hook the limiter's count survived from file to file: after a file ending in an empty
line, `"\n\ny\n"` lost one of its two leading empty lines under `limit 2`. -/
example : genFilesBeforeFix [.limit 2] [0] [[['x', '\n', '\n']], [['\n', '\n', 'y', '\n']]]
    ≠ [[['x', '\n', '\n']], [['\n', '\n', 'y', '\n']]].map (fun f => output [.limit 2] [0] f) := by decide +kernel
example : genFiles [.limit 2] [5] [[['x', '\n', '\n']], [['\n', '\n', 'y', '\n']]]
    = [['x', '\n', '\n'], ['\n', '\n', 'y', '\n']] := by decide +kernel

example : genLines [['a', ' ', '\r'], ['\n', 'b']] = [⟨['a', ' '], CRLF⟩, ⟨['b'], []⟩] := by decide +kernel
example : output [.trim, .limit 1] [0, 0] [['a', ' ', '\r'], [], ['\n', '\n', ' '], ['\n', '\n', 'b']]
    = ['a', '\r', '\n', '\n', 'b'] := by decide +kernel
example : trimStr ['a', ' ', 'b', '\t', ' '] = ['a', ' ', 'b'] := by decide
example : (limitLines 1 0 [⟨[], LF⟩, ⟨[], LF⟩, ⟨['x'], LF⟩, ⟨[], LF⟩]) =
    [⟨[], LF⟩, ⟨[], []⟩, ⟨['x'], LF⟩, ⟨[], LF⟩] := by decide +kernel

/-- T7a: the lines a text file yields (universal line ends, untranslated — `open(resource, newline="")`) are a
chunking of its text, so `C15_copy_is_linewise` applies to the real file iteration. -/
theorem C15_file_lines_are_a_chunking (text : Str) : (fileLines text).flatten = text :=
  fileLinesAux_flatten [] text

/-- T7b `SupportGenerator._copy_header`: a run that is not a dry run and may write (the file is absent or
`allow_overwrite` is on) leaves **exactly** the processors applied line by line to the resource's text — whatever the
destination held before (absent, a verbatim copy from an earlier run, anything else) and whatever state the processor
objects were in.  With no line processor that is the resource itself. -/
theorem C15_copy_header_ignores_destination (run : CopyRun) (resource : Str) (dst : Option Str)
    (hd : run.dry = false) (ha : run.allow = true ∨ dst = none) (hl : run.start.length = run.pps.length) :
    copyHeader run resource dst = some (some (linewise run.pps resource)) := by
  have hperm : ¬ (dst.isSome = true ∧ run.allow = false) := by
    rintro ⟨h1, h2⟩
    rcases ha with ha | ha
    · simp [ha] at h2
    · simp [ha] at h1
  unfold copyHeader
  simp only [hd, Bool.false_eq_true, if_false, hperm]
  by_cases h0 : run.pps.length = 0
  · have : run.pps = [] := List.length_eq_zero_iff.mp h0
    simp [this, linewise_nil]
  · simp only [h0, if_false]
    rw [genFile_fst, C15_output_is_linewise, C15_file_lines_are_a_chunking, resetAll_eq, hl]
    rfl

/-- T7c: a dry run and a refused overwrite leave the destination as it is. -/
theorem C15_copy_header_dry_or_refused (run : CopyRun) (resource : Str) (dst : Option Str) :
    (run.dry = true → copyHeader run resource dst = some dst) ∧
    (run.dry = false → dst.isSome = true → run.allow = false → copyHeader run resource dst = none) := by
  constructor
  · intro h; simp [copyHeader, h]
  · intro h1 h2 h3; simp [copyHeader, h1, h2, h3]

/-- T7d: histories.  After any sequence of earlier runs into the same directory — with other processor lists, dry
runs, refused runs, from any initial content — the file a (default, overwriting) run leaves is the one it would
leave in a fresh directory: a function of the resource text and of that run's processor list only. -/
theorem C15_copy_history_last_run_decides (resource : Str) (dst0 : Option Str) (runs : List CopyRun)
    (last : CopyRun) (hd : last.dry = false) (ha : last.allow = true)
    (hl : last.start.length = last.pps.length) :
    (copyHistory resource dst0 (runs ++ [last])).2 = some (linewise last.pps resource) ∧
    (copyHistory resource none [last]).2 = some (linewise last.pps resource) := by
  constructor
  · rw [copyHistory_append]
    simp [copyHistory, C15_copy_header_ignores_destination last resource _ hd (.inl ha) hl]
  · simp [copyHistory, C15_copy_header_ignores_destination last resource none hd (.inl ha) hl]

/-- T10a `LimitEmptyLines` as an object, limit `N ≥ 0` as `argparse` (`type=int`) or `int(config)` deliver it:
`__call__` is the step function the limiter theorems are about, `reset()` gives the freshly constructed object, and
a fresh object starts counting at zero. -/
theorem C15_limit_object (n : Nat) (o : LimitObj) (l : Line) (ho : o.max = (n : Int)) :
    (o.call l).1 = (limitStep n o.count l).1 ∧ (o.call l).2 = ⟨o.max, (limitStep n o.count l).2⟩ ∧
    o.reset = LimitObj.new o.max ∧ (LimitObj.new o.max).count = 0 ∧ o.reset.reset = o.reset := by
  obtain ⟨m, c⟩ := o
  simp only at ho
  subst ho
  simp [limitObj_call_nat, LimitObj.reset, LimitObj.new]

/-- T10b (observation, outside the property's `N ≥ 0`): the command line accepts a negative
`--pp-max-emptylines`; such a limiter elides **every** line, empty or not. -/
theorem C15_limit_object_negative_elides_everything (n : Int) (h : n < 0) (s : Nat) (l : Line) :
    (LimitObj.call ⟨n, s⟩ l).1 = ⟨[], []⟩ := by
  unfold LimitObj.call
  by_cases hc : l.content.length = 0
  · have : n < (s : Int) + 1 := by omega
    simp [hc, this]
  · simp [hc, h]

/-- T3b `TrimTrailingWhitespace.__call__`: for every content (also one containing line breaks, as a direct caller may
pass) and every terminator — `""`, `"\n"`, `"\r\n"` or anything else — the terminator is returned as it is, the
object keeps no state, and trimming twice is trimming once. -/
theorem C15_trim_call (s : Nat) (l : Line) :
    Proc.trim.call s l = (some ⟨trimStr l.content, l.term⟩, s) ∧ trim (trim l) = trim l := by
  refine ⟨rfl, ?_⟩
  obtain ⟨ws, h1, h2, h3⟩ := trimStr_spec l.content
  simp [trim, trimStr_of_no_trailing_ws _ h3]

/-- T1 for arbitrary processor objects (`__call__` any function of its own state and the line, `None` results
included): text written, `ValueError` or not, and the objects' states afterwards are the same for every chunking of
the same text. -/
theorem C15_any_processors_chunking_independent (ps : List Proc) (ss : List Nat) (c₁ c₂ : List Str)
    (h : c₁.flatten = c₂.flatten) : genOutP ps ss c₁ = genOutP ps ss c₂ := by
  unfold genOutP
  rw [C15_chunking_independent, C15_chunking_independent, h]

/-- The built-in classes, as objects, compute the `PP` pipeline the other theorems are about (and never return
`None`). -/
theorem C15_builtin_objects_are_the_pipeline (pps : List PP) (ss : List Nat) (chunks : List Str)
    (hl : ss.length = pps.length) :
    (genOutP (pps.map PP.toProc) ss chunks).1 = output pps (List.replicate pps.length 0) chunks ∧
    (genOutP (pps.map PP.toProc) ss chunks).2.1 = false := by
  unfold genOutP output
  rw [← pipeLines_agree pps _ _ _ (resetProcs_toProc pps ss hl)]
  exact writeLines_toProc pps _ _

/-- T6 for arbitrary processor objects that honour the documented `reset` contract ("must return to its initial
state"): the k-th file of a run — if the run gets that far — is what that file alone gives from the initial states. -/
theorem C15_reset_contract_files_independent (ps : List Proc) (inits ss : List Nat) (files : List (List Str))
    (hc : ResetAllTo ps inits) (hl : ss.length = ps.length) (k : Nat) (r : Str × Bool)
    (hk : (genFilesP ps ss files)[k]? = some r) :
    ∃ f, files[k]? = some f ∧ r = ((genOutP ps inits f).1, (genOutP ps inits f).2.1) := by
  have hlen := ResetAllTo_length ps inits hc
  -- under the contract a file starts from `inits` whatever state the processors were left in
  have he : ∀ ss, ss.length = ps.length → ∀ f, genOutP ps ss f = genOutP ps inits f := fun ss hl f => by
    unfold genOutP
    rw [resetProcs_of_contract ps inits ss hc hl, resetProcs_of_contract ps inits inits hc hlen]
  induction files generalizing ss k with
  | nil => simp [genFilesP] at hk
  | cons f fs ih =>
    rw [genFilesP_cons, he ss hl] at hk
    cases k with
    | zero => exact ⟨f, rfl, (Option.some.inj hk).symm⟩
    | succ k =>
      rw [List.getElem?_cons_succ] at hk
      split at hk
      · simp at hk
      · refine ih _ ?_ k hk
        rw [genOutP, writeLines_length, resetProcs_of_contract ps inits inits hc hlen, hlen]

/-- `LimitEmptyLines` (any integer limit) and the `reset`-overriding user class honour the contract; the class that
keeps state without overriding `reset` does not, and files then depend on their predecessors (the documented
responsibility of the subclass). -/
theorem C15_builtin_reset_contract (n : Int) :
    (Proc.limit n).ResetsTo 0 ∧ (Proc.custom 3).ResetsTo 0 ∧ ¬ ∃ i, (Proc.custom 2).ResetsTo i := by
  refine ⟨fun s => rfl, fun s => rfl, ?_⟩
  rintro ⟨i, h⟩
  have h0 := h 0
  have h1 := h 1
  simp [Proc.custom] at h0 h1
  omega

/-- T9b the command line with integer limits, closed form: the processors of a CLI run are the ones the flags ask
for, in flag order, then the file-mode setter, then — only if the flags did not give one — the limiter and/or the
trimmer of the language configuration. -/
theorem C15_cli_processors_closed_form (a : PPArgs) (cfgLimit : Option Int) (cfgTrim : Bool) :
    cliProcessorsZ a cfgLimit cfgTrim =
      (if a.trim then [CItem.trim] else []) ++
      (match a.maxEmpty with | some n => [CItem.limit n] | none => []) ++
      (match a.prog with | some k => [CItem.prog k] | none => []) ++ [CItem.mode a.fileMode] ++
      (match a.maxEmpty, cfgLimit with | none, some n => [CItem.limit n] | _, _ => []) ++
      (if cfgTrim ∧ a.trim = false then [CItem.trim] else []) := by
  unfold cliProcessorsZ
  rw [assembleZ_some, cliListZ_any_isLimit, cliListZ_any_isTrim]
  obtain ⟨tr, mx, pr, fm⟩ := a
  cases mx <;> cases cfgLimit <;> rfl

/-- T9c the order in which a generated text meets the line processors of a CLI run. -/
theorem C15_cli_line_processor_order (a : PPArgs) (cfgLimit : Option Int) (cfgTrim : Bool) :
    lineProcs (cliProcessorsZ a cfgLimit cfgTrim) =
      (if a.trim then [CItem.trim] else []) ++
      (match a.maxEmpty, cfgLimit with
       | some n, _ => [CItem.limit n] | none, some n => [CItem.limit n] | none, none => []) ++
      (if cfgTrim ∧ a.trim = false then [CItem.trim] else []) := by
  unfold cliProcessorsZ
  rw [assembleZ_some, cliListZ_any_isLimit, cliListZ_any_isTrim]
  simp only [Option.getD_some, lineProcs_append, lineProcs_cliListZ]
  -- what the configuration adds are line processors
  obtain ⟨tr, mx, pr, fm⟩ := a
  cases mx <;> cases cfgLimit <;> cases cfgTrim <;> cases tr <;> rfl

/-- T8b both generators of a run (`create_default_generators` hands the *same* list to the code generator and to the
support generator, and each constructor runs `_handle_post_processors` on it) end up with the same processors:
augmenting is idempotent. -/
theorem C15_assemble_idempotent (given : Option (List CItem)) (cfgLimit : Option Int) (cfgTrim : Bool) :
    assembleZ (assembleZ given cfgLimit cfgTrim) cfgLimit cfgTrim = assembleZ given cfgLimit cfgTrim := by
  cases given with
  | none =>
    cases cfgLimit <;> cases cfgTrim <;> simp [assembleZ, CItem.isLimit, CItem.isTrim]
  | some l =>
    cases cfgLimit <;> cases cfgTrim <;> cases hl : l.any CItem.isLimit <;> cases ht : l.any CItem.isTrim <;>
      simp [assembleZ, hl, ht, List.any_append, CItem.isLimit, CItem.isTrim]

-- the seeded "leave an identical file alone" change would keep the verbatim copy; the code does not:
example : copyHistory ['a', ' ', '\n', '\n', '\n', 'b'] none
    [⟨[], [], false, true⟩, ⟨[.trim, .limit 1], [0, 0], false, true⟩]
    = ([some (some ['a', ' ', '\n', '\n', '\n', 'b']), some (some ['a', '\n', '\n', 'b'])],
       some ['a', '\n', '\n', 'b']) := by decide +kernel
example : copyHistory ['a', ' ', '\r', '\n'] (some ['o', 'l', 'd'])
    [⟨[.trim], [0], true, true⟩, ⟨[.trim], [0], false, false⟩, ⟨[.trim], [5], false, true⟩]
    = ([some (some ['o', 'l', 'd']), none, some (some ['a', '\r', '\n'])], some ['a', '\r', '\n']) := by decide +kernel
example : fileLines ['a', '\r', 'b', '\r', '\n', '\n', 'c'] = [['a', '\r'], ['b', '\r', '\n'], ['\n'], ['c']] := by
  decide +kernel
-- a stateful user processor without `reset`: the second file depends on the first
example : genFilesP [Proc.custom 2] [0] [[['a', '\n']], [['a', '\n']]] = [(['#', 'a', '\n'], false), (['a', '\n'], false)] := by
  decide +kernel
example : genFilesP [Proc.custom 3] [0] [[['a', '\n']], [['a', '\n']]]
    = [(['#', 'a', '\n'], false), (['#', 'a', '\n'], false)] := by decide +kernel
-- a processor returning `None` ends the run with the file partly written
example : genFilesP [Proc.custom 0, Proc.custom 1] [0, 0] [[['a', '\n', 'x', '\n', 'b']], [['c']]]
    = [(['/', '*', ' ', 'a', ' ', '*', '/', '\n', '/', '*', ' ', 'x', ' ', '*', '/', '\n', '/', '*', ' ', 'b', ' ', '*', '/'], false),
       (['/', '*', ' ', 'c', ' ', '*', '/'], false)] := by decide +kernel
example : genFilesP [Proc.custom 1, Proc.custom 0] [0, 0] [[['a', '\n', 'x', '\n', 'b']], [['c']]]
    = [(['/', '*', ' ', 'a', ' ', '*', '/', '\n'], true)] := by decide +kernel
-- `--pp-max-emptylines -1`: nothing is left of the file
example : (genOutP [Proc.limit (-1)] [0] [['a', '\n', 'b', '\n']]).1 = [] := by decide +kernel
-- `nnvg --pp-max-emptylines 2 -l c` (configuration: limit 1, trim): the user's limit, and the limiter runs BEFORE the trimmer
example : lineProcs (cliProcessorsZ ⟨false, some 2, some 1, 0o444⟩ (some 1) true) = [.limit 2, .trim] := by decide
example : cliProcessorsZ ⟨true, none, none, 0o444⟩ (some 1) true = [.trim, .mode 0o444, .limit 1] := by decide

end NunavutVerif.LineBuffer
