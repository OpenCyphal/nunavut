import NunavutVerif.Lemmas.Cli
import NunavutVerif.Lemmas.CliParse
/-!
# C08 — listing and dry-run modes tell the build system the truth

The per-language table `Gen/SupportFiles.lean` is regenerated from the tree under check.

Quantifiers: every argument record (`--generate-support` × `--omit-serialization-support` ×
`--generate-namespace-types` × any language record × any `--templates` / `--support-templates` directory content
× any extension / stem override × any output directory) and every namespace (any list of entries with any
paths, template candidates and dependencies).  "Accepted by the parser" and "generation succeeds" are the
hypotheses `err = none`.

The model describes the code after `fix_list_outputs_omit` and `fix_list_inputs_support_templates` (the code without
them is `runBeforeFix`), `fix_list_inputs_all_template_dir_files` and `fix_list_inputs_lookup_dsdl` (`runBeforeInputsFix`)
and `fix_list_configuration_skips_dsdl` (`runLcBeforeFix`); the unchanged code violates T1 and T3 (witnesses below,
replayed on the real CLI by the harness).
-/
namespace NunavutVerif.Cli
open NunavutVerif.Gen.SupportFiles

/-- T1: whenever generation succeeds, `--list-outputs` succeeds too and the printed list and the set of files
the real run writes are equal as sets. -/
theorem C08_list_outputs_eq_generated (a : Args) (es : List Entry)
    (hgen : (run .generate a es).err = none) :
    (run .listOutputs a es).err = none ∧
    ∀ p, p ∈ (run .listOutputs a es).outputs ↔ p ∈ generated a es := by
  obtain ⟨hacc, tree, htree⟩ := run_ok _ a es hgen
  simp only [generated, run_eq .generate a es hacc htree, run_eq .listOutputs a es hacc htree] at hgen ⊢
  obtain ⟨⟨ls, hs⟩, ⟨lt, ht⟩⟩ := (generate_err_none_iff ..).1 hgen
  rw [listOutputsWith_ok a _ tree hs ht, generate_written a tree hs ht]
  exact ⟨rfl, fun p => by simp only [List.mem_append]; exact Or.comm⟩

/-- T1, error side: `--list-outputs` and `--dry-run` succeed exactly when generation succeeds (the template
of every type is looked up in all three; rendering itself is outside the model). -/
theorem C08_modes_succeed_together (a : Args) (es : List Entry) :
    ((run .listOutputs a es).err = none ↔ (run .generate a es).err = none) ∧
    ((run .dryRun a es).err = none ↔ (run .generate a es).err = none) := by
  by_cases hacc : accepted a = true
  · cases htree : buildTree a (treeEntries a es) with
    | error x => simp [run, runWith, hacc, htree]
    | ok tree =>
      simp only [run_eq .listOutputs a es hacc htree, run_eq .dryRun a es hacc htree, run_eq .generate a es hacc htree,
        listOutputsWith_err_none_iff, generate_err_none_iff, and_self]
  · simp [run, runWith, hacc]

/-- The file set of a successful real run, spelled out: the targets of the support resources selected by
`--generate-support` / `--omit-serialization-support`, then (unless `only`) the output path of every selected
type of the tree. -/
theorem C08_generated_characterised (a : Args) (es : List Entry) (tree : List (Entry × OutPath))
    (hacc : accepted a = true) (htree : buildTree a (treeEntries a es) = .ok tree)
    (hgen : (run .generate a es).err = none) :
    ∃ sup, (supportOut a false a.omitSer).res = .ok sup ∧
      generated a es = sup ++ (if a.genSupport != .only then (selected a tree).map (·.2) else []) := by
  simp only [generated, run_eq .generate a es hacc htree] at hgen ⊢
  obtain ⟨⟨ls, hs⟩, ⟨lt, ht⟩⟩ := (generate_err_none_iff ..).1 hgen
  exact ⟨ls, (supportOut_res_dry ..).trans hs, by rw [generate_written a tree hs ht, typesOut_ok_paths a true tree lt ht]⟩

/-- What `--list-outputs` prints, spelled out: the generators' own path objects, untouched — first (unless `only`)
the output path of every selected entry exactly as `build_namespace_tree` computed it, then the support targets.
No item is re-normalised on the way to stdout: a `..` in `--outdir` stays in every printed path (`pathWithSuffix`
drops empty and `.` segments only, like `pathlib`), because removing `x/..` lexically names another directory
when `x` is a symbolic link. -/
theorem C08_list_outputs_prints_generator_paths (a : Args) (es : List Entry) (tree : List (Entry × OutPath))
    (hacc : accepted a = true) (htree : buildTree a (treeEntries a es) = .ok tree)
    (hok : (run .listOutputs a es).err = none) :
    ∃ sup, (supportOut a true a.omitSer).res = .ok sup ∧
      (run .listOutputs a es).outputs =
        (if a.genSupport != .only then (selected a tree).map (·.2) else []) ++ sup := by
  simp only [run_eq .listOutputs a es hacc htree] at hok ⊢
  obtain ⟨⟨ls, hs⟩, ⟨lt, ht⟩⟩ := (listOutputsWith_err_none_iff ..).1 hok
  exact ⟨ls, hs, by rw [listOutputsWith_ok a _ tree hs ht, typesOut_ok_paths a true tree lt ht]⟩

/-- Histories: whatever listing / generating calls were made before on the same objects, a dry-run listing names
exactly the files a later (or earlier) real run writes — the i-th answer of a history is the answer of a first call,
hence T1 holds between any two positions of any history.  (The implementation side — no one-shot state in the
generator objects — is the in-process API stream of the harness.) -/
theorem C08_history_independent (pre post : List Mode) (m : Mode) (a : Args) (es : List Entry) :
    (runHistory (pre ++ m :: post) a es)[pre.length]? = some (run m a es) := by
  simp [runHistory]

theorem C08_history_listing_eq_generated (ms : List Mode) (a : Args) (es : List Entry) (i j : Nat)
    (hi : ms[i]? = some .listOutputs) (hj : ms[j]? = some .generate)
    (hgen : ∀ r, (runHistory ms a es)[j]? = some r → r.err = none) :
    ∃ rl rg, (runHistory ms a es)[i]? = some rl ∧ (runHistory ms a es)[j]? = some rg ∧ rl.err = none ∧
      ∀ p, p ∈ rl.outputs ↔ p ∈ written rg.ops := by
  have hl : (runHistory ms a es)[i]? = some (run .listOutputs a es) := by simp [runHistory, hi]
  have hg : (runHistory ms a es)[j]? = some (run .generate a es) := by simp [runHistory, hj]
  obtain ⟨h1, h2⟩ := C08_list_outputs_eq_generated a es (hgen _ hg)
  exact ⟨_, _, hl, hg, h1, h2⟩

/-- T2: the operation log of `--list-outputs`, `--list-inputs`, `--list-configuration` and `--dry-run` is empty — for
every argument record (accepted or not) and every namespace, also when the run ends in an error. -/
theorem C08_no_fs_ops_unless_generating (m : Mode) (a : Args) (es : List Entry) (hm : m ≠ .generate) :
    (run m a es).ops = [] := by
  unfold run
  fun_cases runWith listOutputsOnly listInputsOnly m a es
  -- rejected by the parser, no tree, then the five modes
  · rfl
  · rfl
  · exact listOutputsWith_ops ..
  · rfl
  · rfl
  · exact generate_ops_dry ..
  · exact absurd rfl hm

/-- The flag combinations of the command line that reach `_generate` for real: none of the four flags set
(`--list-configuration` is the third branch of the `if`/`elif` chain of `ArgparseRunner.run`). -/
theorem C08_mode_of_flags (lo li lc dry : Bool) :
    modeOf lo li lc dry = .generate ↔ (lo = false ∧ li = false ∧ lc = false ∧ dry = false) := by
  cases lo <;> cases li <;> cases lc <;> cases dry <;> simp [modeOf]

/-- T3: the printed list contains every file the active type loader can hand to a template (any suffix, also below
linked directories), every support resource the run renders or copies, the DSDL source of every type the run generates,
and every definition below the lookup directories. -/
theorem C08_list_inputs_covers (a : Args) (es : List Entry) (tree : List (Entry × OutPath))
    (hacc : accepted a = true) (htree : buildTree a (treeEntries a es) = .ok tree) :
    (a.genSupport ≠ .only → ∀ f ∈ typeInputs a, f.path ∈ (run .listInputs a es).inputs) ∧
    (shouldGenerateSupport a = true →
      ∀ n ∈ supportResources a a.omitSer, supportTemplateRead a n ∈ (run .listInputs a es).inputs) ∧
    (a.genSupport ≠ .only → ∀ x ∈ selected a tree, x.1.src ∈ (run .listInputs a es).inputs) ∧
    (a.genSupport ≠ .only → ∀ d ∈ a.lookupFiles, d ∈ (run .listInputs a es).inputs) := by
  simp only [run_eq .listInputs a es hacc htree, mem_listInputsOnly]
  exact ⟨fun h f hf => .inl ⟨h, List.mem_map_of_mem hf⟩, fun h n hn => .inr (.inl ⟨h, List.mem_map_of_mem hn⟩),
    fun h x hx => .inr (.inr ⟨h, .inl (List.mem_map_of_mem hx)⟩), fun h d hd => .inr (.inr ⟨h, .inr hd⟩)⟩

/-- T3, stated over paths: every file the active loader can open is printed *as its own path* — for a `--templates`
directory every file below it (any depth, any suffix, also below a symbolically linked sub-directory; a file that is a
symbolic link is printed as its resolved target), for the built-in package every loadable name — byte code below a
`__pycache__` directory excepted (the interpreter writes it by itself; no template can name it usefully).  Two files with the same
base name in different folders are two list items (no de-duplication by name). -/
theorem C08_list_inputs_every_template_path (a : Args) (es : List Entry) (tree : List (Entry × OutPath))
    (hacc : accepted a = true) (htree : buildTree a (treeEntries a es) = .ok tree) (hon : a.genSupport ≠ .only) :
    (∀ fs, a.templates = some fs → ∀ f ∈ fs, inPycache f.name = false → f.path ∈ (run .listInputs a es).inputs) ∧
    (a.templates = none → ∀ n ∈ a.lang.loadable, inPycache n = false →
        (builtinTemplateFile a "templates" n).path ∈ (run .listInputs a es).inputs) := by
  have h1 := (C08_list_inputs_covers a es tree hacc htree).1 hon
  exact ⟨fun fs ht f hf hp => h1 f (mem_typeInputs a (by simp only [typeLoaderFiles, ht]; exact hf) hp),
    fun ht n hn hp => h1 _ (mem_typeInputs_builtin a ht hn hp)⟩

/-- The printed items are exactly the enumerated files, with multiplicity: as many items as files (a listing that keeps
one file per base name prints fewer). -/
theorem C08_list_inputs_template_count (a : Args) (es : List Entry) (tree : List (Entry × OutPath))
    (hacc : accepted a = true) (htree : buildTree a (treeEntries a es) = .ok tree)
    (hon : a.genSupport ≠ .only) (hns : shouldGenerateSupport a = false) :
    (run .listInputs a es).inputs =
      (typeInputs a).map (·.path) ++ ((selected a tree).map (·.1.src) ++ a.lookupFiles) := by
  have : (a.genSupport != .only) = true := by simpa using hon
  simp [run_eq .listInputs a es hacc htree, listInputsOnly, listInputsGen, this, hns]

/-- T3, FULL STATEMENT: `--list-inputs` names every file whose content a real run turns into output — `reads` = the
templates of the active loader ∪ every loader name they include ∪ for every generated type its DSDL file and every DSDL
file the front end read to compile it ∪ the support templates the support loader really opens.  The two hypotheses are
facts about the surroundings, not defect classes: (1) a definition the front end read lies in the root namespace or
below a lookup directory (it has nowhere else to look); (2) what a built-in template includes is a file of its own
package (`C08_shipped_includes_are_loadable`: checked on the generated table for all shipped languages; the includes of a
custom `--templates` directory are files of that directory, all of which are printed — `C08_list_inputs_every_template_path`).
Without `fix_list_inputs_lookup_dsdl` and `fix_list_inputs_all_template_dir_files` the statement fails
(`listInputsOnlyBeforeInputsFix`, witnesses below). -/
theorem C08_list_inputs_covers_reads (a : Args) (es : List Entry) (tree : List (Entry × OutPath))
    (hacc : accepted a = true) (htree : buildTree a (treeEntries a es) = .ok tree)
    (hdeps : ∀ x ∈ selected a tree, ∀ d ∈ x.1.deps, d ∈ (selected a tree).map (·.1.src) ∨ d ∈ a.lookupFiles)
    (hinc : a.templates = none → ∀ n ∈ a.lang.included, n ∈ a.lang.loadable ∧ inPycache n = false) :
    ∀ r ∈ reads a tree, r ∈ (run .listInputs a es).inputs := by
  obtain ⟨h1, h2, h3, h4⟩ := C08_list_inputs_covers a es tree hacc htree
  intro r hr
  simp only [reads, List.mem_append, List.mem_ite_nil_right, bne_iff_ne, List.mem_map, List.mem_flatMap,
    List.mem_cons] at hr
  rcases hr with ⟨hne, (⟨f, hf, rfl⟩ | ⟨f, hf, rfl⟩) | ⟨x, hx, rfl | hd⟩⟩ | ⟨hsg, n, hn, rfl⟩
  · exact h1 hne f (typeTemplates_subset_typeInputs a f hf)
  · -- an included file: a file of the built-in package
    unfold includedFiles at hf
    split at hf
    · cases hf
    · rename_i ht
      obtain ⟨n, hn, rfl⟩ := List.mem_map.1 hf
      exact h1 hne _ (mem_typeInputs_builtin a ht (hinc ht n hn).1 (hinc ht n hn).2)
  · exact h3 hne x hx
  · rcases hdeps x hx r hd with hs | hl
    · obtain ⟨y, hy, rfl⟩ := List.mem_map.1 hs
      exact h3 hne y hy
    · exact h4 hne r hl
  · exact h2 hsg n hn

/-- Generated-table obligation: hypothesis (2) holds for every shipped language — whatever a built-in template includes
(also the HTML style sheets and scripts) is a loadable file of its package, hence printed. -/
theorem C08_shipped_includes_are_loadable :
    ∀ l ∈ table, ∀ n ∈ l.included, n ∈ l.loadable ∧ inPycache n = false := by
  decide +kernel

/-- Generated-table obligation: in the shipped C, C++ and Python template sets every included name is a loadable `.j2`
file of its package (checked against `Gen/SupportFiles.lean`, i.e. against the templates of the tree under check).  This
is not hypothesis (2), which asks `inPycache n = false`; that one is `C08_shipped_includes_are_loadable`. -/
theorem C08_shipped_includes_are_listed :
    ∀ l ∈ [lang_c, lang_cpp, lang_py], ∀ n ∈ l.included, n ∈ l.loadable ∧ isJ2 n = true := by
  decide +kernel

/-- Generated-table obligation: no shipped language has two support resources with the same target stem (two
resources would be listed twice but written once), and every packaged resource has a non-empty name. -/
theorem C08_shipped_support_targets_distinct :
    ∀ l ∈ table, ((l.serSupport ++ l.typeSupport).map pyStem).Nodup ∧ ∀ n ∈ l.serSupport ++ l.typeSupport, n ≠ "" := by
  decide +kernel

/-!
`Model/CliParse.lean`: `parseArgv` is the model of `parser.parse_args(argv)` for the parser of the tree under check (table
`Gen/CliArgs.lean`, regenerated from the real `argparse` object and from cli/__init__.py / cli/runners.py), `stepsOf` the
actions it takes in order, `cliMain` what `main` + `ArgparseRunner` do with the result.  Quantifier: every argument
vector (any list of strings). -/

section cli
open NunavutVerif.CliParse NunavutVerif.Gen.CliArgs

/-- Every command line the parser accepts: the four mode flags hold Booleans, each `True` exactly when an argument string
was resolved to its action (exact option string, unambiguous abbreviation, `-d`, inside a cluster like `-vd`), and the branch
`ArgparseRunner.run` takes is `modeOf` of them — what `C08_mode_of_flags` starts from is what the parser delivers. -/
theorem C08_cli_mode_of_flags (argv : List String) (ns : Namespace) (hp : parseArgv argv = .ok ns) :
    ∃ steps, stepsOf actions argv = some steps ∧
      ns.lookup "list_outputs" = some (.bool (steps.any (Step.takes "list_outputs"))) ∧
      ns.lookup "list_inputs" = some (.bool (steps.any (Step.takes "list_inputs"))) ∧
      ns.lookup "list_configuration" = some (.bool (steps.any (Step.takes "list_configuration"))) ∧
      ns.lookup "dry_run" = some (.bool (steps.any (Step.takes "dry_run"))) ∧
      modeOfNs ns = some (modeOf (steps.any (Step.takes "list_outputs")) (steps.any (Step.takes "list_inputs"))
        (steps.any (Step.takes "list_configuration")) (steps.any (Step.takes "dry_run"))) := by
  obtain ⟨steps, hs, _⟩ := parse_ok tableOk_actions hp
  have h1 := parsed_flag hp hs (d := "list_outputs") (by simp)
  have h2 := parsed_flag hp hs (d := "list_inputs") (by simp)
  have h3 := parsed_flag hp hs (d := "list_configuration") (by simp)
  have h4 := parsed_flag hp hs (d := "dry_run") (by simp)
  exact ⟨steps, hs, h1, h2, h3, h4, modeOfNs_eq h1 h2 h3 h4⟩

/-- Every command line the parser accepts satisfies `accepted`: the hypothesis `hacc` of the theorems above is discharged
by the parser (`_post_process_args` is the rule table `Gen.CliArgs.rejections`), not assumed. -/
theorem C08_cli_args_accepted (env : Environ) (argv : List String) (ns : Namespace) (a : Args)
    (hp : parseArgv argv = .ok ns) (ha : toArgs env ns = some a) : accepted a = true := by
  obtain ⟨_, _, hrej, _, _⟩ := parse_ok tableOk_actions hp
  obtain ⟨⟨om, hom, homv⟩, ⟨gs, hgs, hgsv⟩, _⟩ := toArgs_fields ha
  simp only [rejected, rejections, List.any_cons, List.any_nil, Bool.or_false, hom, hgs, Bool.and_eq_false_iff] at hrej
  unfold accepted
  rw [homv, hgsv]
  rcases hrej with h | h
  · simp [h]
  · cases hg : genSupportOf gs <;> simp
    rw [genSupportOf_always hg] at h
    simp at h

/-- What `main` does with an accepted command line is a run of the decision model in the mode the flags select, on an
accepted argument record: `cliMain` never reaches the `parser-reject` branch of `run`. -/
theorem C08_cli_main_runs_model (env : Environ) (argv : List String) (es : List Entry) (m : Mode) (a : Args) (r : Run)
    (h : cliMain env argv es = .ran m a r) :
    ∃ ns, parseArgv argv = .ok ns ∧ toArgs env ns = some a ∧ modeOfNs ns = some m ∧ r = run m a es ∧
      accepted a = true := by
  revert h
  fun_cases cliMain env argv es
  all_goals intro h
  all_goals cases h
  rename_i ns hp hm ha
  exact ⟨ns, hp, ha, hm, rfl, C08_cli_args_accepted env argv ns _ hp ha⟩

/-- T2 from the command line: if the run `main` performs does anything to the disk, then none of `--list-outputs`,
`--list-inputs`, `--list-configuration`, `--dry-run` (in any spelling the parser resolves to them) was on the command
line. -/
theorem C08_cli_no_fs_ops_with_listing_flags (env : Environ) (argv : List String) (es : List Entry) (m : Mode) (a : Args)
    (r : Run) (h : cliMain env argv es = .ran m a r) (hops : r.ops ≠ []) :
    ∃ steps, stepsOf actions argv = some steps ∧
      ∀ d ∈ ["list_outputs", "list_inputs", "list_configuration", "dry_run"], steps.any (Step.takes d) = false := by
  obtain ⟨ns, hp, _, hm, rfl, _⟩ := C08_cli_main_runs_model env argv es m a r h
  obtain ⟨steps, hs, _, _, _, _, hmode⟩ := C08_cli_mode_of_flags argv ns hp
  have hgen : m = .generate :=
    Decidable.byContradiction fun hne => hops (C08_no_fs_ops_unless_generating m a es hne)
  rw [hm, hgen] at hmode
  obtain ⟨h1, h2, h3, h4⟩ := (C08_mode_of_flags _ _ _ _).1 (Option.some.inj hmode).symm
  refine ⟨steps, hs, fun d hd => ?_⟩
  simp only [List.mem_cons, List.mem_nil_iff, or_false] at hd
  rcases hd with rfl | rfl | rfl | rfl <;> assumption

/-- T1 from the command line: two command lines that differ only in the mode they select (same argument record) — one
generating successfully, one listing outputs: the printed list is the set of files the generating one writes. -/
theorem C08_cli_list_outputs_eq_generated (env : Environ) (argvGen argvList : List String) (es : List Entry) (a : Args)
    (rg rl : Run) (hg : cliMain env argvGen es = .ran .generate a rg) (hl : cliMain env argvList es = .ran .listOutputs a rl)
    (hok : rg.err = none) : rl.err = none ∧ ∀ p, p ∈ rl.outputs ↔ p ∈ written rg.ops := by
  obtain ⟨_, _, _, _, rfl, _⟩ := C08_cli_main_runs_model env argvGen es _ a rg hg
  obtain ⟨_, _, _, _, rfl, _⟩ := C08_cli_main_runs_model env argvList es _ a rl hl
  exact C08_list_outputs_eq_generated a es hok

/-- Generated-table obligation: the calls the three run methods make on the two generators are the ones `Model/Cli.lean`
transcribes — `_list_outputs_only`: types then support, both dry, both with `--omit-serialization-support`;
`_list_inputs_only`: type templates, support templates, the sources, then the definitions below the lookup directories; `_generate`: support then types with the same four
keyword values; the guards are `_should_generate_support()` for the support generator and `generate_support != "only"` for
the type generator, in all three; the lookup directories are `--lookup-dir` plus the entries of `DSDL_INCLUDE_PATH` — one list
(`self._extra_includes`, shape checked by the translator) for the DSDL front end and for `_lookup_dsdl_files`, which is what
`Args.lookupFiles` stands for (`CliParse.extraIncludes`). -/
theorem C08_runner_calls_as_modelled :
    calls.map (fun c => (c.method, c.target, c.fn, c.guards)) =
      [("_list_outputs_only", "_generator", "generate_all", [.notOnly]),
       ("_list_outputs_only", "_support_generator", "generate_all", [.shouldGenerateSupport]),
       ("_list_inputs_only", "_generator", "get_templates", [.notOnly]),
       ("_list_inputs_only", "_support_generator", "get_templates", [.shouldGenerateSupport]),
       ("_list_inputs_only", "_root_namespace", "get_all_types", [.notOnly, .genNsTypes]),
       ("_list_inputs_only", "_root_namespace", "get_all_datatypes", [.notOnly, .notGenNsTypes]),
       ("_list_inputs_only", "self", "_lookup_dsdl_files", [.notOnly]),
       ("_generate", "_support_generator", "generate_all", [.shouldGenerateSupport]),
       ("_generate", "_generator", "generate_all", [.notOnly])] ∧
    (∀ c ∈ calls, c.method = "_list_outputs_only" →
      c.kwargs = [("is_dryrun", .const true), ("omit_serialization_support", .arg "omit_serialization_support")]) ∧
    (∀ c ∈ calls, c.fn = "get_templates" → c.kwargs = [("omit_serialization_support", .arg "omit_serialization_support")]) ∧
    (∀ c ∈ calls, c.method = "_generate" → c.kwargs.lookup "is_dryrun" = some (.arg "dry_run") ∧
      c.kwargs.lookup "omit_serialization_support" = some (.arg "omit_serialization_support")) ∧
    runChain = [("list_outputs", "_list_outputs_only"), ("list_inputs", "_list_inputs_only"),
      ("list_configuration", "_list_configuration_only")] ∧ runElse = "_generate" ∧
    envIncludeVars = ["DSDL_INCLUDE_PATH"] := by
  decide +kernel

/-! Non-vacuity of the command-line theorems (kernel-evaluated on the generated table). -/

def nsOf : Outcome → Namespace
  | .ok ns => ns
  | _ => []

def cEnv : Environ := { langs := table, pkgDir := "/pkg/nunavut/lang", dirFiles := fun _ => [] }

/-- Accepted command lines: a cluster `-vd`, the abbreviation `--no-o`, `-lc` (exact option string of `--list-configuration`,
not `-l c`), `-lcpp` (`-l` with a glued value); the mode the runner takes. -/
example :
    (nsOf (parseArgv ["-vd", "--no-o", "ns"])).lookup "dry_run" = some (.bool true) ∧
    (nsOf (parseArgv ["-vd", "--no-o", "ns"])).lookup "no_overwrite" = some (.bool true) ∧
    (nsOf (parseArgv ["-vd", "--no-o", "ns"])).lookup "root_namespace" = some (.sc (.str "ns")) ∧
    modeOfNs (nsOf (parseArgv ["-vd", "--no-o", "ns"])) = some .dryRun ∧
    modeOfNs (nsOf (parseArgv ["-lc", "--dry-run"])) = some .listConfiguration ∧
    modeOfNs (nsOf (parseArgv ["--list-inputs", "-lc", "--list-outputs"])) = some .listOutputs ∧
    (nsOf (parseArgv ["-lcpp"])).lookup "target_language" = some (.sc (.str "cpp")) ∧
    modeOfNs (nsOf (parseArgv ["-lcpp"])) = some .generate := by decide +kernel

/-- Rejected command lines: an ambiguous abbreviation, the inter-argument rule, a left-over string, a missing value, a value
outside `choices`; `--help` ends the parse before the error behind it. -/
example :
    parseArgv ["--lis"] = .error (.ambiguous "--lis") ∧
    parseArgv ["-pod", "--generate-support", "always"] = .error .logic ∧
    parseArgv ["a", "b"] = .error (.unrecognized ["b"]) ∧
    parseArgv ["--outdir", "--dry-run"] = .error (.expectedOneArg "--outdir/-O") ∧
    parseArgv ["--generate-support", "alway"] = .error (.invalidChoice "--generate-support") ∧
    parseArgv ["--help", "--outdir"] = .exit0 "help" := by decide +kernel

def ranAs : MainOut → Option (Mode × Args × Run)
  | .ran m a r => some (m, a, r)
  | _ => none

end cli

section witnesses

def wArgs : Args :=
  { lang := lang_c, pkgDir := "/pkg/nunavut/lang", outdir := ["out"], genSupport := .asNeeded, omitSer := false,
    gnt := false, extArg := none, stemArg := none, templates := none, supportTemplates := none }

def wEntries : List Entry :=
  [⟨true, ["app"], "", "/ns/app", ["Namespace", "Any"], []⟩,
   ⟨false, ["app"], "Use_1_0", "/ns/app/Use.1.0.dsdl", ["StructureType", "CompositeType", "Any"],
     ["/look/lib/Dep.1.0.dsdl"]⟩]

/-- Non-vacuity of T1/T2/T3: an accepted configuration whose real run succeeds and writes two files. -/
example : (run .generate wArgs wEntries).err = none ∧
    generated wArgs wEntries = [["out", "nunavut", "support", "serialization.h"], ["out", "app", "Use_1_0.h"]] ∧
    (run .listOutputs wArgs wEntries).outputs =
      [["out", "app", "Use_1_0.h"], ["out", "nunavut", "support", "serialization.h"]] ∧
    "/ns/app/Use.1.0.dsdl" ∈ (run .listInputs wArgs wEntries).inputs ∧
    "/pkg/nunavut/lang/c/support/serialization.j2" ∈ (run .listInputs wArgs wEntries).inputs := by decide +kernel

/-- Non-vacuity: the "generation fails" branch exists (C has no namespace template), and the parser's
rejection. -/
example : (run .generate { wArgs with gnt := true } wEntries).err = some .noTemplate ∧
    (run .listOutputs { wArgs with gnt := true } wEntries).err = some .noTemplate ∧
    (run .listInputs { wArgs with gnt := true } wEntries).err = none ∧
    (run .generate { wArgs with genSupport := .always, omitSer := true } wEntries).err = some .parserReject := by
  decide +kernel

/-- DEFECT (unchanged code): `--list-outputs --list-configuration` — `run` takes the `--list-outputs` branch, but
`__init__` has skipped the DSDL front end because `--list-configuration` was given: the printed list lacks every type the
real run writes.  `runLcBeforeFix` violates T1; the repaired `run` does not depend on the flag. -/
example :
    (runLcBeforeFix .listOutputs true wArgs wEntries).err = none ∧
    (runLcBeforeFix .listOutputs true wArgs wEntries).outputs = [["out", "nunavut", "support", "serialization.h"]] ∧
    ["out", "app", "Use_1_0.h"] ∈ generated wArgs wEntries ∧
    ["out", "app", "Use_1_0.h"] ∈ (run .listOutputs wArgs wEntries).outputs ∧
    "/ns/app/Use.1.0.dsdl" ∉ (runLcBeforeFix .listInputs true wArgs wEntries).inputs := by decide +kernel

/-- DEFECT F1 (unchanged code): `--generate-support only --omit-serialization-support --list-outputs` prints
`nunavut/support/serialization.h`, the real run creates nothing.  `runBeforeFix` violates T1. -/
example :
    let a := { wArgs with genSupport := .only, omitSer := true }
    (runBeforeFix .generate a wEntries).err = none ∧
    ["out", "nunavut", "support", "serialization.h"] ∈ (runBeforeFix .listOutputs a wEntries).outputs ∧
    written (runBeforeFix .generate a wEntries).ops = [] := by decide +kernel

/-- … and the repaired listing prints nothing for the same arguments. -/
example : (run .listOutputs { wArgs with genSupport := .only, omitSer := true } wEntries).outputs = [] := by decide +kernel

/-- DEFECT (unchanged code, lookup dependency): `Use.1.0` embeds `lib.Dep.1.0` found through `--lookup-dir`; the file is
read and compiled into the output.  Without `fix_list_inputs_lookup_dsdl` it is not listed (negation of the full T3
statement for `runBeforeInputsFix`); with it every definition below the lookup directories is. -/
example :
    let a := { wArgs with lookupFiles := ["/look/lib/Dep.1.0.dsdl", "/look/lib/Unused.1.0.dsdl"] }
    (∃ r ∈ reads a [(wEntries[1], ["out", "app", "Use_1_0.h"])], r ∉ (runBeforeInputsFix .listInputs a wEntries).inputs) ∧
    (∀ r ∈ reads a [(wEntries[1], ["out", "app", "Use_1_0.h"])], r ∈ (run .listInputs a wEntries).inputs) :=
  by decide +kernel

/-- DEFECT (unchanged code, HTML assets): the HTML templates include files that are not `.j2`; without
`fix_list_inputs_all_template_dir_files` they are not listed, with it every file of the template package is. -/
example :
    (∃ r ∈ reads { wArgs with lang := lang_html } [],
      r ∉ (runBeforeInputsFix .listInputs { wArgs with lang := lang_html } []).inputs) ∧
    (∀ r ∈ reads { wArgs with lang := lang_html } [], r ∈ (run .listInputs { wArgs with lang := lang_html } []).inputs) :=
  by decide +kernel

/-- DEFECT (unchanged code, shadowed support template): a `serialization.j2` in `--support-templates` is what the
support generator renders, the packaged one is what `--list-inputs` printed.  `runBeforeFix` violates T3 … -/
example :
    let a := { wArgs with supportTemplates := some [⟨"serialization.j2", "/custom/serialization.j2", false⟩] }
    ∃ r ∈ reads a [], r ∉ (runBeforeFix .listInputs a []).inputs :=
  by decide +kernel

/-- … and the repaired listing prints the file that is read. -/
example :
    let a := { wArgs with supportTemplates := some [⟨"serialization.j2", "/custom/serialization.j2", false⟩] }
    "/custom/serialization.j2" ∈ (run .listInputs a []).inputs ∧
    "/pkg/nunavut/lang/c/support/serialization.j2" ∉ (run .listInputs a []).inputs := by decide +kernel

/-- Same-named templates in different folders of `--templates` (seeded change C08-2): both paths are printed. -/
def wTreeDir : List TemplateFile :=
  [⟨"Any.j2", "/t/Any.j2", false⟩, ⟨"header.j2", "/t/header.j2", false⟩, ⟨"parts/header.j2", "/t/parts/header.j2", false⟩,
   ⟨"parts/deep/header.j2", "/t/parts/deep/header.j2", false⟩, ⟨"data/values.txt", "/t/data/values.txt", false⟩]

example :
    (run .listInputs { wArgs with genSupport := .never, templates := some wTreeDir } wEntries).inputs =
      ["/t/Any.j2", "/t/header.j2", "/t/parts/header.j2", "/t/parts/deep/header.j2", "/t/data/values.txt",
       "/ns/app/Use.1.0.dsdl"] := by decide +kernel

/-- `..` after a (possibly symbolic) directory is kept in computed, printed and written paths alike; only empty and
`.` segments disappear (seeded change C08-4 printed the lexically normalised `/t/gen/...`). -/
example : pathWithSuffix ["", "t", "lnk", "..", "gen", ".", "", "Use_1_0"] ".h" = .ok ["t", "lnk", "..", "gen", "Use_1_0.h"] := rfl

example :
    (run .listOutputs { wArgs with outdir := ["", "t", "lnk", "..", "gen"], genSupport := .never } wEntries).outputs =
      [["t", "lnk", "..", "gen", "app", "Use_1_0.h"]] ∧
    generated { wArgs with outdir := ["", "t", "lnk", "..", "gen"], genSupport := .never } wEntries =
      [["t", "lnk", "..", "gen", "app", "Use_1_0.h"]] := by decide +kernel

/-- A template that is itself a symbolic link is listed (as its target).  One below a linked sub-directory is rendered
by Jinja; without `fix_list_inputs_all_template_dir_files` it is not listed, with it it is. -/
def wLinkedDir : List TemplateFile :=
  wTreeDir ++ [⟨"license.j2", "/shared/license.j2", false⟩, ⟨"linked/part.j2", "/elsewhere/part.j2", true⟩]

example :
    (runBeforeInputsFix .listInputs { wArgs with genSupport := .never, templates := some wLinkedDir } wEntries).inputs =
      ["/t/Any.j2", "/t/header.j2", "/t/parts/header.j2", "/t/parts/deep/header.j2", "/shared/license.j2", "/ns/app/Use.1.0.dsdl"] ∧
    (run .listInputs { wArgs with genSupport := .never, templates := some wLinkedDir } wEntries).inputs =
      ["/t/Any.j2", "/t/header.j2", "/t/parts/header.j2", "/t/parts/deep/header.j2", "/t/data/values.txt",
       "/shared/license.j2", "/elsewhere/part.j2", "/ns/app/Use.1.0.dsdl"] := by
  decide +kernel

/-- `cliMain` on a whole command line: the run of the decision model it denotes. -/
example :
    ((NunavutVerif.Cli.ranAs (NunavutVerif.CliParse.cliMain cEnv ["-l", "c", "--list-outputs", "-O", "out", "ns"] wEntries)).map
      fun x => (x.1, x.2.1.outdir, x.2.2.ops, x.2.2.outputs)) =
    some (.listOutputs, ["out"], [], [["out", "app", "Use_1_0.h"], ["out", "nunavut", "support", "serialization.h"]]) := by
  decide +kernel

end witnesses

end NunavutVerif.Cli
