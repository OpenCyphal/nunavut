import NunavutVerif.Lemmas.DsdlDecode
import NunavutVerif.Lemmas.DsdlBytes
/-!
# C02 — the decoder's oracle: totality, its three errors, zero extension, truncation, consumed size

Property theorems only.  `deBits`/`deTop`/`deBytes` are total functions (Lean definitions by structural
recursion), so "every byte string is either decoded or rejected" holds by construction; the theorems say
what the outcome is.  Quantifiers: all types, all bit / byte strings (no well-formedness needed here).
That every representation the serializer produces is accepted (and gives back the value) is
`C03_round_trip_*`.
-/
namespace NunavutVerif.Dsdl

/-- The only errors are the three representation errors (by the type of `deBits`), and each can only
come out of a type that contains the constructor it belongs to: no variable-length array ⇒ never
`badArrayLength`, no union ⇒ never `badUnionTag`, no (nested) delimited member ⇒ never
`badDelimiterHeader`.  In particular types made of primitives, fixed arrays and structures decode
every input. -/
theorem C02_error_needs_constructor (t : Ty) (bs : List Bool) (e : DeErr)
    (h : deBits t bs = .error e) :
    (e = .badArrayLength ∧ hasVarr t = true) ∨ (e = .badUnionTag ∧ hasUnion t = true) ∨
    (e = .badDelimiterHeader ∧ hasDelim t = true) := by
  have := originOK t bs e h
  cases e with
  | badArrayLength => exact .inl ⟨rfl, this⟩
  | badUnionTag => exact .inr (.inl ⟨rfl, this⟩)
  | badDelimiterHeader => exact .inr (.inr ⟨rfl, this⟩)

/-- Array length above capacity: exactly then the array itself is rejected (elements may still fail). -/
theorem C02_bad_array_length_iff (t : Ty) (cap : Nat) (bs : List Bool) (e : DeErr) :
    deBits (.varr t cap) bs = .error e ↔
      (readNat (prefixBits cap) bs > cap ∧ e = .badArrayLength) ∨
      (readNat (prefixBits cap) bs ≤ cap ∧
        deAllWith (deBits t) (readNat (prefixBits cap) bs) (bs.drop (prefixBits cap)) = .error e) := by
  dsimp only [deBits]
  by_cases hc : readNat (prefixBits cap) bs > cap
  · simp [hc, Nat.not_le.2 hc, eq_comm]
  · cases deAllWith (deBits t) (readNat (prefixBits cap) bs) (bs.drop (prefixBits cap)) <;>
      simp [hc, Nat.not_lt.1 hc]

/-- Union tag out of range: exactly then the union itself is rejected. -/
theorem C02_bad_union_tag_iff (fs : List Ty) (bs : List Bool) (e : DeErr) :
    deBits (.union fs) bs = .error e ↔
      (readNat (tagBits fs.length) bs ≥ fs.length ∧ e = .badUnionTag) ∨
      (readNat (tagBits fs.length) bs < fs.length ∧
        deNth fs (readNat (tagBits fs.length) bs) (bs.drop (tagBits fs.length)) = .error e) := by
  dsimp only [deBits]
  by_cases hc : readNat (tagBits fs.length) bs ≥ fs.length
  · simp [hc, Nat.not_lt.2 hc, eq_comm]
  · cases deNth fs (readNat (tagBits fs.length) bs) (bs.drop (tagBits fs.length)) <;>
      simp [hc, Nat.not_le.1 hc]

/-- Delimiter header: rejected exactly when it announces more bytes than remain after the header
(`remaining` saturates at zero: a header read past the end of the data is zero and is accepted); otherwise
the nested object is decoded from exactly the announced bytes. -/
theorem C02_bad_delimiter_header_iff (ext : Nat) (t : Ty) (bs : List Bool) (e : DeErr) :
    deBits (.delim ext t) bs = .error e ↔
      (8 * readNat 32 bs > bs.length - 32 ∧ e = .badDelimiterHeader) ∨
      (8 * readNat 32 bs ≤ bs.length - 32 ∧
        deBits t ((bs.drop 32).take (8 * readNat 32 bs)) = .error e) := by
  simp only [deBits, headerBits, List.length_drop]
  by_cases hc : 8 * readNat 32 bs > bs.length - 32
  · simp [hc, Nat.not_le.2 hc, eq_comm]
  · cases deBits t ((bs.drop 32).take (8 * readNat 32 bs)) <;> simp [hc, Nat.not_lt.1 hc]

/-- A nested delimited object occupies its header plus exactly the announced bytes, whatever the reader's
version of the type consumes: a longer object is skipped, a shorter one is zero extended inside. -/
theorem C02_delimited_consumes_header (ext : Nat) (t : Ty) (bs : List Bool) (v : Val) (n : Nat)
    (h : deBits (.delim ext t) bs = .ok (v, n)) :
    n = 32 + 8 * readNat 32 bs ∧
      ∃ k, deBits t ((bs.drop 32).take (8 * readNat 32 bs)) = .ok (v, k) := by
  obtain ⟨_, used, h1, rfl⟩ := deBits_delim_ok h
  exact ⟨rfl, used, h1⟩

/-- The reported consumed size never exceeds the supplied size (bits). -/
theorem C02_consumed_le_supplied (t : Ty) (bs : List Bool) (v : Val) (n : Nat)
    (h : deTop t bs = .ok (v, n)) : n ≤ bs.length := by
  obtain ⟨m, _, rfl⟩ := deTop_ok h
  exact Nat.min_le_right ..

/-- … and in bytes. -/
theorem C02_consumed_le_supplied_bytes (t : Ty) (bytes : List Nat) (v : Val) (n : Nat)
    (h : deBytes t bytes = .ok (v, n)) : n ≤ bytes.length := by
  obtain ⟨m, hm, rfl⟩ := deBytes_ok h
  have := C02_consumed_le_supplied t _ v m hm
  rw [unpackBytes_length] at this
  omega

/-- Implicit zero extension: appending zero bits never changes a successful decoding (same value, same
end offset) — data that ends early is read as if continued by zeros, also inside nested objects. -/
theorem C02_zero_extension (t : Ty) (bs : List Bool) (v : Val) (n k : Nat)
    (h : deBits t bs = .ok (v, n)) : deBits t (bs ++ zeros k) = .ok (v, n) :=
  stableOK unseen_zeros t bs _ v n h ⟨k, rfl⟩

/-- On bytes: appending zero bytes gives the same value. -/
theorem C02_zero_extension_bytes (t : Ty) (bytes : List Nat) (v : Val) (n k : Nat)
    (h : deBytes t bytes = .ok (v, n)) :
    ∃ n', deBytes t (bytes ++ List.replicate k 0) = .ok (v, n') := by
  obtain ⟨m, hm, rfl⟩ := deBytes_ok h
  obtain ⟨m', hm', rfl⟩ := deTop_ok hm
  unfold deBytes deTop
  rw [unpackBytes_append, unpackBytes_zeros, C02_zero_extension (topInner t) _ v m' (8 * k) hm']
  exact ⟨_, rfl⟩

/-- Implicit truncation: a decoding that stayed inside the data depends only on the bits it consumed;
whatever follows a complete object is ignored. -/
theorem C02_truncation (t : Ty) (bs extra : List Bool) (v : Val) (n : Nat)
    (h : deBits t bs = .ok (v, n)) (hn : n ≤ bs.length) :
    deBits t (bs.take n ++ extra) = .ok (v, n) := by
  have hl : (bs.take n).length = n := by rw [List.length_take]; exact Nat.min_eq_left hn
  exact stableOK unseen_prefix t bs _ v n h
    ⟨hn, by rw [List.length_append, hl]; exact Nat.le_add_right .., List.take_left' hl⟩

/-- Top-level form: surplus data after a complete object changes neither the value nor the consumed size. -/
theorem C02_surplus_ignored (t : Ty) (bs extra : List Bool) (v : Val) (n : Nat)
    (h : deBits (topInner t) bs = .ok (v, n)) (hn : n = bs.length) :
    deTop t (bs ++ extra) = .ok (v, n) := by
  subst hn
  have := C02_truncation (topInner t) bs extra v _ h (Nat.le_refl _)
  rw [List.take_length] at this
  simp only [deTop, this, List.length_append, Nat.min_eq_left (Nat.le_add_right ..)]

/-- `{uint3 a; Inner b; uint8 c}` with delimited `Inner = {uint8 x; uint8[<=3] y}`. -/
def exTy2 : Ty :=
  .struct [.uint 3 .sat, .delim 64 (.struct [.uint 8 .sat, .varr (.uint 8 .sat) 3]), .uint 8 .sat]

-- complete object
example : deBytes exTy2 [0x07, 4, 0, 0, 0, 0xFF, 2, 1, 2, 0x77] =
    .ok (.struct [.int 7, .struct [.int 255, .arr [.int 1, .int 2]], .int 0x77], 10) := by decide +kernel
-- the nested object is longer than this reader knows (6 bytes announced): the tail is skipped via the header
example : deBytes exTy2 [0x07, 6, 0, 0, 0, 0xFF, 1, 9, 0xEE, 0xEE, 0xEE, 0x77] =
    .ok (.struct [.int 7, .struct [.int 255, .arr [.int 9]], .int 0x77], 12) := by decide +kernel
-- the nested object is shorter (2 bytes): zero extension *inside*, bounded by the header; `c` is still read
example : deBytes exTy2 [0x07, 2, 0, 0, 0, 0xFF, 2, 0x77] =
    .ok (.struct [.int 7, .struct [.int 255, .arr [.int 0, .int 0]], .int 0x77], 8) := by decide +kernel
-- data ends before the header: header reads as zero, everything is zero, consumed = supplied
example : deBytes exTy2 [0x07] =
    .ok (.struct [.int 7, .struct [.int 0, .arr []], .int 0], 1) := by decide +kernel
example : deBytes exTy2 [] = .ok (.struct [.int 0, .struct [.int 0, .arr []], .int 0], 0) := by
  decide +kernel
-- the three errors
example : deBytes exTy2 [0x07, 5, 0, 0, 0, 0xFF, 2, 1, 2] = .error .badDelimiterHeader := by decide +kernel
example : deBytes exTy2 [0x07, 2, 0, 0, 0, 0xFF, 4, 0x77] = .error .badArrayLength := by decide +kernel
example : deBytes (.union [.bool, .uint 8 .sat]) [2, 1] = .error .badUnionTag := by decide +kernel
-- sign extension
example : deBytes (.struct [.sint 4 .sat, .sint 12 .sat]) [0xF8, 0xFF] =
    .ok (.struct [.int (-8), .int (-1)], 2) := by decide +kernel

end NunavutVerif.Dsdl
