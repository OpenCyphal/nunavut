import NunavutVerif.Lemmas.GenPyTop
import NunavutVerif.Lemmas.GenPyEnv
import NunavutVerif.Lemmas.GenPyFloat
/-!
# C01 / C02 / C18 — the generated **Python** codecs refine the DSDL specification

`Properties/C01.lean` and `C02.lean` state the laws of the *specification* (`Model/Dsdl.lean`: `serBits`, `deBits`).
This file ties the *emitted algorithm* to it: `Model/GenPy.lean` transcribes what `lang/py/templates/serialization.j2`,
`deserialization.j2`, `base.j2` emit and what `nunavut_support.serialize` / `deserialize` / `fork_bytes` do, calling
the C14 models of the `Serializer` / `Deserializer` / `ZeroExtendingBuffer` primitives (`Model/BitsPy.lean`); the
theorems below say that this implementation-shaped model computes exactly the specification — for **every** type
PyDSDL can produce, **every** object the generated classes admit, **every** byte string, at **every** cursor position
(fields in the middle of a structure, elements of arrays, options of unions, nested and delimited composites), by
structural induction over the type on top of C14's contracts.

Vocabulary
* `env : Env` — what the generated code takes from outside: PyDSDL's bit-length-set residues (`env.lr`, the alignment
  oracle behind `offset|alignment_prefix`), NumPy (`view(Byte)`, `frombuffer`), CPython floats (`struct.pack/unpack`,
  comparisons).  `EnvSound env` = the oracle is sound (`LrSound`) and NumPy / CPython obey `NpSound` / `FloatSound`.
  `stdEnv` is the environment the driver `genpy` runs; `EnvSound stdEnv` is proved (`C01_py_driver_env_sound`).
* `wf t` (specification) and `pyWf t` (signed integers saturated, ≥ 2 bits: what PyDSDL accepts); `topLevel t`.
* `inDom b t v` — the objects the generated classes admit (C18): scalar integers inside the DSDL range, array
  elements inside the NumPy dtype (`b = true`), fixed arrays of their length; *not* restricted: over-long variable
  arrays and union objects without a set attribute (the serializer must refuse them itself).
* `AppL s s' bits` — C14's `Appends` on a bit list: cursor advanced by `bits.length`, buffer size unchanged, bits below
  the old cursor untouched, the new bits are `bits`, **every bit from the new cursor on is zero** (`s'.Inv`).
* `Match r s pre spec` — the emitted code `r` started in `s` appended `pre ++ bits` when `spec = ok bits`, raised the
  mapped exception (`excOf`) when `spec` is an error.  `DeMatch r d pad spec` — the decoder returned the spec's value
  with the cursor at `d.off + pad + n`, or raised the `FormatError` of the spec's error kind.
-/
namespace NunavutVerif.GenPy
open NunavutVerif.Dsdl
open NunavutVerif.Bits (Buf Err bitAt WF)
open NunavutVerif.Bits.Py

/-- **C01, Python target, top level.**  `nunavut_support.serialize(obj)` returns exactly the specification's bytes
and raises nothing where the specification has bytes (no `IndexError` / broadcast `ValueError` from the NumPy buffer,
no failed internal assertion, no `ValueError` of `fork_bytes`); otherwise it raises `excOf` of the specification's
error: an over-long variable array fails the emitted `assert` (`AssertionError`), a union object with no attribute
set raises `RuntimeError('Malformed union')`. -/
theorem C01_py_serialize_refines_spec (env : Env) (hs : EnvSound env) (t : Ty) (v : Val) (hw : wf t = true)
    (hpw : pyWf t = true) (hc : topLevel t = true) (hdom : inDom false t v = true) :
    serializePy env t v = match serBytes t v with
      | .ok bytes => .ok bytes
      | .error e => .error (excOf e) := by
  have hobj := (serRef_all env hs (topInner t) (wf_topInner hw) (pyWf_topInner hpw)).2 hc
  have hext := extent_mod8 hw hc
  have hmx := maxBits_topInner_le_extent hw
  have h := hobj ⟨List.replicate (extent t / 8 + 1) 0, 0⟩ v false (new_inv _) (by simp) (by
    unfold Room; simp only [List.length_replicate]; omega) (inDom_topInner hdom)
  simp only [serializePy, serBytes, serTop]
  rcases h.cases with ⟨e, hsb, hr⟩ | ⟨bits, s, hsb, hr, happ⟩
  · simp only [hsb, hr, Except.map]
  · rw [List.nil_append] at happ
    have hl := lenOK (topInner t) (wf_topInner hw) v bits hsb
    simp only [hsb, hr, Except.map]
    rw [buffer_eq_packBytes happ (by omega)]

/-- **C01, every field at every cursor.**  `_serialize_any(t, ref, offset)` started at *any* cursor position of a
serializer whose tail is zero, with a true offset claim and room for the largest representation plus the spare byte,
appends the zero padding to the field's alignment followed by exactly `serBits t v` — through whichever method family
(`add_aligned_*`, `add_aligned_unsigned/signed`, `add_unaligned_*`, the bulk array methods, the element loop, the
nested call, the forked serializer with the back-patched delimiter header) the template selected. -/
theorem C01_py_serialize_any_refines_spec (env : Env) (hs : EnvSound env) (t : Ty) (hw : wf t = true)
    (hpw : pyWf t = true) (o : AOff) (s : Ser) (v : Val) (b : Bool) (hinv : s.Inv)
    (hclaim : Sound o (s.off + padLen (align t) s.off)) (hroom : Room s (padLen (align t) s.off + maxBits t))
    (hdom : inDom b t v = true) :
    Match (serAny env t o s v) s (zeros (padLen (align t) s.off)) (serBits t v) :=
  (serRef_all env hs t hw hpw).1 o s v b hinv hclaim hroom hdom

/-- **C01, the class method.**  `obj._serialize_(_ser_)` at a byte-aligned cursor appends exactly `serBits t v`
(the same statement the delimited case uses for the forked serializer). -/
theorem C01_py_serialize_method_refines_spec (env : Env) (hs : EnvSound env) (t : Ty) (hw : wf t = true)
    (hpw : pyWf t = true) (hc : isComposite t = true) (s : Ser) (v : Val) (b : Bool) (hinv : s.Inv)
    (hal : s.off % 8 = 0) (hroom : Room s (maxBits t)) (hdom : inDom b t v = true) :
    Match (serObj env t s v) s [] (serBits t v) :=
  (serRef_all env hs t hw hpw).2 hc s v b hinv hal hroom hdom

/-- **The cursor invariant.**  Whenever a field has been serialized, every bit of the buffer at or above the cursor
is zero, the cursor has advanced by exactly the padding plus the field's length, the buffer has kept its size and
nothing below the old cursor has changed.  (The invariant is what makes `|=`-style unaligned writes and
`skip_bits` padding correct; it holds for `Serializer.new` and — this theorem, applied at every `_serialize_any` the
emitted code executes — after every field, element, option and nested object.) -/
theorem C01_py_cursor_invariant (env : Env) (hs : EnvSound env) (t : Ty) (hw : wf t = true) (hpw : pyWf t = true)
    (o : AOff) (s s' : Ser) (v : Val) (b : Bool) (hinv : s.Inv)
    (hclaim : Sound o (s.off + padLen (align t) s.off)) (hroom : Room s (padLen (align t) s.off + maxBits t))
    (hdom : inDom b t v = true) (hrun : serAny env t o s v = .ok s') :
    s'.Inv ∧ s'.buf.length = s.buf.length ∧ (∀ i, i < s.off → bitAt s'.buf i = bitAt s.buf i) ∧
    ∃ bits, serBits t v = .ok bits ∧ s'.off = s.off + padLen (align t) s.off + bits.length := by
  rcases ((serRef_all env hs t hw hpw).1 o s v b hinv hclaim hroom hdom).cases with
    ⟨e, _, hr⟩ | ⟨bits, s1, hsb, h1, happ⟩
  · rw [hr] at hrun; cases hrun
  · rw [h1] at hrun; cases hrun
    refine ⟨happ.inv, happ.len, fun i hi => ?_, bits, hsb, by simpa [Nat.add_assoc] using happ.off⟩
    have := happ.2.2.2 i
    rw [this, if_pos hi]

/-- A representable object is serialized without any exception. -/
theorem C01_py_representable_never_raises (env : Env) (hs : EnvSound env) (t : Ty) (v : Val) (hw : wf t = true)
    (hpw : pyWf t = true) (hc : topLevel t = true) (hdom : inDom false t v = true) (bytes : List Nat)
    (hrep : serBytes t v = .ok bytes) : serializePy env t v = .ok bytes := by
  rw [C01_py_serialize_refines_spec env hs t v hw hpw hc hdom, hrep]

/-- An object without a serialized representation produces no bytes: the emitted `assert len(x) <= cap` /
`raise RuntimeError('Malformed union')` is reached (and nothing else is raised before it). -/
theorem C01_py_unrepresentable_rejected (env : Env) (hs : EnvSound env) (t : Ty) (v : Val) (hw : wf t = true)
    (hpw : pyWf t = true) (hc : topLevel t = true) (hdom : inDom false t v = true) :
    (serBytes t v = .error .badArrayLength → serializePy env t v = .error .assertion) ∧
    (serBytes t v = .error .badUnionTag → serializePy env t v = .error .malformedUnion) := by
  constructor <;> intro h <;> rw [C01_py_serialize_refines_spec env hs t v hw hpw hc hdom, h] <;> rfl

/-- **C02, Python target, top level.**  `nunavut_support.deserialize(cls, [bytes])` returns the specification's value
(and its deserializer has consumed the specification's size) for every byte string; it returns `None` exactly when
the specification reports one of its three errors. -/
theorem C02_py_deserialize_refines_spec (env : Env) (hs : EnvSound env) (t : Ty) (bytes : Buf) (hw : wf t = true)
    (hpw : pyWf t = true) (hc : topLevel t = true) (hwf : WF bytes) :
    deserializePy env t bytes = match deBytes t bytes with
      | .ok r => .ok (some r)
      | .error _ => .ok none := by
  have h := deObj_top_spec env hs t bytes hw hpw hc hwf
  simp only [deserializePy, deBytes, deTop, h]
  cases hd : deBits (topInner t) (unpackBytes bytes) with
  | error e => simp only []
  | ok r =>
    obtain ⟨v, n⟩ := r
    simp only [unpackBytes_length, Nat.mul_comm bytes.length 8]

/-- **C02, every field at every cursor**, also past the end of the data (implicit zero extension inside
`ZeroExtendingBuffer`) and inside a forked deserializer bounded by a delimiter header: `_deserialize_any` returns
the specification's value and advances the cursor by the padding plus the specification's length; a specification
error is the `FormatError` raised at the corresponding site of the template (array length prefix > capacity, union
tag ≥ option count, delimiter header > `max(remaining_bit_length, 0)`); nothing else is raised — no `IndexError`,
no failed `assert`, no `ValueError` from `fork_bytes` or from a setter of the generated constructor, no NumPy
`OverflowError` storing an element. -/
theorem C02_py_deserialize_any_refines_spec (env : Env) (hs : EnvSound env) (t : Ty) (hw : wf t = true)
    (hpw : pyWf t = true) (o : AOff) (d : De) (hwf : WF d.buf)
    (hclaim : Sound o (d.off + padLen (align t) d.off)) :
    DeMatch (deAny env t o d) d (padLen (align t) d.off)
      (deBits t ((unpackBytes d.buf).drop (d.off + padLen (align t) d.off))) :=
  deMatch_iff.2 ((deRef_all env hs t hw hpw).1 o d hwf hclaim)

/-- the error kind is visible in the model: the raise site of the `FormatError` is the specification's error -/
theorem C02_py_format_error_site (env : Env) (hs : EnvSound env) (t : Ty) (bytes : Buf) (hw : wf t = true)
    (hpw : pyWf t = true) (hc : topLevel t = true) (hwf : WF bytes) :
    deObj env (topInner t) ⟨bytes, 0⟩ = match deBits (topInner t) (unpackBytes bytes) with
      | .ok (v, n) => .ok (v, ⟨bytes, n⟩)
      | .error e => .error (.format e) :=
  deObj_top_spec env hs t bytes hw hpw hc hwf

/-- "This function will never raise an exception for invalid input data" (docstring of `deserialize`): for every
byte string the outcome is an object or `None`. -/
theorem C02_py_deserialize_never_raises (env : Env) (hs : EnvSound env) (t : Ty) (bytes : Buf) (hw : wf t = true)
    (hpw : pyWf t = true) (hc : topLevel t = true) (hwf : WF bytes) :
    ∃ r, deserializePy env t bytes = .ok r := by
  rw [C02_py_deserialize_refines_spec env hs t bytes hw hpw hc hwf]
  cases deBytes t bytes with
  | ok r => exact ⟨_, rfl⟩
  | error e => exact ⟨_, rfl⟩

/-- `None` ⇔ the specification rejects the byte string. -/
theorem C02_py_none_iff_spec_error (env : Env) (hs : EnvSound env) (t : Ty) (bytes : Buf) (hw : wf t = true)
    (hpw : pyWf t = true) (hc : topLevel t = true) (hwf : WF bytes) :
    deserializePy env t bytes = .ok none ↔ ∃ e, deBytes t bytes = .error e := by
  rw [C02_py_deserialize_refines_spec env hs t bytes hw hpw hc hwf]
  cases deBytes t bytes with
  | ok r => simp
  | error e => simp

/-- serialize-then-deserialize through the *implementation-shaped* models: the bytes are the specification's, and
`deserialize` on them is the specification's decoding (which returns the cast-adjusted object: `C03_round_trip_bytes`) -/
theorem C01_py_round_trip (env : Env) (hs : EnvSound env) (t : Ty) (v : Val) (bytes : List Nat) (hw : wf t = true)
    (hpw : pyWf t = true) (hc : topLevel t = true) (hdom : inDom false t v = true)
    (hser : serializePy env t v = .ok bytes) :
    serBytes t v = .ok bytes ∧
    deserializePy env t bytes = match deBytes t bytes with
      | .ok r => .ok (some r)
      | .error _ => .ok none := by
  have h := C01_py_serialize_refines_spec env hs t v hw hpw hc hdom
  rw [hser] at h
  cases hsb : serBytes t v with
  | error e => rw [hsb] at h; cases h
  | ok bs =>
    rw [hsb] at h
    cases h
    refine ⟨rfl, C02_py_deserialize_refines_spec env hs t bytes hw hpw hc ?_⟩
    simp only [serBytes, serTop] at hsb
    rw [map_eq_ok] at hsb
    obtain ⟨bits, _, rfl⟩ := hsb
    exact WF_packBytes bits

/-- Every value the deserializer hands to the generated constructor passes the property setter of its field (the
integer range check C18 models with `intLo`/`intHi`, the float range check, the array length check): the
`ValueError` of a setter is unreachable from `deserialize`. -/
theorem C18_py_decoded_values_pass_setters (env : Env) (hf : FloatSound env) (t : Ty) (hw : wf t = true)
    (bs : List Bool) (v : Val) (n : Nat) (h : deBits t bs = .ok (v, n)) : ctorOK env t v = true :=
  ctorOK_of_deBits env hf hw h

/-- …and fits the NumPy array it is stored into element by element (no NumPy 2 `OverflowError`). -/
theorem C18_py_decoded_elements_fit_dtype (t : Ty) (hw : wf t = true) (bs : List Bool) (v : Val) (n : Nat)
    (h : deBits t bs = .ok (v, n)) : npStore t v = .ok v :=
  npStore_of_deBits hw h

/-- The scalar integers of `inDom` are exactly those the generated setter accepts (C18's
`C18_int_out_of_range_raises_ValueError`, restated on `PyObj.setField`): outside the set the setter raises
`ValueError`, inside it stores the value. -/
theorem C18_py_admitted_integers_are_setter_range (np : PyObj.Oracle) (n : Nat) (m : Cast) (c : Bool) (i : Int) :
    (inDom false (.uint n m) (.int i) = true → PyObj.setField np (.int false n c) (.int i) = .ok (.int i)) ∧
    (inDom false (.uint n m) (.int i) = false → PyObj.setField np (.int false n c) (.int i) = .error .value) ∧
    (1 ≤ n → inDom false (.sint n m) (.int i) = true → PyObj.setField np (.int true n c) (.int i) = .ok (.int i)) ∧
    (1 ≤ n → inDom false (.sint n m) (.int i) = false →
      PyObj.setField np (.int true n c) (.int i) = .error .value) := by
  have hp := two_pow_pos_int n
  have hp1 := two_pow_pos_int (n - 1)
  -- the setter of an integer field is the range test
  have key : ∀ sg, PyObj.setField np (.int sg n c) (.int i) =
      if PyObj.intLo sg n ≤ i ∧ i ≤ PyObj.intHi sg n then .ok (.int i) else .error .value := fun _ => rfl
  simp only [key, inDom, PyObj.intLo, PyObj.intHi, Bool.false_eq_true, if_false, if_true, decide_eq_true_eq,
    decide_eq_false_iff_not]
  exact ⟨fun h => if_pos (by omega), fun h => if_neg (by omega), fun _ h => if_pos (by omega),
    fun _ h => if_neg (by omega)⟩

/-- The concrete alignment analysis (`lenRes`: residues modulo 8 of a type's bit lengths, which is all
`is_aligned_at_byte()` asks of PyDSDL's `BitLengthSet`) is a sound oracle. -/
theorem C01_py_alignment_oracle_sound : LrSound lenRes := fun t _ hw hr =>
  ⟨fun v bs h => (lenRes_only t hr).adm (GenC.resOK t hw v bs h),
    fun bs v n h => (lenRes_only t hr).adm (GenC.resOKD t hw bs v n h)⟩

/-- The NumPy oracles of the driver obey the NumPy laws.  They are written with the specification's own encoding of
an element (`viewBytesStd`, `fromBufferStd`): this shows that `NpSound` can be met; that NumPy's memory has this
layout stays the assumption `NpSound`. -/
theorem C01_py_numpy_oracles_lawful : NpSound stdEnv := by
  constructor
  case view =>
    intro t vs hstd hw hdom
    obtain ⟨_, h8, _⟩ := stdPrim_facts hstd hw
    obtain ⟨bss, hb, hl, hss⟩ := stdArray_bits hstd vs hdom
    have hmod : bss.flatten.length % 8 = 0 := by
      rw [hl, ← h8, ← Nat.mul_assoc, Nat.mul_comm (vs.length) 8, Nat.mul_assoc]; simp
    refine ⟨packBytes bss.flatten, by simp [stdEnv, viewBytesStd, hb], WF_packBytes _, ?_, ?_⟩
    · rw [packBytes_length, hl]
      have : vs.length * primBits t = 8 * (vs.length * (primBits t / 8)) := by
        rw [Nat.mul_left_comm, h8]
      omega
    · rw [hss, unpack_pack]
      have : padLen 8 bss.flatten.length = 0 := padLen_of_mod (Or.inr rfl) hmod
      rw [this]; simp [zeros]
  case frombuffer =>
    intro t bytes count hstd _ _ _
    obtain ⟨vs, hvs, _⟩ := deAll_stdPrim hstd count (unpackBytes bytes)
    simp [stdEnv, fromBufferStd, hvs]

/-- The IEEE float operations of the driver obey the CPython float laws: the emitted `isfinite` / compare saturation
text followed by `struct.pack` with its `OverflowError` fallback is the specification's `narrow` (both cast modes,
binary16 / 32 / 64 — the rounding at the overflow threshold is the content); `struct.unpack` is `widen`; a decoded
float passes the range check of the generated setter. -/
theorem C01_py_float_oracles_lawful : FloatSound stdEnv := by
  constructor
  case wire =>
    intro n m x hn hx
    rcases hn with rfl | rfl | rfl
    · rw [fmt16.narrow_eq]; exact fmt16.wire m x hx
    · rw [fmt32.narrow_eq]; exact fmt32.wire m x hx
    · cases m <;> simp [floatWire, floatArg, floatToWire, stdEnv, pack64, isInfW, narrow]
  case unpack => intro n w _ _; rfl
  case ctor =>
    intro n w hn _
    rcases hn with rfl | rfl | rfl
    · rw [fmt16.widen_eq]; exact fmt16.ctor w
    · rw [fmt32.widen_eq]; exact fmt32.ctor w
    · simp [floatCtorOK]

/-- All hypotheses of the refinement theorems hold for the environment the driver `genpy` executes. -/
theorem C01_py_driver_env_sound : EnvSound stdEnv :=
  ⟨C01_py_alignment_oracle_sound, C01_py_float_oracles_lawful, C01_py_numpy_oracles_lawful⟩

/-- The driver's `ser` answers are the specification's — no hypothesis on the environment left. -/
theorem C01_py_driver_serialize (t : Ty) (v : Val) (hw : wf t = true) (hpw : pyWf t = true)
    (hc : topLevel t = true) (hdom : inDom false t v = true) :
    serializePy stdEnv t v = match serBytes t v with
      | .ok bytes => .ok bytes
      | .error e => .error (excOf e) :=
  C01_py_serialize_refines_spec stdEnv C01_py_driver_env_sound t v hw hpw hc hdom

/-- The driver's `de` answers are the specification's — no hypothesis on the environment left. -/
theorem C02_py_driver_deserialize (t : Ty) (bytes : Buf) (hw : wf t = true) (hpw : pyWf t = true)
    (hc : topLevel t = true) (hwf : WF bytes) :
    deserializePy stdEnv t bytes = match deBytes t bytes with
      | .ok r => .ok (some r)
      | .error _ => .ok none :=
  C02_py_deserialize_refines_spec stdEnv C01_py_driver_env_sound t bytes hw hpw hc hwf

/-- `struct { uint3 a; int5[<=2] b; delimited { uint7 x; uint8[<=1] y } c }` -/
def exTy : Ty :=
  .struct [.uint 3 .sat, .varr (.sint 5 .sat) 2, .delim 64 (.struct [.uint 7 .sat, .varr (.uint 8 .sat) 1])]

def exVal : Val := .struct [.int 5, .arr [.int (-3), .int 200], .struct [.int 100, .arr [.int 7]]]

example : wf exTy = true ∧ pyWf exTy = true ∧ topLevel exTy = true := by decide +kernel
-- the element 200 of `int5[]` lives in an `int8` array only up to 127: not admitted …
example : inDom false exTy exVal = false := by decide +kernel
-- … -3 and 100 are; 100 is saturated to 15 by the emitted `max(min(x, 15), -16)`
example : inDom false exTy (.struct [.int 5, .arr [.int (-3), .int 100], .struct [.int 100, .arr [.int 7]]]) = true := by
  decide +kernel
example : serializePy stdEnv exTy (.struct [.int 5, .arr [.int (-3), .int 100], .struct [.int 100, .arr [.int 7]]])
    = .ok [0x15, 0xe8, 0x0f, 0x03, 0x00, 0x00, 0x00, 0xe4, 0x80, 0x03] := by decide +kernel
example : deserializePy stdEnv exTy [0x15, 0xe8, 0x0f, 0x03, 0x00, 0x00, 0x00, 0xe4, 0x80, 0x03]
    = .ok (some (.struct [.int 5, .arr [.int (-3), .int 15], .struct [.int 100, .arr [.int 7]]], 10)) := by decide +kernel
-- over-long array: the emitted assert
example : serializePy stdEnv exTy (.struct [.int 5, .arr [.int 0, .int 0, .int 0], .struct [.int 0, .arr []]])
    = .error .assertion := by decide +kernel
-- delimiter header larger than the remaining data ⇒ `None`; truncated input ⇒ zero extension
example : deserializePy stdEnv exTy [0x15, 0xe8, 0x0f, 0x09, 0x00, 0x00, 0x00, 0xe4] = .ok none := by decide +kernel
example : deserializePy stdEnv exTy [0x15]
    = .ok (some (.struct [.int 5, .arr [.int 0, .int 0], .struct [.int 0, .arr []]], 1)) := by decide +kernel

end NunavutVerif.GenPy
