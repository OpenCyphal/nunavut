import NunavutVerif.Lemmas.Tpl
import NunavutVerif.Lemmas.FilePP
import NunavutVerif.Gen.TplFlows
import NunavutVerif.Gen.TplCallables
/-!
# C07 — reproducible output: a pure function of inputs, options and tool version

The tables `Gen/TplFlows*.lean` are regenerated from the templates and filter sources of the tree under check on every
run.

Reading: the bytes of a rendered file are `render I P false d a …` — `I` interprets the leaves (any interpretation),
`d` are the declared inputs (DSDL definitions with namespace-relative paths, templates, options, tool version), `a`
is the ambient state (clock, absolute location / cwd, platform, hash seed, random numbers, process state).  A leaf
sees `a` only through the source classes the translator found for it, minus the classes removed by sanitisers
(`.name`, `sort`, the auditing-off platform dictionary); each sanitiser kind has its own theorem below.
-/
namespace NunavutVerif.C07
open NunavutVerif.Tpl NunavutVerif.Gen

/-- T1 noninterference: bodies that are closed under calls and in which every leaf reading an ambient class of
`cs` is under an auditing guard or behind a sanitiser render — with auditing off — to the same text for ANY two
ambient states that differ only in `cs`; for all interpretations, declared inputs, call depths, loop contexts. -/
theorem C07_noninterference {δ : Type} (cs : List Src) (I : Interp δ) (P : List Tpl) (S : List Nat)
    (hS : closedClean cs P S = true) (d : δ) (a₁ a₂ : Amb) (h : agreeOff cs a₁ a₂)
    (fuel m : Nat) (ls : List Nat) (hm : m ∈ S) :
    render I P false d a₁ fuel m ls = render I P false d a₂ fuel m ls :=
  render_ni I P S hS d h fuel m ls hm

/-- T1 for a generated table: if the static check passes for the roots of kind `k` of a language, every file of that
kind is the same function of the declared inputs whatever the clock, location, platform, hash seed and random state
are (the process state `Src.c10` held fixed; that is C10). -/
theorem C07_root_reproducible {δ : Type} (L : Lang) (k : FileKind) (hk : L.rootsCleanFor Src.c07 k = true)
    (r : Root) (hr : r ∈ L.roots) (hrk : r.kind = k) (m : Nat) (hb : r.body = some m)
    (I : Interp δ) (d : δ) (a₁ a₂ : Amb) (h : agreeOff Src.c07 a₁ a₂) (fuel : Nat) :
    render I L.program false d a₁ fuel m [] = render I L.program false d a₂ fuel m [] :=
  have ⟨hm, hS⟩ := Lang.rootsCleanFor_iff.mp hk r hr hrk m hb
  render_ni I L.program _ hS d h fuel m [] hm

/-! ### T2: the generated tables (each evaluated as a whole in `Lemmas/Tpl.lean`, for the classes of C07 and C10
together; the check is antitone in the classes, `Lang.cleanFor_mono`) -/

/-- c: every ambient leaf of every built-in and support template is guarded or sanitised. -/
theorem C07_c_clean : TplFlowsC.lang.cleanFor Src.c07 = true :=
  Lang.cleanFor_mono (List.subset_append_left _ _) TplFlowsC.lang_clean

theorem C07_cpp_clean : TplFlowsCpp.lang.cleanFor Src.c07 = true :=
  Lang.cleanFor_mono (List.subset_append_left _ _) TplFlowsCpp.lang_clean

theorem C07_html_clean : TplFlowsHtml.lang.cleanFor Src.c07 = true :=
  Lang.cleanFor_mono (List.subset_append_left _ _) TplFlowsHtml.lang_clean

/- py, full statement (FALSE for the code as it is):
     theorem C07_py_clean : TplFlowsPy.lang.cleanFor Src.c07 = true
   `filter_pickle` serialises the whole PyDSDL model of the type, and that model holds the absolute path of the
   `.dsdl` file (known finding `py-pickled-model-absolute-path`).  Proved: everything except that one cell
   (language py × per-type files × absolute location). -/
theorem C07_py_clean_partial :
    TplFlowsPy.lang.cleanFor [.time, .platform, .hashOrder, .random] = true ∧
    TplFlowsPy.lang.rootsCleanFor Src.c07 .namespace = true ∧
    TplFlowsPy.lang.rootsCleanFor Src.c07 .support = true :=
  have h := TplFlowsPy.lang_clean_except_type_cell
  ⟨Lang.cleanFor_mono (by decide) h.1, Lang.rootsCleanFor_mono (List.subset_append_left _ _) h.2.1,
    Lang.rootsCleanFor_mono (List.subset_append_left _ _) h.2.2.1⟩

/-- py, tightened: the ONLY expressions of the Python templates that read anything ambient with auditing off are the
applications of the `pickle` filter (the `_MODEL_` literal: `ServiceType.j2` and the `data_schema` macro of `base.j2`;
ids regenerated in `TplFlowsPy.pickleLeaves`).  With those leaves replaced by ANY ambient-independent function of the
same arguments the whole table — per-type, namespace and support files — is clean for every class of C07, i.e. by T1
every other byte of every generated Python file is reproducible. -/
theorem C07_py_clean_except_pickled_model_partial :
    (TplFlowsPy.lang.scrub TplFlowsPy.pickleLeaves).cleanFor Src.c07 = true :=
  Lang.cleanFor_mono (List.subset_append_left _ _) TplFlowsPy.lang_scrubbed_clean

/-- The exception is not empty, and c, cpp and html have none. -/
example : TplFlowsPy.pickleLeaves ≠ [] ∧ TplFlowsC.pickleLeaves = [] ∧ TplFlowsCpp.pickleLeaves = [] ∧
    TplFlowsHtml.pickleLeaves = [] := by decide

/-- The excluded cell really is dirty in the table (the model describes the code as it is). -/
example : TplFlowsPy.lang.rootsCleanFor [.absPath] .type = false := TplFlowsPy.lang_clean_except_type_cell.2.2.2.1

/-- Source facts the sanitisers of the tables rely on (read off the Python source by the translator):
`IncludeGenerator` sorts, the platform dictionary is reduced to the interpreter version when auditing is off, the HTML
natural sort breaks ties by the plain name (a non-injective key keeps the hash order of tied elements). -/
theorem C07_sanitiser_conditions :
    TplFlows.includeGeneratorSorts = true ∧ TplFlows.platformVersionAuditOffOnly = true ∧
    TplFlows.naturalSortTotal = true := by decide

/-! ### T3 and the other sanitisers -/

/-- T3: a sorted include list does not depend on the iteration order of the (hash-ordered) dependency set:
`sorted(map f l₁) = sorted(map f l₂)` whenever `l₁` is a permutation of `l₂`. -/
theorem C07_sorted_includes_order_independent {α : Type} (f : α → LineBuffer.Str) (l₁ l₂ : List α)
    (h : l₁.Perm l₂) : sortStrs (l₁.map f) = sortStrs (l₂.map f) :=
  sortStrs_perm_invariant (h.map f)

/-- `.name` of a path does not depend on the absolute location of the tree. -/
theorem C07_path_name_location_independent {α : Type} (loc₁ loc₂ rel : List α) (h : rel ≠ []) :
    (loc₁ ++ rel).getLast? = (loc₂ ++ rel).getLast? := by
  simp [List.getLast?_append, List.getLast?_eq_some_getLast h]

/-- A program with a guarded clock, a sanitised path and a recursive macro passes the check … -/
def exProgram : List Tpl :=
  [ .seq (.text 0) (.seq (.ite .audit (.out ⟨1, [.time], []⟩) (.out ⟨2, [.absPath], [.absPath]⟩)) (.call 1)),
    .loop ⟨3, [.hashOrder], [.hashOrder]⟩ (.seq (.out ⟨4, [], []⟩) (.call 1)) ]

example : closedClean Src.c07 exProgram [0, 1] = true := by decide

/-- … and really renders something that depends on the declared input. -/
def exInterp : Interp Nat where
  text := fun _ => "x".toList
  out := fun i d _ a => (toString (i + d + a .time)).toList
  cond := fun _ _ _ _ => true
  iter := fun _ d ls _ => if ls.length < 2 then [d] else []
  filt := fun _ _ _ _ s => s

example : render exInterp exProgram false 5 (fun _ => 7) 9 0 [] ≠ render exInterp exProgram false 6 (fun _ => 7) 9 0 [] := by
  decide +kernel

/-- F4 (c, cpp before the fix): the option `static_assert` message prints `T.source_file_path.as_posix()` outside the
auditing guard. -/
def cStaticAssertBeforeFix : List Tpl :=
  [ .loop ⟨0, [], []⟩ (.seq (.text 0) (.seq (.out ⟨1, [.absPath], []⟩) (.text 1))) ]

example : closedClean [.absPath] cStaticAssertBeforeFix [0] = false := by decide

/-- … and the output then does depend on the location: a concrete interpretation and two locations. -/
example : ∃ (I : Interp Unit) (a₁ a₂ : Amb), agreeOff [.absPath] a₁ a₂ ∧
    render I cStaticAssertBeforeFix false () a₁ 1 0 [] ≠ render I cStaticAssertBeforeFix false () a₂ 1 0 [] := by
  refine ⟨⟨fun _ => [], fun _ _ _ a => (toString (a .absPath)).toList, fun _ _ _ _ => true, fun _ _ _ _ => [0],
           fun _ _ _ _ s => s⟩,
          fun _ => 1, fun s => if s = .absPath then 2 else 1, ?_, by decide⟩
  intro s hs
  have hne : s ≠ .absPath := fun e => by simp [e] at hs
  simp [hne]

/-- F5 (py before the fix): `Namespace.j2` prints `now_utc` unguarded; `filter_pickle` embeds the gzip mtime. -/
def pyNamespaceBeforeFix : List Tpl := [ .seq (.text 0) (.seq (.out ⟨0, [.time], []⟩) (.text 1)) ]
def pyPickleBeforeFix : List Tpl := [ .out ⟨0, [.time, .absPath], []⟩ ]

example : closedClean [.time] pyNamespaceBeforeFix [0] = false := by decide
example : closedClean [.time] pyPickleBeforeFix [0] = false := by decide

/-- Sorting really is needed and really works: two iteration orders of the same dependency set. -/
example : sortStrs ["b.h".toList, "a.h".toList, "c.h".toList] = sortStrs ["c.h".toList, "b.h".toList, "a.h".toList] :=
  sortStrs_perm_invariant (by decide +kernel)

/-- Every filter, test and global registered in the real template environments of c, cpp, py and html — whether a
built-in template uses it or not, `ln.<language>.*` aliases and the filters contributed by `@template_language_filter`
& co. included — is classified (hand table for Jinja's own and for opaque values, scan of the Python body for nunavut
code), and none reads the clock, an absolute path, the platform, a hash order or a random source, except the expected
names of `Tpl.expectedAmbient` with no more than their expected classes.  A newly registered or newly ambient name
breaks this theorem and is listed in the replay. -/
theorem C07_registered_callables_as_expected :
    TplCallables.unclassified = [] ∧
    TplCallables.all.all (fun L => L.2.all (Callable.asExpected Src.c07)) = true :=
  TplCallables.all_asExpected_of_subset (List.subset_append_left _ _)

/-- Non-vacuity: the table is not empty and the expected names are really there and really ambient. -/
example : TplCallables.all.all (fun L => L.2.length > 200) = true ∧
    TplCallables.c.any (fun c => c.short = "now_utc" && c.effective.contains .time) = true ∧
    TplCallables.py.any (fun c => c.short = "pickle" && c.effective.contains .absPath) = true := by decide +kernel

/-- Nothing but the command line, the documented environment variables (`DSDL_INCLUDE_PATH`, `CYPHAL_PATH`) and the
package itself is looked at by the command line, the runners, the language configuration, the generators and the
post-processors: no path spelled as a string constant relative to the working directory (`Path("nunavut.yaml")`), no
working / home directory, no other environment variable, no temporary-file name, no random source.  (Regenerated AST
scan of the whole package, bundled third-party code excluded; a hit is listed by file and line in the replay.) -/
theorem C07_no_undeclared_ambient_inputs_in_source : TplFlows.noUndeclaredAmbientInputs = true := by decide

/-- The override files of `--configuration` / `LanguageContextBuilder.add_config_files` are read in the order they are given
(a later file wins), not in an order derived from how their paths are spelled: the same files in the same order give
the same configuration from every working directory and at every location.  (Source fact, regenerated.) -/
theorem C07_config_files_read_in_given_order_in_source : TplFlows.configFilesReadInGivenOrder = true := by decide

/-- `ExternalProgramEditInPlace.__call__` / `SetFileMode.__call__` / the command line's list builder are the statements
`Model/FilePP.lean` was transcribed from, and no file post-processor writes object state. -/
theorem C07_file_pp_model_matches_source :
    TplFlows.filePPSourceMatchesModel = true ∧ TplFlows.filePPCallsPure = true ∧
    TplFlows.generatorRunsFilePPsOnceInOrder = true := by decide

section ExternalProgram
open NunavutVerif.FilePP

/-- Every invocation of the external program (`--pp-run-program`, `ExternalProgramEditInPlace`) for an output file ends
with THE REAL PATH OF THAT OUTPUT FILE, and every word before it is `sys.executable` or a word of a configured command
line (the exact shape is `FilePP.runArgs`: the object's own command line, `sys.executable` in front iff the program's
name ends in `.py`; spelled out for the list the command line builds in `C10.C10_cli_file_pp_sequence`): the program is
never shown a scratch name, a time stamp or anything else that is not a declared input — so a deterministic program
that uses the name it is given (include-guard fixer, banner script) is given the same name in every run.  For every
list of built-in post-processors and every file. -/
theorem C07_external_program_given_real_output_path (py : LineBuffer.Str) (ren : Nat → LineBuffer.Str → LineBuffer.Str)
    (objs : List Obj) (hb : builtinOnly objs = true) (j : FilePP.Job) (argv : Argv) (chk : Bool)
    (h : Event.exec argv chk ∈ (fileEvents (callReal py ren) objs j).1) :
    argv.getLast? = some j.path ∧ ∀ a ∈ argv.dropLast, a = py ∨ a ∈ cfgArgs objs := by
  have := fileEvents_builtin_events py ren objs j hb _ h
  exact ⟨this.1, fun a ha => List.mem_cons.mp (this.2 a ha)⟩

/-- The post-processed file (bytes and permission bits) is a function of the rendered text, the configured
post-processors, the output path and what the program does with the files it is given: it is the same from any two
file systems that agree on the file itself, the interpreter and the configured arguments — whatever else lies around
(scratch files, other outputs, the working directory). -/
theorem C07_post_processed_file_function_of_declared_inputs (prog : Prog) (ren : Nat → LineBuffer.Str → LineBuffer.Str)
    (defMode : Nat) (py : LineBuffer.Str) (objs : List Obj) (hb : builtinOnly objs = true)
    (hF : prog.EditsLastOnly (py :: cfgArgs objs)) (hL : prog.Local) (j : FilePP.Job) (fs₁ fs₂ : FS)
    (hagree : ∀ q, (q = j.path ∨ q ∈ py :: cfgArgs objs) → fs₁.get q = fs₂.get q) :
    (fileWorld prog ren defMode (callReal py ren) objs j fs₁).fs.get j.path =
      (fileWorld prog ren defMode (callReal py ren) objs j fs₂).fs.get j.path ∧
    (fileWorld prog ren defMode (callReal py ren) objs j fs₁).err =
      (fileWorld prog ren defMode (callReal py ren) objs j fs₂).err := by
  have hev := fileEvents_builtin_events py ren objs j hb
  have := interp_local (ren := ren) (dm := defMode) (py :: cfgArgs objs) hF hL (fileEvents (callReal py ren) objs j).1
    ⟨fs₁, [], none⟩ ⟨fs₂, [], none⟩ j.path hev ⟨rfl, hagree⟩
  exact ⟨this.2 j.path (Or.inl rfl), this.1⟩

/-- What the theorem excludes: were the program run on a scratch copy with a name chosen at random, a program that
writes the base name it is given into the file would produce other bytes for other random names (the model of such a
call, `exec (cmd ++ [scratch])`, differs from the code's `exec (cmd ++ [output path])` in exactly the last argument). -/
example : (fileEvents (callReal [] fun _ p => p) [.ext [['t']] true] ⟨.generate, ['o', '.', 'h'], [], true⟩).1 =
    [.overwrite ['o', '.', 'h'] true, .write ['o', '.', 'h'] [] [], .exec [['t'], ['o', '.', 'h']] true] := by decide +kernel

end ExternalProgram

end NunavutVerif.C07
