import NunavutVerif.Lemmas.DsdlAdjust
import NunavutVerif.Lemmas.DsdlRoundTrip
import NunavutVerif.Lemmas.DsdlBytes
/-!
# C03 — round trip and re-serialization (specification level)

Property theorems only; definitions in `Model/Dsdl.lean`, proofs of the inductions in `Lemmas/Dsdl*.lean`.
Quantifiers: all well-formed types `t` (`wf`: PyDSDL's side conditions), all in-memory values `v` the
serializer accepts (no sampling: structural induction over the type), all continuations of the data.

The cross-target / cross-option half of C03 needs no theorem of its own: every target and option set is
compared with this one model (`harness`), so agreement with the model is agreement with each other.
-/
namespace NunavutVerif.Dsdl

/-- Round trip, nested position, with arbitrary data following: decoding what the serializer produced
returns the cast-adjusted value and consumes exactly the produced bits. -/
theorem C03_round_trip_bits (t : Ty) (hw : wf t = true) (v : Val) (bs rest : List Bool)
    (hs : serBits t v = .ok bs) :
    deBits t (bs ++ rest) = .ok (castAdjust t v, bs.length) :=
  rtOK t hw v bs hs rest

/-- Round trip of a top-level object (no delimiter header), with arbitrary trailing data. -/
theorem C03_round_trip_top (t : Ty) (hw : wf t = true) (v : Val) (bs rest : List Bool)
    (hs : serTop t v = .ok bs) :
    deTop t (bs ++ rest) = .ok (castAdjust t v, bs.length) := by
  simp only [deTop, rtOK (topInner t) (wf_topInner hw) v bs hs rest, castAdjust_topInner,
    List.length_append, Nat.min_eq_left (Nat.le_add_right ..)]

/-- Round trip on bytes, with arbitrary trailing bytes: the decoded value is the cast-adjusted value and
the reported consumed size is the size of the serialized representation. -/
theorem C03_round_trip_bytes (t : Ty) (hw : wf t = true) (v : Val) (bytes extra : List Nat)
    (hs : serBytes t v = .ok bytes) :
    deBytes t (bytes ++ extra) = .ok (castAdjust t v, bytes.length) := by
  obtain ⟨bs, hb, rfl⟩ := map_eq_ok.1 hs
  unfold deBytes
  rw [unpackBytes_append, unpack_pack, List.append_assoc,
    C03_round_trip_top t hw v bs _ hb, packBytes_length]

/-- Re-serialization is identical: the cast-adjusted value has the same representation (and the same
rejection) as the original one. -/
theorem C03_reserialize_identical (t : Ty) (hw : wf t = true) (v : Val) :
    serBits t (castAdjust t v) = serBits t v :=
  (adjOK t hw v).1

theorem C03_reserialize_identical_bytes (t : Ty) (hw : wf t = true) (v : Val) :
    serBytes t (castAdjust t v) = serBytes t v := by
  unfold serBytes serTop
  rw [← castAdjust_topInner, (adjOK (topInner t) (wf_topInner hw) v).1]

/-- Cast adjustment is idempotent: what a round trip returns is a fixed point of the round trip. -/
theorem C03_castAdjust_idempotent (t : Ty) (hw : wf t = true) (v : Val) :
    castAdjust t (castAdjust t v) = castAdjust t v :=
  (adjOK t hw v).2

/-- Serialize, deserialize, serialize again: identical bytes. -/
theorem C03_ser_de_ser (t : Ty) (hw : wf t = true) (v v' : Val) (bytes : List Nat) (n : Nat)
    (hs : serBytes t v = .ok bytes) (hd : deBytes t bytes = .ok (v', n)) :
    serBytes t v' = .ok bytes ∧ n = bytes.length := by
  have h := C03_round_trip_bytes t hw v bytes [] hs
  rw [List.append_nil, hd] at h
  cases h
  exact ⟨by rw [C03_reserialize_identical_bytes t hw v, hs], rfl⟩

/-- The primitive laws underneath, stated on their own: unsigned and signed casts are idempotent through
the wire, float narrowing (round to nearest even, saturated or truncated) is stable under exact widening. -/
theorem C03_primitive_casts_stable (n : Nat) (m : Cast) :
    (∀ i, castU n m (castU n m i : Int) = castU n m i) ∧
    (1 ≤ n → ∀ i, castS n m (signExtend n (castS n m i)) = castS n m i) ∧
    (n = 16 ∨ n = 32 ∨ n = 64 → ∀ x, narrow n m (widen n (narrow n m x)) = narrow n m x) :=
  ⟨castU_idem n m, fun h => castS_idem h m, fun h => narrow_widen_narrow h m⟩

/-- `{uint3 a; truncated uint5 b; int4 c; float16 e; Inner[<=2] d; Uni u}` with a delimited `Inner`. -/
def exTy : Ty :=
  .struct [.uint 3 .sat, .uint 5 .trunc, .sint 4 .sat, .float 16 .sat,
    .varr (.delim 64 (.struct [.uint 8 .sat, .varr (.uint 8 .sat) 3])) 2,
    .union [.bool, .arr (.sint 12 .sat) 2]]

/-- Out-of-range members: 9 saturates to 7, 33 truncates to 1, -100 saturates to -8, 65536.0 to 65504.0. -/
def exVal : Val :=
  .struct [.int 9, .int 33, .int (-100), .float 0x40F0000000000000,
    .arr [.struct [.int 255, .arr [.int 1, .int 2]]],
    .union 1 (.arr [.int (-5), .int 4000])]

example : wf exTy = true := by decide +kernel
example : hasTy exTy exVal = true := by decide +kernel

example : serBytes exTy exVal =
    .ok [0x0f, 0xf8, 0xbf, 0x07, 0x01, 0x04, 0, 0, 0, 0xff, 0x02, 0x01, 0x02, 0x01, 0xfb, 0xff, 0x7f] := by
  decide +kernel

example : castAdjust exTy exVal =
    .struct [.int 7, .int 1, .int (-8), .float 0x40EFFC0000000000,
      .arr [.struct [.int 255, .arr [.int 1, .int 2]]],
      .union 1 (.arr [.int (-5), .int 2047])] := by decide +kernel

example : deBytes exTy
    [0x0f, 0xf8, 0xbf, 0x07, 0x01, 0x04, 0, 0, 0, 0xff, 0x02, 0x01, 0x02, 0x01, 0xfb, 0xff, 0x7f, 0xAA] =
    .ok (castAdjust exTy exVal, 17) := by decide +kernel

end NunavutVerif.Dsdl
