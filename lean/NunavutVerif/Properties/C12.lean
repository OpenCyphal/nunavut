import NunavutVerif.Lemmas.Overwrite
import NunavutVerif.Lemmas.OverwriteCli
/-!
# C12 — regeneration over existing output is safe for every history of runs

Statement 1 (overwriting allowed): a successful run leaves each of its files with the content and the requested mode the same
run leaves in an empty directory, also over read-only leftovers.  Statement 2 (`--no-overwrite`): a run changes no file that
existed before it and reports the conflict as an error.

Quantifiers: every environment (root or plain owner, every umask), every initial file system (any files with
any content and any mode at any path: foreign files, read-only leftovers of earlier runs), every run (any list
of output files incl. duplicates, any file post-processor list, `--no-overwrite` or not, templates and external
programs that may fail), every history (list of runs; a run starts from whatever the previous one left,
failed or not).

Hypothesis named in the property: the content a run renders for a file is a function of the run (its inputs
and flags) — `Write.content` is a field of the run, not of the file system.  That is reproducibility (C07/C10).
-/
namespace NunavutVerif.Overwrite

/-- Every path outside the run's output list is exactly as before — whatever the flags, whether the run
succeeds or fails, whatever the initial file system. -/
theorem C12_untouched_outside_outputs (env : Env) (r : Run) (fs : FS) (p : Path) (hp : p ∉ r.paths) :
    (runRun env r fs).fs p = fs p :=
  runWrites_frame hp

/-- Every operation of a run is on one of its own output paths. -/
theorem C12_ops_only_on_outputs (env : Env) (r : Run) (fs : FS) :
    ∀ op ∈ (runRun env r fs).ops, op.path ∈ r.paths :=
  fun op hop => (runWrites_ops _ _ _ _ _ op hop).1

/-- The `chmod` is what makes the open succeed: over an existing file — whatever its mode, root or not —
the operations are `chmod(mode | 0o220)`, `mkdir -p`, a successful truncating `open`, in this order, and the
mode set by that `chmod` carries the owner's write bit.  The only errors left are a failing template or
post-processor. -/
theorem C12_chmod_before_open (env : Env) (pps : List FilePP) (w : Write) (fs : FS) (f : File)
    (h : fs w.path = some f) :
    ownerWrite (addWriteBits f.mode) = true ∧
    (∃ rest, (writeFile env true pps w fs).ops =
      .chmod w.path (addWriteBits f.mode) :: .mkdirs w.path :: .openW w.path :: rest) ∧
    (∀ e, (writeFile env true pps w fs).err = some e → e = .render w.path ∨ ∃ i, e = .pp w.path i) := by
  refine ⟨ownerWrite_addWriteBits _, ?_, ?_⟩
  · rw [writeFile_eq, if_neg (by simp [refused]), h]
    exact ⟨_, rfl⟩
  · intro e he; rw [writeFile_allow_err] at he; exact afterErr_kind _ _ _ he

/-- `open` never fails for want of the write bit, and the gate never refuses: with overwriting allowed the
error of a run does not depend on the file system at all (it is the first failing template / external
program, if any), no operation of the run is a denied open. -/
theorem C12_overwrite_open_never_denied (env : Env) (r : Run) (fs : FS) (h : r.allowOverwrite = true) :
    (∀ fs', (runRun env r fs).err = (runRun env r fs').err) ∧
    (∀ p, (runRun env r fs).err ≠ some (.eacces p) ∧ (runRun env r fs).err ≠ some (.conflict p)) ∧
    (∀ op ∈ (runRun env r fs).ops, op.isDenied = false) := by
  unfold runRun; rw [h]
  refine ⟨fun fs' => by rw [runWrites_allow_err, runWrites_allow_err], fun p => ?_,
    fun op hop => (runWrites_ops _ _ _ _ _ op hop).2⟩
  rw [runWrites_allow_err]
  constructor <;> intro he <;>
    rcases findSome_afterErr_kind _ _ _ he with ⟨q, hq⟩ | ⟨q, i, hq⟩ <;> cases hq

/-- A run in which no template and no external program fails succeeds over *every* file system. -/
theorem C12_overwrite_total_succeeds (env : Env) (r : Run) (fs : FS) (h : r.allowOverwrite = true)
    (ht : r.total) : (runRun env r fs).err = none := by
  unfold runRun; rw [h, runWrites_allow_ok_iff]
  intro w hw; exact (afterErr_none_iff _ _).mpr (ht w hw)

/-- Independence of the prior state: the same run over two arbitrary file systems; if one succeeds so does
the other, and every output path then holds the same content in both and — when a `SetFileMode` is among
the post-processors, which the CLI guarantees — the same mode. -/
theorem C12_overwrite_independent_of_prior_state (env : Env) (r : Run) (fsA fsB : FS)
    (h : r.allowOverwrite = true) (hok : (runRun env r fsA).err = none) :
    (runRun env r fsB).err = none ∧
    ∀ p ∈ r.paths, FS.agreeAt (hasSetMode r.filePPs) (runRun env r fsA).fs (runRun env r fsB).fs p := by
  unfold runRun at hok ⊢; rw [h, runWrites_allow_ok_iff] at hok ⊢
  refine ⟨hok, fun p hp => ?_⟩
  -- both runs leave what the last writer of `p` leaves, after opens with possibly different modes
  obtain ⟨w, hw, _, hlast⟩ := runWrites_allow_last env r.filePPs r.writes hok p hp
  obtain ⟨m₁, h₁⟩ := hlast fsA
  obtain ⟨m₂, h₂⟩ := hlast fsB
  exact ⟨_, _, h₁, h₂, afterFile_rel r.filePPs w m₁ m₂ (hok w hw)⟩

/-- Statement 1 for one run: after a successful run over *any* file system every file of the run has the
content and (if a file mode was requested) the mode that the same run leaves in an empty directory. -/
theorem C12_overwrite_matches_fresh (env : Env) (r : Run) (fs : FS)
    (h : r.allowOverwrite = true) (hok : (runRun env r fs).err = none) :
    (runRun env r FS.empty).err = none ∧
    ∀ p ∈ r.paths, FS.agreeAt (hasSetMode r.filePPs) (runRun env r fs).fs (runRun env r FS.empty).fs p :=
  C12_overwrite_independent_of_prior_state env r fs FS.empty h hok

/-- … and the mode is the requested one: `SetFileMode fm` is the last post-processor (that is where the CLI
puts it), so it wins over whatever mode the external programs before it left behind — a program may edit in
place, replace the file by a new inode with another mode, or `chmod` it. -/
theorem C12_overwrite_requested_mode (env : Env) (r : Run) (fs : FS) (fm : Nat)
    (h : r.allowOverwrite = true) (hok : (runRun env r fs).err = none)
    (hfm : requestedMode r.filePPs = some fm) :
    ∀ p ∈ r.paths, ∃ f, (runRun env r fs).fs p = some f ∧ f.mode = permBits fm := by
  unfold runRun at hok ⊢; rw [h] at hok ⊢
  rw [runWrites_allow_ok_iff] at hok
  intro p hp
  obtain ⟨w, hw, _, hlast⟩ := runWrites_allow_last env r.filePPs r.writes hok p hp
  obtain ⟨m, hm⟩ := hlast fs
  exact ⟨_, hm, afterFile_mode r.filePPs w m fm hfm (hok w hw)⟩

/-- … and the content is the run's own: what the run renders for the file, passed through the run's external
programs (paths of one run are distinct: C11). -/
theorem C12_overwrite_content (env : Env) (r : Run) (fs : FS)
    (h : r.allowOverwrite = true) (hok : (runRun env r fs).err = none) (nodup : r.paths.Nodup) :
    ∀ w ∈ r.writes, ∃ f, (runRun env r fs).fs w.path = some f ∧
      ppContent r.filePPs w.content = some f.content := by
  unfold runRun at hok ⊢; rw [h] at hok ⊢
  exact runWrites_allow_content env r.filePPs r.writes fs nodup hok

/-- Every path that existed before the run keeps content and mode — whether the run fails or not. -/
theorem C12_no_overwrite_preserves_existing (env : Env) (r : Run) (fs : FS) (h : r.allowOverwrite = false) :
    ∀ p f, fs p = some f → (runRun env r fs).fs p = some f := by
  unfold runRun; rw [h]; exact runWrites_noow_preserved _ _ _ _

/-- … and is not even operated on: no `chmod`, no open, no external program on a path that existed (the check
comes before the truncating open). -/
theorem C12_no_overwrite_never_touches_existing (env : Env) (r : Run) (fs : FS)
    (h : r.allowOverwrite = false) : ∀ op ∈ (runRun env r fs).ops, fs op.path = none := by
  unfold runRun; rw [h]; exact runWrites_noow_ops _ _ _ _

/-- If one of the outputs is already there the run fails (whatever else it contains). -/
theorem C12_no_overwrite_conflict_fails (env : Env) (r : Run) (fs : FS) (h : r.allowOverwrite = false)
    (hc : ∃ p ∈ r.paths, (fs p).isSome = true) : (runRun env r fs).err ≠ none := by
  unfold runRun; rw [h]
  apply runWrites_noow_conflict_fails
  obtain ⟨p, hp, hs⟩ := hc
  obtain ⟨w, hw, rfl⟩ := List.mem_map.mp hp
  exact ⟨w, hw, hs⟩

/-- A reported conflict is genuine: it names an output of the run that was there before the run
(paths of one run distinct). -/
theorem C12_no_overwrite_conflict_sound (env : Env) (r : Run) (fs : FS) (h : r.allowOverwrite = false)
    (nodup : r.paths.Nodup) (p : Path) (he : (runRun env r fs).err = some (.conflict p)) :
    p ∈ r.paths ∧ (fs p).isSome = true := by
  unfold runRun at he; rw [h, runWrites_err _ _ _ _ _ (.inr nodup)] at he
  obtain ⟨w, hw, he⟩ := List.exists_of_findSome?_eq_some he
  split at he
  · rename_i hs
    obtain rfl : w.path = p := by injection he with he; injection he
    exact ⟨List.mem_map_of_mem hw, hs⟩
  · -- a template or post-processor never reports a conflict
    rcases afterErr_kind _ _ _ he with he | ⟨_, he⟩ <;> cases he

/-- The run fails iff one of its outputs pre-exists, and the error is the conflict on the first such output in
generation order (run with distinct paths whose templates/programs do not fail; `open` cannot fail: what is
opened is created). -/
theorem C12_no_overwrite_fails_iff_conflict (env : Env) (r : Run) (fs : FS) (h : r.allowOverwrite = false)
    (nodup : r.paths.Nodup) (ht : r.total) :
    ((runRun env r fs).err ≠ none ↔ ∃ p ∈ r.paths, (fs p).isSome = true) ∧
    (runRun env r fs).err =
      (r.writes.find? (fun w => (fs w.path).isSome)).map (fun w => Err.conflict w.path) := by
  have hex : (runRun env r fs).err =
      (r.writes.find? (fun w => (fs w.path).isSome)).map (fun w => Err.conflict w.path) := by
    unfold runRun; rw [h]
    exact runWrites_noow_err env r.filePPs r.writes fs nodup
      (fun w hw => (afterErr_none_iff _ _).mpr (ht w hw))
  refine ⟨⟨fun hne => ?_, C12_no_overwrite_conflict_fails env r fs h⟩, hex⟩
  rw [hex] at hne
  cases hf : r.writes.find? (fun w => (fs w.path).isSome) with
  | none => rw [hf] at hne; simp at hne
  | some w =>
    exact ⟨w.path, List.mem_map_of_mem (List.mem_of_find?_eq_some hf), by
      simpa using List.find?_some hf⟩

/-- Files generated *before* the conflicting one are created (new files are allowed): the run stops at the
conflict, and the file system is the one the overwriting run of the preceding files alone leaves. -/
theorem C12_no_overwrite_new_files_before_conflict (env : Env) (pps : List FilePP)
    (pre post : List Write) (w : Write) (fs : FS) (f : File)
    (nodup : ((pre ++ w :: post).map Write.path).Nodup)
    (hnew : ∀ w' ∈ pre, fs w'.path = none) (hold : fs w.path = some f)
    (hpre : (runRun env ⟨true, pps, pre⟩ fs).err = none) :
    (runRun env ⟨false, pps, pre ++ w :: post⟩ fs).err = some (.conflict w.path) ∧
    (runRun env ⟨false, pps, pre ++ w :: post⟩ fs).fs = (runRun env ⟨true, pps, pre⟩ fs).fs := by
  unfold runRun at hpre ⊢
  simp only at hpre ⊢
  have nd : (pre.map Write.path).Nodup := by
    rw [List.map_append] at nodup; exact (List.nodup_append.mp nodup).1
  have hnotin : w.path ∉ pre.map Write.path := by
    rw [List.map_append, List.map_cons] at nodup
    intro hin
    exact (List.nodup_append.mp nodup).2.2 _ hin _ (List.mem_cons_self ..) rfl
  have heq := runWrites_noow_eq_allow env pps pre fs nd hnew
  have hstill : (runWrites env true pps pre fs).fs w.path = some f := by
    rw [runWrites_frame hnotin]; exact hold
  rw [runWrites_append, heq, hpre]
  simp only
  simp [runWrites, writeFile_eq, refused, hstill]

/-- Into a directory that holds none of the (distinct) outputs, `--no-overwrite` makes no difference. -/
theorem C12_no_overwrite_clean_same_as_overwrite (env : Env) (pps : List FilePP) (ws : List Write) (fs : FS)
    (nodup : (ws.map Write.path).Nodup) (hnew : ∀ w ∈ ws, fs w.path = none) :
    runRun env ⟨false, pps, ws⟩ fs = runRun env ⟨true, pps, ws⟩ fs :=
  runWrites_noow_eq_allow env pps ws fs nodup hnew

/-- Statement 1 over every history and every initial file system: at every step `(before, r, o)` of the
history — whatever runs came earlier, failed ones and other flags included — a successful overwriting run
leaves each of its files with the content and requested mode of the same run into an empty directory, leaves
everything else as it was before the step, and never had an open denied. -/
theorem C12_history_overwrite (env : Env) (hist : List Run) (fs₀ : FS) :
    ∀ s ∈ runHistory env hist fs₀, s.2.1.allowOverwrite = true → s.2.2.err = none →
      (runRun env s.2.1 FS.empty).err = none ∧
      (∀ p ∈ s.2.1.paths, FS.agreeAt (hasSetMode s.2.1.filePPs) s.2.2.fs (runRun env s.2.1 FS.empty).fs p) ∧
      (∀ fm, requestedMode s.2.1.filePPs = some fm →
        ∀ p ∈ s.2.1.paths, ∃ f, s.2.2.fs p = some f ∧ f.mode = permBits fm) ∧
      (∀ p, p ∉ s.2.1.paths → s.2.2.fs p = s.1 p) ∧
      (∀ op ∈ s.2.2.ops, op.isDenied = false) := by
  intro s hs hallow hok
  rw [runHistory_step env hist fs₀ s hs] at hok ⊢
  have h1 := C12_overwrite_matches_fresh env s.2.1 s.1 hallow hok
  exact ⟨h1.1, h1.2, fun fm hfm => C12_overwrite_requested_mode env s.2.1 s.1 fm hallow hok hfm,
    fun p hp => C12_untouched_outside_outputs env s.2.1 s.1 p hp,
    (C12_overwrite_open_never_denied env s.2.1 s.1 hallow).2.2⟩

/-- An overwriting run that cannot fail by itself never fails at any point of any history. -/
theorem C12_history_overwrite_succeeds (env : Env) (hist : List Run) (fs₀ : FS) :
    ∀ s ∈ runHistory env hist fs₀, s.2.1.allowOverwrite = true → s.2.1.total → s.2.2.err = none := by
  intro s hs hallow ht
  rw [runHistory_step env hist fs₀ s hs]
  exact C12_overwrite_total_succeeds env s.2.1 s.1 hallow ht

/-- Statement 2 over every history and every initial file system: at every `--no-overwrite` step everything
that existed before the step is unchanged and not operated on, whether the step fails or not; it fails if an
output pre-exists; and (distinct paths, nothing else failing) only then, with the conflict as the error. -/
theorem C12_history_no_overwrite (env : Env) (hist : List Run) (fs₀ : FS) :
    ∀ s ∈ runHistory env hist fs₀, s.2.1.allowOverwrite = false →
      (∀ p f, s.1 p = some f → s.2.2.fs p = some f) ∧
      (∀ op ∈ s.2.2.ops, s.1 op.path = none) ∧
      ((∃ p ∈ s.2.1.paths, (s.1 p).isSome = true) → s.2.2.err ≠ none) ∧
      (s.2.1.paths.Nodup → s.2.1.total →
        (s.2.2.err ≠ none ↔ ∃ p ∈ s.2.1.paths, (s.1 p).isSome = true) ∧
        s.2.2.err = (s.2.1.writes.find? (fun w => (s.1 w.path).isSome)).map (fun w => Err.conflict w.path)) := by
  intro s hs hno
  rw [runHistory_step env hist fs₀ s hs]
  exact ⟨C12_no_overwrite_preserves_existing env s.2.1 s.1 hno,
    C12_no_overwrite_never_touches_existing env s.2.1 s.1 hno,
    C12_no_overwrite_conflict_fails env s.2.1 s.1 hno,
    fun nd ht => C12_no_overwrite_fails_iff_conflict env s.2.1 s.1 hno nd ht⟩

/-! `Model/CliParse.lean` (argument parser + runner glue, tables regenerated from the real `argparse` object and from
cli/runners.py) and `Model/OverwriteCli.lean`: what `--no-overwrite`, `--dry-run`, `--file-mode` and the post-processor
options become on their way to the two generators.  Quantifier: every argument vector the parser accepts. -/

section cli
open NunavutVerif.CliParse NunavutVerif.Gen.CliArgs NunavutVerif.OverwriteCli

/-- The same gate for support files as for type files: for every accepted command line, the `generate_all` calls of
`ArgparseRunner._generate` — the support generator first (iff `_should_generate_support()`), then the type generator (iff
`--generate-support` is not `only`) — receive identical keyword values: `allow_overwrite` is `False` exactly when
`--no-overwrite` was given, `is_dryrun` is `True` exactly when `--dry-run` was given. -/
theorem C12_cli_same_gate_for_support_and_types (argv : List String) (ns : Namespace) (a : Cli.Args) (cs : List Call)
    (hp : parseArgv argv = .ok ns) (hc : callsOf calls "_generate" a ns = some cs) :
    ∃ steps, stepsOf actions argv = some steps ∧
      cs.map (·.target) = (if Cli.shouldGenerateSupport a then ["_support_generator"] else []) ++
                           (if a.genSupport != .only then ["_generator"] else []) ∧
      ∀ c ∈ cs, c.fn = "generate_all" ∧
        c.kwargs = generateKw (steps.any (Step.takes "dry_run")) (steps.any (Step.takes "no_overwrite"))
          (steps.any (Step.takes "omit_serialization_support")) (steps.any (Step.takes "embed_auditing_info")) ∧
        boolKw c "allow_overwrite" = some (!steps.any (Step.takes "no_overwrite")) ∧
        boolKw c "is_dryrun" = some (steps.any (Step.takes "dry_run")) := by
  obtain ⟨steps, hs, _⟩ := parse_ok tableOk_actions hp
  obtain rfl := generate_calls hp hs a hc
  refine ⟨steps, hs, ?_, ?_⟩
  · rw [List.map_map]; exact List.map_id _
  · intro c hc
    obtain ⟨t, _, rfl⟩ := List.mem_map.1 hc
    exact ⟨rfl, rfl, boolKw_generateCall steps t⟩

/-- `SetFileMode(--file-mode)` is the last file post-processor of every accepted command line, whatever `--pp-…` options
come with it; everything before it is an external program.  With an integer that fits a C `int`, the hypothesis
`requestedMode … = some fm` of the theorems above holds with `fm = file_mode & 07777`. -/
theorem C12_cli_set_file_mode_last (argv : List String) (ns : Namespace) (pps : List PP)
    (prog : List Scalar → Content → Option (Content × Option Nat))
    (hp : parseArgv argv = .ok ns) (hb : buildPPs ns ppRules = some pps) :
    ∃ pre v, toFilePPs prog pps = pre ++ [setFileModePP v] ∧ ns.lookup "file_mode" = some v ∧
      (∀ f ∈ pre, ∃ g, f = .edit g) ∧
      ((∃ i, v = .sc (.int i)) ∨ (∃ l, v = .list l)) ∧
      (∀ i : Int, v = .sc (.int i) → -2147483648 ≤ i → i < 2147483648 →
        requestedMode (toFilePPs prog pps) = some (i % 4096).toNat ∧ hasSetMode (toFilePPs prog pps) = true) := by
  obtain ⟨pre, v, rfl, hv, hpre⟩ := buildPPs_shape hb
  have hsplit : toFilePPs prog (pre ++ [.setFileMode v]) = toFilePPs prog pre ++ [setFileModePP v] := by
    rw [toFilePPs_append]; rfl
  refine ⟨toFilePPs prog pre, v, hsplit, hv, toFilePPs_no_setMode prog pre hpre, parsed_file_mode hp hv, ?_⟩
  · intro i hi h1 h2
    subst hi
    rw [hsplit]
    have : setFileModePP (.sc (.int i)) = .setMode (i % 4096).toNat := by simp [setFileModePP, h1, h2]
    rw [this]
    exact ⟨requestedMode_eq_some_iff.mpr ⟨_, rfl⟩, hasSetMode_append_setMode _ _⟩

/-- Both generators are constructed with the same post-processor list object; `_handle_post_processors` of either one only
ever appends line post-processors: the file post-processors are the same for both, and running it a second time (the second
generator, on the list the first one left) changes nothing. -/
theorem C12_cli_augment_keeps_file_pps (limit : Option Val) (trimWs : Bool) (pps : List PP)
    (prog : List Scalar → Content → Option (Content × Option Nat)) :
    toFilePPs prog (augment limit trimWs pps) = toFilePPs prog pps ∧
    augment limit trimWs (augment limit trimWs pps) = augment limit trimWs pps :=
  ⟨toFilePPs_augment limit trimWs pps prog, augment_idem limit trimWs pps⟩

/-- A generating invocation is one `Run` of the overwrite model: for every accepted command line, what the (up to two)
`generate_all` calls do in sequence — each with its own `allow_overwrite` and `is_dryrun` — equals `runRun` of a single run
whose gate is "no `--no-overwrite` on the command line", whose file post-processors are those of the shared list, and whose
files are the support files followed by the type files (none when `--dry-run` was given). -/
theorem C12_cli_invocation_is_one_run (env : Env) (argv : List String) (ns : Namespace) (a : Cli.Args)
    (prog : List Scalar → Content → Option (Content × Option Nat)) (files : String → List Write) (parts : List Part)
    (fs : FS) (hp : parseArgv argv = .ok ns) (hparts : cliParts prog files a ns = some parts) :
    ∃ steps pps, stepsOf actions argv = some steps ∧ buildPPs ns ppRules = some pps ∧
      runParts env parts fs =
        runRun env ⟨!steps.any (Step.takes "no_overwrite"), toFilePPs prog pps, parts.flatMap (·.writes)⟩ fs ∧
      parts.flatMap (·.writes) =
        if steps.any (Step.takes "dry_run") then []
        else (if Cli.shouldGenerateSupport a then files "_support_generator" else []) ++
             (if a.genSupport != .only then files "_generator" else []) := by
  obtain ⟨steps, hs, _⟩ := parse_ok tableOk_actions hp
  obtain ⟨pps, hpps, hrun, hw⟩ := cliParts_one_run prog files a hp hs hparts
  exact ⟨steps, pps, hs, hpps, hrun env fs, hw⟩

/-- Statement 2 from the command line: `--no-overwrite` (in any spelling the parser resolves to it) ⇒ every path that
existed before the invocation keeps content and mode, whether the invocation fails or not, whatever the other options. -/
theorem C12_cli_no_overwrite_preserves_existing (env : Env) (argv : List String) (ns : Namespace) (a : Cli.Args)
    (prog : List Scalar → Content → Option (Content × Option Nat)) (files : String → List Write) (parts : List Part)
    (fs : FS) (hp : parseArgv argv = .ok ns) (hparts : cliParts prog files a ns = some parts)
    (steps : List Step) (hs : stepsOf actions argv = some steps) (hno : steps.any (Step.takes "no_overwrite") = true) :
    (∀ p f, fs p = some f → (runParts env parts fs).fs p = some f) ∧
    (∀ op ∈ (runParts env parts fs).ops, fs op.path = none) := by
  obtain ⟨pps, _, hrun, _⟩ := cliParts_one_run prog files a hp hs hparts
  rw [hrun, hno]
  exact ⟨C12_no_overwrite_preserves_existing env _ fs rfl, C12_no_overwrite_never_touches_existing env _ fs rfl⟩

/-- Statement 1 from the command line: no `--no-overwrite`, `--file-mode` an integer that fits a C `int` (the default
`0o444` does) ⇒ after a successful invocation over any file system every generated file has the mode `file_mode & 07777`
and the content and mode the same invocation leaves in an empty directory; no `open` was denied. -/
theorem C12_cli_overwrite_matches_fresh (env : Env) (argv : List String) (ns : Namespace) (a : Cli.Args)
    (prog : List Scalar → Content → Option (Content × Option Nat)) (files : String → List Write) (parts : List Part)
    (fs : FS) (hp : parseArgv argv = .ok ns) (hparts : cliParts prog files a ns = some parts)
    (steps : List Step) (hs : stepsOf actions argv = some steps) (hno : steps.any (Step.takes "no_overwrite") = false)
    (i : Int) (hfm : ns.lookup "file_mode" = some (.sc (.int i))) (h1 : -2147483648 ≤ i) (h2 : i < 2147483648)
    (hok : (runParts env parts fs).err = none) :
    (runParts env parts FS.empty).err = none ∧
    (∀ p ∈ parts.flatMap (fun x => x.writes.map Write.path), ∃ f g, (runParts env parts fs).fs p = some f ∧
      (runParts env parts FS.empty).fs p = some g ∧ f.content = g.content ∧ f.mode = g.mode ∧
      f.mode = (i % 4096).toNat % 4096) ∧
    (∀ op ∈ (runParts env parts fs).ops, op.isDenied = false) := by
  obtain ⟨pps, hpps, hrun, _⟩ := cliParts_one_run prog files a hp hs hparts
  obtain ⟨pre, v, hsplit, hv, _, _, hreq⟩ := C12_cli_set_file_mode_last argv ns pps prog hp hpps
  obtain rfl := Option.some.inj (hfm.symm.trans hv)
  obtain ⟨hrm, hsm⟩ := hreq i rfl h1 h2
  rw [hrun, hno] at hok ⊢
  rw [hrun, hno]
  obtain ⟨hf1, hf2⟩ := C12_overwrite_matches_fresh env _ fs rfl hok
  refine ⟨hf1, ?_, (C12_overwrite_open_never_denied env _ fs rfl).2.2⟩
  intro p hp
  have hp' : p ∈ (parts.flatMap (·.writes)).map Write.path := by simpa [List.map_flatMap] using hp
  obtain ⟨f, g, hf, hg, hc, hm⟩ := hf2 p hp'
  obtain ⟨f', hf', hmode⟩ := C12_overwrite_requested_mode env _ fs _ rfl hok hrm p hp'
  obtain rfl := Option.some.inj (hf.symm.trans hf')
  exact ⟨f, g, hf, hg, hc, hm hsm, by simpa [permBits] using hmode⟩

def nsOf : CliParse.Outcome → Namespace
  | .ok ns => ns
  | _ => []

/-- `--no-overwrite` (abbreviated), a post-processor program with an argument, a limit, `--file-mode 0o640`: the list both
generators receive, and its file post-processors — `SetFileMode` last. -/
example :
    buildPPs (nsOf (parseArgv ["--no-o", "-pp-rp", "fmt", "-pp-rpa=-i", "--pp-max-emptylines", "2", "--file-mode", "0o640"])) ppRules =
      some [.limitEmptyLines (.sc (.int 2)), .extProgram [.str "fmt", .str "-i"], .setFileMode (.sc (.int 416))] ∧
    requestedMode (toFilePPs (fun _ c => some (c, none))
      [.limitEmptyLines (.sc (.int 2)), .extProgram [.str "fmt", .str "-i"], .setFileMode (.sc (.int 416))]) = some 416 ∧
    buildPPs (nsOf (parseArgv [])) ppRules = some [.setFileMode (.sc (.int 292))] := by decide +kernel

/-- `--file-mode` values `os.chmod` takes or refuses: `-1` is `07777`, `2**31` raises, `--file-mode=--` leaves a list
(`TypeError`). -/
example :
    requestedMode [setFileModePP (.sc (.int (-1)))] = some 4095 ∧
    requestedMode [setFileModePP (.sc (.int 2147483648))] = none ∧
    (nsOf (parseArgv ["--file-mode=--"])).lookup "file_mode" = some (.list []) ∧
    requestedMode [setFileModePP (.list [])] = none := by
  decide +kernel

end cli

section Examples

/-- A plain owner (not root), umask 022. -/
def exEnv : Env := ⟨false, 0o644⟩

/-- A read-only leftover of an earlier run, a read-only foreign file, an unreadable leftover. -/
def exFS : FS :=
  ((FS.empty.set "t/A.h" ⟨"old A", 0o444⟩).set "README" ⟨"keep", 0o400⟩).set "t/B.h" ⟨"old B", 0⟩

def exRun (allow : Bool) : Run :=
  ⟨allow, [.edit (fun c => some (c ++ "!", some 0o600)), .setMode 0o100444],
   [⟨"s/ser.h", "S", true, none⟩, ⟨"t/A.h", "A", true, none⟩, ⟨"t/B.h", "B", true, none⟩]⟩

/-- Overwriting: succeeds over the read-only leftovers, new content, requested mode, foreign file intact. -/
example :
    (runRun exEnv (exRun true) exFS).err = none ∧
    (runRun exEnv (exRun true) exFS).fs "t/A.h" = some ⟨"A!", 0o444⟩ ∧
    (runRun exEnv (exRun true) exFS).fs "t/B.h" = some ⟨"B!", 0o444⟩ ∧
    (runRun exEnv (exRun true) exFS).fs "README" = some ⟨"keep", 0o400⟩ ∧
    (runRun exEnv (exRun true) exFS).ops.take 4 =
      [.mkdirs "s/ser.h", .openW "s/ser.h", .exec "s/ser.h" 0 (some 0o600), .chmod "s/ser.h" 0o444] ∧
    ((runRun exEnv (exRun true) exFS).ops.drop 4).take 3 =
      [.chmod "t/A.h" 0o664, .mkdirs "t/A.h", .openW "t/A.h"] := by
  decide +kernel

/-- `--no-overwrite`: the support file (new) is created, then the conflict on the first existing output;
the leftovers keep content and mode. -/
example :
    (runRun exEnv (exRun false) exFS).err = some (.conflict "t/A.h") ∧
    (runRun exEnv (exRun false) exFS).fs "s/ser.h" = some ⟨"S!", 0o444⟩ ∧
    (runRun exEnv (exRun false) exFS).fs "t/A.h" = some ⟨"old A", 0o444⟩ ∧
    (runRun exEnv (exRun false) exFS).fs "t/B.h" = some ⟨"old B", 0⟩ := by
  decide +kernel

/-- The hypotheses of the `--no-overwrite` iff are met by this run. -/
example : (exRun false).paths.Nodup ∧ (exRun false).total := by
  refine ⟨by decide +kernel, ?_⟩
  intro w hw
  simp only [exRun, List.mem_cons, List.not_mem_nil, or_false] at hw
  rcases hw with rfl | rfl | rfl <;> exact ⟨rfl, rfl⟩

/-- Without distinct paths the iff fails: a run that generates one path twice conflicts with itself in an
empty directory (so the `Nodup` hypothesis is needed; C11 provides it for real runs). -/
example : (runRun exEnv ⟨false, [], [⟨"a", "1", true, none⟩, ⟨"a", "2", true, none⟩]⟩ FS.empty).err
    = some (.conflict "a") := by decide +kernel

/-- What the `chmod` in `_handle_overwrite` is for: the same code without it fails, as a plain owner, on a
read-only leftover — and succeeds as root, which is why the correspondence is on operation traces. -/
example : (writeFileNoChmod exEnv true [] ⟨"t/A.h", "A", true, none⟩ exFS).err = some (.eacces "t/A.h") ∧
    (writeFileNoChmod ⟨true, 0o644⟩ true [] ⟨"t/A.h", "A", true, none⟩ exFS).err = none ∧
    (writeFile exEnv true [] ⟨"t/A.h", "A", true, none⟩ exFS).err = none := by decide +kernel

/-- A failing external program ends the run; earlier files stay written, the failing file holds the rendered
content with the opened mode (no `SetFileMode` yet), later files are not generated. -/
example :
    let r : Run := ⟨true, [.edit (fun c => if c = "A" then none else some (c, none)), .setMode 0o444],
      [⟨"s", "S", true, none⟩, ⟨"a", "A", true, none⟩, ⟨"b", "B", true, none⟩]⟩
    (runRun exEnv r FS.empty).err = some (.pp "a" 0) ∧
    (runRun exEnv r FS.empty).fs "s" = some ⟨"S", 0o444⟩ ∧
    (runRun exEnv r FS.empty).fs "a" = some ⟨"A", 0o644⟩ ∧
    (runRun exEnv r FS.empty).fs "b" = none := by decide +kernel

/-- Why `SetFileMode` has to come last (`requestedMode`): the same two post-processors in the other order, with a
program that replaces the file (temp file + rename: a new inode with mode 0o600) — the requested 0o444 is lost.
With `SetFileMode` last the requested mode holds over the very same program. -/
example :
    let prog : FilePP := .edit (fun c => some (c ++ "!", some 0o600))
    let ws : List Write := [⟨"a", "A", true, none⟩]
    requestedMode [.setMode 0o444, prog] = none ∧
    (runRun exEnv ⟨true, [.setMode 0o444, prog], ws⟩ exFS).fs "a" = some ⟨"A!", 0o600⟩ ∧
    requestedMode [prog, .setMode 0o444] = some 0o444 ∧
    (runRun exEnv ⟨true, [prog, .setMode 0o444], ws⟩ exFS).fs "a" = some ⟨"A!", 0o444⟩ := by decide +kernel

/-- A history: generate, regenerate with another mode, try `--no-overwrite` (fails, nothing changes), regenerate. -/
example :
    let h := runHistory exEnv [exRun true, ⟨true, [.setMode 0o600], (exRun true).writes⟩, exRun false, exRun true] exFS
    h.map (fun s => s.2.2.err) = [none, none, some (.conflict "s/ser.h"), none] ∧
    h.map (fun s => s.2.2.fs "t/A.h") =
      [some ⟨"A!", 0o444⟩, some ⟨"A", 0o600⟩, some ⟨"A", 0o600⟩, some ⟨"A!", 0o444⟩] := by decide +kernel

end Examples

end NunavutVerif.Overwrite
