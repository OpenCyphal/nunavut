import NunavutVerif.Lemmas.Deps
import NunavutVerif.Model.DepsOpts
/-!
Lemmas for the option-map part of C06 (`Model/DepsOpts.lean`): which `Opts` an option map yields, and that a map which
delivers its includes (`mapDelivers`, for the command line `cliDelivers`) yields `Opts` that name them.
-/
namespace NunavutVerif.Deps
open NunavutVerif.Namespace (Str)

theorem cppOptsOf_ok {m : OptMap} {a b c : Bool} {sup : List Str} {o : Opts} (h : cppOptsOf m a b c sup = .ok o) :
    o.omitSer = a ∧ o.useStd = b ∧ o.preferSys = c ∧ o.support = sup
    ∧ o.allocInc = optStr m "allocator_include" ∧ o.vlaInc = optStr m "variable_array_type_include"
    ∧ o.allocCtor = decide (optStr m "ctor_convention" ≠ lit "default") := by
  unfold cppOptsOf at h
  split at h
  · cases h
  · cases h
    exact ⟨rfl, rfl, rfl, rfl, rfl, rfl, rfl⟩

theorem delivers_includes {m : OptMap} {a b c : Bool} {sup : List Str} {o : Opts} (h : cppOptsOf m a b c sup = .ok o)
    (hd : mapDelivers m = true) : (o.allocCtor = true → o.allocInc ≠ []) ∧ o.vlaInc ≠ [] := by
  obtain ⟨_, _, _, _, ha, hv, hc⟩ := cppOptsOf_ok h
  simp only [mapDelivers, Bool.and_eq_true, Bool.or_eq_true, decide_eq_true_eq, ← ha, ← hv] at hd
  rw [hc, decide_eq_true_eq]
  exact ⟨hd.1.resolve_left, hd.2⟩

theorem atomStr_s (x : String) : atomStr ("s:" ++ x) = lit x := by simp [atomStr, lit, stripPrefix]

theorem mapDelivers_three (a v c : String) :
    mapDelivers (.cons "allocator_include" (.scalar ("s:" ++ a)) (.cons "variable_array_type_include" (.scalar ("s:" ++ v))
      (.cons "ctor_convention" (.scalar ("s:" ++ c)) .nil))) = true ↔ (c = "default" ∨ a ≠ "") ∧ v ≠ "" := by
  simp [mapDelivers, optStr, Config.M.get, atomStr_s, lit_inj, lit_eq_nil]

def cliDelivers (std : Option String) : Bool :=
  match cliOptMap std, supportPathsOf NunavutVerif.Gen.SupportFiles.lang_cpp with
  | .ok m, .ok sup => mapDelivers m && !sup.isEmpty && (standardVersion (optStr m "std")).toBool
  | _, _ => false

theorem cliOpts_of_delivers {std : Option String} (h : cliDelivers std = true) (a b c : Bool) :
    ∃ m sup o, cliOptMap std = .ok m ∧ supportPathsOf NunavutVerif.Gen.SupportFiles.lang_cpp = .ok sup ∧ sup ≠ []
      ∧ mapDelivers m = true ∧ cppOptsOf m a b c sup = .ok o ∧ cliOpts std a b c = .ok o := by
  unfold cliDelivers at h
  split at h
  · rename_i m sup hm hs
    simp only [Bool.and_eq_true, Bool.not_eq_true', List.isEmpty_eq_false_iff] at h
    obtain ⟨⟨hd, hne⟩, hv⟩ := h
    cases hsv : standardVersion (optStr m "std") with
    | error e => simp [hsv, Except.toBool] at hv
    | ok v =>
      obtain ⟨o, hc⟩ : ∃ o, cppOptsOf m a b c sup = .ok o := ⟨_, by rw [cppOptsOf, hsv]⟩
      exact ⟨m, sup, o, hm, hs, hne, hd, hc, by simp only [cliOpts, hm, hs, hc]⟩
  · simp at h

end NunavutVerif.Deps
