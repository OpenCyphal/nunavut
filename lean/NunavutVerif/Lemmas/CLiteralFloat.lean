import NunavutVerif.Lemmas.CLiteralEval
import NunavutVerif.Gen.CLiteralCfg
import NunavutVerif.Lemmas.Core
/-!
What the rendered floating-point constants evaluate to: the quotient of two exactly representable operands and the
decimal fallback both denote the binary64 rounding of the fraction; the cast converts it into the type of the constant;
for `float` the two roundings together stay within one unit in the last place.
Big powers of two stay symbolic: never let the elaborator or the kernel compare `2 ^ binary64.bias` with
`2 ^ 1074` by unfolding (rewrite with the field lemmas instead).
-/
namespace NunavutVerif.CLiteral

theorem b64_prec : binary64.prec = 53 := rfl
theorem b64_bias : binary64.bias = 1074 := rfl
theorem b64_emax : binary64.emax = 2045 := rfl
theorem b32_prec : binary32.prec = 24 := rfl
theorem b32_bias : binary32.bias = 149 := rfl
theorem b32_emax : binary32.emax = 253 := rfl

def roundFrac (g : Fmt) (f : Frac) : FVal :=
  roundTo g (decide (f.num < 0)) (f.num.natAbs * 2 ^ g.bias) f.den

def IsExactNat (n : Nat) : Prop :=
  n < 2 ^ 1023 ∧ (pyFloatOfNat n).1 * 2 ^ (pyFloatOfNat n).2 = n * 2 ^ 1074

theorem isExact_iff (x : Int) : isExact x = true ↔ IsExactNat x.natAbs := by
  unfold isExact IsExactNat
  simp only [Bool.and_eq_true, decide_eq_true_eq, beq_iff_eq]

def floatOfNat (neg : Bool) (n : Nat) : FVal := .fin neg (pyFloatOfNat n).1 (pyFloatOfNat n).2

def Canon (g : Fmt) (m E : Nat) : Prop := m < 2 ^ g.prec ∧ (E = 0 ∨ 2 ^ (g.prec - 1) ≤ m) ∧ E ≤ g.emax

theorem roundTo_fin {g : Fmt} {s : Bool} {N D m E : Nat} (h : roundNat g.prec N D = (m, E)) (hE : E ≤ g.emax) :
    roundTo g s N D = .fin s m E := by
  unfold roundTo
  rw [h]
  exact if_neg (Nat.not_lt.2 hE)

theorem roundTo_fin_inv {g : Fmt} {s : Bool} {N D : Nat} {s' : Bool} {m E : Nat} (h : roundTo g s N D = .fin s' m E) :
    s' = s ∧ roundNat g.prec N D = (m, E) ∧ E ≤ g.emax := by
  unfold roundTo at h
  generalize roundNat g.prec N D = r at h ⊢
  simp only at h
  split at h
  · cases h
  · injection h with h1 h2 h3
    subst h2 h3
    exact ⟨h1.symm, rfl, by omega⟩

theorem roundFrac_fin_inv {g : Fmt} {f : Frac} {s : Bool} {m E : Nat} (h : roundFrac g f = .fin s m E) :
    s = decide (f.num < 0) ∧ roundNat g.prec (f.num.natAbs * 2 ^ g.bias) f.den = (m, E) ∧ E ≤ g.emax :=
  roundTo_fin_inv h

theorem pyFloatOfNat_canon {n : Nat} (h : n < 2 ^ 1023) : Canon binary64 (pyFloatOfNat n).1 (pyFloatOfNat n).2 := by
  have hc := roundNat_canonical (p := 53) (N := n * 2 ^ 1074) (D := 1) (by decide) (by decide) (Prod.eta _).symm
  refine ⟨hc.1, hc.2, ?_⟩
  apply roundNat_exp_le (p := 53) (a := 2 ^ 52) (F := 2045) (by decide) (by decide) (Prod.eta _).symm (pow2_lt_iff.2 (by decide))
  rw [Nat.mul_one, show 2 ^ 52 * 2 ^ 2045 = 2 ^ 1023 * 2 ^ 1074 by simp only [← Nat.pow_add]]
  exact Nat.mul_le_mul_right _ (Nat.le_of_lt h)

theorem roundTo_self {g : Fmt} (hp : 1 ≤ g.prec) {s : Bool} {m E K : Nat} (hK : 0 < K) (hc : Canon g m E) :
    roundTo g s (m * 2 ^ E * K) K = .fin s m E := by
  unfold roundTo
  rw [roundNat_exact hp hK hc.1 hc.2.1]
  simp only
  rw [if_neg (Nat.not_lt.2 hc.2.2)]

theorem convertF_self {g : Fmt} (hp : 1 ≤ g.prec) {s : Bool} {m E : Nat} (hc : Canon g m E) :
    convertF g g (.fin s m E) = .fin s m E := by
  simp only [convertF]
  exact roundTo_self hp (Nat.two_pow_pos _) hc

theorem roundDec_neg1 (g : Fmt) (s : Bool) (mant : Nat) :
    roundDec g s mant (-1) = roundTo g s (mant * 2 ^ g.bias) (10 ^ (0 + 1)) := rfl

theorem roundDec_dot0 {n : Nat} (h : n < 2 ^ 1023) (s : Bool) :
    roundDec binary64 s (10 * n) (-1) = floatOfNat s n := by
  have e : roundNat binary64.prec (10 * n * 2 ^ binary64.bias) (10 ^ (0 + 1)) = pyFloatOfNat n := by
    rw [b64_prec, b64_bias]
    apply roundNat_congr (by decide) (by decide)
    rw [show (10 : Nat) ^ (0 + 1) = 10 by decide]
    generalize 2 ^ 1074 = P
    ac_rfl
  rw [roundDec_neg1, roundTo_fin (e.trans (Prod.eta _).symm) (pyFloatOfNat_canon h).2.2]
  rfl

theorem eval_sflt (d : Dialect) (neg : Bool) {mant : Nat} {e10 : Int} {m E : Nat}
    (h : roundDec binary64 false mant e10 = .fin false m E) :
    eval d (sfltAst neg mant e10) = .ok (.flt .double (.fin neg m E)) := by
  have e0 : eval d (.flit mant e10 .none) = .ok (.flt .double (.fin false m E)) := by
    rewrite [eval, h]; rfl
  cases neg with
  | false => exact e0
  | true =>
    show eval d (.neg (.flit mant e10 .none)) = _
    rewrite [eval, e0]
    rfl

theorem roundFrac_den_one {num : Int} (h : num.natAbs < 2 ^ 1023) :
    roundFrac binary64 ⟨num, 1⟩ = floatOfNat (decide (num < 0)) num.natAbs :=
  roundTo_fin (Prod.eta _).symm (pyFloatOfNat_canon h).2.2

theorem roundTo_congr (g : Fmt) (s : Bool) {N D N' D' : Nat} (hD : 0 < D) (hD' : 0 < D') (h : N * D' = N' * D) :
    roundTo g s N D = roundTo g s N' D' := by
  unfold roundTo
  rw [roundNat_congr hD hD' h]

theorem eval_quotAst (d : Dialect) (f : Frac) (hd : 0 < f.den) (hn : IsExactNat f.num.natAbs) (hden : IsExactNat f.den) :
    eval d (quotAst f.num f.den) = .ok (.flt .double (roundFrac binary64 f)) := by
  have en : eval d (sfltAst (decide (f.num < 0)) (10 * f.num.natAbs) (-1)) =
      .ok (.flt .double (floatOfNat (decide (f.num < 0)) f.num.natAbs)) := eval_sflt d _ (roundDec_dot0 hn.1 false)
  unfold quotAst
  by_cases h1 : f.den = 1
  · rw [if_pos h1, en]
    have : f = ⟨f.num, 1⟩ := by cases f; simp_all
    rw [this, roundFrac_den_one hn.1]
  · have ed : eval d (.flit (10 * f.den) (-1) .none) = .ok (.flt .double (floatOfNat false f.den)) :=
      eval_sflt d false (roundDec_dot0 hden.1 false)
    have hm2 : (pyFloatOfNat f.den).1 ≠ 0 := by
      intro h0
      have := hden.2
      rw [h0, Nat.zero_mul] at this
      have hp : 0 < f.den * 2 ^ 1074 := Nat.mul_pos hd (Nat.two_pow_pos _)
      omega
    rw [if_neg h1, eval, en, ed]
    simp only [bind, Except.bind, CVal.promoted, floatOfNat, commonFloat, CVal.type, true_or, if_true, toFloating, CType.fmt]
    rw [convertF_self (s := decide (f.num < 0)) (by decide) (pyFloatOfNat_canon hn.1),
      convertF_self (s := false) (by decide) (pyFloatOfNat_canon hden.1), fdiv, if_neg hm2, Bool.bne_false]
    -- both operands are exact: the quotient of the two doubles is the fraction itself
    refine congrArg (fun x => Except.ok (CVal.flt CType.double x))
      (roundTo_congr _ _ (Nat.mul_pos (Nat.pos_of_ne_zero hm2) (Nat.two_pow_pos _)) hd ?_)
    rw [b64_bias, hn.2, hden.2]
    generalize 2 ^ 1074 = P
    ac_rfl

theorem roundTo_canon {g : Fmt} (hp : 1 ≤ g.prec) (s : Bool) {N D a F : Nat} (hD : 0 < D) (ha : a < 2 ^ g.prec)
    (hF : F ≤ g.emax) (hr : N ≤ a * 2 ^ F * D) :
    ∃ m E, roundTo g s N D = .fin s m E ∧ Canon g m E ∧ m * 2 ^ E ≤ a * 2 ^ F := by
  have h : roundNat g.prec N D = _ := (Prod.eta _).symm
  have he := Nat.le_trans (roundNat_exp_le hp hD h ha hr) hF
  exact ⟨_, _, roundTo_fin h he, ⟨(roundNat_canonical hp hD h).1, (roundNat_canonical hp hD h).2, he⟩, roundNat_le_repr hp hD h ha hr⟩

/-- `(2^53 - 1) * 2^971` is the largest finite binary64 magnitude -/
def InRange64 (f : Frac) : Prop := f.num.natAbs ≤ (2 ^ 53 - 1) * 2 ^ 971 * f.den
/-- `(2^24 - 1) * 2^104` is the largest finite binary32 magnitude -/
def InRange32 (f : Frac) : Prop := f.num.natAbs ≤ (2 ^ 24 - 1) * 2 ^ 104 * f.den

theorem scale_bound {x a D k b F : Nat} (h : x ≤ a * 2 ^ k * D) (e : k + b = F) : x * 2 ^ b ≤ a * 2 ^ F * D := by
  subst e
  calc x * 2 ^ b ≤ a * 2 ^ k * D * 2 ^ b := Nat.mul_le_mul_right _ h
    _ = a * 2 ^ (k + b) * D := by rw [Nat.pow_add]; ac_rfl

theorem roundFrac64_fin (f : Frac) (hd : 0 < f.den) (hr : InRange64 f) :
    ∃ m E, roundFrac binary64 f = .fin (decide (f.num < 0)) m E ∧ Canon binary64 m E := by
  have h : f.num.natAbs * 2 ^ binary64.bias ≤ (2 ^ 53 - 1) * 2 ^ 2045 * f.den := by
    rw [b64_bias]; exact scale_bound hr rfl
  obtain ⟨m, E, h1, h2, _⟩ := roundTo_canon (g := binary64) (by decide) (decide (f.num < 0)) hd
    (a := 2 ^ 53 - 1) (F := 2045) (by decide) (by decide) h
  exact ⟨m, E, h1, h2⟩

theorem roundFrac32_fin (f : Frac) (hd : 0 < f.den) (hr : InRange32 f) :
    ∃ m E m' E', roundFrac binary64 f = .fin (decide (f.num < 0)) m E ∧ Canon binary64 m E ∧
      convertF binary64 binary32 (.fin (decide (f.num < 0)) m E) = .fin (decide (f.num < 0)) m' E' ∧ Canon binary32 m' E' := by
  -- the bound in binary64 units, `(2^24 - 1) * 2^(104 + 1074)`, is a member of binary64
  have hN : f.num.natAbs * 2 ^ binary64.bias ≤ (2 ^ 24 - 1) * 2 ^ 1178 * f.den := by
    rw [b64_bias]; exact scale_bound hr rfl
  obtain ⟨m, E, e64, c64, hv⟩ := roundTo_canon (g := binary64) (by decide) (decide (f.num < 0)) hd
    (a := 2 ^ 24 - 1) (F := 1178) (by decide) (by decide) hN
  -- the same bound in binary32 units: `(2^24 - 1) * 2^(104 + 149)`
  have hN32 : m * 2 ^ E * 2 ^ binary32.bias ≤ (2 ^ 24 - 1) * 2 ^ 253 * 2 ^ binary64.bias := by
    rw [show 1178 = 104 + 1074 from rfl, Nat.pow_add, ← Nat.mul_assoc] at hv
    rw [b32_bias, b64_bias]; exact scale_bound hv rfl
  obtain ⟨m', E', e32, c32, _⟩ := roundTo_canon (g := binary32) (by decide) (decide (f.num < 0))
    (Nat.two_pow_pos binary64.bias) (a := 2 ^ 24 - 1) (F := 253) (by decide) (by decide) hN32
  exact ⟨m, E, m', E', e64, c64, by simp only [convertF]; exact e32, c32⟩

theorem toFloating_flt (t s : CType) (x : FVal) : toFloating t (.flt s x) = convertF s.fmt t.fmt x := rfl
theorem fmt_double : CType.fmt .double = binary64 := rfl
theorem fmt_float : CType.fmt .float = binary32 := rfl

theorem eval_cast_fin (d : Dialect) (t : CType) (e : CExpr) {x : FVal} {s : Bool} {m E : Nat}
    (he : eval d e = .ok (.flt .double x)) (hcv : convertF binary64 t.fmt x = .fin s m E) :
    eval d (.cast t e) = .ok (.flt t (.fin s m E)) := by
  rewrite [eval, he, ok_bind, toFloating_flt, fmt_double, hcv]
  rfl

/-- the C / C++ type of a floating constant of `w` bits (`_CFit.to_c_float`) -/
def floatCType (w : Nat) : CType := if w ≤ 32 then .float else .double

/-- What the rendered quotient denotes: the fraction rounded to nearest-even into binary64 by the division of the two
exactly represented operands, then (for `float`) converted to binary32 by the cast. -/
def floatDenotation (w : Nat) (f : Frac) : FVal :=
  if w ≤ 32 then convertF binary64 binary32 (roundFrac binary64 f) else roundFrac binary64 f

/-- the value lies inside the range of the C type (`|f| ≤ FLT_MAX` / `DBL_MAX`; PyDSDL's range check implies it) -/
def FloatInRange (w : Nat) (f : Frac) : Prop := if w ≤ 32 then InRange32 f else InRange64 f

theorem inRange64_of_floatInRange {w : Nat} {f : Frac} (hr : FloatInRange w f) : InRange64 f := by
  unfold FloatInRange at hr
  split at hr
  · have hab : (2 ^ 24 - 1) * 2 ^ 104 ≤ (2 ^ 53 - 1) * 2 ^ 971 := Nat.mul_le_mul (by decide) (pow2_le (by decide))
    exact Nat.le_trans hr (Nat.mul_le_mul_right _ hab)
  · exact hr

def floatTyStr (w : Nat) : Str := if w ≤ 32 then "float".toList else "double".toList

theorem floatTyStr_cases (w : Nat) : IsFloatTy (floatTyStr w) := by
  unfold floatTyStr
  split
  · exact .inl rfl
  · exact .inr rfl

theorem eval_cast_denotation (d : Dialect) (w : Nat) (f : Frac) (hd : 0 < f.den) (hr : FloatInRange w f) {e : CExpr}
    (he : eval d e = .ok (.flt .double (roundFrac binary64 f))) :
    eval d (.cast (tyOf (floatTyStr w)) e) = .ok (.flt (floatCType w) (floatDenotation w f)) ∧
      ∃ m E, floatDenotation w f = .fin (decide (f.num < 0)) m E ∧ Canon (floatCType w).fmt m E := by
  unfold FloatInRange at hr
  unfold floatCType floatDenotation floatTyStr tyOf
  by_cases h32 : w ≤ 32
  · rw [if_pos h32] at hr
    simp only [h32, if_true]
    obtain ⟨m, E, m', E', e64, _, ecv, c32⟩ := roundFrac32_fin f hd hr
    rewrite [e64] at he
    rewrite [e64, ecv]
    exact ⟨eval_cast_fin d .float _ he ecv, m', E', rfl, by rewrite [fmt_float]; exact c32⟩
  · rw [if_neg h32] at hr
    simp only [h32, if_false]
    rw [if_neg (by decide +kernel)]
    obtain ⟨m, E, e64, c64⟩ := roundFrac64_fin f hd hr
    rewrite [e64] at he
    rewrite [e64]
    exact ⟨eval_cast_fin d .double _ he (convertF_self (by decide) c64), m, E, rfl, by rewrite [fmt_double]; exact c64⟩

theorem quotExpr_text (num : Int) (den : Nat) :
    (if den = 1 then intStr num ++ ".0".toList
      else '(' :: intStr num ++ ".0 / ".toList ++ natStr den ++ ".0)".toList) = quotExpr num den := by
  unfold quotExpr
  split
  · rfl
  · simp [List.append_assoc]

theorem floatLiteralExpression_exact (f : Frac) (h1 : isExact f.num = true) (h2 : isExact (f.den : Int) = true) :
    floatLiteralExpression f = .ok (quotExpr f.num f.den) := by
  unfold floatLiteralExpression
  rw [h1, h2, ← quotExpr_text, apply_ite Except.ok]
  rfl

theorem cFloatTypeName_eq {w : Nat} (hw : w ≤ 64) : cFloatTypeName w = .ok (floatTyStr w) := by
  unfold cFloatTypeName bestFit floatTyStr
  by_cases h8 : w ≤ 8
  · rw [if_pos h8, if_pos (by omega)]; rfl
  · by_cases h16 : w ≤ 16
    · rw [if_neg h8, if_pos h16, if_pos (by omega)]; rfl
    · by_cases h32 : w ≤ 32
      · rw [if_neg h8, if_neg h16, if_pos h32, if_pos h32]; rfl
      · rw [if_neg h8, if_neg h16, if_neg h32, if_pos hw, if_neg h32]; rfl

theorem filterLiteral_float {cfg : LangCfg} {fmt : List FmtPiece} (hcfg : cfg.castFormat = some fmt) (f : Frac)
    {w : Nat} (hw : w ≤ 64) {expr : Str} (he : floatLiteralExpression f = .ok expr) :
    filterLiteral cfg (.frac f) (.float w) = .ok (formatCast fmt (floatTyStr w) expr) := by
  unfold filterLiteral
  rw [hcfg]
  simp only [asFrac]
  rw [he, cFloatTypeName_eq hw]
  rfl

theorem filterLiteralBeforeFix_float {cfg : LangCfg} {fmt : List FmtPiece} (hcfg : cfg.castFormat = some fmt) (f : Frac)
    {w : Nat} (hw : w ≤ 64) :
    filterLiteralBeforeFix cfg (.frac f) (.float w) = .ok (formatCast fmt (floatTyStr w) (quotExpr f.num f.den)) := by
  unfold filterLiteralBeforeFix
  rw [hcfg]
  simp only [asFrac, cFloatTypeName_eq hw]
  exact congrArg (fun e => Except.ok (formatCast fmt (floatTyStr w) e)) (quotExpr_text f.num f.den)

theorem staticCast_chars : "static_cast".toList = ['s', 't', 'a', 't', 'i', 'c', '_', 'c', 'a', 's', 't'] := by decide +kernel

theorem formatCast_c (ty val : Str) :
    formatCast [.lit ['(', '('], .ty, .lit [')', ' '], .val, .lit [')']] ty val = cCast ty val := by
  simp only [formatCast, cCast, List.cons_append, List.nil_append, List.append_nil]

theorem formatCast_cpp (ty val : Str) :
    formatCast [.lit ['s', 't', 'a', 't', 'i', 'c', '_', 'c', 'a', 's', 't', '<'], .ty, .lit ['>', '('], .val, .lit [')']]
      ty val = cppCast ty val := by
  unfold cppCast
  rw [staticCast_chars]
  simp only [formatCast, List.cons_append, List.nil_append, List.append_nil]

theorem lexesAs_nat (n : Nat) : LexesAs (natStr n) [.int n (decide (n ≠ 0)) false 0] 1 := by
  have := lexesAs_int n false 0 (by decide)
  rwa [show sfxStr false 0 = [] from rfl, List.append_nil] at this

def pyIntToks : Int → List Tok
  | .ofNat n => [.int n (decide (n ≠ 0)) false 0]
  | .negSucc k => [.minus, .int (k + 1) (decide (k + 1 ≠ 0)) false 0]

theorem lexesAs_intStr (v : Int) : ∃ k, k ≤ 2 ∧ LexesAs (intStr v) (pyIntToks v) k := by
  cases v with
  | ofNat n => exact ⟨1, by decide, lexesAs_nat n⟩
  | negSucc k => exact ⟨2, by decide, (lexesAs_nat (k + 1)).cons lex_minus⟩

def pyIntAst : Int → PyExpr
  | .ofNat n => .int n
  | .negSucc k => .neg (.int (k + 1))

theorem pyParse_int (v : Int) : pyParse (pyIntToks v) = some (pyIntAst v) := by cases v <;> rfl

theorem pyEval_int (v : Int) : pyEval (pyIntAst v) = .ok (.int v) := by
  cases v with
  | ofNat n => rfl
  | negSucc k => simp [pyIntAst, pyEval, bind, Except.bind, pure, Except.pure]; rfl

theorem pyEvalStr_of {s : Str} {ts : List Tok} {e : PyExpr} (hl : lexStr s = some ts) (hp : pyParse ts = some e) :
    pyEvalStr s = pyEval e := by
  unfold pyEvalStr; rw [hl]; simp only [hp]

theorem lexStr_py_quot (num : Int) (den : Nat) :
    lexStr (intStr num ++ " / ".toList ++ natStr den) =
      some (pyIntToks num ++ [.slash, .int den (decide (den ≠ 0)) false 0]) := by
  obtain ⟨k, hk, h⟩ := lexesAs_intStr num
  have e : intStr num ++ " / ".toList ++ natStr den = intStr num ++ (' ' :: '/' :: ' ' :: natStr den) := by
    simp [List.append_assoc]
  rw [e]
  exact lexStr_of_lexesAs (h.append ((lexesAs_nat den).space.cons lex_slash).space (safeStart_cons rfl _)) (by omega)

theorem pyParse_quot (num : Int) (den : Nat) (dec : Bool) :
    pyParse (pyIntToks num ++ [.slash, .int den dec false 0]) = some (.div (pyIntAst num) (.int den)) := by
  cases num <;> rfl

theorem pyTrueDiv_eq (f : Frac) (hd : 0 < f.den) :
    pyTrueDiv f.num f.den = finiteOrOverflow (roundFrac binary64 f) := by
  unfold pyTrueDiv roundFrac
  have h0 : ¬ ((f.den : Int) = 0) := by omega
  have hs : (decide (f.num < 0) != decide ((f.den : Int) < 0)) = decide (f.num < 0) := by
    have : decide ((f.den : Int) < 0) = false := by simp
    rw [this, Bool.bne_false]
  rewrite [if_neg h0, hs, Int.natAbs_natCast, b64_bias]
  rfl

theorem finiteOrOverflow_fin (s : Bool) (m E : Nat) : finiteOrOverflow (.fin s m E) = .ok (.fin s m E) := rfl

theorem pyEval_quot (f : Frac) (hd : 0 < f.den) {s : Bool} {m E : Nat} (h : roundFrac binary64 f = .fin s m E) :
    pyEval (.div (pyIntAst f.num) (.int f.den)) = .ok (.float (.fin s m E)) := by
  rewrite [pyEval, pyEval_int, ok_bind, pyEval, ok_bind]
  have e : pyTrueDiv f.num (f.den : Int) = .ok (.fin s m E) := by
    rewrite [pyTrueDiv_eq f hd, h]; exact finiteOrOverflow_fin s m E
  simp only [pyAsInt]
  rewrite [e]
  rfl

theorem float32_within_one_ulp (f : Frac) (hd : 0 < f.den) {s : Bool} {m' E' : Nat}
    (h : convertF binary64 binary32 (roundFrac binary64 f) = .fin s m' E') :
    m' * 2 ^ E' * f.den < f.num.natAbs * 2 ^ 149 + 2 ^ E' * f.den ∧
      f.num.natAbs * 2 ^ 149 < m' * 2 ^ E' * f.den + 2 ^ E' * f.den := by
  cases h64 : roundFrac binary64 f with
  | inf s0 => rw [h64] at h; cases h
  | nan => rw [h64] at h; cases h
  | fin s0 m E =>
    rw [h64] at h
    simp only [convertF] at h
    have hr := (roundFrac_fin_inv h64).2.1
    have hr32 := (roundTo_fin_inv h).2.1
    rewrite [b64_prec, b64_bias] at hr
    rewrite [b32_prec, b32_bias, b64_bias] at hr32
    have hP : 0 < 2 ^ 1074 := Nat.two_pow_pos _
    have H := roundNat_twice_within_ulp (p := 53) (p' := 24) (by decide) (by decide) hd hP (pow2_lt_iff.2 (by decide)) hr hr32
    -- cancel the binary64 scale
    generalize 2 ^ 1074 = P at H hP
    simp only [Nat.mul_right_comm _ P] at H
    exact ⟨Nat.lt_of_mul_lt_mul_right (by rw [Nat.add_mul]; exact H.1),
      Nat.lt_of_mul_lt_mul_right (by rw [Nat.add_mul]; exact H.2)⟩

theorem reprReadsBack_inv {m E : Nat} (h : reprReadsBack m E = true) :
    ∃ mant e10, DigitHead (reprBody m E) ∧ PPNum (reprBody m E) ∧
      lexNumTok (reprBody m E) = some (.flt mant e10 .none) ∧ roundDec binary64 false mant e10 = .fin false m E := by
  unfold reprReadsBack at h
  simp only [Bool.and_eq_true, Bool.not_eq_true'] at h
  obtain ⟨⟨⟨h1, h2⟩, h3⟩, h4⟩ := h
  split at h4
  · rename_i mant e10 ht
    split at h1
    · rename_i c r hs
      exact ⟨mant, e10, hs ▸ h1, ⟨h2, h3⟩, ht, beq_iff_eq.1 h4⟩
    · cases h1
  · cases h4

theorem lexNumTok_raw {s : Str} {t : Tok} (h : lexNumTok s = some t) : lexNumRaw s = some (t, []) := by
  unfold lexNumTok at h
  split at h
  · injection h with h; subst h; assumption
  · cases h

theorem readsAs_repr {m E mant : Nat} {e10 : Int} (neg : Bool)
    (hd : DigitHead (reprBody m E)) (hpp : PPNum (reprBody m E))
    (ht : lexNumTok (reprBody m E) = some (.flt mant e10 .none)) :
    ReadsAs (pyFloatRepr (.fin neg m E)) (sfltAst neg mant e10) := by
  have key := lexesAs_num hd hpp (lexNumTok_raw ht)
  refine ⟨sfltToks neg mant e10, if neg then 2 else 1, ?_, by split <;> omega, usesStaticCast_sflt _ _ _,
    parsesUnary_sflt _ _ _⟩
  cases neg
  · exact key
  · exact key.cons lex_minus

theorem floatLiteralExpression_fallback (f : Frac) (hd : 0 < f.den) (hne : (isExact f.num && isExact (f.den : Int)) = false)
    {s : Bool} {m E : Nat} (h : roundFrac binary64 f = .fin s m E) :
    floatLiteralExpression f = .ok (pyFloatRepr (.fin s m E)) := by
  unfold floatLiteralExpression
  rewrite [hne]
  simp only [Bool.false_eq_true, if_false]
  rewrite [pyTrueDiv_eq f hd, h, finiteOrOverflow_fin, ok_bind]
  rfl

/-- Common to the quotient and the fallback branch of `_float_literal_expression`, which differ only in the text `E`
they render and in why it denotes the binary64 rounding of `f`. -/
theorem float_renderings_denote (w : Nat) (hw : w ≤ 64) (f : Frac) (hd : 0 < f.den) (hr : FloatInRange w f) {E : Str}
    {e : CExpr} (hE : floatLiteralExpression f = .ok E) (hread : ReadsAs E e)
    (he : ∀ d, eval d e = .ok (.flt .double (roundFrac binary64 f))) :
    (∃ s, filterLiteral Gen.cCfg (.frac f) (.float w) = .ok s ∧
      evalStr .c11 s = .ok (.flt (floatCType w) (floatDenotation w f)) ∧
      evalStr .c11 (cMacroBody s) = .ok (.flt (floatCType w) (floatDenotation w f))) ∧
    (∃ s, filterLiteral Gen.cppCfg (.frac f) (.float w) = .ok s ∧
      evalStr .cpp14 s = .ok (.flt (floatCType w) (floatDenotation w f))) := by
  have hty := floatTyStr_cases w
  have hc := evalStr_cCast hty hread .c11
  have hv := fun d => (eval_cast_denotation d w f hd hr (he d)).1
  refine ⟨⟨_, (filterLiteral_float rfl f hw hE).trans (congrArg _ (formatCast_c _ _)), ?_, ?_⟩,
    ⟨_, (filterLiteral_float rfl f hw hE).trans (congrArg _ (formatCast_cpp _ _)), ?_⟩⟩
  · rw [hc.1]; exact hv _
  · rw [hc.2]; exact hv _
  · rw [evalStr_cppCast hty hread]; exact hv _

end NunavutVerif.CLiteral
