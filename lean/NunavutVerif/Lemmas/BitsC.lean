import NunavutVerif.Lemmas.Bits
/-!
Helper lemmas for C14, the C primitives: the libc models (`memmove`, `memset0`), the unaligned loop and both branches of
`copyBits` are instances of `Overwrites`, and the getters and setters are built on `copyBits_ok`.  A getter saturates the
length at the end of the buffer, which is reading zeros beyond it (`zbit_sat`).
-/
namespace NunavutVerif.Bits

theorem memmove_eq (n : Nat) : ∀ (dst : Buf) (pd : Nat) (src : Buf) (ps : Nat),
    ps + n ≤ src.length → pd + n ≤ dst.length →
    memmove dst pd src ps n = .ok (dst.take pd ++ (src.drop ps).take n ++ dst.drop (pd + n)) := by
  induction n with
  | zero => intro dst pd src ps _ _; simp [memmove]
  | succ n ih =>
    intro dst pd src ps hs hd
    have h1 : ps < src.length := by omega
    have h2 : pd < dst.length := by omega
    simp only [memmove, get?_ok h1, set?_ok h2, bind, Except.bind]
    rw [ih _ _ _ _ (by omega) (by rw [List.length_set]; omega), List.take_set, List.drop_set,
      List.take_succ_eq_append_getElem h2, if_pos (by omega),
      List.set_append_right _ _ (by rw [List.length_take]; omega), List.length_take, Nat.min_eq_left (by omega),
      Nat.sub_self, List.set_cons_zero, List.drop_eq_getElem_cons h1, List.take_succ_cons,
      show pd + 1 + n = pd + (n + 1) by omega]
    simp only [List.append_assoc, List.cons_append, List.nil_append]

theorem memset0_eq_memmove (n : Nat) : ∀ (dst : Buf) (p ps m : Nat), ps + n ≤ m →
    memset0 dst p n = memmove dst p (List.replicate m 0) ps n := by
  induction n with
  | zero => intro dst p ps m _; rfl
  | succ n ih =>
    intro dst p ps m h
    rw [memset0, memmove, get?_ok (show ps < (List.replicate m 0).length by rw [List.length_replicate]; omega),
      List.getElem_replicate]
    simp only [bind, Except.bind]
    cases set? dst p 0 with
    | error e => rfl
    | ok d => exact ih d (p + 1) (ps + 1) m (by omega)

theorem memmove_bits (n : Nat) (dst : Buf) (pd : Nat) (src : Buf) (ps : Nat) (hs : ps + n ≤ src.length)
    (hd : pd + n ≤ dst.length) :
    ∃ r, memmove dst pd src ps n = .ok r ∧ r.length = dst.length ∧ (WF src → WF dst → WF r) ∧
      Overwrites r dst (8 * pd) (8 * n) (fun j => bitAt src (8 * ps + j)) := by
  have hl : ((src.drop ps).take n).length = n := by rw [List.length_take, List.length_drop]; omega
  have ho := Overwrites.splice dst ((src.drop ps).take n) pd (by omega)
  rw [hl] at ho
  refine ⟨_, memmove_eq n dst pd src ps hs hd,
    by simp only [List.length_append, List.length_take, List.length_drop]; omega,
    fun hsrc hdst => WF_append (WF_append (WF_take hdst _) (WF_take (WF_drop hsrc _) _)) (WF_drop hdst _),
    ho.congr fun j hj => ?_⟩
  rw [bitAt_take, bitAt_drop, decide_eq_true (by omega), Bool.true_and]

theorem memset0_bits (n : Nat) (dst : Buf) (p : Nat) (hd : p + n ≤ dst.length) :
    ∃ r, memset0 dst p n = .ok r ∧ r.length = dst.length ∧ (WF dst → WF r) ∧
      Overwrites r dst (8 * p) (8 * n) (fun _ => false) := by
  obtain ⟨r, hr, hlen, hwf, hb⟩ := memmove_bits n dst p (List.replicate n 0) 0
    (by rw [List.length_replicate]; omega) hd
  exact ⟨r, (memset0_eq_memmove n dst p 0 n (by omega)).trans hr, hlen, hwf (WF_replicate n),
    hb.congr fun j _ => bitAt_replicate_zero n _⟩

theorem mergeByte_testBit (d inp mask j : Nat) (hj : j < 8) :
    (mergeByte d inp mask).testBit j = if mask.testBit j then inp.testBit j else d.testBit j := by
  unfold mergeByte
  rw [Nat.testBit_or, Nat.testBit_and, Nat.testBit_and, Nat.testBit_xor, show 255 = 2 ^ 8 - 1 from rfl,
    Nat.testBit_two_pow_sub_one, decide_eq_true hj]
  cases mask.testBit j <;> simp

theorem mergeByte_loop_testBit (d s sm dm size j : Nat) (hj : j < 8) :
    (mergeByte d (((((s >>> sm) % 256) <<< dm) % 256) &&& 255)
        (((((1 <<< size) - 1) <<< dm) &&& 255) % 256)).testBit j
      = if dm ≤ j ∧ j < dm + size then s.testBit (sm + (j - dm)) else d.testBit j := by
  rw [mergeByte_testBit _ _ _ _ hj, testBit_mod_256, testBit_and_255, testBit_and_255, testBit_mod_256,
    Nat.testBit_shiftLeft, Nat.testBit_shiftLeft, testBit_mod_256, Nat.testBit_shiftRight, Nat.one_shiftLeft,
    Nat.testBit_two_pow_sub_one, decide_eq_true hj]
  by_cases h : dm ≤ j ∧ j < dm + size
  · rw [if_pos h, if_pos (by simp; omega), decide_eq_true h.1, decide_eq_true (show j - dm < 8 by omega)]; simp
  · rw [if_neg h, if_neg (by simp; omega)]

theorem mergeByte_last_testBit (ld ls lm j : Nat) (hj : j < 8) :
    (mergeByte ld ls (((1 <<< lm) - 1) % 256)).testBit j = if j < lm then ls.testBit j else ld.testBit j := by
  rw [mergeByte_testBit _ _ _ _ hj, testBit_mod_256, Nat.one_shiftLeft, Nat.testBit_two_pow_sub_one,
    decide_eq_true hj, Bool.true_and]
  simp

theorem mergeByte_lt (d inp mask : Nat) (hd : d < 256) (hm : mask < 256) : mergeByte d inp mask < 256 := by
  unfold mergeByte
  have h1 : d &&& (mask ^^^ 255) < 2 ^ 8 := Nat.lt_of_le_of_lt Nat.and_le_left (by omega)
  have h2 : inp &&& mask < 2 ^ 8 := Nat.and_lt_two_pow (n := 8) inp (by omega)
  exact Nat.or_lt_two_pow (n := 8) h1 h2

theorem chooseMin_eq (a b : Nat) : chooseMin a b = min a b := by
  unfold chooseMin; split <;> omega

theorem copySize_bounds {ms md rest size : Nat} (hs : ms < 8) (hd : md < 8) (hr : 0 < rest)
    (h : chooseMin (8 - if ms > md then ms else md) rest = size) :
    1 ≤ size ∧ size ≤ rest ∧ md + size ≤ 8 ∧ ms + size ≤ 8 := by
  rw [chooseMin_eq] at h; split at h <;> omega

theorem copyLoop_spec (fuel : Nat) : ∀ (dst : Buf) (dOff : Nat) (src : Buf) (sOff lastBit : Nat),
    lastBit - sOff ≤ fuel → lastBit ≤ src.length * 8 → dOff + (lastBit - sOff) ≤ dst.length * 8 →
    ∃ r, copyLoop fuel dst dOff src sOff lastBit = .ok r ∧ r.length = dst.length ∧ (WF dst → WF r) ∧
      Overwrites r dst dOff (lastBit - sOff) (fun j => bitAt src (sOff + j)) := by
  induction fuel with
  | zero =>
    intro dst dOff src sOff lastBit hf _ _
    have h0 : lastBit - sOff = 0 := by omega
    exact ⟨dst, by simp [copyLoop, show ¬ lastBit > sOff by omega], rfl, id, h0 ▸ Overwrites.refl dst dOff _⟩
  | succ fuel ih =>
    intro dst dOff src sOff lastBit hf hs hd
    by_cases hgt : lastBit > sOff
    · obtain ⟨kd, md, hmd, rfl⟩ := exists_byte_bit dOff
      obtain ⟨ks, ms, hms, rfl⟩ := exists_byte_bit sOff
      have h1 : ks < src.length := by omega
      have h2 : kd < dst.length := by omega
      rw [copyLoop, if_pos hgt]
      simp only [mul_add_div8 _ hmd, mul_add_mod8 _ hmd, mul_add_div8 _ hms, mul_add_mod8 _ hms]
      generalize hsize : chooseMin (8 - if ms > md then ms else md) (lastBit - (8 * ks + ms)) = size
      have hsz := copySize_bounds hms hmd (Nat.sub_pos_of_lt hgt) hsize
      generalize hv : mergeByte dst[kd] (((((src[ks] >>> ms) % 256) <<< md) % 256) &&& 255)
        (((((1 <<< size) - 1) <<< md) &&& 255) % 256) = v
      -- this iteration copies `size` bits inside one destination byte, the rest of the loop copies the rest
      have hstep : Overwrites (dst.set kd v) dst (8 * kd + md) size (fun j => bitAt src (8 * ks + ms + j)) := by
        refine .set_byte (get?_ok h2) hsz.2.2.1 fun j hj => ?_
        rw [← hv, mergeByte_loop_testBit _ _ _ _ _ _ hj]
        split
        · rw [Nat.add_assoc, bitAt_mul_add src ks (by omega), List.getElem?_eq_getElem h1]
        · rfl
      obtain ⟨r, hr, hlen, hwf, hbits⟩ := ih (dst.set kd v) (8 * kd + md + size) src (8 * ks + ms + size) lastBit
        (by omega) hs (by rw [List.length_set]; omega)
      refine ⟨r, ?_, by rw [hlen, List.length_set], fun hw => hwf (WF_set hw ?_), ?_⟩
      · simp only [get?_ok h1, get?_ok h2, set?_ok h2, bind, Except.bind, hv, hr]
      · rw [← hv]
        exact mergeByte_lt _ _ _ (WF_getElem hw h2) (Nat.mod_lt _ (by decide))
      · rw [show lastBit - (8 * ks + ms) = size + (lastBit - (8 * ks + ms + size)) by omega]
        exact hstep.trans hbits fun j _ => by rw [Nat.add_assoc]
    · have h0 : lastBit - sOff = 0 := by omega
      exact ⟨dst, by simp [copyLoop, hgt], rfl, id, h0 ▸ Overwrites.refl dst dOff _⟩

theorem memmove_guard (dst : Buf) (pd : Nat) (src : Buf) (ps n : Nat) :
    memmoveIfNonzero dst pd src ps n = memmove dst pd src ps n := by
  cases n <;> simp [memmoveIfNonzero, memmove]

theorem copyBits_zero (dst : Buf) (dOff : Nat) (src : Buf) (sOff : Nat) :
    copyBits dst dOff 0 src sOff = .ok dst := by
  unfold copyBits
  by_cases hal : sOff % 8 = 0 ∧ dOff % 8 = 0
  · simp [hal, memmoveIfNonzero, bind, Except.bind]
  · simp [hal, copyLoop]

/-- the documented size precondition of `nunavutCopyBits` is void for `len = 0` -/
theorem copyBits_ok (dst : Buf) (dOff len : Nat) (src : Buf) (sOff : Nat)
    (hs : len ≠ 0 → sOff + len ≤ src.length * 8) (hd : len ≠ 0 → dOff + len ≤ dst.length * 8) :
    ∃ r, copyBits dst dOff len src sOff = .ok r ∧ r.length = dst.length ∧ (WF src → WF dst → WF r) ∧
      Overwrites r dst dOff len (fun j => bitAt src (sOff + j)) := by
  by_cases h0 : len = 0
  · subst h0
    exact ⟨dst, copyBits_zero _ _ _ _, rfl, fun _ h => h, .refl dst dOff _⟩
  have hs := hs h0
  have hd := hd h0
  clear h0
  unfold copyBits
  by_cases hal : sOff % 8 = 0 ∧ dOff % 8 = 0
  · -- whole bytes by `memmove`, then the `m = len % 8` bits left in the next byte
    obtain ⟨ps, rfl⟩ : ∃ ps, sOff = 8 * ps := ⟨sOff / 8, (mul_div_aligned hal.1).symm⟩
    obtain ⟨pd, rfl⟩ : ∃ pd, dOff = 8 * pd := ⟨dOff / 8, (mul_div_aligned hal.2).symm⟩
    obtain ⟨n, m, hm, rfl⟩ := exists_byte_bit len
    rw [if_pos hal]
    simp only [memmove_guard, Nat.mul_div_cancel_left _ (show 0 < 8 by decide), mul_add_div8 _ hm, mul_add_mod8 _ hm]
    obtain ⟨d1, hd1, hlen1, hwf1, hb1⟩ := memmove_bits n dst pd src ps (by omega) (by omega)
    by_cases hlm : m ≠ 0
    · have h1 : pd + n < d1.length := by omega
      have h2 : ps + n < src.length := by omega
      generalize hv : mergeByte d1[pd + n] src[ps + n] (((1 <<< m) - 1) % 256) = v
      have hlast : Overwrites (d1.set (pd + n) v) d1 (8 * (pd + n) + 0) m (fun j => bitAt src (8 * (ps + n) + j)) := by
        refine .set_byte (get?_ok h1) (by omega) fun j hj => ?_
        rw [← hv, mergeByte_last_testBit _ _ _ _ hj, bitAt_mul_add src _ (by omega), List.getElem?_eq_getElem h2]
        by_cases hjl : j < m
        · rw [if_pos hjl, if_pos ⟨Nat.zero_le _, by omega⟩]; rfl
        · rw [if_neg hjl, if_neg (by omega)]
      rw [Nat.add_zero, Nat.mul_add, Nat.mul_add] at hlast
      refine ⟨d1.set (pd + n) v, ?_, by rw [List.length_set, hlen1], fun hsrc hdst => WF_set (hwf1 hsrc hdst) ?_,
        hb1.trans hlast fun j _ => by rw [Nat.add_assoc]⟩
      · simp only [hd1, bind, Except.bind, hlm, ne_eq, not_false_eq_true, if_true, get?_ok h1, get?_ok h2,
          set?_ok h1, hv]
      · rw [← hv]
        exact mergeByte_lt _ _ _ (WF_getElem (hwf1 hsrc hdst) h1) (Nat.mod_lt _ (by decide))
    · obtain rfl : m = 0 := by omega
      exact ⟨d1, by simp only [hd1, bind, Except.bind, hlm, if_false], hlen1, hwf1, hb1⟩
  · rw [if_neg hal]
    obtain ⟨r, hr, hlen, hwf, hb⟩ := copyLoop_spec len dst dOff src sOff (sOff + len) (by omega) hs (by omega)
    rw [Nat.add_sub_cancel_left] at hb
    exact ⟨r, hr, hlen, fun _ => hwf, hb⟩

theorem sub_min_self (a b : Nat) : a - min a b = a - b := by omega

theorem saturate_eq (size off len : Nat) : saturate size off len = min len (size * 8 - off) := by
  unfold saturate; simp only [chooseMin_eq, sub_min_self]

theorem zbit_sat (buf : Buf) (size off n i : Nat) :
    (decide (i < n) && zbit buf size (off + i)) = (decide (i < min n (size * 8 - off)) && bitAt buf (off + i)) := by
  unfold zbit
  rw [← Bool.and_assoc, ← Bool.decide_and]
  congr 1
  exact decide_eq_decide.mpr (by omega)

theorem zbit_of_ge {buf : Buf} {cap i : Nat} (h : cap * 8 ≤ i) : zbit buf cap i = false := by
  simp [zbit]; omega

theorem zbit_eq_bitAt {buf : Buf} {cap i : Nat} (h : i < cap * 8) : zbit buf cap i = bitAt buf i := by
  simp [zbit, h]

theorem zbit_length (b : Buf) (i : Nat) : zbit b b.length i = bitAt b i := by
  by_cases h : i < b.length * 8
  · exact zbit_eq_bitAt h
  · rw [zbit_of_ge (Nat.le_of_not_lt h), bitAt_of_ge (by omega)]

theorem getBits_spec (out buf : Buf) (size off len : Nat) (hsize : size ≤ buf.length)
    (hout : (len + 7) / 8 ≤ out.length) :
    ∃ r, getBits out buf size off len = .ok r ∧ r.length = out.length ∧ (WF buf → WF out → WF r) ∧
      ∀ i, bitAt r i =
        if i < (len + 7) / 8 * 8 then (decide (i < len) && zbit buf size (off + i)) else bitAt out i := by
  unfold getBits
  simp only [saturate_eq, zbit_sat]
  generalize hsat : min len (size * 8 - off) = sat
  generalize hnb : (len + 7) / 8 = nb at hout ⊢
  have hlen8 : len ≤ nb * 8 := by omega
  clear hnb
  obtain ⟨q, t, ht, rfl⟩ := exists_byte_bit sat
  rw [mul_add_div8 q ht]
  have hle : q ≤ nb := by omega
  -- the bytes from the last copied one on are cleared, then the `8 * q + t` bits are copied over them
  obtain ⟨o1, ho1, hlen1, hwf1, hb1⟩ := memset0_bits (nb - q) out q (by omega)
  obtain ⟨r, hr, hlen, hwf, hb⟩ := copyBits_ok o1 0 (8 * q + t) buf off (by omega) (by omega)
  refine ⟨r, ?_, hlen.trans hlen1, fun hbuf hout' => hwf hbuf (hwf1 hout'), fun i => ?_⟩
  · simp only [sub?, hle, if_true, bind, Except.bind, ho1, hr]
  · have hfit : 8 * q + t ≤ nb * 8 := by omega
    clear hsat hlen8 hout hsize hlen hlen1
    rw [hb i, hb1 i, Nat.zero_add, Nat.sub_zero]
    by_cases hA : i < 8 * q + t
    · rw [if_pos ⟨Nat.zero_le _, hA⟩, if_pos (by omega), decide_eq_true hA, Bool.true_and]
    · rw [if_neg (fun c => hA c.2), decide_eq_false hA, Bool.false_and]
      by_cases hB : i < nb * 8
      · rw [if_pos (by omega), if_pos hB]
      · rw [if_neg (by omega), if_neg hB]

theorem u64Tmp_eq_map (v : Nat) : u64Tmp v = (List.range 8).map (fun q => (v >>> (8 * q)) &&& 255) := rfl

/-- both renderings of `nunavutSetUxx` copy from the same eight bytes -/
theorem u64Tmp_eq (v : Nat) : u64Tmp v = objRepLE (v % 2 ^ 64) 8 := by
  rw [objRepLE_eq_map, u64Tmp_eq_map]
  apply List.map_congr_left
  intro q hq
  have hq8 : q < 8 := List.mem_range.mp hq
  apply Nat.eq_of_testBit_eq
  intro j
  rw [testBit_and_255, testBit_and_255, Nat.testBit_shiftRight, Nat.testBit_shiftRight, Nat.testBit_mod_two_pow]
  by_cases hj : j < 8
  · rw [decide_eq_true (show 8 * q + j < 64 by omega), Bool.true_and]
  · rw [decide_eq_false hj, Bool.and_false, Bool.and_false]

theorem bitAt_u64Tmp (v k : Nat) : bitAt (u64Tmp v) k = (decide (k < 64) && v.testBit k) := by
  rw [u64Tmp_eq, bitAt_objRepLE, Nat.testBit_mod_two_pow, ← Bool.and_assoc, Bool.and_self]

theorem setUxx_small (little : Bool) (buf : Buf) (size off value len : Nat) (h : size * 8 < off + len) :
    setUxx little buf size off value len = .ok (errTooSmall, buf) := by
  simp [setUxx, h]

theorem setUxx_spec (little : Bool) (buf : Buf) (size off value len : Nat) (hsize : size ≤ buf.length)
    (h : ¬ size * 8 < off + len) :
    ∃ r, setUxx little buf size off value len = .ok (0, r) ∧ r.length = buf.length ∧ (WF buf → WF r) ∧
      ∀ i, bitAt r i = if off ≤ i ∧ i < off + min len 64 then value.testBit (i - off) else bitAt buf i := by
  unfold setUxx
  rw [if_neg h, chooseMin_eq, u64Tmp_eq, ite_self]
  obtain ⟨r, hr, hlen, hwf, hb⟩ := copyBits_ok buf off (min len 64) (objRepLE (value % 2 ^ 64) 8) 0
    (by rw [length_objRepLE]; omega) (by omega)
  refine ⟨r, by simp only [hr, bind, Except.bind], hlen, hwf (WF_objRepLE 8 _), hb.congr fun j hj => ?_⟩
  rw [Nat.zero_add, bitAt_objRepLE, Nat.testBit_mod_two_pow, decide_eq_true (show j < 64 by omega), Bool.true_and,
    Bool.true_and]

theorem setBit_small (buf : Buf) (size off : Nat) (value : Bool) (h : size * 8 ≤ off) :
    setBit buf size off value = .ok (errTooSmall, buf) := by
  simp [setBit, h]

theorem setBit_spec (buf : Buf) (size off : Nat) (value : Bool) (hsize : size ≤ buf.length)
    (h : ¬ size * 8 ≤ off) :
    ∃ r, setBit buf size off value = .ok (0, r) ∧ r.length = buf.length ∧ (WF buf → WF r) ∧
      ∀ i, bitAt r i = if i = off then value else bitAt buf i := by
  unfold setBit
  rw [if_neg h]
  obtain ⟨r, hr, hlen, hwf, hb⟩ := copyBits_ok buf off 1 [if value then 1 else 0] 0
    (fun _ => by simp) (by omega)
  refine ⟨r, by simp only [hr, bind, Except.bind], hlen, hwf ?_, fun i => ?_⟩
  · intro x hx
    cases value <;> simp at hx <;> omega
  · rw [hb i]
    by_cases hA : i = off
    · subst hA
      rw [if_pos ⟨Nat.le_refl _, Nat.lt_succ_self _⟩, if_pos rfl, Nat.sub_self]
      cases value <;> rfl
    · rw [if_neg (by omega), if_neg hA]

theorem copyBits_zeros (m : Nat) (buf : Buf) (size off n : Nat) (hsize : size ≤ buf.length) (hn : n ≤ 8 * m)
    (hw : WF buf) :
    ∃ r, copyBits (List.replicate m 0) 0 (min n (size * 8 - off)) buf off = .ok r ∧ WF r ∧
      ∀ i, bitAt r i = (decide (i < n) && zbit buf size (off + i)) := by
  obtain ⟨r, hr, _, hwf, hb⟩ := copyBits_ok (List.replicate m 0) 0 (min n (size * 8 - off)) buf off
    (by omega) (by rw [List.length_replicate]; omega)
  refine ⟨r, hr, hwf hw (WF_replicate _), fun i => ?_⟩
  rw [hb i, zbit_sat, bitAt_replicate_zero, Nat.zero_add, Nat.sub_zero]
  by_cases h : i < min n (size * 8 - off)
  · rw [if_pos ⟨Nat.zero_le _, h⟩, decide_eq_true h, Bool.true_and]
  · rw [if_neg (fun c => h c.2), decide_eq_false h, Bool.false_and]

theorem getU_spec (little : Bool) (W : Nat) (buf : Buf) (size off len : Nat) (hW : W % 8 = 0)
    (hsize : size ≤ buf.length) (hw : WF buf) :
    getU little W buf size off len = .ok (fieldOf (fun i => zbit buf size (off + i)) (min len W)) := by
  unfold getU
  rw [saturate_eq, chooseMin_eq, objRepLE_zero]
  obtain ⟨r, hr, hwr, hb⟩ := copyBits_zeros (W / 8) buf size off (min len W) hsize (by omega) hw
  have hv := eq_fieldOf fun i => (testBit_objValLE r i hwr).trans (hb i)
  -- both renderings return the value of the bytes `r`
  split <;> simp only [hr, bind, Except.bind, leLoad_eq r hwr, hv]

theorem wrapS_id (W : Nat) (z : Int) (hW : 0 < W) (h1 : -(2 ^ (W - 1)) ≤ z) (h2 : z < 2 ^ (W - 1)) :
    wrapS W z = z := by
  unfold wrapS
  have hp := two_pow_pred_int W hW
  by_cases hz : 0 ≤ z
  · rw [Int.emod_eq_of_lt hz (by omega), if_pos h2]
  · have : z % 2 ^ W = z + 2 ^ W := by
      rw [← Int.add_emod_right z (2 ^ W)]
      exact Int.emod_eq_of_lt (by omega) (by omega)
    simp only [this]
    rw [if_neg (by omega)]
    omega

theorem extWidth_ge (W : Nat) (h : W ≤ 64) : W ≤ extWidth W := by
  unfold extWidth; split <;> omega

/-- `(-(intW_t) y) - 1` for a small non-negative `y` (the complemented pattern): nothing overflows -/
theorem negate_no_overflow (W : Nat) (y : Int) (hW : 0 < W) (h0 : 0 ≤ y) (h1 : y < 2 ^ (W - 1)) :
    (if W ≥ 32 ∧ (wrapS W y = -(2 ^ (W - 1)) ∨ -wrapS W y - 1 < -(2 ^ (W - 1))) then (.error .overflow : Except Err Int)
      else .ok (wrapS W (-wrapS W y - 1))) = .ok (-y - 1) := by
  rw [wrapS_id W y hW (by omega) h1, if_neg (by omega), wrapS_id W _ hW (by omega) (by omega)]

theorem signExtend_spec (W sat u : Nat) (hW0 : 0 < W) (hW64 : W ≤ 64) (hsW : sat ≤ W) (hult : u < 2 ^ sat) :
    signExtend W sat u = .ok (if sat > 0 ∧ u.testBit (sat - 1) then (u : Int) - 2 ^ sat else (u : Int)) := by
  unfold signExtend
  simp only [and_two_pow_ne_zero]
  have hCW := extWidth_ge W hW64
  generalize extWidth W = C at hCW
  have hmono : 2 ^ (sat - 1) ≤ 2 ^ (W - 1) := Nat.pow_le_pow_right (by decide) (by omega)
  by_cases hneg : sat > 0 ∧ u.testBit (sat - 1) = true
  · simp only [hneg, decide_true, Bool.and_self, and_true, if_true]
    -- sign extension to `W` bits and complement: the pattern `2^sat - 1 - u`, which is below `2^(sat-1)`
    have hx0 : ((if sat < W then (u ||| (((1 <<< sat) - 1) ^^^ (2 ^ C - 1))) % 2 ^ W else u) ^^^ (2 ^ W - 1))
        = 2 ^ sat - (u + 1) := by
      apply Nat.eq_of_testBit_eq
      intro i
      rw [Nat.testBit_two_pow_sub_succ hult, Nat.testBit_xor, Nat.testBit_two_pow_sub_one]
      by_cases hlt : sat < W
      · simp only [hlt, if_true, Nat.testBit_mod_two_pow, Nat.testBit_or, Nat.testBit_xor,
          Nat.testBit_two_pow_sub_one, Nat.one_shiftLeft]
        by_cases h1 : i < sat
        · simp [h1, show i < W by omega, show i < C by omega]
        · by_cases h2 : i < W
          · simp [h1, h2, show i < C by omega]
          · simp [h1, h2]
      · obtain rfl : sat = W := by omega
        simp only [hlt, if_false]
        by_cases h1 : i < sat
        · simp [h1]
        · simp [h1, testBit_of_lt_two_pow hult (Nat.le_of_not_lt h1)]
    have hge : 2 ^ (sat - 1) ≤ u := Nat.ge_two_pow_of_testBit hneg.2
    have hp2 := two_pow_pred sat hneg.1
    have hA : ((2 ^ sat : Nat) : Int) = 2 ^ sat := by norm_cast
    have hQ : ((2 ^ (W - 1) : Nat) : Int) = 2 ^ (W - 1) := by norm_cast
    rw [hx0, negate_no_overflow W _ hW0 (by omega) (by omega)]
    congr 1
    omega
  · have hnb : (decide (sat > 0) && u.testBit (sat - 1)) = false := by
      cases h : u.testBit (sat - 1) <;> simp_all
    simp only [hnb, hneg, Bool.false_eq_true, and_false, if_false]
    have hsmall : u < 2 ^ (W - 1) := by
      by_cases h0 : sat > 0
      · exact Nat.lt_of_lt_of_le (lt_two_pow_pred hult (by cases h : u.testBit (sat - 1) <;> simp_all)) hmono
      · obtain rfl : sat = 0 := by omega
        exact Nat.lt_of_lt_of_le hult (Nat.pow_le_pow_right (by decide) (Nat.zero_le _))
    have hsI : (u : Int) < 2 ^ (W - 1) := by exact_mod_cast hsmall
    exact congrArg _ (wrapS_id W _ hW0 (by omega) hsI)

theorem getI_spec (little : Bool) (W : Nat) (buf : Buf) (size off len : Nat) (hW : W % 8 = 0) (hW0 : 0 < W)
    (hW64 : W ≤ 64) (hsize : size ≤ buf.length) (hw : WF buf) :
    getI little W buf size off len = .ok
      (let sat := min len W
       let u := fieldOf (fun i => zbit buf size (off + i)) sat
       if sat > 0 ∧ u.testBit (sat - 1) then (u : Int) - 2 ^ sat else (u : Int)) := by
  unfold getI
  dsimp only
  rw [chooseMin_eq, getU_spec little W buf size off (min len W) hW hsize hw]
  rw [show min (min len W) W = min len W by omega]
  simp only [bind, Except.bind]
  exact signExtend_spec W _ _ hW0 hW64 (by omega) (fieldOf_lt _ _)

theorem get?_ne_fuel (b : Buf) (i : Nat) : get? b i ≠ .error .fuel := by
  unfold get?; cases b[i]? <;> simp

theorem set?_ne_fuel (b : Buf) (i v : Nat) : set? b i v ≠ .error .fuel := by
  unfold set?; split <;> simp

theorem bind_ne_fuel {α β : Type} {x : Except Err α} {f : α → Except Err β} (hx : x ≠ .error .fuel)
    (hf : ∀ a, f a ≠ .error .fuel) : (x >>= f) ≠ .error .fuel := by
  cases x with
  | error e =>
    intro c
    have c' : (Except.error e : Except Err β) = .error .fuel := c
    exact hx (by rw [Except.error.inj c'])
  | ok a => exact hf a

theorem copyLoop_no_fuel (fuel : Nat) : ∀ (dst : Buf) (dOff : Nat) (src : Buf) (sOff lastBit : Nat),
    lastBit - sOff ≤ fuel → copyLoop fuel dst dOff src sOff lastBit ≠ .error .fuel := by
  induction fuel with
  | zero =>
    intro dst dOff src sOff lastBit h
    simp [copyLoop, show ¬ lastBit > sOff by omega]
  | succ fuel ih =>
    intro dst dOff src sOff lastBit h
    rw [copyLoop]
    split
    next hgt =>
      have hsz := copySize_bounds (Nat.mod_lt sOff (by decide)) (Nat.mod_lt dOff (by decide)) (Nat.sub_pos_of_lt hgt) rfl
      exact bind_ne_fuel (get?_ne_fuel _ _) fun s => bind_ne_fuel (get?_ne_fuel _ _) fun d =>
        bind_ne_fuel (set?_ne_fuel _ _ _) fun dst' => ih dst' _ src _ lastBit (by omega)
    next => exact nofun

theorem memmove_no_fuel (src : Buf) (n : Nat) : ∀ (dst : Buf) (pd ps : Nat), memmove dst pd src ps n ≠ .error .fuel := by
  induction n with
  | zero => intro dst pd ps; exact nofun
  | succ n ih =>
    intro dst pd ps
    exact bind_ne_fuel (get?_ne_fuel _ _) fun b => bind_ne_fuel (set?_ne_fuel _ _ _) fun d => ih d _ _

end NunavutVerif.Bits
