import NunavutVerif.Model.Config
/-!
Value-level lemmas for C13.  The merge is reduced to one function of two optional values, `combine`: a source entry
assigns `combine` of what target and source hold under its key (`step_eq_set`), hence so does the whole merge at a key
and at every path along which the source has no leaf above the end (`getPath_combine_map`); `pick`, the precedence
rule, is the fold of `combine` over the sources.
-/
namespace NunavutVerif.Config

variable {κ σ : Type} [DecidableEq κ]

namespace M

theorem get_set : ∀ (m : M κ σ) (k k' : κ) (v : V κ σ),
    (m.set k v).get k' = if k = k' then some v else m.get k'
  | .nil, k, k', v => rfl
  | .cons k0 v0 rest, k, k', v => by
    have ih := get_set rest k k' v
    by_cases h : k0 = k <;> by_cases hk : k0 = k' <;> simp_all [set, get]
    · intro h'; exact absurd h'.symm h

theorem get_set_self (m : M κ σ) (k : κ) (v : V κ σ) : (m.set k v).get k = some v := by
  rw [get_set, if_pos rfl]

theorem get_set_ne (m : M κ σ) {k k' : κ} (v : V κ σ) (h : k ≠ k') : (m.set k v).get k' = m.get k' := by
  rw [get_set, if_neg h]

theorem set_same : ∀ (m : M κ σ) (k : κ) (v : V κ σ), m.get k = some v → m.set k v = m
  | .cons k0 v0 rest, k, v, h => by
    simp only [get] at h
    simp only [set]
    split at h
    · rename_i hk; cases h; rw [if_pos hk]
    · rename_i hk; rw [if_neg hk, set_same rest k v h]

end M

theorem combine_none_right (t : Option (V κ σ)) : combine t none = t := rfl

theorem combine_map (t : Option (V κ σ)) (sm : M κ σ) :
    combine t (some (.map sm)) = some (deepUpdate (t.getD (.map .nil)) sm) := by
  cases t with
  | none => rfl
  | some tv => cases tv <;> rfl

theorem combine_explicit (t : Option (V κ σ)) {v : V κ σ} (hv : v.isExplicitLeaf = true) :
    combine t (some v) = some v := by
  cases v with
  | scalar _ | list _ => rfl
  | _ => cases hv

theorem combine_dflt (t : Option (V κ σ)) (x : σ) :
    combine t (some (.dflt x)) = if t.all V.isDflt then some (.dflt x) else t := by
  cases t with
  | none => rfl
  | some tv => cases tv <;> rfl

theorem mergeInto_nil (t : M κ σ) : mergeInto t .nil = t := rfl

theorem mergeInto_cons (t : M κ σ) (k : κ) (v : V κ σ) (rest : M κ σ) :
    mergeInto t (.cons k v rest) = mergeInto (step t k v) rest := by
  cases v with
  | map sm =>
    simp only [mergeInto, step, deepUpdate]
    congr 2
    cases t.get k with
    | none => rfl
    | some tv => cases tv <;> rfl
  | _ => rfl

theorem step_eq_set (t : M κ σ) (k : κ) (v : V κ σ) :
    ∃ w, combine (t.get k) (some v) = some w ∧ step t k v = t.set k w := by
  cases v with
  | map sm => exact ⟨_, combine_map _ sm, rfl⟩
  | scalar _ | list _ => exact ⟨_, rfl, rfl⟩
  | dflt x =>
    cases h : t.get k with
    | none => exact ⟨_, rfl, by simp only [step, assign, h]⟩
    | some tv =>
      cases tv with
      | dflt y => exact ⟨_, rfl, by simp only [step, assign, h]⟩
      -- `assign_to_if_not_default` skips the assignment: the value already there is what `combine` gives
      | _ => exact ⟨_, rfl, by simp only [step, assign, h, M.set_same t k _ h]⟩

theorem get_step (t : M κ σ) (k k' : κ) (v : V κ σ) :
    (step t k v).get k' = if k = k' then combine (t.get k) (some v) else t.get k' := by
  obtain ⟨w, hw, hs⟩ := step_eq_set t k v
  rw [hs, hw, M.get_set]

theorem get_assign (t : M κ σ) (k k' : κ) (v : V κ σ) (hv : v.isMap = false) :
    (assign t k v).get k' = if k = k' then combine (t.get k) (some v) else t.get k' := by
  cases v with
  | map m => cases hv
  | scalar x => exact get_step t k k' (.scalar x)
  | dflt x => exact get_step t k k' (.dflt x)
  | list xs => exact get_step t k k' (.list xs)

theorem get_mergeInto : ∀ (s t : M κ σ) (k : κ), s.NoDupKeys →
    (mergeInto t s).get k = combine (t.get k) (s.get k)
  | .nil, t, k, _ => rfl
  | .cons k0 v0 rest, t, k, ⟨h0, hr⟩ => by
    rw [mergeInto_cons, get_mergeInto rest (step t k0 v0) k hr, get_step]
    by_cases hk : k0 = k
    · subst hk; simp only [M.get, if_true, h0, combine_none_right]
    · simp only [M.get, hk, if_false]

theorem WF.noDup : ∀ {m : M κ σ}, m.WF → m.NoDupKeys
  | .nil, _ => trivial
  | .cons _ _ _, ⟨hk, _, hr⟩ => ⟨hk, WF.noDup hr⟩

theorem WF.get : ∀ {m : M κ σ} {k : κ} {v : V κ σ}, m.WF → m.get k = some v → v.WF
  | .cons k0 v0 rest, k, v, ⟨_, hv, hr⟩, h => by
    simp only [M.get] at h
    split at h
    · cases h; exact hv
    · exact WF.get hr h

theorem WF.set : ∀ {m : M κ σ} (k : κ) {v : V κ σ}, m.WF → v.WF → (m.set k v).WF
  | .nil, k, v, _, hv => ⟨rfl, hv, trivial⟩
  | .cons k0 v0 rest, k, v, ⟨h0, hv0, hr⟩, hv => by
    simp only [M.set]
    split
    · exact ⟨h0, hv, hr⟩
    · rename_i hk
      exact ⟨by rw [M.get_set_ne _ _ (Ne.symm hk)]; exact h0, hv0, WF.set k hr hv⟩

theorem WF.assign {t : M κ σ} (k : κ) {v : V κ σ} (ht : t.WF) (hv : v.WF) : (assign t k v).WF := by
  unfold Config.assign
  split <;> first | exact WF.set k ht hv | exact ht

def M.append : M κ σ → M κ σ → M κ σ
  | .nil, b => b
  | .cons k v rest, b => .cons k v (M.append rest b)

omit [DecidableEq κ] in
theorem M.append_nil : ∀ (a : M κ σ), a.append .nil = a
  | .nil => rfl
  | .cons k v rest => congrArg (M.cons k v) (M.append_nil rest)

theorem M.set_append : ∀ (t : M κ σ) (k : κ) (v : V κ σ) (rest : M κ σ), t.get k = none →
    (t.set k v).append rest = t.append (.cons k v rest)
  | .nil, _, _, _, _ => rfl
  | .cons k0 v0 r, k, v, rest, h => by
    simp only [M.get] at h
    split at h
    · cases h
    · rename_i hk; simp only [M.set, hk, if_false, M.append, M.set_append r k v rest h]

theorem M.disjoint_set {rest t : M κ σ} {k : κ} {v : V κ σ} (w : V κ σ) (hk : rest.get k = none)
    (hd : ∀ k' v', (M.cons k v rest).get k' = some v' → t.get k' = none) (k' : κ) (v' : V κ σ)
    (hk' : rest.get k' = some v') : (t.set k w).get k' = none := by
  have hne : k ≠ k' := fun h => by rw [← h, hk] at hk'; cases hk'
  rw [M.get_set_ne _ _ hne]
  exact hd k' v' ((if_neg hne).trans hk')

theorem mergeInto_disjoint : ∀ (s t : M κ σ), s.WF → (∀ k v, s.get k = some v → t.get k = none) →
    mergeInto t s = t.append s
  | .nil, t, _, _ => (M.append_nil t).symm
  | .cons k v rest, t, ⟨hk, hv, hr⟩, hd => by
    have htk : t.get k = none := hd k v (by simp only [M.get, if_true])
    have hstep : step t k v = t.set k v := by
      cases v with
      | map sm =>
        have : mergeInto .nil sm = sm := mergeInto_disjoint sm .nil hv (fun _ _ _ => rfl)
        simp only [step, htk, Option.getD_none, deepUpdate, this]
      | _ => simp only [step, assign, htk]
    rw [mergeInto_cons, hstep, mergeInto_disjoint rest _ hr (M.disjoint_set v hk hd), M.set_append t k v rest htk]

theorem mergeInto_nil_left (s : M κ σ) (hw : s.WF) : mergeInto .nil s = s :=
  mergeInto_disjoint s .nil hw (fun _ _ _ => rfl)

theorem getPath_nil (v : V κ σ) : v.getPath [] = some v := by
  cases v <;> rfl

theorem bind_getPath_nil (o : Option (V κ σ)) : (o.bind fun v => v.getPath []) = o := by
  cases o with
  | none => rfl
  | some v => exact getPath_nil v

theorem getPath_map_cons (m : M κ σ) (k : κ) (p : List κ) :
    (V.map m).getPath (k :: p) = (m.get k).bind (fun v => v.getPath p) := by
  cases h : m.get k <;> simp only [V.getPath, h, Option.bind]

theorem getPath_nonmap_cons (v : V κ σ) (hv : v.isMap = false) (k : κ) (p : List κ) :
    v.getPath (k :: p) = none := by
  cases v with
  | map m => cases hv
  | _ => rfl

/-- The target is an optional value, so that the keys below an absent or replaced entry are covered by the same
induction. -/
theorem getPath_combine_map (p : List κ) (a : Option (V κ σ)) (s : M κ σ) (hw : s.WF)
    (ho : (V.map s).getPath p = none → unmentioned s p = true) :
    (combine a (some (.map s))).bind (fun v => v.getPath p) =
      combine (a.bind fun v => v.getPath p) ((V.map s).getPath p) := by
  induction p generalizing a s with
  | nil => rw [bind_getPath_nil, bind_getPath_nil, getPath_nil]
  | cons k p ih =>
    have ontoMap (tm : M κ σ) : (V.map (mergeInto tm s)).getPath (k :: p) =
        combine ((V.map tm).getPath (k :: p)) ((V.map s).getPath (k :: p)) := by
      rw [getPath_map_cons, getPath_map_cons, getPath_map_cons, get_mergeInto s tm k (WF.noDup hw)]
      cases hg : s.get k with
      | none => rfl
      | some sv =>
        rw [getPath_map_cons, hg] at ho
        cases sv with
        | map sm => exact ih _ sm (WF.get hw hg) (by simpa only [unmentioned, hg, Option.bind_some] using ho)
        | _ =>
          cases p with
          | nil => simp only [bind_getPath_nil]
          | cons k' p =>
            -- the path goes on below a leaf of the source, which `ho` excludes
            have : unmentioned s (k :: k' :: p) = false := by simp only [unmentioned, hg]
            cases this.symm.trans (ho rfl)
    cases a with
    | none => exact ontoMap .nil
    | some av =>
      cases av with
      | map tm => exact ontoMap tm
      | _ =>
        -- a copy of the source stands in place of the target's leaf: the source merged into `{}`
        have := ontoMap .nil
        rw [mergeInto_nil_left s hw] at this
        exact this

theorem getPath_mergeInto_open (p : List κ) (s t : M κ σ) (hw : s.WF)
    (ho : (V.map s).getPath p = none → unmentioned s p = true) :
    (V.map (mergeInto t s)).getPath p = combine ((V.map t).getPath p) ((V.map s).getPath p) :=
  getPath_combine_map p (some (.map t)) s hw ho

theorem getPath_mergeInto_some (p : List κ) (t s : M κ σ) (l : V κ σ) (hs : s.WF)
    (h : (V.map s).getPath p = some l) :
    (V.map (mergeInto t s)).getPath p = combine ((V.map t).getPath p) (some l) := by
  rw [getPath_mergeInto_open p s t hs (fun hn => by rw [h] at hn; cases hn), h]

theorem getPath_mergeInto_explicit (p : List κ) (t s : M κ σ) (l : V κ σ) (hs : s.WF)
    (h : (V.map s).getPath p = some l) (hl : l.isExplicitLeaf = true) :
    (V.map (mergeInto t s)).getPath p = some l := by
  rw [getPath_mergeInto_some p t s l hs h, combine_explicit _ hl]

theorem getPath_deepUpdate_explicit (p : List κ) (t : V κ σ) (s : M κ σ) (l : V κ σ) (hs : s.WF)
    (h : (V.map s).getPath p = some l) (hl : l.isExplicitLeaf = true) :
    (deepUpdate t s).getPath p = some l := by
  cases t with
  | map tm => exact getPath_mergeInto_explicit p tm s l hs h hl
  | _ => exact h

theorem getPath_foldl_mergeInto (p : List κ) (ss : List (M κ σ)) (t : M κ σ) (hw : ∀ s ∈ ss, s.WF)
    (ho : ∀ s ∈ ss, (V.map s).getPath p = none → unmentioned s p = true) :
    (V.map (ss.foldl mergeInto t)).getPath p =
      (ss.map fun s => (V.map s).getPath p).foldl combine ((V.map t).getPath p) := by
  induction ss generalizing t with
  | nil => rfl
  | cons s ss ih =>
    rw [List.forall_mem_cons] at hw ho
    rw [List.foldl_cons, List.map_cons, List.foldl_cons, ih _ hw.2 ho.2, getPath_mergeInto_open p s t hw.1 ho.1]

theorem unmentioned_getPath (p : List κ) (s : M κ σ) (h : unmentioned s p = true) :
    (V.map s).getPath p = none := by
  induction p generalizing s with
  | nil => cases h
  | cons k p ih =>
    rw [getPath_map_cons]
    cases hg : s.get k with
    | none => rfl
    | some sv =>
      cases sv with
      | map sm => exact ih sm (by simpa only [unmentioned, hg] using h)
      | _ => simp [unmentioned, hg] at h

theorem compat_iff (p : List κ) (s : M κ σ) :
    compat s p = true ↔ (∀ v, (V.map s).getPath p = some v → v.isLeaf = true) ∧
      ((V.map s).getPath p = none → unmentioned s p = true) := by
  induction p generalizing s with
  | nil => exact ⟨fun h => (nomatch h), fun h => nomatch h.1 _ (getPath_nil _)⟩
  | cons k p ih =>
    rw [getPath_map_cons]
    cases hg : s.get k with
    | none => cases p <;> simp [compat, unmentioned, hg]
    | some sv =>
      cases p with
      | nil => simp [compat, hg, getPath_nil]
      | cons k' p =>
        cases sv with
        | map sm => simpa only [compat, unmentioned, hg, Option.bind_some] using ih sm
        | _ => simp [compat, unmentioned, hg, V.getPath]

omit [DecidableEq κ] in
theorem pick_result (xs : List (Option (V κ σ))) :
    pick xs = none ∨ ∃ v, pick xs = some v ∧ (v.isExplicitLeaf = true ∨ v.isDflt = true) := by
  unfold pick
  cases h : (xs.filterMap id).reverse.find? V.isExplicitLeaf with
  | some v => exact .inr ⟨v, rfl, .inl (List.find?_some h)⟩
  | none =>
    cases h2 : (xs.filterMap id).reverse.find? V.isDflt with
    | none => exact .inl rfl
    | some v => exact .inr ⟨v, rfl, .inr (List.find?_some h2)⟩

theorem pick_snoc (xs : List (Option (V κ σ))) (x : Option (V κ σ))
    (hx : ∀ v, x = some v → v.isLeaf = true) : pick (xs ++ [x]) = combine (pick xs) x := by
  cases x with
  | none => simp [pick, combine]
  | some v =>
    unfold pick
    simp only [List.filterMap_append, List.filterMap_cons, id, List.filterMap_nil, List.reverse_append,
      List.reverse_cons, List.reverse_nil, List.nil_append, List.cons_append, List.find?_cons]
    cases v with
    | map m => cases hx _ rfl
    | scalar a => rfl
    | list a => rfl
    | dflt a =>
      -- a default at the end: the earlier explicit leaf stays; otherwise it is the last default
      rw [combine_dflt]
      cases h1 : (xs.filterMap id).reverse.find? V.isExplicitLeaf with
      | some w =>
        have hw : w.isDflt = false := by cases w <;> first | rfl | cases List.find?_some h1
        exact (if_neg (ne_true_of_eq_false hw)).symm
      | none =>
        cases h2 : (xs.filterMap id).reverse.find? V.isDflt with
        | none => rfl
        | some w => exact (if_pos (List.find?_some h2)).symm

theorem foldl_combine_pick_append (xs : List (Option (V κ σ))) (ys : List (Option (V κ σ)))
    (hy : ∀ y ∈ ys, ∀ v, y = some v → v.isLeaf = true) :
    ys.foldl combine (pick xs) = pick (xs ++ ys) := by
  induction ys generalizing xs with
  | nil => rw [List.append_nil]; rfl
  | cons y ys ih =>
    rw [List.forall_mem_cons] at hy
    rw [List.foldl_cons, ← pick_snoc xs y hy.1, ih _ hy.2, List.append_assoc]; rfl

theorem foldl_combine_eq_pick (x : Option (V κ σ)) (ys : List (Option (V κ σ)))
    (hx : ∀ v, x = some v → v.isLeaf = true) (hy : ∀ y ∈ ys, ∀ v, y = some v → v.isLeaf = true) :
    ys.foldl combine x = pick (x :: ys) := by
  have h1 : pick [x] = x := by
    cases x with
    | none => rfl
    | some v => cases v with
      | map _ => cases hx _ rfl
      | _ => rfl
  rw [← h1, foldl_combine_pick_append [x] ys hy, h1]; rfl

theorem foldl_combine_explicit {l : V κ σ} (hl : l.isExplicitLeaf = true) (ys : List (Option (V κ σ)))
    (hy : ∀ y ∈ ys, ∀ v, y = some v → v.isDflt = true) : ys.foldl combine (some l) = some l := by
  induction ys with
  | nil => rfl
  | cons y ys ih =>
    rw [List.forall_mem_cons] at hy
    have : combine (some l) y = some l := by
      cases y with
      | none => rfl
      | some v =>
        cases v with
        | dflt x => cases l <;> first | rfl | cases hl
        | _ => cases hy.1 _ rfl
    rw [List.foldl_cons, this, ih hy.2]

theorem deepUpdate_idem_of {s : M κ σ} (h : ∀ t, mergeInto (mergeInto t s) s = mergeInto t s) (hw : s.WF)
    (t : V κ σ) : deepUpdate (deepUpdate t s) s = deepUpdate t s := by
  have hself : mergeInto s s = s := by
    have := h .nil
    rwa [mergeInto_nil_left s hw] at this
  cases t with
  | map tm => exact congrArg V.map (h tm)
  | _ => exact congrArg V.map hself

/-- `deep_update` is idempotent in its source (what makes a second `create()` harmless). -/
theorem mergeInto_idem : ∀ (s t : M κ σ), s.WF → mergeInto (mergeInto t s) s = mergeInto t s
  | .nil, t, _ => rfl
  | .cons k v rest, t, ⟨hk, hv, hr⟩ => by
    rw [mergeInto_cons t, mergeInto_cons]
    -- after one merge key `k` holds what the entry `(k, v)` made of it: the rest does not mention `k`
    have hU : (mergeInto (step t k v) rest).get k = combine (t.get k) (some v) := by
      rw [get_mergeInto rest _ k (WF.noDup hr), hk, combine_none_right, get_step, if_pos rfl]
    -- and the entry, applied to that, assigns the same value again: `combine` is idempotent in its source
    have hfix : step (mergeInto (step t k v) rest) k v = mergeInto (step t k v) rest := by
      generalize mergeInto (step t k v) rest = U at hU ⊢
      obtain ⟨w, hw, hs⟩ := step_eq_set U k v
      rw [hs]
      refine M.set_same U k w ?_
      rw [← hw, hU]
      cases v with
      | map sm =>
        rw [combine_map, combine_map, Option.getD_some,
          deepUpdate_idem_of (fun t2 => mergeInto_idem sm t2 hv) hv]
      | dflt x =>
        cases t.get k with
        | none => rfl
        | some tv => cases tv <;> rfl
      | _ => rfl
    rw [hfix]
    exact mergeInto_idem rest _ hr

theorem deepUpdate_idem (t : V κ σ) (s : M κ σ) (hw : s.WF) :
    deepUpdate (deepUpdate t s) s = deepUpdate t s :=
  deepUpdate_idem_of (fun t => mergeInto_idem s t hw) hw t

/-- `update_section(name, data)` twice is `update_section(name, data)` once. -/
theorem set_deepUpdate_idem {c c' : M κ σ} {l : κ} {s : M κ σ} (hw : s.WF)
    (hc : c' = c.set l (deepUpdate ((c.get l).getD (.map .nil)) s)) :
    c'.set l (deepUpdate ((c'.get l).getD (.map .nil)) s) = c' := by
  subst hc
  rw [M.get_set_self, Option.getD_some, deepUpdate_idem _ s hw]
  exact M.set_same _ _ _ (M.get_set_self _ _ _)

def OExt (a b : Option (V κ σ)) : Prop :=
  ∀ p : List κ, obs (a.bind fun v => v.getPath p) = obs (b.bind fun v => v.getPath p)

theorem OExt.refl (a : Option (V κ σ)) : OExt a a := fun _ => rfl

theorem ExtEq.get {t t' : M κ σ} (h : ExtEq (V.map t) (V.map t')) (k : κ) : OExt (t.get k) (t'.get k) := by
  intro p
  simpa only [getPath_map_cons] using h (k :: p)

theorem ExtEq.oext {v w : V κ σ} (h : ExtEq v w) : OExt (some v) (some w) := h

theorem ExtEq.map_of_get {m m' : M κ σ} (h : ∀ k, OExt (m.get k) (m'.get k)) :
    ExtEq (V.map m) (V.map m') := by
  intro p
  cases p with
  | nil => rfl
  | cons k p => simpa only [getPath_map_cons] using h k p

omit [DecidableEq κ] in
theorem obs_inj {a b : Option (V κ σ)} (h : obs a = obs b) :
    a = b ∨ ∃ m m', a = some (.map m) ∧ b = some (.map m') := by
  cases a with
  | none =>
    cases b with
    | none => exact .inl rfl
    | some w => cases w <;> cases h
  | some v =>
    cases b with
    | none => cases v <;> cases h
    | some w =>
      cases v <;> cases w <;> first | (cases h <;> exact .inl rfl) | exact .inr ⟨_, _, rfl, rfl⟩

theorem OExt.cases {a b : Option (V κ σ)} (h : OExt a b) :
    (a = b ∧ ∀ m, a ≠ some (.map m)) ∨
      ∃ m m', a = some (.map m) ∧ b = some (.map m') ∧ ExtEq (V.map m) (V.map m') := by
  have h0 := h []
  rw [bind_getPath_nil, bind_getPath_nil] at h0
  rcases obs_inj h0 with rfl | ⟨m, m', rfl, rfl⟩
  · cases a with
    | none => exact .inl ⟨rfl, fun _ e => nomatch e⟩
    | some v =>
      cases v with
      | map m => exact .inr ⟨m, m, rfl, rfl, fun _ => rfl⟩
      | _ => exact .inl ⟨rfl, fun _ e => nomatch e⟩
  · exact .inr ⟨m, m', rfl, rfl, h⟩

omit [DecidableEq κ] in
theorem keys_eq_map_toList : ∀ (m : M κ σ), m.keys = m.toList.map Prod.fst
  | .nil => rfl
  | .cons k _ rest => congrArg (k :: ·) (keys_eq_map_toList rest)

theorem mem_keys : ∀ (m : M κ σ) (k : κ), k ∈ m.keys ↔ (m.get k).isSome
  | .nil, k => ⟨fun h => (nomatch h), fun h => (nomatch h)⟩
  | .cons k0 v rest, k => by
    simp only [M.keys, M.get, List.mem_cons]
    split
    · rename_i h; exact ⟨fun _ => rfl, fun _ => .inl h.symm⟩
    · rename_i h
      exact ⟨fun hm => (mem_keys rest k).mp (hm.resolve_left fun e => h e.symm),
        fun hs => .inr ((mem_keys rest k).mpr hs)⟩

theorem noDupKeys_iff : ∀ (m : M κ σ), m.NoDupKeys ↔ m.keys.Nodup
  | .nil => ⟨fun _ => List.nodup_nil, fun _ => trivial⟩
  | .cons k v rest => by
    rw [M.NoDupKeys, M.keys, List.nodup_cons, noDupKeys_iff rest, mem_keys, Option.not_isSome_iff_eq_none]

theorem get_eq_some_iff : ∀ (m : M κ σ) (k : κ) (v : V κ σ), m.NoDupKeys →
    (m.get k = some v ↔ (k, v) ∈ m.toList)
  | .nil, _, _, _ => ⟨fun h => (nomatch h), fun h => (nomatch h)⟩
  | .cons k0 v0 rest, k, v, ⟨h0, hr⟩ => by
    simp only [M.get, M.toList, List.mem_cons, Prod.mk.injEq]
    split
    · -- the key of the head: by `h0` it does not occur in the rest
      rename_i hk
      subst hk
      refine ⟨fun h => .inl ⟨rfl, (Option.some.inj h).symm⟩,
        fun h => h.elim (fun e => congrArg some e.2.symm) fun hm => ?_⟩
      rw [(get_eq_some_iff rest k0 v hr).mpr hm] at h0
      cases h0
    · rename_i hk
      rw [get_eq_some_iff rest k v hr]
      exact ⟨.inr, fun h => h.resolve_left fun e => hk e.1.symm⟩

theorem get_dictUpdate : ∀ (g o : M κ σ) (k : κ), g.NoDupKeys →
    (dictUpdate o g).get k = match g.get k with | some v => some v | none => o.get k
  | .nil, o, k, _ => rfl
  | .cons k0 v0 rest, o, k, h => by
    rw [dictUpdate, get_dictUpdate rest _ k h.2]
    by_cases hk : k0 = k
    · subst hk; simp [M.get, h.1, M.get_set]
    · simp [M.get, hk, M.get_set]

def cfgOf (valid : κ → Bool) (c : M κ σ) : List (Op κ σ) → Except Err (M κ σ)
  | [] => .ok c
  | .addFile doc :: ops =>
    (match update valid c doc with
     | .ok c' => cfgOf valid c' ops
     | .error e => .error e)
  | _ :: ops => cfgOf valid c ops

def ovrOf (o : M κ σ) : List (Op κ σ) → M κ σ
  | [] => o
  | .setOverride k (some v) :: ops => ovrOf (o.set k v) ops
  | _ :: ops => ovrOf o ops

def langOf (d : κ) (l : Option κ) : List (Op κ σ) → Option κ
  | [] => l
  | .setLanguage none :: ops => langOf d (some d) ops
  | .setLanguage (some x) :: ops => langOf d (some x) ops
  | _ :: ops => langOf d l ops

theorem run_closed (valid : κ → Bool) (d : κ) (ops : List (Op κ σ)) (b : Builder κ σ) :
    Builder.run valid d b ops =
      match cfgOf valid b.config ops with
      | .ok c => .ok ⟨c, ovrOf b.overrides ops, langOf d b.lang ops⟩
      | .error e => .error e := by
  induction ops generalizing b with
  | nil => rfl
  | cons op ops ih =>
    cases op with
    | addFile doc =>
      simp only [Builder.run, Builder.apply, cfgOf]
      cases update valid b.config doc with
      | error e => rfl
      | ok c => exact ih _
    | setOverride k v => cases v <;> exact ih _
    | setLanguage l => cases l <;> exact ih _

theorem cfgOf_filter (valid : κ → Bool) (ops : List (Op κ σ)) (c : M κ σ) :
    cfgOf valid c ops = cfgOf valid c (ops.filter Op.isFile) := by
  induction ops generalizing c with
  | nil => rfl
  | cons op ops ih =>
    cases op with
    | addFile doc =>
      simp only [cfgOf, List.filter_cons, Op.isFile, if_true]
      cases update valid c doc with
      | error e => rfl
      | ok c' => exact ih c'
    | _ => exact ih c

theorem ovrOf_filter (ops : List (Op κ σ)) (o : M κ σ) :
    ovrOf o ops = ovrOf o (ops.filter fun op => !op.isFile) := by
  induction ops generalizing o with
  | nil => rfl
  | cons op ops ih =>
    cases op with
    | setOverride k v => cases v <;> exact ih _
    | _ => exact ih o

omit [DecidableEq κ] in
theorem langOf_filter (d : κ) (ops : List (Op κ σ)) (l : Option κ) :
    langOf d l ops = langOf d l (ops.filter fun op => !op.isFile) := by
  induction ops generalizing l with
  | nil => rfl
  | cons op ops ih =>
    cases op with
    | setLanguage x => cases x <;> exact ih _
    | _ => exact ih l

theorem run_filter (valid : κ → Bool) (d : κ) (ops : List (Op κ σ)) (b : Builder κ σ) :
    Builder.run valid d b ops =
      match cfgOf valid b.config (ops.filter Op.isFile) with
      | .ok c => .ok ⟨c, ovrOf b.overrides (ops.filter fun op => !op.isFile),
          langOf d b.lang (ops.filter fun op => !op.isFile)⟩
      | .error e => .error e := by
  rw [run_closed, cfgOf_filter, ovrOf_filter, langOf_filter]

end NunavutVerif.Config
