import NunavutVerif.Lemmas.DsdlLen
/-!
Laws of the DSDL decoder: how many bits a successful decoding consumes, implicit zero extension, implicit
truncation (only the consumed prefix matters), where errors can come from.
-/
namespace NunavutVerif.Dsdl

theorem deAll_length {f : List Bool → Except DeErr (Val × Nat)} :
    ∀ (c : Nat) (bs : List Bool) (vs : List Val) (n : Nat), deAllWith f c bs = .ok (vs, n) → vs.length = c := by
  intro c
  induction c with
  | zero => intro bs vs n h; simp [deAllWith] at h; simp [h.1]
  | succ c ih =>
    intro bs vs n h
    obtain ⟨v, n₁, vs', m, _, h2, rfl, _⟩ := deAllWith_succ_ok h
    simp [ih _ _ _ h2]

theorem deFields_off_le {fs : List Ty} :
    ∀ bs off vs e, deFields fs bs off = .ok (vs, e) → off ≤ e := by
  induction fs with
  | nil => intro bs off vs e hd; cases hd; exact Nat.le_refl _
  | cons f fs ihf =>
    intro bs off vs e hd
    obtain ⟨v, n, vs', h1, h2, rfl⟩ := deFields_cons_ok hd
    exact Nat.le_trans (Nat.le_trans (padTo_ge (align f) off) (Nat.le_add_right ..)) (ihf _ _ _ _ h2)

theorem deAll_prim {t : Ty} {w : Nat} {f : List Bool → Val} (h : ∀ bs, deBits t bs = .ok (f bs, w)) :
    ∀ k bs, deAllWith (deBits t) k bs = .ok ((List.range k).map (fun i => f (bs.drop (i * w))), k * w) := by
  intro k
  induction k with
  | zero => intro bs; simp [deAllWith]
  | succ k ih =>
    intro bs
    simp only [deAllWith, h, ih]
    congr 2
    · rw [List.range_succ_eq_map, List.map_cons, List.map_map]
      congr 1
      · simp
      · apply List.map_congr_left
        intro i _
        simp only [Function.comp, List.drop_drop]
        congr 2
        rw [Nat.succ_mul]; omega
    · rw [Nat.succ_mul]; omega

theorem deAll_triv {t : Ty} {v : Val} (h : ∀ bs, deBits t bs = .ok (v, 0)) :
    ∀ k bs, deAllWith (deBits t) k bs = .ok (List.replicate k v, 0) := by
  intro k
  induction k with
  | zero => intro bs; rfl
  | succ k ih => intro bs; simp [deAllWith, h, ih, List.replicate_succ]

theorem deAll_len {t : Ty} {A : Nat} (h : ∀ bs v n, deBits t bs = .ok (v, n) → A ≤ n ∧ n % align t = 0) :
    ∀ (c : Nat) (bs : List Bool) (vs : List Val) (n : Nat), deAllWith (deBits t) c bs = .ok (vs, n) →
      c * A ≤ n ∧ n % align t = 0 := by
  intro c
  induction c with
  | zero => intro bs vs n hd; simp [deAllWith] at hd; simp [hd.2.symm]
  | succ c ih =>
    intro bs vs n hd
    obtain ⟨v, n₁, vs', m, h1, h2, _, rfl⟩ := deAllWith_succ_ok hd
    have a := h _ _ _ h1
    have b := ih _ _ _ h2
    exact ⟨by rw [Nat.succ_mul]; omega, add_mod_zero a.2 b.2⟩

/-- The decoder's counterpart of `LenOK` (no upper bound: a delimiter header may announce any length). -/
def DeLen (t : Ty) : Prop :=
  ∀ bs v n, deBits t bs = .ok (v, n) → minBits t ≤ n ∧ n % align t = 0

theorem deFields_min {fs : List Ty} (ih : ∀ f ∈ fs, DeLen f) :
    ∀ bs off vs e, deFields fs bs off = .ok (vs, e) → minFields fs off ≤ e := by
  induction fs with
  | nil => intro bs off vs e h; cases h; exact Nat.le_refl _
  | cons f fs ihf =>
    intro bs off vs e h
    obtain ⟨ihf', ihfs⟩ := List.forall_mem_cons.1 ih
    obtain ⟨v, n, vs', h1, h2, _⟩ := deFields_cons_ok h
    exact Nat.le_trans (minFields_mono fs (Nat.add_le_add_left (ihf' _ _ _ h1).1 _)) (ihf ihfs _ _ _ _ h2)

theorem deLen (t : Ty) : DeLen t := by
  have h8 : (8 : Nat) = 1 ∨ 8 = 8 := Or.inr rfl
  induction t using Ty.ind with
  | uint | sint | float | bool | void =>
    intro bs v k h
    cases h
    exact ⟨Nat.le_refl _, Nat.mod_one _⟩
  | arr t c ih =>
    intro bs v n h
    obtain ⟨vs, hd, _⟩ := deBits_arr_ok h
    exact deAll_len ih c bs vs n hd
  | varr t cap ih =>
    intro bs v n h
    obtain ⟨_, vs, used, hd, _, rfl⟩ := deBits_varr_ok h
    exact ⟨Nat.le_add_right _ _, add_mod_zero (stdWidth_mod_align cap t) (deAll_len ih _ _ vs used hd).2⟩
  | struct fs ih =>
    intro bs v n h
    obtain ⟨vs, off, hd, _, rfl⟩ := deBits_struct_ok h
    exact ⟨padTo_mono h8 (deFields_min ih _ _ _ _ hd), padTo_mod h8 off⟩
  | union fs ih =>
    intro bs v n h
    obtain ⟨hk, v', used, hd, _, rfl⟩ := deBits_union_ok h
    exact ⟨padTo_mono h8 (Nat.add_le_add_left
      (Nat.le_trans (opts_bounds hk).1 (ih _ (List.getElem_mem hk) _ _ _ hd).1) _), padTo_mod h8 _⟩
  | delim e t =>
    intro bs v n h
    obtain ⟨_, used, _, rfl⟩ := deBits_delim_ok h
    exact ⟨Nat.le_add_right .., add_mod_zero (a := 8) rfl (Nat.mul_mod_right ..)⟩

/-! Zero extension and truncation are two instances of one fact: a successful decoding is unchanged when
the data are replaced by data the reader cannot tell apart within the bits it consumes. -/

/-- What the induction needs of `R n bs bs'`, "`bs'` may replace `bs` for a reader that consumes `n` bits". -/
structure Unseen (R : Nat → List Bool → List Bool → Prop) : Prop where
  mono {n m bs bs'} : R n bs bs' → m ≤ n → R m bs bs'
  drop {o i bs bs'} : R (o + i) bs bs' → R i (bs.drop o) (bs'.drop o)
  read {n bs bs'} : R n bs bs' → readNat n bs' = readNat n bs
  -- for a delimited member: the bytes its header announces, if the data held them, are still all there and the same
  take {o i bs bs'} : R (o + i) bs bs' → i ≤ (bs.drop o).length →
    i ≤ (bs'.drop o).length ∧ (bs'.drop o).take i = (bs.drop o).take i

section
variable {R : Nat → List Bool → List Bool → Prop}

def StableOK (R : Nat → List Bool → List Bool → Prop) (t : Ty) : Prop :=
  ∀ bs bs' v n, deBits t bs = .ok (v, n) → R n bs bs' → deBits t bs' = .ok (v, n)

theorem deAll_stable (hR : Unseen R) {t : Ty} (h : StableOK R t) :
    ∀ c bs bs' vs n, deAllWith (deBits t) c bs = .ok (vs, n) → R n bs bs' →
      deAllWith (deBits t) c bs' = .ok (vs, n) := by
  intro c
  induction c with
  | zero => intro bs bs' vs n hd _; exact hd
  | succ c ih =>
    intro bs bs' vs n hd hr
    obtain ⟨v, n₁, vs', m, h1, h2, rfl, rfl⟩ := deAllWith_succ_ok hd
    simp only [deAllWith, h bs bs' v n₁ h1 (hR.mono hr (Nat.le_add_right ..)), ih _ _ vs' m h2 (hR.drop hr)]

theorem deFields_stable (hR : Unseen R) {fs : List Ty} (ih : ∀ f ∈ fs, StableOK R f) :
    ∀ bs bs' off vs e, deFields fs bs off = .ok (vs, e) → R e bs bs' →
      deFields fs bs' off = .ok (vs, e) := by
  induction fs with
  | nil => intro bs bs' off vs e hd _; exact hd
  | cons f fs ihf =>
    intro bs bs' off vs e hd hr
    obtain ⟨ihf', ihfs⟩ := List.forall_mem_cons.1 ih
    obtain ⟨v, n, vs', h1, h2, rfl⟩ := deFields_cons_ok hd
    simp only [deFields, ihf' _ _ v n h1 (hR.drop (hR.mono hr (deFields_off_le _ _ _ _ h2))),
      ihf ihfs bs bs' _ _ _ h2 hr]

theorem stableOK (hR : Unseen R) (t : Ty) : StableOK R t := by
  induction t using Ty.ind with
  | uint | sint | float | bool =>
    intro bs bs' v c h hr
    cases h
    simp only [deBits, hR.read hr]
  | void n => intro bs bs' v c h _; exact h
  | arr t n ih =>
    intro bs bs' v c h hr
    obtain ⟨vs, h1, rfl⟩ := deBits_arr_ok h
    simp only [deBits, deAll_stable hR ih _ _ _ _ _ h1 hr]
  | varr t cap ih =>
    intro bs bs' v c h hr
    obtain ⟨hk, vs, used, h1, rfl, rfl⟩ := deBits_varr_ok h
    simp only [deBits, hR.read (hR.mono hr (Nat.le_add_right ..)), if_neg hk,
      deAll_stable hR ih _ _ _ _ _ h1 (hR.drop hr)]
  | struct fs ih =>
    intro bs bs' v c h hr
    obtain ⟨vs, off, h1, rfl, rfl⟩ := deBits_struct_ok h
    simp only [deBits, deFields_stable hR ih _ _ _ _ _ h1 (hR.mono hr (padTo_ge 8 off))]
  | union fs ih =>
    intro bs bs' v c h hr
    obtain ⟨hk, v', used, h1, rfl, rfl⟩ := deBits_union_ok h
    have hr' := hR.mono hr (padTo_ge 8 (tagBits fs.length + used))
    simp only [deBits, hR.read (hR.mono hr' (Nat.le_add_right ..)), if_neg (Nat.not_le.2 hk), deNth_eq hk,
      ih _ (List.getElem_mem hk) _ _ _ _ h1 (hR.drop hr')]
  | delim e t =>
    intro bs bs' v c h hr
    obtain ⟨hk, used, h1, rfl⟩ := deBits_delim_ok h
    obtain ⟨hl, ht⟩ := hR.take hr (Nat.not_lt.1 hk)
    simp only [deBits, hR.read (hR.mono hr (Nat.le_add_right ..)), if_neg (Nat.not_lt.2 hl), ht, h1]

end

theorem unseen_zeros : Unseen fun _ bs bs' => ∃ k, bs' = bs ++ zeros k where
  mono h _ := h
  drop := fun ⟨k, h⟩ => h ▸ drop_append_zeros _ k _
  read := fun ⟨k, h⟩ => h ▸ readNat_append_zeros _ k _
  take := by
    rintro o i bs _ ⟨k, rfl⟩ hi
    obtain ⟨j, hj⟩ := drop_append_zeros o k bs
    rw [hj, List.length_append, List.take_append_of_le_length hi]
    exact ⟨Nat.le_trans hi (Nat.le_add_right ..), rfl⟩

theorem take_eq_of_le {α : Type} {a b : List α} {i n : Nat} (hi : i ≤ n) (h : a.take n = b.take n) :
    a.take i = b.take i := by
  rw [← Nat.min_eq_left hi, ← List.take_take, ← List.take_take, h]

theorem take_drop_eq {α : Type} {a b : List α} {o i : Nat} (h : a.take (o + i) = b.take (o + i)) :
    (a.drop o).take i = (b.drop o).take i := by
  rw [List.take_drop, List.take_drop, h]

theorem le_length_drop {α : Type} {l : List α} {o i : Nat} (h : o + i ≤ l.length) :
    i ≤ (l.drop o).length := by
  rw [List.length_drop]; exact Nat.le_sub_of_add_le' h

theorem unseen_prefix :
    Unseen fun n bs bs' => n ≤ bs.length ∧ n ≤ bs'.length ∧ bs'.take n = bs.take n where
  mono := fun ⟨hl, hl', ht⟩ hm => ⟨Nat.le_trans hm hl, Nat.le_trans hm hl', take_eq_of_le hm ht⟩
  drop := fun ⟨hl, hl', ht⟩ => ⟨le_length_drop hl, le_length_drop hl', take_drop_eq ht⟩
  read := fun ⟨_, _, ht⟩ => congrArg bitsToNat ht
  take := fun ⟨_, hl', ht⟩ _ => ⟨le_length_drop hl', take_drop_eq ht⟩

mutual
def hasVarr : Ty → Bool
  | .arr t _ => hasVarr t
  | .varr _ _ => true
  | .struct fs => anyVarr fs
  | .union fs => anyVarr fs
  | .delim _ t => hasVarr t
  | _ => false
def anyVarr : List Ty → Bool
  | [] => false
  | f :: fs => hasVarr f || anyVarr fs
end

mutual
def hasUnion : Ty → Bool
  | .arr t _ => hasUnion t
  | .varr t _ => hasUnion t
  | .struct fs => anyUnion fs
  | .union _ => true
  | .delim _ t => hasUnion t
  | _ => false
def anyUnion : List Ty → Bool
  | [] => false
  | f :: fs => hasUnion f || anyUnion fs
end

mutual
def hasDelim : Ty → Bool
  | .arr t _ => hasDelim t
  | .varr t _ => hasDelim t
  | .struct fs => anyDelim fs
  | .union fs => anyDelim fs
  | .delim _ _ => true
  | _ => false
def anyDelim : List Ty → Bool
  | [] => false
  | f :: fs => hasDelim f || anyDelim fs
end

def needs : DeErr → Ty → Bool
  | .badArrayLength, t => hasVarr t
  | .badUnionTag, t => hasUnion t
  | .badDelimiterHeader, t => hasDelim t

def needsAny : DeErr → List Ty → Bool
  | .badArrayLength, fs => anyVarr fs
  | .badUnionTag, fs => anyUnion fs
  | .badDelimiterHeader, fs => anyDelim fs

theorem needsAny_cons (e : DeErr) (f : Ty) (fs : List Ty) :
    needsAny e (f :: fs) = (needs e f || needsAny e fs) := by
  cases e <;> rfl

def OriginOK (t : Ty) : Prop := ∀ bs e, deBits t bs = .error e → needs e t = true

theorem deAll_origin {t : Ty} (h : OriginOK t) :
    ∀ c bs e, deAllWith (deBits t) c bs = .error e → needs e t = true := by
  intro c
  induction c with
  | zero => intro bs e hd; cases hd
  | succ c ih =>
    intro bs e hd
    dsimp only [deAllWith] at hd
    split at hd
    · cases hd; exact h _ _ ‹_›
    · split at hd
      · cases hd; exact ih _ _ ‹_›
      · cases hd

theorem deFields_origin {fs : List Ty} (ih : ∀ f ∈ fs, OriginOK f) :
    ∀ bs off e, deFields fs bs off = .error e → needsAny e fs = true := by
  induction fs with
  | nil => intro bs off e hd; cases hd
  | cons f fs ihf =>
    intro bs off e hd
    obtain ⟨ihf', ihfs⟩ := List.forall_mem_cons.1 ih
    dsimp only [deFields] at hd
    rw [needsAny_cons, Bool.or_eq_true]
    split at hd
    · cases hd; exact .inl (ihf' _ _ ‹_›)
    · split at hd
      · cases hd; exact .inr (ihf ihfs _ _ _ ‹_›)
      · cases hd

theorem needsAny_of_mem {e : DeErr} {f : Ty} {fs : List Ty} (hf : f ∈ fs) (h : needs e f = true) :
    needsAny e fs = true := by
  induction fs with
  | nil => cases hf
  | cons g gs ih =>
    rw [needsAny_cons, Bool.or_eq_true]
    rcases List.mem_cons.1 hf with rfl | hf
    · exact .inl h
    · exact .inr (ih hf)

theorem originOK (t : Ty) : OriginOK t := by
  induction t using Ty.ind with
  | uint | sint | float | bool | void => intro bs e h; cases h
  | arr t n ih =>
    intro bs e h
    dsimp only [deBits] at h
    split at h
    · cases h
      have := deAll_origin ih _ _ _ ‹_›
      cases e <;> exact this
    · cases h
  | varr t cap ih =>
    intro bs e h
    dsimp only [deBits] at h
    split at h
    · cases h; rfl
    · split at h
      · cases h
        have := deAll_origin ih _ _ _ ‹_›
        cases e <;> first | rfl | exact this
      · cases h
  | struct fs ih =>
    intro bs e h
    dsimp only [deBits] at h
    split at h
    · cases h
      have := deFields_origin ih _ _ _ ‹_›
      cases e <;> exact this
    · cases h
  | union fs ih =>
    intro bs e h
    dsimp only [deBits] at h
    split at h
    · cases h; rfl
    · have hk := Nat.not_le.1 ‹_›
      split at h
      · cases h
        rename_i he
        rw [deNth_eq hk] at he
        have := needsAny_of_mem (List.getElem_mem hk) (ih _ (List.getElem_mem hk) _ _ he)
        cases e <;> first | rfl | exact this
      · cases h
  | delim ext t ih =>
    intro bs e h
    dsimp only [deBits] at h
    split at h
    · cases h; rfl
    · split at h
      · cases h
        have := ih _ _ ‹_›
        cases e <;> first | rfl | exact this
      · cases h

end NunavutVerif.Dsdl
