import NunavutVerif.Model.Cli
/-!
The two generator loops are compared with their own dry run (`DryOf`): the dry run performs no
operation and returns the same result, and a successful real run writes exactly the paths it returns.  `_generate` and
`_list_outputs_only` are then described through what the two generators return in a dry run.
-/
namespace NunavutVerif.Cli

theorem written_append (x y : List FsOp) : written (x ++ y) = written x ++ written y := by
  induction x with
  | nil => rfl
  | cons o r ih => cases o <;> simp [written, ih]

@[simp] theorem written_generateCodeOps (p : OutPath) : written (generateCodeOps p) = [p] := rfl

theorem written_headerOps (name src : String) (p : OutPath) :
    written (if pySuffix name == ".j2" then generateHeaderOps false p else copyHeaderOps false src p) = [p] := by
  split <;> rfl

theorem headerOps_dry (name src : String) (p : OutPath) :
    (if pySuffix name == ".j2" then generateHeaderOps true p else copyHeaderOps true src p) = [] := by
  split <;> rfl

theorem map_cons_ok {r : Except Err (List OutPath)} {p : OutPath} {ps : List OutPath} (h : r.map (p :: ·) = .ok ps) :
    ∃ qs, r = .ok qs ∧ ps = p :: qs := by
  cases r <;> cases h
  exact ⟨_, rfl, rfl⟩

/-- `d` is what a dry run leaves where the real run leaves `o`. -/
structure DryOf (o d : Out) : Prop where
  ops : d.ops = []
  res : o.res = d.res
  written : ∀ ps, o.res = .ok ps → written o.ops = ps

theorem DryOf.nil : DryOf ⟨[], .ok []⟩ ⟨[], .ok []⟩ := ⟨rfl, rfl, by rintro _ ⟨⟩; rfl⟩

theorem DryOf.error (x : Err) : DryOf ⟨[], .error x⟩ ⟨[], .error x⟩ := ⟨rfl, rfl, by rintro _ ⟨⟩⟩

/-- `[] ++ d.ops` is what the loops reduce to when `dry` is `true`. -/
theorem DryOf.cons {o d : Out} (h : DryOf o d) {w : List FsOp} {p : OutPath} (hw : Cli.written w = [p]) :
    DryOf ⟨w ++ o.ops, o.res.map (p :: ·)⟩ ⟨[] ++ d.ops, d.res.map (p :: ·)⟩ := by
  refine ⟨h.ops, by rw [h.res], fun ps hps => ?_⟩
  obtain ⟨qs, ho, rfl⟩ := map_cons_ok hps
  rw [written_append, hw, h.written qs ho]; rfl

theorem genTypes_dryOf (files : List TemplateFile) (l : List (Entry × OutPath)) :
    DryOf (genTypes files false l) (genTypes files true l) := by
  induction l with
  | nil => exact .nil
  | cons x rest ih =>
    simp only [genTypes]
    split
    · exact .error _
    · exact ih.cons (written_generateCodeOps _)

theorem genSupportLoop_dryOf (a : Args) (l : List String) :
    DryOf (genSupportLoop a false l) (genSupportLoop a true l) := by
  induction l with
  | nil => exact .nil
  | cons n rest ih =>
    simp only [genSupportLoop]
    split
    · exact .error _
    · rw [headerOps_dry]; exact ih.cons (written_headerOps ..)

theorem genTypes_ok_paths (files : List TemplateFile) (dry : Bool) (l : List (Entry × OutPath)) (ps : List OutPath)
    (h : (genTypes files dry l).res = .ok ps) : ps = l.map (·.2) := by
  induction l generalizing ps with
  | nil => cases h; rfl
  | cons x rest ih =>
    simp only [genTypes] at h
    split at h
    · cases h
    · obtain ⟨qs, hrest, rfl⟩ := map_cons_ok h
      rw [ih qs hrest]; rfl

theorem typesOut_dryOf (a : Args) (tree : List (Entry × OutPath)) :
    DryOf (typesOut a false tree) (typesOut a true tree) := by
  unfold typesOut; split
  · exact genTypes_dryOf ..
  · exact .nil

theorem supportOut_dryOf (a : Args) (om : Bool) : DryOf (supportOut a false om) (supportOut a true om) := by
  unfold supportOut genSupportAll; split
  · exact genSupportLoop_dryOf ..
  · exact .nil

theorem typesOut_res_dry (a : Args) (dry : Bool) (tree : List (Entry × OutPath)) :
    (typesOut a dry tree).res = (typesOut a true tree).res := by
  cases dry
  · exact (typesOut_dryOf a tree).res
  · rfl

theorem supportOut_res_dry (a : Args) (dry om : Bool) : (supportOut a dry om).res = (supportOut a true om).res := by
  cases dry
  · exact (supportOut_dryOf a om).res
  · rfl

theorem typesOut_ok_paths (a : Args) (dry : Bool) (tree : List (Entry × OutPath)) (ps : List OutPath)
    (h : (typesOut a dry tree).res = .ok ps) :
    ps = if a.genSupport != .only then (selected a tree).map (·.2) else [] := by
  unfold typesOut at h
  split at h <;> rename_i hc
  · rw [if_pos hc]; exact genTypes_ok_paths _ _ _ _ h
  · rw [if_neg hc]; cases h; rfl

theorem errOf_none_iff (r : Except Err (List OutPath)) : errOf r = none ↔ ∃ l, r = .ok l := by
  cases r <;> simp [errOf]

theorem generate_err_none_iff (a : Args) (dry : Bool) (tree : List (Entry × OutPath)) :
    (generate a dry tree).err = none ↔
      (∃ ls, (supportOut a true a.omitSer).res = .ok ls) ∧ (∃ lt, (typesOut a true tree).res = .ok lt) := by
  rw [← supportOut_res_dry a dry, ← typesOut_res_dry a dry, generate]
  cases (supportOut a dry a.omitSer).res <;> simp [errOf_none_iff]

theorem listOutputsWith_err_none_iff (a : Args) (om : Bool) (tree : List (Entry × OutPath)) :
    (listOutputsWith a om tree).err = none ↔
      (∃ ls, (supportOut a true om).res = .ok ls) ∧ (∃ lt, (typesOut a true tree).res = .ok lt) := by
  rw [listOutputsWith]
  cases (typesOut a true tree).res <;> simp [errOf_none_iff]

theorem generate_written (a : Args) (tree : List (Entry × OutPath)) {ls lt : List OutPath}
    (hs : (supportOut a true a.omitSer).res = .ok ls) (ht : (typesOut a true tree).res = .ok lt) :
    written (generate a false tree).ops = ls ++ lt := by
  rw [← supportOut_res_dry a false] at hs
  rw [← typesOut_res_dry a false] at ht
  simp only [generate, hs, written_append, (supportOut_dryOf a _).written ls hs, (typesOut_dryOf a tree).written lt ht]

theorem listOutputsWith_ok (a : Args) (om : Bool) (tree : List (Entry × OutPath)) {ls lt : List OutPath}
    (hs : (supportOut a true om).res = .ok ls) (ht : (typesOut a true tree).res = .ok lt) :
    listOutputsWith a om tree = { outputs := lt ++ ls } := by
  simp [listOutputsWith, hs, ht, (supportOut_dryOf a om).ops, (typesOut_dryOf a tree).ops, listOf, errOf]

theorem generate_ops_dry (a : Args) (tree : List (Entry × OutPath)) : (generate a true tree).ops = [] := by
  rw [generate]
  cases (supportOut a true a.omitSer).res <;> simp [(supportOut_dryOf a _).ops, (typesOut_dryOf a tree).ops]

theorem listOutputsWith_ops (a : Args) (om : Bool) (tree : List (Entry × OutPath)) :
    (listOutputsWith a om tree).ops = [] := by
  rw [listOutputsWith]
  cases (typesOut a true tree).res <;> simp [(supportOut_dryOf a om).ops, (typesOut_dryOf a tree).ops]

/-- `htree` is stated with the `if` of `run` itself: at a call where `m` is a constructor it reduces, so the caller passes the tree of its mode. -/
theorem run_eq (m : Mode) (a : Args) (es : List Entry) {tree : List (Entry × OutPath)} (hacc : accepted a = true)
    (htree : buildTree a (if m = .listConfiguration then [emptyRoot] else treeEntries a es) = .ok tree) :
    run m a es = match (generalizing := false) m with
      | .listOutputs => listOutputsWith a a.omitSer tree
      | .listInputs => listInputsOnly a tree
      | .listConfiguration => {}
      | .dryRun => generate a true tree
      | .generate => generate a false tree := by
  simp only [run, runWith, hacc, htree, Bool.not_true, Bool.false_eq_true, if_false, listOutputsOnly]
  cases m <;> rfl

theorem run_ok (m : Mode) (a : Args) (es : List Entry) (h : (run m a es).err = none) :
    accepted a = true ∧ ∃ tree, buildTree a (if m = .listConfiguration then [emptyRoot] else treeEntries a es) = .ok tree := by
  unfold run runWith at h
  by_cases hacc : accepted a = true
  · refine ⟨hacc, ?_⟩
    cases htree : buildTree a (if m = .listConfiguration then [emptyRoot] else treeEntries a es) with
    | error x => simp [hacc, htree] at h
    | ok tree => exact ⟨tree, rfl⟩
  · simp [hacc] at h

theorem mem_listInputsOnly (a : Args) (tree : List (Entry × OutPath)) (r : String) :
    r ∈ (listInputsOnly a tree).inputs ↔
      (a.genSupport ≠ .only ∧ r ∈ (typeInputs a).map (·.path)) ∨
      (shouldGenerateSupport a = true ∧ r ∈ (supportResources a a.omitSer).map (supportTemplateRead a)) ∨
      (a.genSupport ≠ .only ∧ (r ∈ (selected a tree).map (·.1.src) ∨ r ∈ a.lookupFiles)) := by
  simp only [listInputsOnly, listInputsGen, List.mem_append, List.mem_ite_nil_right, bne_iff_ne, or_assoc, if_true]

theorem typeTemplates_subset_typeInputs (a : Args) : ∀ f ∈ typeTemplates a, f ∈ typeInputs a := by
  intro f hf
  refine List.mem_filter.2 ⟨?_, by simp [hf]⟩
  unfold typeTemplates at hf
  split at hf
  · rename_i fs ht; simp only [typeLoaderFiles, ht]; exact (List.mem_filter.1 hf).1
  · exact (List.mem_filter.1 hf).1

theorem mem_typeInputs (a : Args) {f : TemplateFile} (hf : f ∈ typeLoaderFiles a) (hp : inPycache f.name = false) :
    f ∈ typeInputs a :=
  List.mem_filter.2 ⟨hf, by simp [hp]⟩

theorem mem_typeInputs_builtin (a : Args) (ht : a.templates = none) {n : String} (hn : n ∈ a.lang.loadable)
    (hp : inPycache n = false) : builtinTemplateFile a "templates" n ∈ typeInputs a :=
  mem_typeInputs a (by simp only [typeLoaderFiles, ht]; exact List.mem_map_of_mem hn) hp

end NunavutVerif.Cli
