import NunavutVerif.Lemmas.GenPyDePrim
namespace NunavutVerif.GenPy
open NunavutVerif.Dsdl
open NunavutVerif.Bits (Buf Err bitAt WF)
open NunavutVerif.Bits.Py

/-- The claim of the decoder as two statements of Properties/C01RefinePy write it; the lemmas use the equation form `deOut` below (`deMatch_iff`). -/
def DeMatch (r : Except Exc (Val × De)) (d : De) (pad : Nat) (spec : Except DeErr (Val × Nat)) : Prop :=
  match spec with
  | .ok (v, n) => r = .ok (v, ⟨d.buf, d.off + pad + n⟩)
  | .error e => r = .error (.format e)

/-- How the emitted decoder renders a result of the specification.  The lemmas of the decoder are equations
`program = deOut …`, which rewrite inside the program that continues. -/
def deOut {α β : Type} (f : α → β) (buf : Buf) (off : Nat) : Except DeErr (α × Nat) → Except Exc (β × De)
  | .ok (a, n) => .ok (f a, ⟨buf, off + n⟩)
  | .error e => .error (.format e)

theorem deMatch_iff {r : Except Exc (Val × De)} {d : De} {pad : Nat} {spec : Except DeErr (Val × Nat)} :
    DeMatch r d pad spec ↔ r = deOut id d.buf (d.off + pad) spec := by
  rcases spec with e | ⟨v, n⟩ <;> exact Iff.rfl

/-- refinement claim for `_deserialize_any(t, …)` at an arbitrary cursor -/
def DeRef (env : Env) (t : Ty) : Prop :=
  ∀ (o : AOff) (d : De), WF d.buf → Sound o (d.off + padLen (align t) d.off) →
    deAny env t o d = deOut id d.buf (d.off + padLen (align t) d.off)
      (deBits t ((unpackBytes d.buf).drop (d.off + padLen (align t) d.off)))

/-- refinement claim for the static method `_deserialize_` of the class of `t` at a byte-aligned cursor -/
def DeObjRef (env : Env) (t : Ty) : Prop :=
  ∀ (d : De), WF d.buf → d.off % 8 = 0 →
    deObj env t d = deOut id d.buf d.off (deBits t ((unpackBytes d.buf).drop d.off))

theorem dePad8_spec (d : De) : lift (dePadToAlignment d 8) = .ok ⟨d.buf, d.off + padLen 8 d.off⟩ := by
  simp only [dePadToAlignment_spec d 8 (by omega), lift, padBits_eq_padLen]

theorem dePad_spec (a : Nat) (ha : a = 1 ∨ a = 8) (d : De) :
    dePad a d = .ok ⟨d.buf, d.off + padLen a d.off⟩ := by
  rcases ha with rfl | rfl
  · simp [dePad]
  · exact (if_pos (by decide)).trans (dePad8_spec d)

theorem DeRef.aligned {env : Env} {t : Ty} (ih : DeRef env t) {o : AOff} {d : De} (hwb : WF d.buf)
    (hal : d.off % align t = 0) (hsound : Sound o d.off) :
    deAny env t o d = deOut id d.buf d.off (deBits t ((unpackBytes d.buf).drop d.off)) := by
  have hpad : padLen (align t) d.off = 0 := padLen_of_mod (align_cases t) hal
  have h := ih o d hwb (by rwa [hpad])
  rwa [hpad] at h

theorem deElems_spec (env : Env) (t : Ty) (oe : AOff) (hw : wf t = true) (ih : DeRef env t) :
    ∀ (c : Nat) (d : De), WF d.buf → d.off % align t = 0 → ElemClaims t oe d.off c →
      deElemsWith (deAny env t oe) (npStore t) c d = deOut id d.buf d.off (deAllWith (deBits t) c (bitsAt d)) := by
  intro c
  induction c with
  | zero => intro d _ _ _; rfl
  | succ c ihc =>
    intro d hwb hal hc
    simp only [deAllWith, deElemsWith, bitsAt, ih.aligned hwb hal (hc.1 (Nat.succ_ne_zero c))]
    cases hd : deBits t ((unpackBytes d.buf).drop d.off) with
    | error e => rfl
    | ok r =>
      obtain ⟨v, n⟩ := r
      have hl := deLen t _ _ _ hd
      have h2 := ihc ⟨d.buf, d.off + n⟩ hwb (add_mod_zero hal hl.2) (hc.step fun hb => hb.2 _ _ _ hd)
      simp only [deOut, id, npStore_of_deBits hw hd, h2, bitsAt, List.drop_drop]
      rcases deAllWith (deBits t) c ((unpackBytes d.buf).drop (d.off + n)) with e | ⟨vs, m⟩
      · rfl
      · simp only [Nat.add_assoc]

theorem deArrBody_spec (env : Env) (hnp : NpSound env) (t : Ty) (hw : wf t = true) (ih : DeRef env t)
    (oa oe : AOff) (c : Nat) (d : De) (hwb : WF d.buf) (hal : d.off % align t = 0)
    (hoa : Sound oa d.off) (hoe : ElemClaims t oe d.off c) :
    deArrBody env (deAny env t oe) t oa.isAligned c d
      = deOut Val.arr d.buf d.off (deAllWith (deBits t) c (bitsAt d)) := by
  by_cases hb : isBoolTy t = true
  · have hp : arrPath t = .bits := by simp [arrPath, hb]
    have := isBoolTy_eq hb
    subst this
    obtain ⟨vs, h1, h2⟩ := deBitArray_spec oa.isAligned c d hwb hoa.aligned
    simp only [deArrBody, hp, h1, h2, deOut]
  · by_cases hs : isStdPrim t = true
    · have hp : arrPath t = .std := by simp [arrPath, hb, hs]
      obtain ⟨vs, h1, h2⟩ := deStdArray_spec env hnp oa.isAligned t c d hwb hoa.aligned hs hw
      simp only [deArrBody, hp, h1, h2, deOut]
    · have hp : arrPath t = .loop := by simp [arrPath, hb, hs]
      simp only [deArrBody, hp, deElemArray, deElems_spec env t oe hw ih c d hwb hal hoe]
      rcases deAllWith (deBits t) c (bitsAt d) with e | ⟨vs, n⟩ <;> rfl

theorem deArrTail_spec (env : Env) (hnp : NpSound env) (t : Ty) (hw : wf t = true) (ih : DeRef env t)
    (oa oe : AOff) (c : Nat) (d : De) (hwb : WF d.buf) (hal : d.off % align t = 0)
    (hoa : Sound oa d.off) (hoe : ElemClaims t oe d.off c) :
    (do let r ← deArrBody env (deAny env t oe) t oa.isAligned c d
        let d2 ← dePad (align t) r.2
        .ok (r.1, d2)) = deOut Val.arr d.buf d.off (deAllWith (deBits t) c (bitsAt d)) := by
  rw [deArrBody_spec env hnp t hw ih oa oe c d hwb hal hoa hoe]
  cases hda : deAllWith (deBits t) c (bitsAt d) with
  | error e => rfl
  | ok r =>
    obtain ⟨vs, n⟩ := r
    have hpad : padLen (align t) (d.off + n) = 0 :=
      padLen_of_mod (align_cases t) (add_mod_zero hal (deAll_len (deLen t) c _ vs n hda).2)
    simp only [deOut, ok_bind, dePad_spec (align t) (align_cases t), hpad, Nat.add_zero]

theorem fixedArr_de (env : Env) (hs : EnvSound env) (t : Ty) (n : Nat) (hw : wf t = true) (ih : DeRef env t) :
    DeRef env (.arr t n) := by
  intro o d hwb hsound
  simp only [align] at hsound ⊢
  have htail := deArrTail_spec env hs.np t hw ih o _ n ⟨d.buf, d.off + padLen (align t) d.off⟩ hwb
    (padTo_mod (align_cases t) d.off) hsound (ElemClaims.arr hs.lr hw hsound n)
  simp only [deAny, deArrWith, dePad_spec (align t) (align_cases t) d, ok_bind, deBits, htail, bitsAt]
  rcases deAllWith (deBits t) n ((unpackBytes d.buf).drop (d.off + padLen (align t) d.off)) with e | ⟨vs, m⟩ <;> rfl

theorem varArr_de (env : Env) (hs : EnvSound env) (t : Ty) (cap : Nat) (hw : wf (.varr t cap) = true)
    (ih : DeRef env t) : DeRef env (.varr t cap) := by
  intro o d hwb hsound
  have hwt : wf t = true := (wf_varr hw).2
  simp only [align] at hsound ⊢
  have hint := deInt_unsigned_spec o.isAligned (prefixBits cap) ⟨d.buf, d.off + padLen (align t) d.off⟩ hwb
    hsound.aligned (by have := stdWidth_cases cap; unfold prefixBits; omega)
  simp only [deAny, deVarrWith, dePad_spec (align t) (align_cases t) d, ok_bind, deBits, hint]
  generalize readNat (prefixBits cap) ((unpackBytes d.buf).drop (d.off + padLen (align t) d.off)) = k
  simp only [assertThat_decide (show (k : Int) ≥ 0 by omega), Int.toNat_natCast, ok_bind]
  by_cases hlen : k > cap
  · simp only [hlen, show (k : Int) > (cap : Int) by omega, if_true, deOut]
  · have htail := deArrTail_spec env hs.np t hwt ih (o.add (some (prefixBits cap))) _ k
      ⟨d.buf, d.off + padLen (align t) d.off + prefixBits cap⟩ hwb
      (add_mod_zero (padTo_mod (align_cases t) d.off) (stdWidth_mod_align cap t))
      (hsound.add_some _) (ElemClaims.varr hs.lr hw hsound (Nat.le_of_not_lt hlen))
    simp only [hlen, show ¬ (k : Int) > (cap : Int) by omega, if_false, List.drop_drop, htail, bitsAt]
    rcases deAllWith (deBits t) k
        ((unpackBytes d.buf).drop (d.off + padLen (align t) d.off + prefixBits cap)) with e | ⟨vs, m⟩
    · rfl
    · simp only [deOut, id, Nat.add_assoc]

end NunavutVerif.GenPy
