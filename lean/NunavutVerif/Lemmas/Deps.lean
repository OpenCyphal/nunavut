import NunavutVerif.Model.Deps
/-!
Lemmas for `Properties/C06.lean`.  The dependency builder only ever adds, in an order `Deps.Le` on names and flags; from
that: direct ⊑ transitive, and the flag `get_includes` looks at is set whenever a declaration uses the facility.  Then
where each include of an emitted list comes from and which facility it covers, and the bracket depth of the namespace lines.
-/
namespace NunavutVerif.Deps
open NunavutVerif.Namespace (Str Path PathR Err makePath asPosix)

theorem mem_insertS {x y : Str} {l : List Str} : y ∈ insertS x l ↔ y = x ∨ y ∈ l := by
  induction l with
  | nil => simp [insertS]
  | cons a as ih => simp only [insertS]; split <;> simp [ih, or_left_comm]

theorem mem_sortS {y : Str} {l : List Str} : y ∈ sortS l ↔ y ∈ l := by
  induction l with
  | nil => simp [sortS]
  | cons a as ih => simp [sortS, mem_insertS, ih]

theorem mem_of_mem_dedup : ∀ {l : List (List Str)} {x : List Str}, x ∈ dedup l → x ∈ l
  | a :: as, x, h => by
    simp only [dedup] at h
    split at h
    · exact List.mem_cons_of_mem _ (mem_of_mem_dedup h)
    · exact (List.mem_cons.mp h).elim (· ▸ List.mem_cons_self ..) fun h => List.mem_cons_of_mem _ (mem_of_mem_dedup h)

theorem mem_of_mem_dedupFirst {l : List (List Str)} {x : List Str} (h : x ∈ dedupFirst l) : x ∈ l :=
  List.mem_reverse.mp (mem_of_mem_dedup (List.mem_reverse.mp h))

structure Deps.Le (x y : Deps) : Prop where
  names : ∀ n ∈ x.names, n ∈ y.names
  i : x.usesInteger = true → y.usesInteger = true
  f : x.usesFloat = true → y.usesFloat = true
  v : x.usesVla = true → y.usesVla = true
  a : x.usesArray = true → y.usesArray = true
  ba : x.usesBoolStaticArray = true → y.usesBoolStaticArray = true
  b : x.usesBool = true → y.usesBool = true
  p : x.usesPrimStaticArray = true → y.usesPrimStaticArray = true
  u : x.usesUnion = true → y.usesUnion = true

theorem Deps.Le.refl (a : Deps) : a.Le a := ⟨fun _ h => h, id, id, id, id, id, id, id, id⟩

theorem Deps.Le.trans {a b c : Deps} (h1 : a.Le b) (h2 : b.Le c) : a.Le c :=
  ⟨fun n h => h2.names n (h1.names n h), h2.i ∘ h1.i, h2.f ∘ h1.f, h2.v ∘ h1.v, h2.a ∘ h1.a, h2.ba ∘ h1.ba, h2.b ∘ h1.b,
   h2.p ∘ h1.p, h2.u ∘ h1.u⟩

/-! Every step of the builder sets flags or appends a name: it moves up, and it is monotone.  Each of the nine fields of
such a goal is trivial (a flag that has just been set) or the hypothesis. -/

theorem le_classifyFixed (e : Ty) (d : Deps) : d.Le (classifyFixed e d) := by
  cases e <;> constructor <;> first | exact id | exact fun _ => id | exact fun _ => rfl

theorem classifyFixed_mono {d d' : Deps} (e : Ty) (h : d.Le d') : (classifyFixed e d).Le (classifyFixed e d') := by
  cases h; cases e <;> constructor <;> first | assumption | exact fun _ => rfl

theorem classifyFixed_names (e : Ty) (d : Deps) : (classifyFixed e d).names = d.names := by cases e <;> rfl

theorem le_addName (d : Deps) (n : TName) : d.Le { d with names := d.names ++ [n] } := by
  constructor <;> simp +contextual

mutual
  theorem le_extractTy (tr : Bool) : ∀ (t : Ty) (d : Deps), d.Le (extractTy tr t d)
    | .void, d => .refl d
    | .bool, d | .int, d | .float, d => by constructor <;> first | exact id | exact fun _ => id | exact fun _ => rfl
    | .comp c, d => le_extractComp tr c d
    | .fixedArr e, d => (le_classifyFixed e d).trans (le_extractTy tr e _)
    | .varArr e, d =>
      Deps.Le.trans (by constructor <;> first | exact id | exact fun _ => id | exact fun _ => rfl) (le_extractTy tr e _)
  theorem le_extractComp (tr : Bool) : ∀ (c : Comp) (d : Deps), d.Le (extractComp tr c d)
    | .mk n u s fs cs, d => by
      simp only [extractComp]
      split
      · exact .refl d
      · split
        · exact (le_addName d n).trans ((le_extractList tr fs _).trans (le_extractList tr cs _))
        · exact le_addName d n
  theorem le_extractList (tr : Bool) : ∀ (l : List Ty) (d : Deps), d.Le (extractList tr l d)
    | [], d => .refl d
    | t :: ts, d => (le_extractTy tr t d).trans (le_extractList tr ts _)
end

theorem extractList_append (tr : Bool) (a b : List Ty) (d : Deps) :
    extractList tr (a ++ b) d = extractList tr b (extractList tr a d) := by
  induction a generalizing d with
  | nil => simp [extractList]
  | cons x xs ih => simp [extractList, ih]

theorem extractComp_true_name (c : Comp) (d : Deps) : c.name ∈ (extractComp true c d).names := by
  obtain ⟨n, u, s, fs, cs⟩ := c
  simp only [extractComp, Comp.name]
  split
  · assumption
  · exact ((le_extractList true fs _).trans (le_extractList true cs _)).names n (by simp)

theorem extractComp_false_le (c : Comp) {d x : Deps} (h : d.Le x) (hn : c.name ∈ x.names) :
    (extractComp false c d).Le x := by
  obtain ⟨n, u, s, fs, cs⟩ := c
  simp only [extractComp]
  split
  · exact h
  · refine ⟨fun m hm => ?_, h.i, h.f, h.v, h.a, h.ba, h.b, h.p, h.u⟩
    rcases List.mem_append.mp hm with hm | hm
    · exact h.names m hm
    · exact List.mem_singleton.mp hm ▸ hn

theorem extractTy_false_le_true : ∀ (t : Ty) {d d' : Deps}, d.Le d' → (extractTy false t d).Le (extractTy true t d')
  | .void, _, _, h => h
  | .bool, _, _, h | .int, _, _, h | .float, _, _, h => by
    cases h; constructor <;> first | assumption | exact fun _ => rfl
  | .comp c, _, d', h => extractComp_false_le c (h.trans (le_extractComp true c d')) (extractComp_true_name c d')
  | .fixedArr e, _, _, h => extractTy_false_le_true e (classifyFixed_mono e h)
  | .varArr e, d, d', h =>
    extractTy_false_le_true e (d := { d with usesVla := true }) (d' := { d' with usesVla := true })
      (by cases h; constructor <;> first | assumption | exact fun _ => rfl)

theorem extractList_false_le_true : ∀ (l : List Ty) {d d' : Deps}, d.Le d' →
    (extractList false l d).Le (extractList true l d')
  | [], _, _, h => h
  | t :: ts, _, _, h => extractList_false_le_true ts (extractTy_false_le_true t h)

mutual
  theorem extractTy_names (tr : Bool) : ∀ (t : Ty) (d : Deps) (n : TName),
      n ∈ (extractTy tr t d).names → n ∈ d.names ∨ n ∈ reachTy t
    | .void, _, _, h | .bool, _, _, h | .int, _, _, h | .float, _, _, h => .inl h
    | .comp c, d, n, h => extractComp_names tr c d n h
    | .fixedArr e, d, n, h => (extractTy_names tr e (classifyFixed e d) n h).imp_left (classifyFixed_names e d ▸ ·)
    | .varArr e, d, n, h => extractTy_names tr e { d with usesVla := true } n h
  theorem extractComp_names (tr : Bool) : ∀ (c : Comp) (d : Deps) (n : TName),
      n ∈ (extractComp tr c d).names → n ∈ d.names ∨ n ∈ reachComp c
    | .mk m u s fs cs, d, n, h => by
      simp only [extractComp] at h
      simp only [reachComp, List.mem_cons, List.mem_append]
      split at h
      · exact .inl h
      · split at h
        · rcases extractList_names tr cs _ n h with h | h
          · rcases extractList_names tr fs _ n h with h | h
            · exact (List.mem_append.mp h).imp_right fun h => .inl (List.mem_singleton.mp h)
            · exact .inr (.inr (.inl h))
          · exact .inr (.inr (.inr h))
        · exact (List.mem_append.mp h).imp_right fun h => .inl (List.mem_singleton.mp h)
  theorem extractList_names (tr : Bool) : ∀ (l : List Ty) (d : Deps) (n : TName),
      n ∈ (extractList tr l d).names → n ∈ d.names ∨ n ∈ reachList l
    | [], _, _, h => .inl h
    | t :: ts, d, n, h => by
      simp only [reachList, List.mem_append]
      rcases extractList_names tr ts _ n h with h | h
      · exact (extractTy_names tr t d n h).imp_right .inl
      · exact .inr (.inr h)
end

/-- What C++ `get_includes` has to see for a facility of a field declaration; a declaration uses no other facility. -/
def xFlag (o : Opts) (f : Fac) (d : Deps) : Prop :=
  match f with
  | .xFixedInt => o.useStd = true ∧ d.usesInteger = true
  | .xArray => d.usesArray = true ∨ d.usesPrimStaticArray = true
  | .xBitset => d.usesBoolStaticArray = true
  | .xVla => d.usesVla = true
  | _ => False

theorem xFlag_mono {o : Opts} {f : Fac} {d d' : Deps} (h : d.Le d') (hf : xFlag o f d) : xFlag o f d' := by
  cases f <;> simp only [xFlag] at hf ⊢
  · exact ⟨hf.1, h.i hf.2⟩
  · exact hf.imp h.a h.p
  · exact h.ba hf
  · exact h.v hf

theorem xTyFac_fixedArr (o : Opts) {e : Ty} (he : e ≠ .bool) : xTyFac o (.fixedArr e) = .xArray :: xTyFac o e := by
  cases e <;> first | rfl | exact absurd rfl he

theorem classifyFixed_array {e : Ty} (he : e ≠ .bool) (d : Deps) :
    (classifyFixed e d).usesArray = true ∨ (classifyFixed e d).usesPrimStaticArray = true := by
  cases e <;> first | exact absurd rfl he | exact .inl rfl | exact .inr rfl

theorem xTyFac_flag (o : Opts) : ∀ (t : Ty) (d : Deps) (f : Fac), f ∈ xTyFac o t → xFlag o f (extractTy false t d)
  | .void, _, _, h | .bool, _, _, h | .float, _, _, h | .comp _, _, _, h => by simp [xTyFac] at h
  | .int, d, f, h => by
    simp only [xTyFac, List.mem_ite_nil_right, List.mem_singleton] at h
    exact h.2 ▸ ⟨h.1, rfl⟩
  | .fixedArr e, d, f, h => by
    by_cases he : e = .bool
    · subst he
      simp only [xTyFac, List.mem_singleton] at h
      exact h ▸ rfl
    · rw [xTyFac_fixedArr o he, List.mem_cons] at h
      rcases h with rfl | h
      · exact xFlag_mono (le_extractTy false e _) (classifyFixed_array he d)
      · exact xTyFac_flag o e _ f h
  | .varArr e, d, f, h => by
    simp only [xTyFac, List.mem_cons] at h
    rcases h with rfl | h
    · exact xFlag_mono (le_extractTy false e { d with usesVla := true }) rfl
    · exact xTyFac_flag o e _ f h

theorem xTyFac_kinds {o : Opts} {t : Ty} {f : Fac} (h : f ∈ xTyFac o t) :
    f = .xFixedInt ∨ f = .xArray ∨ f = .xBitset ∨ f = .xVla := by
  have := xTyFac_flag o t {} f h
  cases f <;> first | exact this.elim | simp

theorem xTyFac_fixedInt_useStd {o : Opts} {t : Ty} (h : .xFixedInt ∈ xTyFac o t) : o.useStd = true :=
  (xTyFac_flag o t {} _ h).1

theorem xTyFac_flag_list (o : Opts) : ∀ (l : List Ty) (d : Deps) (t : Ty) (f : Fac), t ∈ l → f ∈ xTyFac o t →
    xFlag o f (extractList false l d)
  | [], _, _, _, h, _ => nomatch h
  | x :: xs, d, t, f, h, hf => by
    rcases List.mem_cons.mp h with h | h
    · exact xFlag_mono (le_extractList false xs _) (h ▸ xTyFac_flag o t d f hf)
    · exact xTyFac_flag_list o xs _ t f h hf

/-- What the definition part of a generated C header (all but the serialization functions) uses at most. -/
def cDefFacs : List Fac := [.cStaticAssert, .cBool, .cFixedInt, .cSizeT, .cNull]

theorem cFieldFac_fixedArr (o : Opts) {e : Ty} (he : e ≠ .bool) : cFieldFac o (.fixedArr e) = cFieldFac o e := by
  cases e <;> first | rfl | exact absurd rfl he

theorem cFieldFac_varArr (o : Opts) {e : Ty} (he : e ≠ .bool) : cFieldFac o (.varArr e) = cFieldFac o e ++ [.cSizeT] := by
  cases e <;> first | rfl | exact absurd rfl he

theorem cFieldFac_sub (o : Opts) : ∀ t : Ty, cFieldFac o t ⊆ cDefFacs
  | .void | .float | .comp _ | .bool => by simp [cFieldFac, cDefFacs]
  | .int => by simp only [cFieldFac]; split <;> simp [cDefFacs]
  | .fixedArr e => by
    by_cases he : e = .bool
    · simp [he, cFieldFac, cDefFacs]
    · exact cFieldFac_fixedArr o he ▸ cFieldFac_sub o e
  | .varArr e => by
    by_cases he : e = .bool
    · simp [he, cFieldFac, cDefFacs]
    · exact cFieldFac_varArr o he ▸ List.append_subset.mpr ⟨cFieldFac_sub o e, by simp [cDefFacs]⟩

theorem cCompFac_sub (o : Opts) (c : Comp) : cCompFac o c ⊆ cDefFacs := by
  have hfs : ∀ l : List Ty, l.flatMap (cFieldFac o) ⊆ cDefFacs := fun l f h =>
    have ⟨t, _, ht⟩ := List.mem_flatMap.mp h
    cFieldFac_sub o t ht
  unfold cCompFac
  refine List.append_subset.mpr ⟨by simp [cDefFacs], ?_⟩
  split
  · refine List.append_subset.mpr ⟨List.append_subset.mpr ⟨hfs _, ?_⟩, ?_⟩ <;> split <;> simp [cDefFacs]
  · split
    · simp [cDefFacs]
    · exact hfs _

theorem facilities_c_sub {o : Opts} {t : Top} {f : Fac} (h : f ∈ facilities .c o t) :
    f ∈ cDefFacs ∨ (o.omitSer = false ∧ f ∈ serFac .c) := by
  simp only [facilities, facMust, facMay, List.mem_append, List.mem_flatMap, List.mem_ite_nil_left,
    Bool.not_eq_true] at h
  rcases h with (⟨c, _, hc⟩ | ⟨ho, h⟩) | ⟨ho, h⟩
  · exact .inl (cCompFac_sub o c hc)
  · exact .inr ⟨ho, (by decide : ∀ g ∈ [.cSupport, .cFixedInt, .cSizeT, .cNull, .cStaticAssert], g ∈ serFac .c) f h⟩
  · exact .inr ⟨ho, h⟩

/-! `lit` is injective, so comparing header names is comparing string literals, which `simp` does by itself (`decide` would
decode every literal into its characters, at each comparison). -/

theorem lit_inj {a b : String} : lit a = lit b ↔ a = b := by simp [lit, String.ext_iff]

theorem lit_eq_nil {s : String} : lit s = [] ↔ s = "" := by simp [lit]

theorem angle_lit (s : String) : angle (lit s) = lit ("<" ++ s ++ ">") := by simp [angle, lit]

theorem angle_type_traits : angle (lit "type_traits") = lit "<type_traits>" := angle_lit _
theorem angle_memory : angle (lit "memory") = lit "<memory>" := angle_lit _
theorem angle_new : angle (lit "new") = lit "<new>" := angle_lit _
theorem angle_utility : angle (lit "utility") = lit "<utility>" := angle_lit _

section
attribute [local simp] stdProvides lit_inj hAssert hStdbool hStddef hStdint hCstdint

theorem std_limits : ∀ f ∈ [Fac.xSizeT, .xLimits], stdProvides (angle (lit "limits")) f = true := by simp [angle_lit]
theorem std_cstdint : stdProvides (angle (lit "cstdint")) .xFixedInt = true := by simp [angle_lit]
theorem std_hCstdint : stdProvides hCstdint .xFixedInt = true := by simp
theorem std_array : stdProvides (angle (lit "array")) .xArray = true := by simp [angle_lit]
theorem std_bitset : stdProvides (angle (lit "bitset")) .xBitset = true := by simp [angle_lit]
theorem std_variant : stdProvides (angle (lit "variant")) .xVariant = true := by simp [angle_lit]
theorem std_type_traits : stdProvides (lit "<type_traits>") .xTypeTraits = true := by simp
theorem std_utility : stdProvides (lit "<utility>") .xUtility = true := by simp
theorem std_new : stdProvides (lit "<new>") .xNew = true := by simp
theorem std_memory : stdProvides (lit "<memory>") .xMemory = true := by simp

theorem cOmitBlock_provides {o : Opts} (ho : o.omitSer = true) :
    ∀ f ∈ cDefFacs, ∃ x ∈ cOmitBlock o, stdProvides x f = true := by
  rw [cOmitBlock, if_pos ho]
  decide +kernel

theorem support_c_all : ∀ f ∈ cDefFacs ++ serFac .c, supportProvides .c f = true := by
  simp [cDefFacs, serFac, supportProvides, supportIncludes]

/-- `<limits>` does not come with the C++ support header: every generated header includes it itself. -/
theorem support_cpp_all : ∀ f ∈ .xSupport :: serFac .cpp, f = .xLimits ∨ supportProvides .cpp f = true := by
  simp [serFac, supportProvides, supportIncludes]

end

theorem provides_of_std {lang : Lang} {o : Opts} {inc : Str} {f : Fac} (h : stdProvides inc f = true) :
    provides lang o inc f = true := by simp [provides, h]

theorem provides_of_support {lang : Lang} {o : Opts} {s : Str} {f : Fac} (ho : o.omitSer = false) (hs : s ∈ o.support)
    (h : supportProvides lang f = true) : provides lang o (punct o s) f = true := by
  have : punct o s ∈ o.support.map (punct o) := List.mem_map.mpr ⟨s, hs, rfl⟩
  simp [provides, ho, h, this]

theorem provides_vla {lang : Lang} {o : Opts} {f : Fac} (hne : o.vlaInc ≠ []) (hf : f = .xVla ∨ f = .xMemory) :
    provides lang o o.vlaInc f = true := by
  rcases hf with rfl | rfl <;> simp [provides, hne]

theorem provides_alloc {lang : Lang} {o : Opts} {f : Fac} (hne : o.allocInc ≠ [])
    (hf : f ∈ [.xAlloc, .xUtility, .xMemory]) : provides lang o o.allocInc f = true := by
  simp only [List.mem_cons, List.not_mem_nil, or_false] at hf
  rcases hf with rfl | rfl | rfl <;> simp [provides, hne]

theorem covered_of_mem {lang : Lang} {o : Opts} {incs : List Str} {f : Fac} {i : Str} (hi : i ∈ incs)
    (hp : provides lang o i f = true) : covered lang o incs f = true :=
  List.any_eq_true.mpr ⟨i, hi, hp⟩

theorem depPaths_mem {pcfg : Namespace.Cfg} : ∀ {ns : List TName} {ps : List Str}, depPaths pcfg ns = .ok ps →
    ∀ p ∈ ps, ∃ n ∈ ns, ∃ rel, makePath pcfg n = .ok rel ∧ p = asPosix rel
  | [], ps, h, p, hp => by simp only [depPaths] at h; cases h; simp at hp
  | n :: ns, ps, h, p, hp => by
    simp only [depPaths] at h
    split at h
    · cases h
    · rename_i rel hrel
      split at h
      · cases h
      · rename_i ps' hps'
        cases h
        rcases List.mem_cons.mp hp with hp | hp
        · exact ⟨n, List.mem_cons_self .., rel, hrel, hp⟩
        · obtain ⟨m, hm, r, h1, h2⟩ := depPaths_mem hps' p hp
          exact ⟨m, List.mem_cons_of_mem _ hm, r, h1, h2⟩

theorem pathIncludes_inv {pcfg : Namespace.Cfg} {o : Opts} {d : Deps} {ps : List Str}
    (h : pathIncludes pcfg o d = .ok ps) :
    ∃ qs, depPaths pcfg d.names = .ok qs ∧ ps = (qs ++ if o.omitSer then [] else o.support).map (punct o) := by
  simp only [pathIncludes] at h
  split at h
  · cases h
  · exact ⟨_, ‹_›, by cases h; rfl⟩

theorem pathIncludes_support {pcfg : Namespace.Cfg} {o : Opts} {d : Deps} {ps : List Str}
    (h : pathIncludes pcfg o d = .ok ps) (ho : o.omitSer = false) {s : Str} (hs : s ∈ o.support) : punct o s ∈ ps := by
  obtain ⟨qs, _, rfl⟩ := pathIncludes_inv h
  simp only [ho, Bool.false_eq_true, if_false, List.mem_map, List.mem_append]
  exact ⟨s, .inr hs, rfl⟩

theorem pathIncludes_mem {pcfg : Namespace.Cfg} {o : Opts} {d : Deps} {ps : List Str}
    (h : pathIncludes pcfg o d = .ok ps) {p : Str} (hp : p ∈ ps) :
    (o.omitSer = false ∧ ∃ s ∈ o.support, p = punct o s) ∨
    (∃ n ∈ d.names, ∃ rel, makePath pcfg n = .ok rel ∧ p = punct o (asPosix rel)) := by
  obtain ⟨qs, hqs, rfl⟩ := pathIncludes_inv h
  simp only [List.mem_map, List.mem_append] at hp
  obtain ⟨q, hq | hs, rfl⟩ := hp
  · obtain ⟨n, hn, rel, h1, rfl⟩ := depPaths_mem hqs q hq
    exact .inr ⟨n, hn, rel, h1, rfl⟩
  · cases ho : o.omitSer
    · exact .inl ⟨rfl, q, by simpa [ho] using hs, rfl⟩
    · simp [ho] at hs

/-- What `get_includes` and the template put around the project-relative includes. -/
def extras (lang : Lang) (o : Opts) (t : Top) : List Str :=
  match lang with
  | .c => cStd o (direct t) ++ cOmitBlock o
  | .cpp => cppGetIncludes o (direct t) ++ cppUnionBlock o t ++ (if t.fixedPort then [hCstdint] else [])
  | .py => []

theorem emitted_inv {lang : Lang} {pcfg : Namespace.Cfg} {o : Opts} {t : Top} {incs : List Str}
    (h : emitted lang pcfg o t = .ok incs) (hl : lang ≠ .py) :
    ∃ ps, pathIncludes pcfg o (direct t) = .ok ps ∧ ∀ x, x ∈ incs ↔ x ∈ ps ∨ x ∈ extras lang o t := by
  -- once the result of `pathIncludes` is a constructor, the matches of `filterIncludesWith` and `emitted` reduce
  cases hps : pathIncludes pcfg o (direct t) with
  | error e => cases lang <;> simp [emitted, filterIncludesWith, hps] at h hl
  | ok ps =>
    refine ⟨ps, rfl, fun x => ?_⟩
    cases lang <;> simp [emitted, filterIncludesWith, hps] at h hl <;> subst h
    · simp [extras, mem_sortS, or_assoc]
    · -- the port block adds `<cstdint>` unless the filter result has it
      by_cases hc : hCstdint ∈ ps ∨ hCstdint ∈ cppGetIncludes o (direct t)
      · simp [extras, cppPortBlock, mem_sortS, or_assoc, hc]
        -- left: the alternative `x = hCstdint` of the right side is `hc`'s on the left
        grind
      · simp [extras, cppPortBlock, mem_sortS, or_assoc, hc]

theorem mem_cppGetIncludes_std {o : Opts} {d : Deps} {n : Str} (h : n ∈ cppStdNames o d) :
    angle n ∈ cppGetIncludes o d :=
  List.mem_append_left _ (List.mem_append_left _ (List.mem_map.mpr ⟨n, mem_sortS.mpr h, rfl⟩))

theorem mem_cppGetIncludes_alloc {o : Opts} {d : Deps} (h : o.allocInc ≠ []) : o.allocInc ∈ cppGetIncludes o d := by
  simp [cppGetIncludes, cppGetIncludesWith, h]

theorem mem_cppGetIncludes_vla {o : Opts} {d : Deps} (h : o.vlaInc ≠ []) (hv : d.usesVla = true) :
    o.vlaInc ∈ cppGetIncludes o d := by
  simp [cppGetIncludes, cppGetIncludesWith, h, hv]

theorem buildMany_single (u : Top → Bool) (tr : Bool) (t : Top) :
    buildMany u tr [t] = extractList tr t.dataTypes (if u t then { usesInteger := true, usesUnion := true } else {}) := by
  simp [buildMany, buildStep]

theorem direct_usesUnion {t : Top} (h : t.definesUnion = true) : (direct t).usesUnion = true := by
  rw [direct, buildMany_single, h]
  exact (le_extractList false _ _).u rfl

theorem direct_flag {o : Opts} {t : Top} {ty : Ty} {f : Fac} (hty : ty ∈ t.dataTypes) (hf : f ∈ xTyFac o ty) :
    xFlag o f (direct t) := by
  rw [direct, buildMany_single]
  exact xTyFac_flag_list o _ _ ty f hty hf

theorem definesUnion_eq_any (t : Top) : t.definesUnion = t.parts.any (·.isUnion) := by
  cases t <;> simp [Top.definesUnion, Top.parts]

theorem dataTypes_eq_flatMap (t : Top) : t.dataTypes = t.parts.flatMap (·.attrs) := by
  cases t <;> simp [Top.dataTypes, Top.parts]

theorem facilities_cpp_sub {o : Opts} {t : Top} {f : Fac} (h : f ∈ facilities .cpp o t) :
    f ∈ [.xSizeT, .xLimits]
    ∨ (t.fixedPort = true ∧ f = .xFixedInt)
    ∨ (∃ ty ∈ t.dataTypes, f ∈ xTyFac o ty)
    ∨ (t.definesUnion = true ∧
        f ∈ (if hasVariant o then [.xVariant, .xTypeTraits] else [.xTypeTraits, .xUtility, .xNew, .xMemory]))
    ∨ (o.allocCtor = true ∧ f ∈ [.xAlloc, .xUtility, .xMemory])
    ∨ (o.omitSer = false ∧ f ∈ .xSupport :: serFac .cpp) := by
  -- both sides as statements about `t.parts`; what is left is to find each alternative of `h` in the goal
  simp only [facilities, facMust, facMay, xCompFac, xCompMay, List.mem_append, List.mem_flatMap, List.mem_filter,
    List.mem_ite_nil_left, List.mem_ite_nil_right, List.mem_singleton, Bool.not_eq_true, Bool.and_eq_true,
    Bool.not_eq_eq_eq_not, Bool.not_true] at h
  simp only [dataTypes_eq_flatMap, definesUnion_eq_any, List.mem_flatMap, List.any_eq_true, Comp.attrs, List.mem_append,
    List.mem_cons, List.not_mem_nil, or_false]
  rcases h with (⟨c, hc, h⟩ | ⟨ho, rfl⟩) | (⟨c, hc, h⟩ | ⟨ho, h⟩)
  · grind
  · simp [ho]
  · grind
  · exact .inr (.inr (.inr (.inr (.inr ⟨ho, .inr h⟩))))

section
variable {lang : Lang} {pcfg : Namespace.Cfg} {o : Opts} {t : Top} {incs : List Str}
  (h : emitted lang pcfg o t = .ok incs) {f : Fac}
include h

theorem covered_extras {x : Str} (hx : x ∈ extras lang o t) (hp : provides lang o x f = true) :
    covered lang o incs f = true := by
  have hl : lang ≠ .py := by rintro rfl; nomatch hx
  obtain ⟨ps, _, hmem⟩ := emitted_inv h hl
  exact covered_of_mem ((hmem x).mpr (.inr hx)) hp

theorem covered_support (hl : lang ≠ .py) (ho : o.omitSer = false) (hs : o.support ≠ [])
    (hp : supportProvides lang f = true) : covered lang o incs f = true := by
  obtain ⟨ps, hps, hmem⟩ := emitted_inv h hl
  obtain ⟨s, hs⟩ := List.exists_mem_of_ne_nil _ hs
  exact covered_of_mem ((hmem _).mpr (.inl (pathIncludes_support hps ho hs))) (provides_of_support ho hs hp)

end

section
variable {pcfg : Namespace.Cfg} {o : Opts} {t : Top} {incs : List Str} (h : emitted .cpp pcfg o t = .ok incs) {f : Fac}
include h

theorem covered_getIncludes {x : Str} (hx : x ∈ cppGetIncludes o (direct t)) (hp : provides .cpp o x f = true) :
    covered .cpp o incs f = true :=
  covered_extras h (List.mem_append_left _ (List.mem_append_left _ hx)) hp

theorem covered_stdName {n : Str} (hn : n ∈ cppStdNames o (direct t)) (hp : stdProvides (angle n) f = true) :
    covered .cpp o incs f = true :=
  covered_getIncludes h (mem_cppGetIncludes_std hn) (provides_of_std hp)

theorem covered_alloc (hne : o.allocInc ≠ []) (hf : f ∈ [.xAlloc, .xUtility, .xMemory]) :
    covered .cpp o incs f = true :=
  covered_getIncludes h (mem_cppGetIncludes_alloc hne) (provides_alloc hne hf)

theorem covered_of_xFlag (hvla : (direct t).usesVla = true → o.vlaInc ≠ []) (hf : xFlag o f (direct t)) :
    covered .cpp o incs f = true := by
  cases f <;> simp only [xFlag] at hf
  · exact covered_stdName h (n := lit "cstdint") (by simp [cppStdNames, hf]) std_cstdint
  · exact covered_stdName h (n := lit "array") (by rcases hf with hf | hf <;> simp [cppStdNames, hf]) std_array
  · exact covered_stdName h (n := lit "bitset") (by simp [cppStdNames, hf]) std_bitset
  · exact covered_getIncludes h (mem_cppGetIncludes_vla (hvla hf) hf) (provides_vla (hvla hf) (.inl rfl))

/-- `<variant>` comes from `get_includes`, the rest from the union block of `base.j2` (`cppUnionBlock`). -/
theorem covered_union (hd : t.definesUnion = true)
    (hf : f ∈ (if hasVariant o then [.xVariant, .xTypeTraits] else [.xTypeTraits, .xUtility, .xNew, .xMemory])) :
    covered .cpp o incs f = true := by
  have blk : ∀ x, stdProvides x f = true →
      x ∈ lit "<type_traits>" :: (if hasVariant o then [] else [lit "<memory>", lit "<new>", lit "<utility>"]) →
      covered .cpp o incs f = true := fun x hp hx =>
    covered_extras h (List.mem_append_left _ (List.mem_append_right _ (by simpa [cppUnionBlock, hd] using hx)))
      (provides_of_std hp)
  split at hf <;> rename_i hv <;> simp only [List.mem_cons, List.not_mem_nil, or_false] at hf
  · rcases hf with rfl | rfl
    · exact covered_stdName h (n := lit "variant") (by simp [cppStdNames, direct_usesUnion hd, hv]) std_variant
    · exact blk _ std_type_traits (by simp)
  · rcases hf with rfl | rfl | rfl | rfl
    · exact blk _ std_type_traits (by simp)
    · exact blk _ std_utility (by simp [hv])
    · exact blk _ std_new (by simp [hv])
    · exact blk _ std_memory (by simp [hv])

theorem covered_fixedPort (hp : t.fixedPort = true) : covered .cpp o incs .xFixedInt = true :=
  covered_extras h (by simp [extras, hp]) (provides_of_std std_hCstdint)

end

def plainName (n : Str) : Prop := ∀ c ∈ n, c ≠ '{' ∧ c ≠ '}' ∧ c ≠ '/' ∧ c ≠ '\n'

theorem plainName_cons {c : Char} {cs : Str} (h : plainName (c :: cs)) :
    (c ≠ '{' ∧ c ≠ '}' ∧ c ≠ '/' ∧ c ≠ '\n') ∧ plainName cs :=
  ⟨h c (List.mem_cons_self ..), fun x hx => h x (List.mem_cons_of_mem _ hx)⟩

theorem depthAfter_other (c : Char) (rest : Str) (d : Nat) (h1 : c ≠ '{') (h2 : c ≠ '}') :
    depthAfter (c :: rest) d = depthAfter rest d := by
  rw [depthAfter.eq_def]
  split <;> simp_all

theorem depthAfter_close (rest : Str) (d : Nat) : depthAfter ('}' :: rest) (d + 1) = depthAfter rest d := by
  simp [depthAfter]

theorem depthAfter_open (rest : Str) (d : Nat) : depthAfter ('{' :: rest) d = depthAfter rest (d + 1) := by
  simp [depthAfter]

theorem depthAfter_plain (n : Str) (hn : plainName n) (rest : Str) (d : Nat) :
    depthAfter (n ++ rest) d = depthAfter rest d := by
  induction n with
  | nil => rfl
  | cons c cs ih =>
    obtain ⟨hc, hcs⟩ := plainName_cons hn
    rw [List.cons_append, depthAfter_other _ _ _ hc.1 hc.2.1, ih hcs]

theorem stripLineComments_other (c : Char) (rest : Str) (h : c ≠ '/') :
    stripLineComments (c :: rest) = c :: stripLineComments rest := by
  rw [stripLineComments.eq_def]
  split <;> simp_all

theorem stripLineComments_comment (rest : Str) :
    stripLineComments ('/' :: '/' :: rest) = stripLineComments.skipLine rest := by
  simp [stripLineComments]

theorem skipLine_nl (rest : Str) : stripLineComments.skipLine ('\n' :: rest) = '\n' :: stripLineComments rest := by
  simp [stripLineComments.skipLine]

theorem skipLine_plain (n : Str) (hn : plainName n) (rest : Str) :
    stripLineComments.skipLine (n ++ rest) = stripLineComments.skipLine rest := by
  induction n with
  | nil => rfl
  | cons c cs ih =>
    obtain ⟨hc, hcs⟩ := plainName_cons hn
    rw [List.cons_append, stripLineComments.skipLine.eq_def]
    split <;> simp_all

theorem depthAfter_openLine (n : Str) (hn : plainName n) (tail : Str) (d : Nat) :
    depthAfter (lit "namespace " ++ n ++ nl ++ ['{'] ++ tail) d = depthAfter tail (d + 1) := by
  have hkw : plainName (lit "namespace ") := by
    -- the literal as the list of its characters: cheaper than having the kernel decode it
    unfold plainName lit
    rw [String.toList_ofList]
    decide +kernel
  simp only [List.append_assoc]
  rw [depthAfter_plain _ hkw, depthAfter_plain _ hn]
  simp [nl, depthAfter_other, depthAfter_open]

theorem depthAfter_openNamespace_cons (n : Str) (hn : plainName n) (ns : List Str) (rest : Str) (d : Nat) :
    depthAfter (openNamespace (n :: ns) ++ rest) d = depthAfter (openNamespace ns ++ rest) (d + 1) := by
  cases ns with
  | nil => exact depthAfter_openLine n hn rest d
  | cons m ms =>
    simp only [openNamespace, List.append_assoc]
    have := depthAfter_openLine n hn (nl ++ (openNamespace (m :: ms) ++ rest)) d
    simp only [List.append_assoc] at this
    rw [this]
    simp [nl, depthAfter_other]

theorem stripLineComments_closeLine (n : Str) (hn : plainName n) (tail : Str) :
    stripLineComments (['}'] ++ lit " // namespace " ++ n ++ nl ++ tail) = '}' :: ' ' :: '\n' :: stripLineComments tail := by
  have hkw : plainName (lit " namespace ") := by
    unfold plainName lit
    rw [String.toList_ofList]
    decide +kernel
  have hsl : lit " // namespace " = ' ' :: '/' :: '/' :: lit " namespace " := by
    unfold lit
    rw [String.toList_ofList, String.toList_ofList]
  simp only [hsl, List.append_assoc, List.cons_append, List.nil_append]
  rw [stripLineComments_other _ _ (by decide), stripLineComments_other _ _ (by decide), stripLineComments_comment,
    skipLine_plain _ hkw, skipLine_plain _ hn]
  simp [nl, skipLine_nl]

theorem depthAfter_closeNamespaceRev (rest : Str) : ∀ (rs : List Str), (∀ n ∈ rs, plainName n) → ∀ d,
    depthAfter (stripLineComments (closeNamespaceRev rs ++ nl ++ rest)) (d + rs.length) =
      depthAfter (stripLineComments (nl ++ rest)) d
  | [], _, _ => rfl
  | [n], h, d => by
    rw [closeNamespaceRev, stripLineComments_closeLine n (h n (by simp))]
    simp [nl, depthAfter_close, depthAfter_other, stripLineComments_other]
  | n :: m :: ms, h, d => by
    have ih := depthAfter_closeNamespaceRev rest (m :: ms) (fun x hx => h x (List.mem_cons_of_mem _ hx)) d
    have hl := stripLineComments_closeLine n (h n (by simp)) (closeNamespaceRev (m :: ms) ++ nl ++ rest)
    simp only [closeNamespaceRev, List.append_assoc] at ih hl ⊢
    rw [hl]
    simpa [depthAfter_close, depthAfter_other, ← Nat.add_assoc] using ih

end NunavutVerif.Deps
