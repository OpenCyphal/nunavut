import NunavutVerif.Lemmas.GenCSpec
/-!
The judgement `SerRefines` (a site of the generated C serializer does what the specification says) with its rules, the
contract `FnOK` of a generated function, and the structural pieces: nested calls on sub-buffers, the delimiter header
(written ahead, or reserved and back-patched), the function skeleton, the bulk array paths (`nunavutCopyBits` from the
member array).
-/
namespace NunavutVerif.GenC
open NunavutVerif.Dsdl NunavutVerif.Bits
open NunavutVerif.Bits.Py (bitOf bitOf_append)
open AOff

def embedS : SerErr → Err
  | .badArrayLength => eBadArrayLength
  | .badUnionTag => eBadUnionTag
  | .bufferTooSmall => eTooSmall
  | .illTyped => .illTyped

def SerRefines (r : Except Err W) (spec : Except SerErr (List Bool)) (buf : Buf) (off : Nat) : Prop :=
  match spec with
  | .ok bits => SerStep r buf off bits
  | .error e => r = .error (embedS e)

/-- contract of a generated `T_serialize_`: on any sub-buffer that passes the up-front check against `maxB` it
writes `spec` from bit 0 and reports its size in bytes -/
def FnOK (inner : Buf → Nat → Except Err W) (spec : Except SerErr (List Bool)) (maxB : Nat) : Prop :=
  ∀ sub capS, Fits sub capS maxB →
    match spec with
    | .ok bits => bits.length % 8 = 0 ∧ ∃ sub', inner sub capS = .ok (sub', bits.length / 8) ∧ Wrote sub sub' 0 bits
    | .error e => inner sub capS = .error (embedS e)

@[elab_as_elim]
theorem SerRefines.step {motive : Except Err W → Except SerErr (List Bool) → Prop} {r : Except Err W}
    {spec : Except SerErr (List Bool)} {buf : Buf} {off : Nat} (h : SerRefines r spec buf off)
    (error : ∀ e, motive (.error (embedS e)) (.error e))
    (ok : ∀ bits b1, spec = .ok bits → Wrote buf b1 off bits → motive (.ok (b1, off + bits.length)) (.ok bits)) :
    motive r spec := by
  cases spec with
  | error e => rw [show r = _ from h]; exact error e
  | ok bits =>
    obtain ⟨b1, rfl, hw⟩ := h
    exact ok bits b1 rfl hw

theorem SerRefines.seq {r1 : Except Err W} {k : Buf → Nat → Except Err W} {s1 : Except SerErr (List Bool)}
    {s2 : List Bool → Except SerErr (List Bool)} {buf : Buf} {off : Nat} : SerRefines r1 s1 buf off →
    (∀ a b1, s1 = .ok a → Wrote buf b1 off a → SerRefines (k b1 (off + a.length)) (s2 a) b1 (off + a.length)) →
    SerRefines (match r1 with | .error e => .error e | .ok (b, o') => k b o')
      (match s1 with
        | .error e => .error e
        | .ok a => match s2 a with
          | .error e => .error e
          | .ok b => .ok (a ++ b)) buf off := by
  intro h1 h2
  cases s1 with
  | error e => rw [show r1 = _ from h1]; rfl
  | ok a =>
    obtain ⟨b1, hr, hw⟩ := h1
    have h := h2 a b1 rfl hw
    rw [hr]
    dsimp only
    cases hs : s2 a with
    | error e => rw [hs] at h; exact h
    | ok b => rw [hs] at h; exact SerStep.trans hw h

theorem SerRefines.shift {buf b0 : Buf} {off : Nat} {z : List Bool} {r : Except Err W}
    {s : Except SerErr (List Bool)} (hw0 : Wrote buf b0 off z) (h : SerRefines r s b0 (off + z.length)) :
    SerRefines r (s.map (z ++ ·)) buf off := by
  cases s with
  | error e => exact h
  | ok a => exact SerStep.trans hw0 h

theorem SerRefines.prefixed {r1 : Except Err W} {k : Buf → Nat → Except Err W} {p : List Bool}
    {s : Except SerErr (List Bool)} {buf : Buf} {off : Nat} : SerStep r1 buf off p →
    (∀ b1, Wrote buf b1 off p → SerRefines (k b1 (off + p.length)) s b1 (off + p.length)) →
    SerRefines (match r1 with | .error e => .error e | .ok (b, o') => k b o') (s.map (p ++ ·)) buf off := by
  intro h1 h2
  obtain ⟨b1, hr, hw⟩ := h1
  rw [hr]
  exact SerRefines.shift hw (h2 b1 hw)

theorem wrote_sub {buf sub' : Buf} {k : Nat} {bits : List Bool} (hk : k ≤ buf.length)
    (hb : bits.length ≤ 8 * (buf.length - k)) (h : Wrote (buf.drop k) sub' 0 bits) :
    Wrote buf (buf.take k ++ sub') (8 * k) bits := by
  have hw := wrote_window (data := buf) (nb := buf.length - k) (Nat.le_of_eq (Nat.add_sub_cancel' hk)) hb
    (by rwa [List.take_of_length_le (Nat.le_of_eq List.length_drop)])
  rwa [Nat.add_sub_cancel' hk, List.drop_length, List.append_nil] at hw

/-- The part all three shapes of `_serialize_composite` share: the nested call at an aligned offset with room, between
its assertions.  The callee's contract on `&buffer[off / 8]` is read as a statement about the enclosing buffer; `K` is
what the shape does afterwards. -/
theorem FnOK.nested (o : Opts) {inner : Buf → Nat → Except Err W} {spec : Except SerErr (List Bool)} {minB maxB : Nat}
    (hfn : FnOK inner spec maxB) (hm : maxB % 8 = 0)
    (hlen : ∀ bits, spec = .ok bits → minB ≤ bits.length ∧ bits.length ≤ maxB)
    {buf : Buf} {cap off : Nat} (hf : Fits buf cap (off + maxB)) (hal : off % 8 = 0)
    (K : Buf → Nat → Except Err W) {P : Except Err W → Prop}
    (herr : ∀ e, spec = .error e → P (.error (embedS e)))
    (hok : ∀ bits sub', spec = .ok bits → Wrote buf (buf.take (off / 8) ++ sub') off bits →
      off + bits.length / 8 * 8 ≤ cap * 8 → bits.length / 8 * 8 = bits.length → P (K sub' (bits.length / 8))) :
    P (assertC o (off % 8 = 0) <| assertC o (off / 8 + (maxB + 7) / 8 ≤ cap) <|
      match inner (buf.drop (off / 8)) ((maxB + 7) / 8) with
      | .error e => .error e
      | .ok (sub, size) => assertC o (minB ≤ size * 8 ∧ size * 8 ≤ maxB) <| K sub size) := by
  have hsz : (maxB + 7) / 8 = maxB / 8 := by omega
  have hroom := hf.room
  have hsum : off / 8 + maxB / 8 ≤ cap := by omega
  have hwin : maxB / 8 ≤ buf.length - off / 8 := Nat.le_sub_of_add_le' (Nat.le_trans hsum hf.cap)
  have hsub := hfn (buf.drop (off / 8)) (maxB / 8) ⟨WF_drop hf.wf _, Nat.le_of_eq (mul_div_aligned hm).symm,
    by rw [List.length_drop]; exact hwin⟩
  rw [assertC_ok o hal, hsz, assertC_ok o hsum]
  cases spec with
  | error e => rw [show inner _ _ = _ from hsub]; exact herr e rfl
  | ok bits =>
    obtain ⟨h8, sub', hin, hwr⟩ := hsub
    have hl := hlen bits rfl
    have he : bits.length / 8 * 8 = bits.length := Nat.div_mul_cancel (Nat.dvd_of_mod_eq_zero h8)
    have h := wrote_sub (Nat.le_trans (Nat.le_trans (Nat.le_add_right _ _) hsum) hf.cap)
      (Nat.le_trans hl.2 (mul_div_aligned hm ▸ Nat.mul_le_mul_left 8 hwin)) hwr
    rw [mul_div_aligned hal] at h
    rw [hin]
    dsimp only
    rw [assertC_ok o (by rw [he]; exact hl)]
    exact hok bits sub' rfl h (by rw [he, Nat.mul_comm]; exact Nat.le_trans (Nat.add_le_add_left hl.2 off) hroom) he

theorem patch_wrote {buf buf1 buf2 : Buf} {off : Nat} {hdr bits : List Bool} (hh : hdr.length = 32)
    (h1 : Wrote buf buf1 (off + 32) bits) (hl : buf2.length = buf1.length) (hwf : WF buf1 → WF buf2)
    (hf : ∀ i, bitAt buf2 i = if off ≤ i ∧ i < off + 32 then bitOf hdr (i - off) else bitAt buf1 i) :
    Wrote buf buf2 off (hdr ++ bits) := by
  refine .append (hl.trans h1.len) (fun h => hwf (h1.wf h)) (fun i hi => ?_) (fun i hi => ?_) (fun i hi => ?_)
  · rw [hf i, if_neg (by omega), h1.pre i (by omega)]
  · rw [hf, if_pos ⟨Nat.le_add_right _ _, Nat.add_lt_add_left (hh ▸ hi) off⟩, Nat.add_sub_cancel_left]
  · rw [hf, hh, if_neg (by omega), h1.new i hi]

theorem patch_overwrites (o : Opts) (b2 : Buf) (cap off size : Nat) (hf : Fits b2 cap (off + 32))
    (hal : off % 8 = 0) :
    ∃ r, (if o.little = true then liftP (memmove b2 (off / 8) (objRepLE size 8) 0 4)
        else chk (setUxx o.little b2 cap off size 32)) = .ok r ∧ r.length = b2.length ∧ (WF b2 → WF r) ∧
      Overwrites r b2 off 32 size.testBit := by
  cases hlit : o.little with
  | true =>
    obtain ⟨r, hr, hl', hwf, ho⟩ := memmove_bits 4 b2 (off / 8) (objRepLE size 8) 0
      (by rw [length_objRepLE]; decide) (hf.bytes (by decide))
    rw [mul_div_aligned hal] at ho
    refine ⟨r, by rw [if_pos rfl, hr]; rfl, hl', hwf (WF_objRepLE _ _), ho.congr fun j hj => ?_⟩
    rw [Nat.mul_zero, Nat.zero_add, bitAt_objRepLE, decide_eq_true (Nat.lt_trans hj (by decide)), Bool.true_and]
  | false =>
    obtain ⟨r, hr, hl', hwf, hbits⟩ := setUxx_spec false b2 cap off size 32 hf.cap (Nat.not_lt.mpr (Nat.mul_comm 8 cap ▸ hf.room))
    exact ⟨r, by rw [if_neg Bool.false_ne_true, hr, chk_ok], hl', hwf, hbits⟩

theorem nestedSer_refines (o : Opts) (hs : o.Sound) (inner : Buf → Nat → Except Err W)
    (spec : Except SerErr (List Bool)) (isDelim fixed : Bool) (minB maxB : Nat)
    (hfn : FnOK inner spec maxB) (hm : maxB % 8 = 0)
    (hfix : fixed = true → ∀ bits, spec = .ok bits → bits.length = maxB)
    (hlen : ∀ bits, spec = .ok bits → minB ≤ bits.length ∧ bits.length ≤ maxB)
    (cap : Nat) (d : AOff) (buf : Buf) (off : Nat) (hf : Fits buf cap (off + (if isDelim then 32 else 0) + maxB))
    (hal : off % 8 = 0) (hd : Adm d off) :
    SerRefines (nestedSer o inner isDelim fixed minB maxB cap d buf off)
      (if isDelim then spec.map (fun bs => natToBits 32 (bs.length / 8) ++ bs) else spec) buf off := by
  unfold nestedSer
  cases isDelim with
  | false =>
    -- sealed: plain call on the sub-buffer
    simp only [Bool.false_eq_true, if_false, Nat.add_zero, false_and] at hf ⊢
    refine hfn.nested (P := (SerRefines · spec buf off)) o hm hlen hf hal _ (fun e he => ?_)
      (fun bits sub' hb hwr h1 h2 => ?_)
    · subst he; rfl
    · subst hb
      rw [assertC_ok o h1, h2]
      exact ⟨_, rfl, hwr⟩
  | true =>
    simp only [if_true] at hf ⊢
    have hal1 : (off + 32) % 8 = 0 := add_mod_zero hal (by decide)
    have h32 : Fits buf cap (off + 32) := hf.mono (Nat.le_add_right _ _)
    cases fixed with
    | true =>
      -- constant header first, then the call
      obtain ⟨b1, hb1, hw1⟩ := serInt_nat_wrote o hs 32 64 ((maxB + 7) / 8) cap d buf off
        (by decide) (by decide) (by decide) (by decide) h32 hd
      rw [natToBits_length] at hb1
      simp only [if_true, hb1, not_true_eq_false, and_false, if_false]
      refine hfn.nested (P := (SerRefines · (spec.map _) buf off)) o hm hlen (hf.after hw1) hal1 _
        (fun e he => ?_) (fun bits sub' hb hwr h1 h2 => ?_)
      · subst he; rfl
      · subst hb
        rw [assertC_ok o h1, h2]
        rw [show (maxB + 7) / 8 = bits.length / 8 by rw [hfix rfl bits rfl]; omega] at hw1
        exact ⟨_, by rw [List.length_append, natToBits_length, Nat.add_assoc],
          hw1.trans (by rwa [natToBits_length])⟩
    | false =>
      -- reserve, call, back-patch
      simp only [if_true, Bool.false_eq_true, if_false, not_false_eq_true, and_self, Nat.add_sub_cancel]
      refine hfn.nested (P := (SerRefines · (spec.map _) buf off)) o hm hlen hf hal1 _
        (fun e he => ?_) (fun bits sub' hb hwr h1 h2 => ?_)
      · subst he; rfl
      · subst hb
        obtain ⟨r, hr, hl', hwf, ho⟩ := patch_overwrites o _ cap off (bits.length / 8) (h32.after hwr) hal
        rw [hr]
        dsimp only
        rw [assertC_ok o h1, h2]
        exact ⟨r, by rw [List.length_append, natToBits_length, Nat.add_assoc],
          patch_wrote (natToBits_length _ _) hwr hl' hwf
            (ho.congr fun j hj => (bitOf_natToBits_of_lt _ hj).symm)⟩

theorem map_ok' {ε α β : Type} (f : α → β) (a : α) : (Except.ok a : Except ε α).map f = .ok (f a) := rfl
theorem map_error' {ε α β : Type} (f : α → β) (e : ε) : (Except.error e : Except ε α).map f = .error e := rfl

theorem topSer_fnOK (o : Opts) (minB maxB : Nat) (body : Nat → Buf → Except Err W)
    (specBody : Except SerErr (List Bool))
    (hbody : ∀ sub capS, Fits sub capS maxB → SerRefines (body capS sub) specBody sub 0)
    (hlen : ∀ bits, (specBody.map fun bs => bs ++ zeros (padLen 8 bs.length)) = .ok bits →
      minB ≤ bits.length ∧ bits.length ≤ maxB)
    (h0 : maxB = 0 → specBody = .ok []) :
    FnOK (topSer o minB maxB body) (specBody.map fun bs => bs ++ zeros (padLen 8 bs.length)) maxB := by
  intro sub capS hf
  unfold topSer
  by_cases hz : maxB = 0
  · rw [h0 hz]
    simp only [hz, if_true, map_ok']
    refine ⟨by simp [padLen, zeros], sub, ?_, ?_⟩
    · simp [padLen, zeros]
    · simpa [padLen, zeros] using Wrote.refl sub 0
  · simp only [hz, if_false, Nat.not_lt.2 hf.room]
    refine SerRefines.step (hbody sub capS hf) (fun e => rfl) fun bits b1 hsp hw1 => ?_
    have hl := hlen _ (congrArg (Except.map _) hsp)
    rw [List.length_append, zeros_length] at hl
    obtain ⟨b2, hb2, hw2⟩ := padSer_wrote o 8 capS b1 (0 + bits.length) (Or.inr rfl)
      ((hf.after hw1).mono (by rw [Nat.zero_add]; exact hl.2))
    have hp8 : (bits.length + padLen 8 bits.length) % 8 = 0 := by
      have := padTo_mod (a := 8) (Or.inr rfl) bits.length
      simpa [padTo] using this
    simp only [Nat.zero_add, zeros_length] at hb2
    simp only [map_ok', Nat.zero_add, hb2]
    rw [assertC_ok o hl, assertC_ok o hp8]
    refine ⟨by simpa using hp8, b2, ?_, ?_⟩
    · simp only [List.length_append, zeros_length]
    · have := hw1.trans hw2
      simpa using this

theorem copyBits_wrote (buf src : Buf) (off len : Nat) (bits : List Bool) (hws : WF src)
    (hsrc : len ≤ src.length * 8) (hdst : off + len ≤ buf.length * 8) (hb : bits.length = len)
    (hv : ∀ i, i < len → bitAt src i = bitOf bits i) :
    ∃ r, liftP (copyBits buf off len src 0) = .ok r ∧ Wrote buf r off bits := by
  obtain ⟨r, hr, hl, hwf, hbits⟩ := copyBits_ok buf off len src 0 (fun _ => by omega) fun _ => hdst
  exact ⟨r, by simp [hr, liftP], .of_overwrites hl (hwf hws) hbits (Nat.le_of_eq hb) fun i hi => by
    rw [Nat.zero_add]; exact hv i (hb ▸ hi)⟩

theorem bitAt_padRight (b : Buf) (n i : Nat) (h : i < 8 * b.length) : bitAt (padRight b n) i = bitAt b i := by
  unfold padRight
  rw [bitAt_append, if_pos h]

theorem length_padRight (b : Buf) (n : Nat) : (padRight b n).length = max b.length n := by
  unfold padRight
  simp only [List.length_append, List.length_replicate]
  omega

theorem WF_padRight {b : Buf} (h : WF b) (n : Nat) : WF (padRight b n) :=
  WF_append h (WF_replicate _)

theorem copyMember_wrote (buf src : Buf) (n off len cap : Nat) (bits : List Bool) (hws : WF src)
    (hsrc : len ≤ 8 * src.length) (hf : Fits buf cap (off + len)) (hb : bits.length = len)
    (hv : ∀ i, i < len → bitAt src i = bitOf bits i) :
    ∃ r, liftP (copyBits buf off len (padRight src n) 0) = .ok r ∧ Wrote buf r off bits :=
  copyBits_wrote buf (padRight src n) off len bits (WF_padRight hws n)
    (by rw [length_padRight, Nat.mul_comm]; exact Nat.le_trans hsrc (Nat.mul_le_mul_left 8 (Nat.le_max_left _ _)))
    (Nat.mul_comm 8 _ ▸ hf.length) hb (fun i hi => by rw [bitAt_padRight _ _ _ (Nat.lt_of_lt_of_le hi hsrc)]; exact hv i hi)

theorem serAll_bool : ∀ vs : List Val, (∀ v ∈ vs, hasTy .bool v = true) →
    serAllWith (serBits .bool) vs = .ok (vs.map asBool) := by
  intro vs
  induction vs with
  | nil => intro _; rfl
  | cons v vs ih =>
    intro h
    have hv := h v List.mem_cons_self
    cases v with
    | bool b =>
      simp only [serAllWith, serBits, ih (fun w hw => h w (List.mem_cons_of_mem _ hw)), List.map_cons, asBool,
        List.singleton_append]
    | _ => cases hv

theorem elem_zeroCost (o : Opts) (t : Ty) (v : Val) (hz : zeroCost o t = true) (hw : wf t = true)
    (ht : hasTy t v = true) (hs : storageOK t v = true) :
    ∃ w, serBits t v = .ok (natToBits (primBits t) w) ∧ elemRep t v = objRepLE w (primBits t / 8) := by
  cases t with
  | uint n m =>
    cases v with
    | int i =>
      simp only [zeroCost, Bool.and_eq_true] at hz
      simp only [storageOK, decide_eq_true_eq] at hs
      refine ⟨lowBits n i, ?_, rfl⟩
      rw [serBits, castU_eq_lowBits n m i hs.1 hs.2, show satV false n (m == .sat) i = i by simp [satV, hz.2]]
      rfl
    | _ => cases ht
  | sint n m =>
    cases v with
    | int i =>
      simp only [zeroCost, Bool.and_eq_true] at hz
      simp only [storageOK, decide_eq_true_eq] at hs
      refine ⟨lowBits n i, ?_, rfl⟩
      rw [serBits, castS_eq_lowBits n m i hs.1 hs.2, show satV true n (m == .sat) i = i by simp [satV, hz.2]]
      rfl
    | _ => cases ht
  | float n m =>
    cases v with
    | float x =>
      simp only [hasTy, decide_eq_true_eq] at ht
      simp only [zeroCost, Bool.and_eq_true, Bool.or_eq_true, beq_iff_eq] at hz
      simp only [storageOK, decide_eq_true_eq] at hs
      simp only [wf, decide_eq_true_eq] at hw
      refine ⟨floatBits n m x, ?_, ?_⟩
      · rw [serBits, floatBits_eq_narrow hw m x ht hs]
        rfl
      · rcases hz.2 with rfl | rfl <;> rfl
    | _ => cases ht
  | _ => cases hz

theorem elemRep_length (t : Ty) (v : Val) : (elemRep t v).length = primBits t / 8 := by
  unfold elemRep
  split
  · exact length_objRepLE _ _
  · exact length_objRepLE _ _
  · exact length_objRepLE _ _
  · exact List.length_replicate

theorem flatMap_elemRep_length (t : Ty) (vs : List Val) : (vs.flatMap (elemRep t)).length = vs.length * (primBits t / 8) := by
  induction vs with
  | nil => simp
  | cons v vs ih => rw [List.flatMap_cons, List.length_append, elemRep_length, ih, List.length_cons, Nat.succ_mul, Nat.add_comm]

theorem serAll_zeroCost (o : Opts) (t : Ty) (hz : zeroCost o t = true) (hw : wf t = true) :
    ∀ vs : List Val, (∀ v ∈ vs, hasTy t v = true ∧ storageOK t v = true) →
      ∃ bits, serAllWith (serBits t) vs = .ok bits ∧ bits.length = vs.length * primBits t ∧
        WF (vs.flatMap (elemRep t)) ∧
        ∀ i, i < vs.length * primBits t → bitAt (vs.flatMap (elemRep t)) i = bitOf bits i := by
  have e8 : 8 * (primBits t / 8) = primBits t := mul_div_aligned (zeroCost_mod8 hz)
  intro vs
  induction vs with
  | nil => intro _; exact ⟨[], rfl, by simp, by intro x hx; simp at hx, by intro i hi; simp at hi⟩
  | cons v vs ih =>
    intro h
    obtain ⟨w, hb, hrep⟩ := elem_zeroCost o t v hz hw (h v (by simp)).1 (h v (by simp)).2
    obtain ⟨bs, hbs, hbsl, hwfs, hbitss⟩ := ih (fun w hw' => h w (List.mem_cons_of_mem _ hw'))
    refine ⟨natToBits (primBits t) w ++ bs, by simp only [serAllWith, hb, hbs], ?_, ?_, ?_⟩
    · rw [List.length_append, natToBits_length, hbsl, List.length_cons, Nat.succ_mul, Nat.add_comm]
    · rw [List.flatMap_cons, hrep]
      exact WF_append (WF_objRepLE _ _) hwfs
    · intro i hi
      rw [List.length_cons, Nat.succ_mul] at hi
      rw [List.flatMap_cons, bitAt_append, bitOf_append, hrep, length_objRepLE, natToBits_length, e8]
      by_cases hlt : i < primBits t
      · rw [if_pos hlt, if_pos hlt, bitAt_objRepLE, bitOf_natToBits, e8]
      · rw [if_neg hlt, if_neg hlt]
        exact hbitss _ (by omega)

end NunavutVerif.GenC
