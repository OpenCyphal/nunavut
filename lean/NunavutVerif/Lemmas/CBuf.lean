import NunavutVerif.Model.CBuf
/-!
Index safety (C04) over `Model/CBuf.lean`.  Each routine of the serializer is specified once, by what its outcome shows
about the fields, the object and the buffer (`Out.Shows`), and the safety theorems read their case off that; likewise
the deserializer (`Out.DeShows`).
-/
namespace NunavutVerif.CBuf

def Out.isShape : Out → Bool
  | .shape => true
  | _ => false

def Out.isExit : Out → Bool
  | .ok _ => true
  | .err _ => true
  | _ => false

theorem Out.isOob_of_isOobObject {r : Out} (h : r.isOobObject = true) : r.isOob = true := by
  cases r with
  | oobObject a b => rfl
  | _ => cases h

theorem Out.isExit_of {r : Out} (h1 : r.isOob = false) (h2 : r.isShape = false) : r.isExit = true := by
  cases r <;> simp_all [Out.isOob, Out.isShape, Out.isExit]

theorem no_false_of_all {α : Type} {P : α → Bool} {l : List α} (h : ∀ x ∈ l, P x = true) : ¬∃ x ∈ l, P x = false :=
  fun ⟨x, hx, e⟩ => by rw [h x hx] at e; cases e

/-- An outcome of (a part of) the serializer read as evidence: success ends within `room`; `shape` means the value does
    not have the layout of the type; leaving the buffer means some write is unchecked and the buffer is shorter than
    `room`; leaving the object means some length comparison does not protect its array. -/
def Out.Shows (fit : Bool) (unchecked : Prop) (capBits room : Nat) (unprot : Prop) : Out → Prop
  | .ok n => n ≤ room
  | .err _ => True
  | .shape => fit = false
  | .oobBuffer _ _ => unchecked ∧ capBits < room
  | .oobObject _ _ => unprot

section
variable {r : Out} {fit fit' : Bool} {u u' p p' : Prop} {c room room' : Nat}

theorem Out.Shows.mono (h : r.Shows fit u c room p) (hf : fit = false → fit' = false) (hu : u → u')
    (hr : room ≤ room') (hp : p → p') : r.Shows fit' u' c room' p' := by
  cases r with
  | ok n => exact Nat.le_trans h hr
  | err e => trivial
  | shape => exact hf h
  | oobBuffer a b => exact ⟨hu h.1, Nat.lt_of_lt_of_le h.2 hr⟩
  | oobObject a b => exact hp h

theorem Out.Shows.notObj (h : r.Shows fit u c room p) (hp : ¬p) : r.isOobObject = false := by
  cases r with
  | oobObject a b => exact absurd h hp
  | _ => rfl

theorem Out.Shows.notOob (h : r.Shows fit u c room p) (hp : ¬p) (hu : u → room ≤ c) : r.isOob = false := by
  cases r with
  | oobBuffer a b => exact absurd (hu h.1) (Nat.not_le_of_lt h.2)
  | oobObject a b => exact absurd h hp
  | _ => rfl

theorem Out.Shows.notShape (h : r.Shows fit u c room p) (hf : fit = true) : r.isShape = false := by
  cases r with
  | shape => cases hf.symm.trans h
  | _ => rfl

end

theorem le_pad8 (n : Nat) : n ≤ pad8 n := by unfold pad8; omega

theorem pad8_mono {a b : Nat} (h : a ≤ b) : pad8 a ≤ pad8 b :=
  Nat.mul_le_mul_right 8 (Nat.div_le_div_right (Nat.add_le_add_right h 7))

theorem write_none {checked : Bool} {capBits off len : Nat} (h : off + len ≤ capBits) :
    write checked capBits off len = none := by
  cases checked <;> simp [write, h] <;> omega

theorem write_some {checked : Bool} {capBits off len : Nat} {r : Out} (h : write checked capBits off len = some r) :
    capBits < off + len ∧ (checked = true ∧ r = .err .bufferTooSmall ∨ checked = false ∧ r = .oobBuffer off len) := by
  cases checked
  · simp only [write, Bool.false_eq_true, if_false] at h
    split at h
    · cases h
    · cases h
      exact ⟨by omega, .inr ⟨rfl, rfl⟩⟩
  · simp only [write, if_true] at h
    split at h
    · cases h
      exact ⟨by assumption, .inl ⟨rfl, rfl⟩⟩
    · cases h

/-! The emitted routines are sequences of three kinds of statement, each followed by the rest `k` of the routine: a
    comparison that returns an error code, a comparison that stands for an access to the object, and a write.  One rule
    per kind says what it adds to the evidence; the routines below are read off their text with these (the terms
    unify with the model's definitions by unfolding them). -/
section
variable {fit : Bool} {u p : Prop} {capBits room : Nat} {k : Out}

theorem Out.Shows.guard {c : Prop} [Decidable c] {e : CErr} (h : ¬c → k.Shows fit u capBits room p) :
    (if c then .err e else k).Shows fit u capBits room p := by
  split
  · trivial
  · exact h ‹_›

theorem Out.Shows.objGuard {c : Prop} [Decidable c] {a b : Nat} (hp : c → p) (h : ¬c → k.Shows fit u capBits room p) :
    (if c then .oobObject a b else k).Shows fit u capBits room p := by
  split
  · exact hp ‹_›
  · exact h ‹_›

/-- At the last write of a routine, `k` is `.ok (o + len)` and `h` is `hl` again. -/
theorem Out.Shows.write_then {checked : Bool} {o len : Nat} (hc : checked = false → u) (hl : o + len ≤ room)
    (h : k.Shows fit u capBits room p) :
    (match write checked capBits o len with | some r => r | none => k).Shows fit u capBits room p := by
  cases hw : write checked capBits o len with
  | none => exact h
  | some r =>
    obtain ⟨hlt, ⟨_, rfl⟩ | ⟨hf, rfl⟩⟩ := write_some hw
    · trivial
    · exact ⟨hc hf, by omega⟩

end

theorem Out.Shows.padEnd {r : Out} {fit : Bool} {u p : Prop} {c room : Nat} (h : r.Shows fit u c room p) :
    (padEnd c r).Shows fit u c (pad8 room) p := by
  cases r with
  | ok n => exact .guard fun _ => pad8_mono h
  | _ => exact h.mono id id (le_pad8 room) id

theorem elemLoop_shows (capBits eb sl : Nat) : ∀ (r i off : Nat),
    (elemLoop capBits eb sl r i off).Shows true False capBits (off + r * eb) (sl < i + r)
  | 0, i, off => by simp [elemLoop, Out.Shows]
  | r + 1, i, off =>
    .objGuard (fun h => by omega) fun _ => .guard fun _ =>
      (elemLoop_shows capBits eb sl r (i + 1) (off + eb)).mono id id (by rw [Nat.add_mul]; omega) (by omega)

theorem serField_shows (cs : Bool) (capBits off : Nat) (f : Field) (v : FVal) :
    (serField cs capBits off f v).Shows (FVal.fits f v) (allChecked f = false) capBits (off + fieldMaxB cs f)
      (okSer cs f = false) := by
  cases f with
  | prim w checked =>
    cases v with
    | count c => exact rfl
    | prim => exact .write_then id (Nat.le_refl _) (Nat.le_refl _)
  | varr lp eb cap sl lpc ec =>
    cases v with
    | prim => exact rfl
    | count c =>
      refine .guard fun hc => ?_
      have hle : c * eb ≤ cmpBound cs cap sl * eb := Nat.mul_le_mul_right _ (by omega)
      have hroom : off + lp + c * eb ≤ off + (lp + cmpBound cs cap sl * eb) := by omega
      refine .write_then (fun e => by simp [allChecked, e]) (Nat.le_trans (Nat.le_add_right _ _) hroom) ?_
      cases ec with
      | true =>
        exact (elemLoop_shows capBits eb sl c 0 (off + lp)).mono (fun h => nomatch h) False.elim hroom
          fun h => decide_eq_false (by omega)
      | false =>
        exact .objGuard (fun h => decide_eq_false (by omega)) fun _ => .write_then (fun _ => by simp [allChecked]) hroom hroom
  | vbits lp cap sl sm cS cD lpc =>
    cases v with
    | prim => exact rfl
    | count c =>
      refine .guard fun hc => ?_
      have hroom : off + lp + c ≤ off + (lp + cS.bound cap sl) := by omega
      exact .write_then (fun _ => rfl) (Nat.le_trans (Nat.le_add_right _ _) hroom) <|
        .objGuard (fun h => decide_eq_false (by omega)) fun _ => .write_then (fun _ => rfl) hroom hroom
  | farr eb cap ec =>
    cases v with
    | count c => exact rfl
    | prim =>
      cases ec with
      | true => exact (elemLoop_shows capBits eb cap cap 0 off).mono (fun h => nomatch h) False.elim (Nat.le_refl _) (by omega)
      | false => exact .write_then (fun _ => rfl) (Nat.le_refl _) (Nat.le_refl _)
  | fbits cap =>
    cases v with
    | count c => exact rfl
    | prim => exact .write_then (fun _ => rfl) (Nat.le_refl _) (Nat.le_refl _)

theorem serFields_shows (cs : Bool) (capBits : Nat) : ∀ (fs : List Field) (vs : List FVal) (off : Nat),
    (serFields cs capBits off fs vs).Shows (fitsAll fs vs) (∃ f ∈ fs, allChecked f = false) capBits
      (off + sumMax (fieldMaxB cs) fs) (∃ f ∈ fs, okSer cs f = false)
  | [], [], off => Nat.le_refl _
  | [], _ :: _, off => rfl
  | _ :: _, [], off => rfl
  | f :: fs, v :: vs, off => by
    have h1 := serField_shows cs capBits off f v
    simp only [serFields]
    generalize serField cs capBits off f v = r at h1 ⊢
    cases r with
    | ok off' =>
      exact (serFields_shows cs capBits fs vs off').mono (fun h => (congrArg (_ && ·) h).trans (Bool.and_false _))
        (fun ⟨g, hg, h⟩ => ⟨g, .tail _ hg, h⟩) (by have : off' ≤ _ := h1; simp only [sumMax]; omega)
        (fun ⟨g, hg, h⟩ => ⟨g, .tail _ hg, h⟩)
    | _ =>
      exact h1.mono (fun h => congrArg (· && _) h) (fun h => ⟨f, .head _, h⟩) (by simp only [sumMax]; omega)
        (fun h => ⟨f, .head _, h⟩)

theorem nth?_mem {α : Type} : ∀ {l : List α} {k : Nat} {x : α}, nth? l k = some x → x ∈ l
  | [], _, _, h => by simp [nth?] at h
  | y :: _, 0, x, h => by simp [nth?] at h; simp [h]
  | _ :: ys, k + 1, x, h => by simp only [nth?] at h; simp [nth?_mem h]

theorem le_maxMax (g : Field → Nat) : ∀ {l : List Field} {f : Field}, f ∈ l → g f ≤ maxMax g l
  | [], _, h => by simp at h
  | y :: ys, f, h => by
    simp only [maxMax]
    rcases List.mem_cons.mp h with e | e
    · subst e; omega
    · have := le_maxMax g e; omega

theorem nth?_fits : ∀ {fs : List Field} {vs : List FVal} {k : Nat} {f : Field}, fitsAll fs vs = true → nth? fs k = some f →
    ∃ v, nth? vs k = some v ∧ FVal.fits f v = true
  | [], _, _, _, _, h => by simp [nth?] at h
  | _ :: _, [], _, _, hf, _ => by simp [fitsAll] at hf
  | g :: fs, v :: vs, 0, f, hf, h => by
    simp only [fitsAll, Bool.and_eq_true] at hf
    simp only [nth?, Option.some.injEq] at h
    subst h
    exact ⟨v, rfl, hf.1⟩
  | g :: fs, v :: vs, k + 1, f, hf, h => by
    simp only [fitsAll, Bool.and_eq_true] at hf
    simp only [nth?] at h ⊢
    exact nth?_fits hf.2 h

/-- What the outcome of `_serialize_` shows.  Every safety statement about `ser` is a reading of this: an object of the
    type is never the cause of `shape`; the buffer is left only through an unchecked write when it is shorter than the
    largest message the comparisons let through, which the up-front check (if compiled in) excludes as far as it goes;
    the object is left only where a comparison does not protect its array. -/
theorem ser_shows (checkCap cs : Bool) (m : Msg) (o : MObj) (capBytes : Nat) :
    (ser checkCap cs m o capBytes).Shows (MObj.fits m o)
      ((m.tagOk = false ∨ ∃ f ∈ m.fields, allChecked f = false) ∧ (checkCap = true → msgMax fieldMax m ≤ 8 * capBytes))
      (8 * capBytes) (msgMax (fieldMaxB cs) m) (∃ f ∈ m.fields, okSer cs f = false) := by
  refine .guard fun hc => ?_
  have hcc : checkCap = true → msgMax fieldMax m ≤ 8 * capBytes := fun e => by simpa [e] using hc
  cases m with
  | struct fs =>
    cases o with
    | union _ _ => exact rfl
    | struct vs =>
      have := (serFields_shows cs (8 * capBytes) fs vs 0).padEnd
      rw [Nat.zero_add] at this
      exact this.mono id (fun h => ⟨.inr h, hcc⟩) (Nat.le_refl _) id
  | union tb tc fs =>
    cases o with
    | struct _ => exact rfl
    | union tag vs =>
      refine .write_then (fun e => ⟨.inl e, hcc⟩)
        (by have := le_pad8 (tb + maxMax (fieldMaxB cs) fs); simp only [msgMax]; omega) ?_
      cases hf : nth? fs tag with
      | none => trivial
      | some f =>
        have hm := nth?_mem hf
        have hfit : (¬∃ v, nth? vs tag = some v ∧ FVal.fits f v = true) → fitsAll fs vs = false := fun hn => by
          cases hfit : fitsAll fs vs with
          | false => rfl
          | true => exact absurd (nth?_fits hfit hf) hn
        cases hv : nth? vs tag with
        | none => exact hfit (by simp [hv])
        | some v =>
          exact (serField_shows cs (8 * capBytes) tb f v).padEnd.mono (fun hn => hfit (by simp [hv, hn]))
            (fun h => ⟨.inr ⟨f, hm, h⟩, hcc⟩) (pad8_mono (Nat.add_le_add_left (le_maxMax _ hm) tb)) (fun h => ⟨f, hm, h⟩)

/-- An outcome of (a part of) the deserializer: reads saturate and the destination has the type's layout, so only the
    object can be left, and only where a length comparison does not protect its array. -/
def Out.DeShows (unprot : Prop) : Out → Prop
  | .oobObject _ _ => unprot
  | .oobBuffer _ _ => False
  | .shape => False
  | _ => True

theorem Out.DeShows.mono {r : Out} {p p' : Prop} (h : r.DeShows p) (hp : p → p') : r.DeShows p' := by
  cases r with
  | oobObject a b => exact hp h
  | _ => exact h

theorem Out.DeShows.notOob {r : Out} {p : Prop} (h : r.DeShows p) (hp : ¬p) : r.isOob = false := by
  cases r with
  | oobBuffer a b => exact h.elim
  | oobObject a b => exact absurd h hp
  | _ => rfl

theorem Out.DeShows.notShape {r : Out} {p : Prop} (h : r.DeShows p) : r.isShape = false := by
  cases r with
  | shape => exact h.elim
  | _ => rfl

theorem deField_shows (cs : Bool) (rd : Nat → Nat → Nat) (off : Nat) (f : Field) :
    (deField cs rd off f).DeShows (okDe cs f = false) := by
  cases f with
  | varr | vbits =>
    simp only [deField]
    split
    · trivial
    split
    · show okDe cs _ = false
      simp only [okDe, decide_eq_false_iff_not]; omega
    · trivial
  | _ => trivial

theorem deFields_shows (cs : Bool) (rd : Nat → Nat → Nat) : ∀ (fs : List Field) (off : Nat),
    (deFields cs rd off fs).DeShows (∃ f ∈ fs, okDe cs f = false)
  | [], off => trivial
  | f :: fs, off => by
    have h1 := deField_shows cs rd off f
    simp only [deFields]
    generalize deField cs rd off f = r at h1 ⊢
    cases r with
    | ok off' => exact (deFields_shows cs rd fs off').mono fun ⟨g, hg, h⟩ => ⟨g, .tail _ hg, h⟩
    | _ => exact h1.mono fun h => ⟨f, .head _, h⟩

theorem de_shows (cs : Bool) (rd : Nat → Nat → Nat) (m : Msg) : (de cs rd m).DeShows (∃ f ∈ m.fields, okDe cs f = false) := by
  cases m with
  | struct fs => exact deFields_shows cs rd fs 0
  | union tb tc fs =>
    simp only [de]
    cases hf : nth? fs (rd 0 tb) with
    | none => trivial
    | some f => exact (deField_shows cs rd tb f).mono fun h => ⟨f, nth?_mem hf, h⟩

theorem elemLoop_oob (capBits eb sl : Nat) : ∀ (r i off : Nat), i ≤ sl → sl < i + r → off + r * eb ≤ capBits →
    elemLoop capBits eb sl r i off = .oobObject sl sl
  | 0, i, off, h1, h2, _ => by omega
  | r + 1, i, off, h1, h2, h3 => by
    simp only [elemLoop]
    have e : off + eb + r * eb = off + (r + 1) * eb := by rw [Nat.add_mul]; omega
    by_cases hi : i ≥ sl
    · have : i = sl := by omega
      subst this
      simp
    · rw [if_neg hi, if_neg (by have := Nat.le_mul_of_pos_left eb (Nat.succ_pos r); omega)]
      exact elemLoop_oob capBits eb sl r (i + 1) (off + eb) (by omega) (by omega) (by omega)

theorem deField_oob_of_not_okDe (cs : Bool) (off : Nat) (f : Field) (h : okDe cs f = false) :
    ∃ rd, (deField cs rd off f).isOobObject = true := by
  cases f with
  | varr lp eb cap sl lpc ec =>
    simp only [okDe, decide_eq_false_iff_not, Nat.not_le] at h
    refine ⟨fun _ _ => cmpBound cs cap sl, ?_⟩
    simp only [deField]
    rw [if_neg (by omega), if_pos h]
    rfl
  | vbits lp cap sl sm cS cD lpc =>
    simp only [okDe, decide_eq_false_iff_not, Nat.not_le] at h
    refine ⟨fun _ _ => cD.bound cap sl, ?_⟩
    simp only [deField]
    rw [if_neg (by omega), if_pos (by omega)]
    rfl
  | _ => cases h

theorem serField_oob_of_not_okSer (cs : Bool) (off : Nat) (f : Field) (h : okSer cs f = false) :
    ∃ capBits v, (serField cs capBits off f v).isOobObject = true := by
  cases f with
  | varr lp eb cap sl lpc ec =>
    simp only [okSer, decide_eq_false_iff_not, Nat.not_le] at h
    refine ⟨off + lp + cmpBound cs cap sl * eb, .count (cmpBound cs cap sl), ?_⟩
    simp only [serField]
    rw [if_neg (by omega), write_none (by omega)]
    cases ec with
    | true =>
      simp only [if_true]
      rw [elemLoop_oob _ eb sl _ 0 (off + lp) (by omega) (by omega) (by omega)]
      rfl
    | false =>
      simp only [Bool.false_eq_true, if_false]
      rw [if_pos h]
      rfl
  | vbits lp cap sl sm cS cD lpc =>
    simp only [okSer, decide_eq_false_iff_not, Nat.not_le] at h
    refine ⟨off + lp + cS.bound cap sl, .count (cS.bound cap sl), ?_⟩
    simp only [serField]
    rw [if_neg (by omega), write_none (by omega)]
    simp only
    rw [if_pos (by omega)]
    rfl
  | _ => cases h

theorem okCmp_eq_okSer_and_okDe (cs : Bool) (f : Field) : okCmp cs f = (okSer cs f && okDe cs f) := by
  cases f with
  | varr => exact (Bool.and_self _).symm
  | _ => rfl

theorem okSer_of_okCmp {cs : Bool} {f : Field} (h : okCmp cs f = true) : okSer cs f = true := by
  rw [okCmp_eq_okSer_and_okDe, Bool.and_eq_true] at h; exact h.1

theorem okDe_of_okCmp {cs : Bool} {f : Field} (h : okCmp cs f = true) : okDe cs f = true := by
  rw [okCmp_eq_okSer_and_okDe, Bool.and_eq_true] at h; exact h.2

theorem Cmp.bound_le_storage {cap sl : Nat} (c : Cmp) (sm : Bool) (hsl : sl ≤ cap)
    (h : c = .lit → sm = true → sl = cap) : c.bound cap sl ≤ 8 * bitsStorBytes cap sl sm := by
  cases c <;> cases sm <;> simp [Cmp.bound, bitsStorBytes] at h ⊢ <;> omega

theorem okCmp_of_noOverride (cs : Bool) {f : Field} (h : noOverride f = true) : okCmp cs f = true := by
  cases f with
  | varr lp eb cap sl _ _ =>
    simp only [noOverride, beq_iff_eq] at h
    subst h
    cases cs <;> exact decide_eq_true (Nat.le_refl _)
  | vbits lp cap sl sm cS cD _ =>
    simp only [noOverride, beq_iff_eq] at h
    subst h
    simp only [okCmp, Bool.and_eq_true, decide_eq_true_eq]
    exact ⟨cS.bound_le_storage sm (Nat.le_refl _) fun _ _ => rfl, cD.bound_le_storage sm (Nat.le_refl _) fun _ _ => rfl⟩
  | _ => rfl

theorem fieldMaxB_of_noOverride (cs : Bool) {f : Field} (h : noOverride f = true) : fieldMaxB cs f = fieldMax f := by
  cases f with
  | varr lp eb cap sl _ _ =>
    simp only [noOverride, beq_iff_eq] at h
    subst h
    cases cs <;> rfl
  | vbits lp cap sl sm cS cD _ =>
    simp only [noOverride, beq_iff_eq] at h
    subst h
    cases cS <;> rfl
  | _ => rfl

theorem sumMax_congr {g h : Field → Nat} : ∀ {l : List Field}, (∀ f ∈ l, g f = h f) → sumMax g l = sumMax h l
  | [], _ => rfl
  | x :: xs, H => by
    simp only [sumMax]
    rw [H x (by simp), sumMax_congr fun f hf => H f (by simp [hf])]

theorem maxMax_congr {g h : Field → Nat} : ∀ {l : List Field}, (∀ f ∈ l, g f = h f) → maxMax g l = maxMax h l
  | [], _ => rfl
  | x :: xs, H => by
    simp only [maxMax]
    rw [H x (by simp), maxMax_congr fun f hf => H f (by simp [hf])]

theorem msgMax_congr {g h : Field → Nat} {m : Msg} (H : ∀ f ∈ m.fields, g f = h f) : msgMax g m = msgMax h m := by
  cases m with
  | struct fs => simp only [msgMax, sumMax_congr (l := fs) H]
  | union tb tc fs => simp only [msgMax, maxMax_congr (l := fs) H]

theorem okCmp_storage (f : Field) (h : okBits f = true) : okCmp true f = true := by
  cases f with
  | varr lp eb cap sl _ _ => exact decide_eq_true (Nat.le_refl sl)
  | vbits => exact h
  | _ => rfl

theorem okBits_vbits (lp cap sl : Nat) (sm : Bool) (cS cD : Cmp) (lpc : Bool) (hred : sl ≤ cap)
    (hS : sm = true → cS = .macro) (hD : sm = true → cD = .macro) : okBits (.vbits lp cap sl sm cS cD lpc) = true := by
  simp only [okBits, Bool.and_eq_true, decide_eq_true_eq]
  exact ⟨cS.bound_le_storage sm hred (fun e s => nomatch (hS s).symm.trans e),
    cD.bound_le_storage sm hred (fun e s => nomatch (hD s).symm.trans e)⟩

theorem RCmp.safeFor_bits {c : RCmp} {sm ov : Bool} (h : c.safeFor true sm ov = true) :
    ∃ c', c.toBits = some c' ∧ (c' = .lit → sm = true → ov = false) := by
  cases c
  · exact ⟨.lit, rfl, fun _ hs => by simpa [RCmp.safeFor, hs] using h⟩
  · cases h
  · exact ⟨.macro, rfl, fun e => by cases e⟩
  · cases h

theorem RCmp.safeFor_elems {c : RCmp} {sm ov : Bool} (h : c.safeFor false sm ov = true) :
    c = .storage ∨ c = .lit ∧ (sm = true → ov = false) := by
  cases c
  · exact .inr ⟨rfl, fun hs => by simpa [RCmp.safeFor, hs] using h⟩
  · exact .inl rfl
  · cases h
  · cases h

theorem Row.safe_field (r : Row) (h : r.safe = true) (lp eb cap usr : Nat) (hu : usr ≤ cap) :
    ∃ f, r.field lp eb cap usr = some f ∧ okCmp r.cs f = true := by
  rcases r with ⟨kind, ov, le, varLen, bits, overridable, storMacro, cS, cD, lpc, ec⟩
  cases varLen
  · cases bits <;> exact ⟨_, rfl, rfl⟩
  have hsl : (if overridable = true then usr else cap) ≤ cap := by split <;> omega
  have hcap : overridable = false → (if overridable = true then usr else cap) = cap := fun e => by simp [e]
  cases bits
  · simp only [Row.safe, if_true, Bool.and_eq_true, Bool.false_or, beq_iff_eq] at h
    obtain ⟨⟨hS, _⟩, rfl⟩ := h
    rcases RCmp.safeFor_elems hS with rfl | ⟨rfl, hl⟩
    · exact ⟨_, rfl, decide_eq_true (Nat.le_refl _)⟩
    · refine ⟨_, rfl, ?_⟩
      cases storMacro
      · exact decide_eq_true (Nat.le_refl _)
      · exact decide_eq_true (Nat.le_of_eq (hcap (hl rfl)).symm)
  · simp only [Row.safe, if_true, Bool.and_eq_true, Bool.true_or, and_true] at h
    obtain ⟨cS', eS, hS⟩ := RCmp.safeFor_bits h.1
    obtain ⟨cD', eD, hD⟩ := RCmp.safeFor_bits h.2
    refine ⟨.vbits lp cap (if overridable = true then usr else cap) storMacro cS' cD' lpc, by simp [Row.field, eS, eD], ?_⟩
    simp only [okCmp, Bool.and_eq_true, decide_eq_true_eq]
    exact ⟨Cmp.bound_le_storage cS' storMacro hsl fun e s => hcap (hS e s),
      Cmp.bound_le_storage cD' storMacro hsl fun e s => hcap (hD e s)⟩

theorem RCmp.unsafe_bits {c : RCmp} {c' : Cmp} {sm ov : Bool} (e : c.toBits = some c')
    (h : c.safeFor true sm ov = false) : c' = .lit ∧ sm = true ∧ ov = true := by
  cases c <;> cases e
  · simpa [RCmp.safeFor] using h
  · cases h

/-- A row that fails the criterion dimensions the array from the macro and compares with the DSDL literal: as soon as a
    whole byte lies between the user's capacity and the DSDL capacity, that comparison does not protect the array. -/
theorem Row.rejected_field (r : Row) (h : r.safe = false) (lp eb cap usr : Nat) (hgap : 8 * ((usr + 7) / 8) < cap)
    (f : Field) (hf : r.field lp eb cap usr = some f) : okCmp r.cs f = false := by
  rcases r with ⟨kind, ov, le, varLen, bits, overridable, storMacro, cS, cD, lpc, ec⟩
  cases varLen
  · cases h
  cases bits
  · simp only [Row.field, if_true, Bool.false_eq_true, if_false, Bool.and_eq_true, beq_iff_eq, Bool.or_eq_true,
      Option.ite_none_right_eq_some, Option.some.injEq] at hf
    obtain ⟨⟨rfl, hc⟩, rfl⟩ := hf
    rcases hc with rfl | rfl
    · have : storMacro = true ∧ overridable = true := by simpa [Row.safe, RCmp.safeFor] using h
      rw [this.1, this.2]
      exact decide_eq_false (by show ¬cap ≤ usr; omega)
    · simp [Row.safe, RCmp.safeFor] at h
  · cases eS : cS.toBits with
    | none => simp [Row.field, eS] at hf
    | some cS' =>
      cases eD : cD.toBits with
      | none => simp [Row.field, eS, eD] at hf
      | some cD' =>
        simp only [Row.field, if_true, eS, eD, Option.some.injEq] at hf
        subst hf
        simp only [Row.safe, if_true, Bool.true_or, Bool.and_true, Bool.and_eq_false_iff] at h
        have key : decide (cap ≤ 8 * bitsStorBytes cap usr true) = false :=
          decide_eq_false (by show ¬cap ≤ 8 * ((usr + 7) / 8); omega)
        rcases h with h | h
        · obtain ⟨rfl, rfl, rfl⟩ := RCmp.unsafe_bits eS h
          exact Bool.and_eq_false_iff.mpr (.inl key)
        · obtain ⟨rfl, rfl, rfl⟩ := RCmp.unsafe_bits eD h
          exact Bool.and_eq_false_iff.mpr (.inr key)

theorem okCmp_cs_irrelevant (cs cs' : Bool) (f : Field) (h : ∀ lp eb cap sl a b, f ≠ .varr lp eb cap sl a b) :
    okCmp cs f = okCmp cs' f := by
  cases f with
  | varr lp eb cap sl a b => exact absurd rfl (h lp eb cap sl a b)
  | _ => rfl

theorem Row.field_not_varr (r : Row) (hv : r.isVarr = false) (lp eb cap usr : Nat) (f : Field)
    (hf : r.field lp eb cap usr = some f) : ∀ lp' eb' cap' sl a b, f ≠ .varr lp' eb' cap' sl a b := by
  rcases r with ⟨kind, ov, le, varLen, bits, overridable, storMacro, cS, cD, lpc, ec⟩
  intro lp' eb' cap' sl a b e
  subst e
  cases varLen
  · cases bits <;> cases hf
  cases bits
  · cases hv
  · simp only [Row.field, if_true] at hf
    split at hf <;> cases hf

end NunavutVerif.CBuf
