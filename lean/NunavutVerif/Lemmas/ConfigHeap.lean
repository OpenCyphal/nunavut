import NunavutVerif.Model.ConfigHeap
/-!
Frame lemmas for the object-level merge (`Model/ConfigHeap.lean`).  A region is a predicate on addresses, closed if its
addresses are allocated and the references stored in its objects stay in it.  `Frame h A h'`: `h'` differs from `h`
only inside `A` and by allocation at the end, and `A` with the new addresses is closed again; a closed region disjoint
from `A` (the sources, another builder) then reads the same afterwards.  The repaired merge is a frame on any closed
region that holds its target, whatever its source is: it stores leaves, references the target had, and references to
new objects.  Allocation only (deep copy, loading a document) is a frame on the empty region, hence on every closed one.
-/
namespace NunavutVerif.Config

variable {κ σ : Type}

def Closed (h : Heap κ σ) (A : Nat → Prop) : Prop :=
  ∀ a, A a → ∃ o, h[a]? = some o ∧ ∀ k b, (k, HV.ref b) ∈ o → A b

def Fresh (n m : Nat) (a : Nat) : Prop := n ≤ a ∧ a < m

structure Frame (h : Heap κ σ) (A : Nat → Prop) (h' : Heap κ σ) : Prop where
  len : h.length ≤ h'.length
  same : ∀ a, a < h.length → ¬ A a → h'[a]? = h[a]?
  closed : Closed h' (fun a => A a ∨ Fresh h.length h'.length a)

theorem Closed.lt {h : Heap κ σ} {A : Nat → Prop} (hc : Closed h A) {a : Nat} (ha : A a) : a < h.length := by
  obtain ⟨o, ho, _⟩ := hc a ha
  exact (List.getElem?_eq_some_iff.mp ho).1

theorem Closed.congr {h : Heap κ σ} {A A' : Nat → Prop} (hc : Closed h A) (e : ∀ a, A a ↔ A' a) :
    Closed h A' := by
  intro a ha
  obtain ⟨o, ho, hk⟩ := hc a ((e a).mpr ha)
  exact ⟨o, ho, fun k b hb => (e b).mp (hk k b hb)⟩

theorem Closed.of_same {h h' : Heap κ σ} {B : Nat → Prop} (hc : Closed h B)
    (hs : ∀ a, B a → h'[a]? = h[a]?) : Closed h' B := by
  intro a ha
  obtain ⟨o, ho, hk⟩ := hc a ha
  exact ⟨o, by rw [hs a ha, ho], hk⟩

theorem Closed.union {h : Heap κ σ} {A B : Nat → Prop} (ha : Closed h A) (hb : Closed h B) :
    Closed h (fun a => A a ∨ B a) := fun a hx =>
  hx.elim (fun hx => (ha a hx).imp fun _ ho => ⟨ho.1, fun k b hm => .inl (ho.2 k b hm)⟩)
    fun hx => (hb a hx).imp fun _ ho => ⟨ho.1, fun k b hm => .inr (ho.2 k b hm)⟩

theorem Fresh.mono {n n' m m' a : Nat} (h : Fresh n m a) (hn : n' ≤ n) (hm : m ≤ m') : Fresh n' m' a :=
  ⟨Nat.le_trans hn h.1, Nat.lt_of_lt_of_le h.2 hm⟩

theorem Fresh.split {n m k : Nat} (h1 : n ≤ m) (h2 : m ≤ k) (a : Nat) :
    Fresh n k a ↔ Fresh n m a ∨ Fresh m k a := by
  unfold Fresh; omega

theorem Fresh.empty {n a : Nat} (h : Fresh n n a) : False := Nat.lt_irrefl _ (Nat.lt_of_le_of_lt h.1 h.2)

theorem Frame.refl {h : Heap κ σ} {A : Nat → Prop} (hc : Closed h A) : Frame h A h :=
  ⟨Nat.le_refl _, fun _ _ _ => rfl, hc.congr fun _ => ⟨.inl, fun x => x.elim id fun f => f.empty.elim⟩⟩

theorem Frame.trans {h h1 h2 : Heap κ σ} {A : Nat → Prop} (f1 : Frame h A h1)
    (f2 : Frame h1 (fun a => A a ∨ Fresh h.length h1.length a) h2) : Frame h A h2 := by
  refine ⟨Nat.le_trans f1.len f2.len, fun a ha hna => ?_,
    f2.closed.congr fun a => by rw [or_assoc, ← Fresh.split f1.len f2.len]⟩
  rw [f2.same a (Nat.lt_of_lt_of_le ha f1.len) (fun hx => hx.elim hna fun hf => Nat.not_le_of_lt ha hf.1),
    f1.same a ha hna]

theorem Frame.other {h h' : Heap κ σ} {A B : Nat → Prop} (f : Frame h A h') (hb : Closed h B)
    (hd : ∀ a, A a → B a → False) : (∀ a, B a → h'[a]? = h[a]?) ∧ Closed h' B :=
  have hs : ∀ a, B a → h'[a]? = h[a]? := fun a ha => f.same a (hb.lt ha) (fun hx => hd a hx ha)
  ⟨hs, hb.of_same hs⟩

theorem Frame.disjoint {h h' : Heap κ σ} {A B : Nat → Prop} (_f : Frame h A h') (hb : Closed h B)
    (hd : ∀ a, A a → B a → False) : ∀ a, (A a ∨ Fresh h.length h'.length a) → B a → False :=
  fun a ha hB => ha.elim (fun ha => hd a ha hB) fun ha => Nat.not_le_of_lt (hb.lt hB) ha.1

theorem Frame.new_closed {h h' : Heap κ σ} (f : Frame h (fun _ => False) h') : Closed h' (Fresh h.length h'.length) :=
  f.closed.congr fun _ => iff_of_eq (false_or _)

theorem Frame.of_empty {h h' : Heap κ σ} {A : Nat → Prop} (f : Frame h (fun _ => False) h') (hc : Closed h A) :
    Frame h A h' :=
  ⟨f.len, fun a ha _ => f.same a ha id, (hc.of_same fun a ha => f.same a (hc.lt ha) id).union f.new_closed⟩

theorem Frame.set {h : Heap κ σ} {A : Nat → Prop} (hc : Closed h A) {t : Nat} (ht : A t) (o' : Obj κ σ)
    (ho' : ∀ k b, (k, HV.ref b) ∈ o' → A b) : Frame h A (h.set t o') := by
  have hl : (h.set t o').length = h.length := List.length_set
  refine ⟨Nat.le_of_eq hl.symm, fun a _ hna => List.getElem?_set_ne fun (e : t = a) => hna (e ▸ ht),
    fun a ha => ?_⟩
  have ha : A a := ha.elim id fun hf => (hl ▸ hf).empty.elim
  by_cases e : t = a
  · subst e
    exact ⟨o', List.getElem?_set_self (hc.lt ht), fun k b hb => .inl (ho' k b hb)⟩
  · obtain ⟨o, ho, hk⟩ := hc a ha
    exact ⟨o, (List.getElem?_set_ne e).trans ho, fun k b hb => .inl (hk k b hb)⟩

theorem Frame.alloc {h : Heap κ σ} {A : Nat → Prop} (hc : Closed h A) (o : Obj κ σ)
    (ho : ∀ k b, (k, HV.ref b) ∈ o → A b) : Frame h A (h ++ [o]) := by
  have hl : (h ++ [o]).length = h.length + 1 := List.length_append
  refine ⟨hl ▸ Nat.le_succ _, fun a ha _ => List.getElem?_append_left ha, fun a ha => ?_⟩
  rcases ha with ha | ha
  · obtain ⟨o1, ho1, hk⟩ := hc a ha
    exact ⟨o1, (List.getElem?_append_left (hc.lt ha)).trans ho1, fun k b hb => .inl (hk k b hb)⟩
  · have h2 : a < h.length + 1 := hl ▸ ha.2
    cases Nat.le_antisymm (Nat.le_of_lt_succ h2) ha.1
    exact ⟨o, List.getElem?_concat_length, fun k b hb => .inl (ho k b hb)⟩

def CopySpec (g : Heap κ σ → Nat → Except HErr (Heap κ σ × Nat)) : Prop :=
  ∀ (h : Heap κ σ) (s : Nat) (h' : Heap κ σ) (na : Nat),
    g h s = .ok (h', na) → Frame h (fun _ => False) h' ∧ Fresh h.length h'.length na

theorem copyEntries_spec (rec : Heap κ σ → Nat → Except HErr (Heap κ σ × Nat)) (hrec : CopySpec rec)
    (o : Obj κ σ) (h h' : Heap κ σ) (o' : Obj κ σ) (he : copyEntries rec h o = .ok (h', o')) :
    Frame h (fun _ => False) h' ∧ (∀ k b, (k, HV.ref b) ∈ o' → Fresh h.length h'.length b) := by
  induction o generalizing h o' with
  | nil =>
    cases he
    exact ⟨.refl fun _ hf => hf.elim, fun _ _ hb => nomatch hb⟩
  | cons e r ih =>
    obtain ⟨k, v⟩ := e
    cases v with
    | ref a =>
      simp only [copyEntries] at he
      split at he
      · cases he
      · rename_i h1 a' h1e
        split at he
        · cases he
        · rename_i h2 r' hr
          cases he
          obtain ⟨f1, fr1⟩ := hrec h a h1 a' h1e
          obtain ⟨f2, fr2⟩ := ih h1 r' hr
          refine ⟨f1.trans (f2.of_empty f1.closed), fun k' b hb => ?_⟩
          rcases List.mem_cons.mp hb with hb | hb
          · cases hb; exact fr1.mono (Nat.le_refl _) f2.len
          · exact (fr2 k' b hb).mono f1.len (Nat.le_refl _)
    | _ =>
      simp only [copyEntries] at he
      split at he
      · cases he
      · rename_i h2 r' hr
        cases he
        obtain ⟨f, rf⟩ := ih h r' hr
        refine ⟨f, fun k' b hb => ?_⟩
        rcases List.mem_cons.mp hb with hb | hb
        · cases hb
        · exact rf k' b hb

theorem deepCopyH_spec : ∀ fuel : Nat, CopySpec (deepCopyH (κ := κ) (σ := σ) fuel)
  | 0 => fun _ _ _ _ he => nomatch he
  | fuel + 1 => by
    intro h s h' na he
    simp only [deepCopyH] at he
    split at he
    · cases he
    · rename_i o _
      split at he
      · cases he
      · rename_i h2 o' hc
        cases he
        obtain ⟨f, rf⟩ := copyEntries_spec (deepCopyH fuel) (deepCopyH_spec fuel) o h h2 o' hc
        exact ⟨f.trans (.alloc f.closed o' fun k b hb => .inr (rf k b hb)), f.len,
          List.length_append ▸ Nat.lt_succ_self _⟩

mutual
theorem allocV_frame : ∀ (v : V κ σ) (h : Heap κ σ), Frame h (fun _ => False) (allocV h v).1 ∧
    (∀ b, (allocV h v).2 = .ref b → Fresh h.length (allocV h v).1.length b)
  | .scalar _, h | .dflt _, h | .list _, h => ⟨.refl fun _ hf => hf.elim, fun _ hb => nomatch hb⟩
  | .map m, h => by
    obtain ⟨f, rf⟩ := allocM_frame m h
    refine ⟨f.trans (.alloc f.closed _ fun k b hb => .inr (rf k b hb)), fun b hb => ?_⟩
    cases hb
    exact ⟨f.len, List.length_append ▸ Nat.lt_succ_self _⟩
theorem allocM_frame : ∀ (m : M κ σ) (h : Heap κ σ), Frame h (fun _ => False) (allocV.allocM h m).1 ∧
    (∀ k b, (k, HV.ref b) ∈ (allocV.allocM h m).2 → Fresh h.length (allocV.allocM h m).1.length b)
  | .nil, h => ⟨.refl fun _ hf => hf.elim, fun _ _ hb => nomatch hb⟩
  | .cons k v rest, h => by
    obtain ⟨f1, r1⟩ := allocV_frame v h
    obtain ⟨f2, r2⟩ := allocM_frame rest (allocV h v).1
    refine ⟨f1.trans (f2.of_empty f1.closed), fun k' b hb => ?_⟩
    rcases List.mem_cons.mp hb with hb | hb
    · exact (r1 b (Prod.mk.inj hb).2.symm).mono (Nat.le_refl _) f2.len
    · exact (r2 k' b hb).mono f1.len (Nat.le_refl _)
end

theorem foldr_unfoldStep_congr (r r' : HV σ → Option (V κ σ)) (i : Option (M κ σ)) (l : List (κ × HV σ))
    (h : ∀ e ∈ l, r e.2 = r' e.2) : l.foldr (unfoldStep r) i = l.foldr (unfoldStep r') i := by
  induction l with
  | nil => rfl
  | cons e l ih =>
    rw [List.forall_mem_cons] at h
    simp only [List.foldr_cons, unfoldStep, ih h.2, h.1]

theorem unfoldH_congr {h h' : Heap κ σ} {B : Nat → Prop} (hB : Closed h B)
    (hs : ∀ a, B a → h'[a]? = h[a]?) (fuel : Nat) (v : HV σ) (hv : ∀ b, v = .ref b → B b) :
    unfoldH fuel h' v = unfoldH fuel h v := by
  induction fuel generalizing v with
  | zero => cases v <;> rfl
  | succ fuel ih =>
    cases v with
    | ref a =>
      have ha := hv a rfl
      obtain ⟨o, ho, hk⟩ := hB a ha
      simp only [unfoldH, hs a ha, ho]
      exact congrArg _ (foldr_unfoldStep_congr _ _ _ o fun e he =>
        ih e.2 fun b hb => hk e.1 b (hb ▸ he))
    | _ => rfl

theorem Frame.reads {h h' : Heap κ σ} {A B : Nat → Prop} (f : Frame h A h') (hb : Closed h B)
    (hd : ∀ a, A a → B a → False) :
    (∀ a, B a → h'[a]? = h[a]?) ∧
    ∀ (n : Nat) (v : HV σ), (∀ b, v = .ref b → B b) → unfoldH n h' v = unfoldH n h v :=
  have hs := (f.other hb hd).1
  ⟨hs, unfoldH_congr hb hs⟩

variable [DecidableEq κ]

theorem mem_oset (o : Obj κ σ) (k : κ) (v : HV σ) (e : κ × HV σ) (h : e ∈ oset o k v) : e ∈ o ∨ e = (k, v) := by
  induction o with
  | nil => exact .inr (List.mem_singleton.mp h)
  | cons e0 r ih =>
    simp only [oset] at h
    split at h
    · rename_i hk
      rcases List.mem_cons.mp h with h | h
      · exact .inr (hk ▸ h)
      · exact .inl (List.mem_cons_of_mem _ h)
    · rcases List.mem_cons.mp h with h | h
      · exact .inl (h ▸ List.mem_cons_self)
      · exact (ih h).imp_left (List.mem_cons_of_mem _)

theorem mem_assignH (o : Obj κ σ) (k : κ) (v : HV σ) (e : κ × HV σ) (h : e ∈ assignH o k v) :
    e ∈ o ∨ e = (k, v) := by
  unfold assignH at h
  split at h
  · exact mem_oset _ _ _ e h
  · exact .inl h
  · exact mem_oset _ _ _ e h

theorem oget_mem (o : Obj κ σ) (k : κ) (v : HV σ) (h : oget o k = some v) : (k, v) ∈ o := by
  induction o with
  | nil => cases h
  | cons e0 r ih =>
    simp only [oget] at h
    split at h
    · rename_i hk; cases h; exact hk ▸ List.mem_cons_self
    · exact List.mem_cons_of_mem _ (ih h)

def MergeSpec (f : Heap κ σ → Nat → Nat → Except HErr (Heap κ σ)) : Prop :=
  ∀ (h : Heap κ σ) (t s : Nat) (h' : Heap κ σ) (A : Nat → Prop),
    Closed h A → A t → f h t s = .ok h' → Frame h A h'

theorem writeKey_frame {h h' : Heap κ σ} {A : Nat → Prop} (hc : Closed h A) {t : Nat} (ht : A t) (k : κ)
    (v : HV σ) (hv : ∀ b, v = .ref b → A b) (he : writeKey h t k v = .ok h') : Frame h A h' := by
  unfold writeKey at he
  obtain ⟨o, ho, hk⟩ := hc t ht
  simp only [ho] at he
  cases he
  refine Frame.set hc ht _ fun k' b hb => ?_
  rcases mem_oset o k v _ hb with hb | hb
  · exact hk k' b hb
  · cases hb; exact hv b rfl

section
variable {recM : Heap κ σ → Nat → Nat → Except HErr (Heap κ σ)}
  {recC : Heap κ σ → Nat → Except HErr (Heap κ σ × Nat)} (hM : MergeSpec recM) (hC : CopySpec recC)
include hM hC

theorem mergeChildH_frame {h h' : Heap κ σ} {A : Nat → Prop} (hA : Closed h A) {t : Nat} (ht : A t)
    (k : κ) (sa : Nat) (he : mergeChildH recM recC true h t k sa = .ok h') : Frame h A h' := by
  -- in each branch: a frame `f1` that makes the object to store, then the store into `t`
  have store : ∀ {h1 : Heap κ σ} (f1 : Frame h A h1) (na : Nat), (A na ∨ Fresh h.length h1.length na) →
      writeKey h1 t k (.ref na) = .ok h' → Frame h A h' := fun f1 na hna he =>
    f1.trans (writeKey_frame f1.closed (.inl ht) k _ (fun b hb => by cases hb; exact hna) he)
  obtain ⟨to, hto, hk⟩ := hA t ht
  simp only [mergeChildH, hto, if_true] at he
  split at he
  · rename_i ta hg
    have hta : A ta := hk k ta (oget_mem to k _ hg)
    split at he
    · cases he
    · rename_i h1 hr
      exact store (hM _ _ _ _ A hA hta hr) ta (.inl hta) he
  · split at he
    · cases he
    · rename_i h1 hr
      -- a fresh `{}` joins the target's region, the source is merged into it
      have f0 : Frame h A (h ++ [[]]) := Frame.alloc hA [] (fun _ _ hb => nomatch hb)
      have hlt : h.length < (h ++ [[]]).length := List.length_append ▸ Nat.lt_succ_self _
      have f1 := hM _ _ _ _ _ f0.closed (.inr ⟨Nat.le_refl _, hlt⟩) hr
      exact store (f0.trans f1) _ (.inr ⟨Nat.le_refl _, Nat.lt_of_lt_of_le hlt f1.len⟩) he
  · split at he
    · cases he
    · rename_i h1 na hc
      -- the deep copy allocates only: its objects join the target's region
      obtain ⟨f1, fr⟩ := hC h sa h1 na hc
      exact store (f1.of_empty hA) na (.inr fr) he

theorem stepH_frame {h h' : Heap κ σ} {A : Nat → Prop} (hA : Closed h A) {t : Nat} (ht : A t) (s n : Nat)
    (k : κ) (he : stepH recM recC true t s n h k = .ok h') : Frame h A h' := by
  unfold stepH at he
  split at he
  · cases he
  · split at he
    · cases he
    · split at he
      · cases he
      · exact mergeChildH_frame hM hC hA ht k _ he
      · -- a leaf is assigned into the target object
        rename_i leaf hnr _
        obtain ⟨to, hto, hk⟩ := hA t ht
        simp only [hto] at he
        cases he
        refine Frame.set hA ht _ fun k' b hb => ?_
        rcases mem_assignH to k _ _ hb with hb | hb
        · exact hk k' b hb
        · cases hb; exact (hnr b rfl).elim

theorem loopH_frame (t s n : Nat) (ks : List κ) (h h' : Heap κ σ) (A : Nat → Prop) (hA : Closed h A)
    (ht : A t) (he : loopH recM recC true t s n h ks = .ok h') : Frame h A h' := by
  induction ks generalizing h A with
  | nil =>
    simp only [loopH] at he
    split at he
    · cases he
    · split at he
      · cases he
      · cases he; exact Frame.refl hA
  | cons k ks ih =>
    simp only [loopH] at he
    split at he
    · cases he
    · rename_i h1 h1e
      have f1 := stepH_frame hM hC hA ht s n k h1e
      exact f1.trans (ih h1 _ f1.closed (.inl ht) he)

end

theorem mergeH_spec : ∀ fuel : Nat, MergeSpec (mergeH (κ := κ) (σ := σ) true fuel)
  | 0 => fun _ _ _ _ _ _ _ he => nomatch he
  | fuel + 1 => by
    intro h t s h' A hA ht he
    simp only [mergeH] at he
    split at he
    · cases he
    · split at he
      · cases he
      · exact loopH_frame (mergeH_spec fuel) (deepCopyH_spec fuel) t s _ _ h h' A hA ht he

theorem mergeAllH_frame (fuel : Nat) (t : Nat) (ss : List Nat) (h h' : Heap κ σ) (A : Nat → Prop)
    (hA : Closed h A) (ht : A t) (he : mergeAllH true fuel h t ss = .ok h') : Frame h A h' := by
  induction ss generalizing h A with
  | nil => cases he; exact Frame.refl hA
  | cons s ss ih =>
    simp only [mergeAllH] at he
    split at he
    · cases he
    · rename_i h1 h1e
      have f1 := mergeH_spec fuel h t s h1 A hA ht h1e
      exact f1.trans (ih h1 _ f1.closed (.inl ht) he)

theorem updateAllH_frame (fuel : Nat) (c : Nat) (us : List (κ × Nat)) (h h' : Heap κ σ) (A : Nat → Prop)
    (hA : Closed h A) (hc : A c) (he : updateAllH true fuel h c us = .ok h') : Frame h A h' := by
  induction us generalizing h A with
  | nil => cases he; exact Frame.refl hA
  | cons u us ih =>
    simp only [updateAllH] at he
    split at he
    · cases he
    · rename_i h1 h1e
      have f1 := mergeChildH_frame (mergeH_spec fuel) (deepCopyH_spec fuel) hA hc u.1 u.2 h1e
      exact f1.trans (ih h1 _ f1.closed (.inl hc) he)

theorem allocM_spec : ∀ (m : M κ σ) (n : Nat) (h : Heap κ σ), n ≤ h.length → Closed h (Fresh n h.length) →
    h.length ≤ (allocV.allocM h m).1.length ∧ (∀ a, a < h.length → (allocV.allocM h m).1[a]? = h[a]?) ∧
    Closed (allocV.allocM h m).1 (Fresh n (allocV.allocM h m).1.length) ∧
    (∀ k b, (k, HV.ref b) ∈ (allocV.allocM h m).2 → Fresh n (allocV.allocM h m).1.length b) :=
  fun m _ h hn hc =>
  have ⟨f, rf⟩ := allocM_frame m h
  ⟨f.len, fun a ha => f.same a ha id, (f.of_empty hc).closed.congr fun a => (Fresh.split hn f.len a).symm,
    fun k b hb => (rf k b hb).mono hn (Nat.le_refl _)⟩

end NunavutVerif.Config
