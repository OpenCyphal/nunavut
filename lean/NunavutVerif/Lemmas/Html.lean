import NunavutVerif.Model.Html
import NunavutVerif.Lemmas.Core
/-!
Strings and token lists of `Model/Html.lean`.  `escape` is a substitution character by character, hence its result is
character data, has no markup character and decodes to the original, and text without markup characters leaves the
tokenizer where it is.  Two tag ids coincide exactly when the flattened names and the versions do: the version is read
back from the right, and the flattening `.` → `_` is injective only on components without `_`.
-/
namespace NunavutVerif.Html

theorem flatMap_eq_self {f : Char → Str} {s : Str} (h : ∀ c ∈ s, f c = [c]) : s.flatMap f = s :=
  (flatMap_congr_left h).trans (List.flatMap_singleton' s)

theorem replaceChar_eq_flatMap (x : Char) (r s : Str) : replaceChar x r s = s.flatMap fun c => if c = x then r else [c] := by
  induction s with
  | nil => rfl
  | cons c s ih => by_cases h : c = x <;> simp [replaceChar, h, ih]

theorem replaceChar_append (x : Char) (r a b : Str) :
    replaceChar x r (a ++ b) = replaceChar x r a ++ replaceChar x r b := by
  simp only [replaceChar_eq_flatMap, List.flatMap_append]

theorem mem_replaceChar {x d : Char} {r s : Str} (h : d ∈ replaceChar x r s) : d ∈ r ∨ (d ∈ s ∧ d ≠ x) := by
  rw [replaceChar_eq_flatMap, List.mem_flatMap] at h
  obtain ⟨c, hc, hd⟩ := h
  split at hd
  · exact .inl hd
  · rename_i hcx
    obtain rfl := List.mem_singleton.mp hd
    exact .inr ⟨hc, hcx⟩

/-- `escChar` is `substChar entities` and `escCharStd` is `substChar entitiesStd`, by unfolding. -/
def substChar : List (Str × Char) → Char → Str
  | [], c => [c]
  | (r, x) :: t, c => if c = x then r else substChar t c

theorem substChar_cases (ents : List (Str × Char)) (c : Char) :
    (substChar ents c, c) ∈ ents ∨ (substChar ents c = [c] ∧ ∀ e ∈ ents, c ≠ e.2) := by
  induction ents with
  | nil => exact .inr ⟨rfl, fun _ h => nomatch h⟩
  | cons e t ih =>
    obtain ⟨r, x⟩ := e
    unfold substChar
    split
    · rename_i h; exact .inl (h ▸ List.mem_cons_self)
    · rename_i h
      exact ih.imp (List.mem_cons_of_mem _) fun ⟨h1, h2⟩ => ⟨h1, fun e he => (List.mem_cons.mp he).elim (· ▸ h) (h2 e)⟩

/-- Python's `s.replace(x₁, r₁).replace(x₂, r₂)…` treats every character of `s` on its own, provided no `rᵢ` contains a
character that a later call replaces (which is why `escape` replaces `&` first). -/
theorem replaceChain_eq_flatMap : ∀ (ents : List (Str × Char)) (s : Str), ents.Pairwise (fun e e' => e'.2 ∉ e.1) →
    ents.foldl (fun s e => replaceChar e.2 e.1 s) s = s.flatMap (substChar ents)
  | [], s, _ => (flatMap_eq_self fun _ _ => rfl).symm
  | (r, x) :: t, s, h => by
    obtain ⟨hr, ht⟩ := List.pairwise_cons.mp h
    rw [List.foldl_cons, replaceChain_eq_flatMap t _ ht, replaceChar_eq_flatMap, List.flatMap_assoc]
    congr 1
    funext c
    unfold substChar
    split
    · -- the later calls leave the reference alone
      exact flatMap_eq_self fun d hd => ((substChar_cases t d).resolve_left fun hm => hr _ hm hd).1
    · exact List.flatMap_singleton ..

def EntitiesOk (ents : List (Str × Char)) : Prop :=
  ents.Pairwise (fun e e' => e'.2 ∉ e.1) ∧ (∀ x ∈ ['&', '<', '>', '"', '\''], ∃ e ∈ ents, e.2 = x) ∧
  ∀ e ∈ ents, ∀ d ∈ e.1, d ≠ '<' ∧ d ≠ '>' ∧ d ≠ '"' ∧ d ≠ '\''

theorem entities_ok : EntitiesOk entities ∧ EntitiesOk entitiesStd := by
  unfold EntitiesOk entities entitiesStd
  -- as lists of characters the literals cost the kernel nothing; left as they are it decodes each from its UTF-8 bytes
  repeat rw [String.toList_ofList]
  decide +kernel

theorem escape_eq_flatMap (s : Str) : escape s = s.flatMap escChar := by
  have h := replaceChain_eq_flatMap entities s entities_ok.1.1
  -- `escape s` is this fold written out; computing the fold first is much faster than leaving it to unification
  unfold entities at h
  dsimp only [List.foldl] at h
  exact h

theorem escapeStd_eq_flatMap (s : Str) : escapeStd s = s.flatMap escCharStd := by
  have h := replaceChain_eq_flatMap entitiesStd s entities_ok.2.1
  unfold entitiesStd at h
  dsimp only [List.foldl] at h
  exact h

theorem escape_append (a b : Str) : escape (a ++ b) = escape a ++ escape b := by
  simp [escape_eq_flatMap]

theorem charData_flatMap {ents : List (Str × Char)} (hk : ∀ x ∈ ['&', '<', '>', '"', '\''], ∃ e ∈ ents, e.2 = x) (s : Str) :
    CharData ents (s.flatMap (substChar ents)) := by
  induction s with
  | nil => exact .nil
  | cons c s ih =>
    rw [List.flatMap_cons]
    rcases substChar_cases ents c with h | ⟨h, hn⟩
    · exact .ent _ c _ h ih
    · have ne : ∀ x ∈ ['&', '<', '>', '"', '\''], c ≠ x := fun x hx => let ⟨e, he, hex⟩ := hk x hx; hex ▸ hn e he
      rw [h]
      exact .plain c _ (ne _ (by simp)) (ne _ (by simp)) (ne _ (by simp)) (ne _ (by simp)) (ne _ (by simp)) ih

theorem escape_charData (s : Str) : CharData entities (escape s) :=
  escape_eq_flatMap s ▸ charData_flatMap entities_ok.1.2.1 s

theorem escapeStd_charData (s : Str) : CharData entitiesStd (escapeStd s) :=
  escapeStd_eq_flatMap s ▸ charData_flatMap entities_ok.2.2.1 s

theorem CharData.no_markup {ents : List (Str × Char)} (he : ∀ e ∈ ents, ∀ d ∈ e.1, d ≠ '<' ∧ d ≠ '>' ∧ d ≠ '"' ∧ d ≠ '\'')
    {s : Str} (h : CharData ents s) : ∀ d ∈ s, d ≠ '<' ∧ d ≠ '>' ∧ d ≠ '"' ∧ d ≠ '\'' := by
  induction h with
  | nil => intro d hd; cases hd
  | plain c s _ h2 h3 h4 h5 _ ih =>
    intro d hd
    rcases List.mem_cons.mp hd with rfl | hd
    · exact ⟨h2, h3, h4, h5⟩
    · exact ih d hd
  | ent e c s hm _ ih =>
    intro d hd
    rcases List.mem_append.mp hd with hd | hd
    · exact he _ hm d hd
    · exact ih d hd

theorem mem_escape {s : Str} {d : Char} (h : d ∈ escape s) : d ≠ '<' ∧ d ≠ '>' ∧ d ≠ '"' ∧ d ≠ '\'' :=
  (escape_charData s).no_markup entities_ok.1.2.2 d h

theorem mem_escapeStd {s : Str} {d : Char} (h : d ∈ escapeStd s) : d ≠ '<' ∧ d ≠ '>' ∧ d ≠ '"' ∧ d ≠ '\'' :=
  (escapeStd_charData s).no_markup entities_ok.2.2.2 d h

theorem unescape_entity (r : Str) : ∀ p ∈ entities, unescape (p.1 ++ r) = p.2 :: unescape r := by
  unfold entities
  repeat rw [String.toList_ofList]
  intro p hp
  simp only [List.mem_cons, List.not_mem_nil, or_false] at hp
  rcases hp with rfl | rfl | rfl | rfl | rfl <;> rfl

theorem unescape_escChar (c : Char) (r : Str) : unescape (escChar c ++ r) = c :: unescape r := by
  rcases substChar_cases entities c with h | ⟨h, hn⟩
  · exact unescape_entity r _ h
  · have h1 : c ≠ '&' := hn _ List.mem_cons_self
    show unescape (substChar entities c ++ r) = _
    rw [h, List.singleton_append, unescape.eq_def]
    exact if_neg h1

theorem lexRun_append (q : LexSt) (a b : Str) : lexRun q (a ++ b) = lexRun (lexRun q a) b := by
  simp [lexRun, List.foldl_append]

theorem foldl_stays {σ : Type} {step : σ → Char → σ} {q : σ} {s : Str} (h : ∀ c ∈ s, step q c = q) : s.foldl step q = q := by
  induction s with
  | nil => rfl
  | cons c s ih => rw [List.foldl_cons, h c (by simp)]; exact ih (fun d hd => h d (by simp [hd]))

theorem lexRun_stays_of_no_markup {s : Str} (h : ∀ c ∈ s, c ≠ '<' ∧ c ≠ '>' ∧ c ≠ '"' ∧ c ≠ '\'') :
    lexRun .data s = .data ∧ lexRun .attrDq s = .attrDq ∧ lexRun .attrSq s = .attrSq ∧ lexRun .rawText s = .rawText := by
  refine ⟨foldl_stays fun c hc => ?_, foldl_stays fun c hc => ?_, foldl_stays fun c hc => ?_, foldl_stays fun c hc => ?_⟩
  · simp [lexStep, (h c hc).1]
  · simp [lexStep, (h c hc).2.2.1]
  · simp [lexStep, (h c hc).2.2.2]
  · simp [lexStep, (h c hc).1]

theorem jsRun_stays {q : Char} {s : Str} (h : ∀ c ∈ s, jsStep q true c = true) : jsRun q s = true := foldl_stays h

theorem nameOrDot_not_special {c : Char} (h : isNameOrDot c = true) :
    c ≠ '&' ∧ c ≠ '<' ∧ c ≠ '>' ∧ c ≠ '"' ∧ c ≠ '\'' ∧ c ≠ '\\' ∧ c ≠ '\n' ∧ c ≠ '\r' := by
  refine ⟨?_, ?_, ?_, ?_, ?_, ?_, ?_, ?_⟩ <;> (intro e; subst e; revert h; decide)

theorem nameChar_not_dot {c : Char} (h : isNameChar c = true) : c ≠ '.' := by
  intro e; subst e; revert h; decide

theorem nameChar_nameOrDot {c : Char} (h : isNameChar c = true) : isNameOrDot c = true := by
  simp [isNameOrDot, h]

theorem escChar_of_nameOrDot {c : Char} (h : isNameOrDot c = true) : escChar c = [c] := by
  obtain ⟨h1, h2, h3, h4, h5, _⟩ := nameOrDot_not_special h
  simp [escChar, h1, h2, h3, h4, h5]

theorem escape_of_nameOrDot {s : Str} (h : ∀ c ∈ s, isNameOrDot c = true) : escape s = s :=
  (escape_eq_flatMap s).trans (flatMap_eq_self fun c hc => escChar_of_nameOrDot (h c hc))

theorem runToks_append (st : List Tag) (a b : List Tok) :
    runToks st (a ++ b) = (runToks st a).bind (fun st' => runToks st' b) := by
  fun_induction runToks st a <;> simp [runToks, *]

theorem balanced_run {s : List Tok} (h : Balanced s) : ∀ st, runToks st s = some st := by
  induction h with
  | nil => intro st; rfl
  | vd t => intro st; simp [runToks]
  | wrap t s _ ih =>
    intro st
    show runToks st (Tok.op t :: (s ++ [Tok.cl t])) = some st
    simp [runToks, runToks_append, ih]
  | app a b _ _ iha ihb => intro st; simp [runToks_append, iha, ihb]

def Realizes (s : List Tok) (e : Eff) : Prop :=
  ∀ st, runToks (e.pops ++ st) s = some (e.pushes ++ st)

theorem cancel_eq_some {pu po rp rq : List Tag} (h : cancel pu po = some (rp, rq)) :
    ∃ common, pu = common ++ rp ∧ po = common ++ rq ∧ (rp = [] ∨ rq = []) := by
  fun_induction cancel pu po with
  | case1 pu => cases h; exact ⟨[], rfl, rfl, .inr rfl⟩
  | case2 po _ => cases h; exact ⟨[], rfl, rfl, .inl rfl⟩
  | case3 pu b po ih =>
    obtain ⟨cm, h1, h2, h3⟩ := ih h
    exact ⟨b :: cm, by rw [h1]; rfl, by rw [h2]; rfl, h3⟩
  | case4 a pu b po hab => cases h

theorem realizes_comp {s₁ s₂ : List Tok} {e₁ e₂ e : Eff} (h₁ : Realizes s₁ e₁) (h₂ : Realizes s₂ e₂)
    (hc : e₁.comp e₂ = some e) : Realizes (s₁ ++ s₂) e := by
  obtain ⟨p1, q1⟩ := e₁
  obtain ⟨p2, q2⟩ := e₂
  unfold Eff.comp at hc
  simp only at hc
  split at hc
  · cases hc
  · rename_i rp rq hcan
    cases hc
    obtain ⟨cm, hpu, hpo, hz⟩ := cancel_eq_some hcan
    subst hpu hpo
    intro st
    rw [runToks_append]
    have r1 := h₁ (rq ++ st)
    simp only [List.append_assoc] at r1 ⊢
    rw [r1]
    simp only [Option.bind_some]
    rcases hz with rfl | rfl
    · -- the first part leaves open exactly a prefix of what the second closes
      have r2 := h₂ st
      simpa [List.append_assoc] using r2
    · -- everything the second part closes was opened by the first
      have r2 := h₂ (rp ++ st)
      simpa [List.append_assoc] using r2

theorem realizes_nil : Realizes [] .neutral := fun _ => rfl

theorem realizes_tok (t : Tok) : Realizes [t] (tokEff t) := by
  intro st
  cases t <;> simp [tokEff, runToks, Eff.neutral]

theorem realizes_neutral_of_balanced {s : List Tok} (h : Balanced s) : Realizes s .neutral := by
  intro st; simpa [Eff.neutral] using balanced_run h st

theorem isNeutral_iff {nm : Nat} {t : Tm} : isNeutral nm t = true ↔ effect nm t = some .neutral := by
  simp [isNeutral]

theorem macrosOk_get {env : List Tm} (h : macrosOk env = true) {m : Nat} {b : Tm} (hb : env[m]? = some b) :
    effect env.length b = some .neutral := by
  have hmem : b ∈ env := List.mem_of_getElem? hb
  have := (List.all_eq_true.mp h) b hmem
  exact isNeutral_iff.mp this

theorem effect_alt {nm : Nat} {a b : Tm} {e : Eff} (h : effect nm (.alt a b) = some e) :
    effect nm a = some e ∧ effect nm b = some e := by
  simp only [effect] at h
  split at h
  · rename_i e₁ e₂ h1 h2
    split at h
    · rename_i heq; cases h; exact ⟨h1, heq ▸ h2⟩
    · cases h
  · cases h

theorem effect_star {nm : Nat} {a : Tm} {e : Eff} (h : effect nm (.star a) = some e) :
    e = .neutral ∧ effect nm a = some .neutral := by
  simp only [effect] at h
  split at h
  · rename_i e₁ h1
    split at h
    · rename_i hn; cases h; exact ⟨rfl, hn ▸ h1⟩
    · cases h
  · cases h

theorem effect_sound {env : List Tm} (hm : macrosOk env = true) {t : Tm} {s : List Tok} (hr : Renders env t s) :
    ∀ e, effect env.length t = some e → Realizes s e := by
  induction hr with
  | eps => intro e h; cases h; exact realizes_nil
  | tok t => intro e h; cases h; exact realizes_tok t
  | chars n => intro e h; cases h; exact realizes_nil
  | snip n s hb => intro e h; cases h; exact realizes_neutral_of_balanced hb
  | wild n s => intro e h; cases h
  | seq _ _ iha ihb =>
    intro e h
    simp only [effect] at h
    split at h
    · rename_i e₁ e₂ h1 h2
      exact realizes_comp (iha e₁ h1) (ihb e₂ h2) h
    · cases h
  | altL _ iha => intro e h; exact iha e (effect_alt h).1
  | altR _ ihb => intro e h; exact ihb e (effect_alt h).2
  | starNil => intro e h; rw [(effect_star h).1]; exact realizes_nil
  | starCons _ _ iha ihs =>
    intro e h
    obtain ⟨rfl, ha⟩ := effect_star h
    exact realizes_comp (iha _ ha) (ihs _ h) rfl
  | @call m b s hb _ ih =>
    intro e h
    simp only [effect] at h
    split at h
    · cases h; exact ih _ (macrosOk_get hm hb)
    · cases h

theorem displayToks_balanced (span : Tag) (d : DT) : Balanced (displayToks span d) := by
  have pair : Balanced [Tok.op span, Tok.cl span] := .wrap span [] .nil
  have pair2 : Balanced [Tok.op span, Tok.cl span, Tok.op span, Tok.cl span] := .app _ _ pair pair
  -- the pieces of an inner type, then constant pieces
  have app : ∀ (d : DT) (ps : List Piece), Balanced (displayToks span d) → Balanced (ps.flatMap (pieceToks span)) →
      Balanced ((displayPieces d ++ ps).flatMap (pieceToks span)) := fun d ps h1 h2 => by
    rw [List.flatMap_append]; exact .app _ _ h1 h2
  induction d with
  | fixedArr el cap ih => exact app el _ ih pair
  | varArr el cap ih => exact app el _ ih pair
  | padding s => exact pair
  | field dt name ih => exact app dt _ ih .nil
  | const dt name value ih => exact app dt _ ih pair2
  | prim sat s => cases sat <;> exact pair2
  | other s => exact .nil

/-- A name component as the front end accepts it. -/
def ValidComp (c : Str) : Prop := c ≠ [] ∧ ∀ ch ∈ c, isNameChar ch = true

theorem splitFragment_append {a b : Str} (h : '#' ∉ a) : splitFragment (a ++ '#' :: b) = (a, b) := by
  induction a with
  | nil => simp [splitFragment]
  | cons c a ih =>
    have hc : c ≠ '#' := fun e => h (by simp [e])
    have ha : '#' ∉ a := fun e => h (by simp [e])
    simp [splitFragment, hc, ih ha]

theorem splitOn_noSep {sep : Char} {a : Str} (h : sep ∉ a) : splitOn sep a = [a] := by
  induction a with
  | nil => rfl
  | cons c a ih =>
    have hc : c ≠ sep := fun e => h (by simp [e])
    have ha : sep ∉ a := fun e => h (by simp [e])
    simp [splitOn, hc, ih ha]

theorem splitOn_append {sep : Char} {a : Str} (b : Str) (h : sep ∉ a) :
    splitOn sep (a ++ sep :: b) = a :: splitOn sep b := by
  induction a with
  | nil => simp [splitOn]
  | cons c a ih =>
    have hc : c ≠ sep := fun e => h (by simp [e])
    have ha : sep ∉ a := fun e => h (by simp [e])
    simp [splitOn, hc, ih ha]

theorem repeatStr_append_self (s : Str) (n : Nat) : repeatStr s n ++ s = repeatStr s (n + 1) := by
  induction n with
  | zero => simp [repeatStr]
  | succ n ih => simp only [repeatStr, List.append_assoc]; rw [ih]; simp [repeatStr]

theorem splitOn_ups (n : Nat) (rest : Str) :
    splitOn '/' (repeatStr "../".toList n ++ rest) = List.replicate n ['.', '.'] ++ splitOn '/' rest := by
  induction n with
  | zero => simp [repeatStr]
  | succ n ih =>
    have : repeatStr "../".toList (n + 1) ++ rest = ['.', '.'] ++ '/' :: (repeatStr "../".toList n ++ rest) := by
      simp [repeatStr]
    rw [this, splitOn_append _ (by decide), ih]
    simp [List.replicate_succ]

theorem mem_repeatStr {s : Str} {n : Nat} {c : Char} (h : c ∈ repeatStr s n) : c ∈ s := by
  induction n with
  | zero => simp [repeatStr] at h
  | succ n ih => simp only [repeatStr, List.mem_append] at h; rcases h with h | h; exact h; exact ih h

theorem resolveSegs_up (d : Str) (rdir : List Str) {l : List Str} (h : l ≠ []) :
    resolveSegs (d :: rdir) (['.', '.'] :: l) = resolveSegs rdir l := by
  cases l with
  | nil => exact absurd rfl h
  | cons x xs => simp [resolveSegs]

theorem resolveSegs_ups (rdir : List Str) (n : Nat) (a : Str) (rest : List Str) (h : n ≤ rdir.length) :
    resolveSegs rdir (List.replicate n ['.', '.'] ++ a :: rest) = resolveSegs (rdir.drop n) (a :: rest) := by
  induction n generalizing rdir with
  | zero => rfl
  | succ n ih =>
    cases rdir with
    | nil => simp at h
    | cons d rdir =>
      rw [List.replicate_succ, List.cons_append, resolveSegs_up _ _ (by simp), ih rdir (by simpa using h), List.drop_succ_cons]

theorem countChar_eq_count (x : Char) (s : Str) : countChar x s = s.count x := by
  induction s with
  | nil => rfl
  | cons c s ih => simp [countChar, List.count_cons, ih, Nat.add_comm]

theorem countChar_append (x : Char) (a b : Str) : countChar x (a ++ b) = countChar x a + countChar x b := by
  simp only [countChar_eq_count, List.count_append]

theorem countChar_zero {x : Char} {a : Str} (h : x ∉ a) : countChar x a = 0 :=
  (countChar_eq_count x a).trans (List.count_eq_zero.mpr h)

theorem validComp_noDot {c : Str} (h : ValidComp c) : '.' ∉ c :=
  fun hm => nameChar_not_dot (h.2 _ hm) rfl

theorem joinWith_cons (sep : Char) (a : Str) (l : List Str) : joinWith sep (a :: l) = a ++ l.flatMap (sep :: ·) := by
  induction l generalizing a with
  | nil => simp [joinWith]
  | cons b l ih => rw [show joinWith sep (a :: b :: l) = a ++ sep :: joinWith sep (b :: l) from rfl, ih]; simp

theorem countChar_sep_flatMap {x : Char} : ∀ {l : List Str}, (∀ c ∈ l, x ∉ c) → countChar x (l.flatMap (x :: ·)) = l.length
  | [], _ => rfl
  | b :: l, h => by
    have ⟨hb, hl⟩ := List.forall_mem_cons.mp h
    rw [List.flatMap_cons, countChar_append, countChar, if_pos rfl, countChar_zero hb, countChar_sep_flatMap hl, List.length_cons]
    omega

theorem countDots_join {ns : List Str} (h : ∀ c ∈ ns, ValidComp c) : countChar '.' (joinWith '.' ns) = ns.length - 1 := by
  cases ns with
  | nil => rfl
  | cons a l =>
    have ⟨ha, hl⟩ := List.forall_mem_cons.mp fun c hc => validComp_noDot (h c hc)
    rw [joinWith_cons, countChar_append, countChar_zero ha, countChar_sep_flatMap hl]
    simp

theorem validComp_notSpecial {c : Str} (h : ValidComp c) :
    '#' ∉ c ∧ '/' ∉ c ∧ c ≠ [] ∧ c ≠ ['.'] ∧ c ≠ ['.', '.'] := by
  obtain ⟨hne, hc⟩ := h
  refine ⟨?_, ?_, hne, ?_, ?_⟩
  · intro hm; exact absurd (hc _ hm) (by decide)
  · intro hm; exact absurd (hc _ hm) (by decide)
  · intro e; subst e; exact nameChar_not_dot (hc '.' (by simp)) rfl
  · intro e; subst e; exact nameChar_not_dot (hc '.' (by simp)) rfl

theorem urlFromType_eq (t : CType) : urlFromType t = ("../".toList ++ t.rootNamespace ++ ['/']) ++ '#' :: tagId t.entry := by
  cases hps : t.hasParentService <;> simp [urlFromType, tagId, CType.entry, CType.fullName, CType.fullNamespace, hps]

theorem entry_comps_sub (t : CType) : ∀ c ∈ t.entry.comps, c ∈ t.comps := by
  intro c hc
  unfold CType.entry at hc
  split at hc
  · exact List.dropLast_subset _ hc
  · exact hc

theorem resolve_up_root {dir : List Str} {root frag : Str} (hr : ValidComp root) :
    resolve (dir ++ [indexPage]) ((repeatStr "../".toList dir.length ++ (root ++ ['/'])) ++ '#' :: frag) =
      some ([root, indexPage], frag) := by
  obtain ⟨h1, h2, h3, h4, h5⟩ := validComp_notSpecial hr
  have hno : '#' ∉ repeatStr "../".toList dir.length ++ (root ++ ['/']) := by
    simp only [List.mem_append, not_or]
    exact ⟨fun hm => absurd (mem_repeatStr hm) (by decide), h1, by decide⟩
  have hs : splitOn '/' (root ++ ['/']) = [root, []] := by
    simpa [splitOn] using splitOn_append (sep := '/') [] h2
  unfold resolve
  rw [splitFragment_append hno]
  have hpath : repeatStr "../".toList dir.length ++ (root ++ ['/']) ≠ [] := by simp [h3]
  simp only [hpath, if_false]
  rw [splitOn_ups, hs, List.dropLast_concat, resolveSegs_ups dir.reverse dir.length root [[]] (by simp)]
  -- all of `dir` is left behind; `root` is a directory name, the empty last segment stands for its index page
  simp [resolveSegs, h3, h4, h5]

theorem replaceDots_nameChars {s : Str} (h : ∀ c ∈ s, isNameOrDot c = true) :
    ∀ c ∈ replaceChar '.' ['_'] s, isNameChar c = true := by
  intro c hc
  rcases mem_replaceChar hc with hc | ⟨hc, hd⟩
  · obtain rfl := List.mem_singleton.mp hc; decide
  · simpa [isNameOrDot, hd] using h c hc

theorem join_nameOrDot {l : List Str} (h : ∀ c ∈ l, ValidComp c) : ∀ ch ∈ joinWith '.' l, isNameOrDot ch = true := by
  cases l with
  | nil => exact fun _ hc => nomatch hc
  | cons a l =>
    intro ch hc
    simp only [joinWith_cons, List.mem_append, List.mem_flatMap, List.mem_cons] at hc
    rcases hc with hc | ⟨c, hcl, rfl | hc⟩
    · exact nameChar_nameOrDot ((h a (by simp)).2 ch hc)
    · decide
    · exact nameChar_nameOrDot ((h c (by simp [hcl])).2 ch hc)

theorem dec_isDigit {n : Nat} {c : Char} (h : c ∈ dec n) : c.isDigit = true :=
  Nat.isDigit_of_mem_toDigits (by decide) (by decide) h

theorem dec_nameChars (n : Nat) : ∀ c ∈ dec n, isNameChar c = true := by
  intro c hc
  have := dec_isDigit hc
  simp [isNameChar, Char.isAlphanum, this]

theorem versionSuffix_nameChars (M m : Nat) : ∀ d ∈ versionSuffix M m, isNameChar d = true := by
  intro d hd
  simp only [versionSuffix, List.mem_append, List.mem_cons] at hd
  rcases hd with (rfl | hd) | (rfl | hd)
  · decide
  · exact dec_nameChars _ d hd
  · decide
  · exact dec_nameChars _ d hd

theorem nsId_nameChars {l : List Str} (h : ∀ c ∈ l, ValidComp c) : ∀ d ∈ nsId l, isNameChar d = true :=
  replaceDots_nameChars (join_nameOrDot h)

theorem tagId_nameChars {t : CType} (h : ∀ c ∈ t.comps, ValidComp c) : ∀ c ∈ tagId t, isNameChar c = true := fun c hc =>
  (List.mem_append.mp hc).elim (nsId_nameChars h c) (versionSuffix_nameChars _ _ c)

theorem dec_inj {a b : Nat} (h : dec a = dec b) : a = b := by
  have h2 := congrArg (fun l => Nat.ofDigitChars 10 l 0) h
  simpa [dec, Nat.ofDigitChars_ten_toDigits] using h2

theorem underscore_not_mem_dec (n : Nat) : '_' ∉ dec n := Nat.underscore_not_in_toDigits

theorem dec_ne_nil (n : Nat) : dec n ≠ [] := Nat.toDigits_ne_nil

theorem versionSuffix_inj {a b : Str} {M m M' m' : Nat} (h : a ++ versionSuffix M m = b ++ versionSuffix M' m') :
    a = b ∧ M = M' ∧ m = m' := by
  have e : ∀ (a : Str) (M m : Nat), a ++ versionSuffix M m = (a ++ '_' :: dec M) ++ '_' :: dec m := by
    intro a M m; simp [versionSuffix]
  rw [e, e] at h
  obtain ⟨h1, h2⟩ := split_last (underscore_not_mem_dec m) (underscore_not_mem_dec m') h
  obtain ⟨h3, h4⟩ := split_last (underscore_not_mem_dec M) (underscore_not_mem_dec M') h1
  exact ⟨h3, dec_inj h4, dec_inj h2⟩

theorem tagId_eq_iff (a b : CType) :
    tagId a = tagId b ↔ nsId a.comps = nsId b.comps ∧ a.major = b.major ∧ a.minor = b.minor := by
  constructor
  · intro h
    exact versionSuffix_inj (a := replaceChar '.' ['_'] a.fullName) (b := replaceChar '.' ['_'] b.fullName) h
  · rintro ⟨h1, h2, h3⟩
    simp only [tagId, CType.fullName]
    simp only [nsId] at h1
    rw [h1, h2, h3]

theorem replaceChar_noop {x : Char} {r s : Str} (h : x ∉ s) : replaceChar x r s = s := by
  rw [replaceChar_eq_flatMap]
  exact flatMap_eq_self fun c hc => if_neg fun (e : c = x) => h (e ▸ hc)

theorem replaceChar_sep_flatMap {x y : Char} : ∀ {l : List Str}, (∀ c ∈ l, x ∉ c) →
    replaceChar x [y] (l.flatMap (x :: ·)) = l.flatMap (y :: ·)
  | [], _ => rfl
  | b :: l, h => by
    have ⟨hb, hl⟩ := List.forall_mem_cons.mp h
    rw [List.flatMap_cons, List.flatMap_cons, replaceChar_append, replaceChar, if_pos rfl, replaceChar_noop hb,
      replaceChar_sep_flatMap hl]
    rfl

theorem nsId_eq_join {l : List Str} (h : ∀ c ∈ l, '.' ∉ c) : nsId l = joinWith '_' l := by
  cases l with
  | nil => rfl
  | cons a l =>
    have ⟨ha, hl⟩ := List.forall_mem_cons.mp h
    rw [nsId, joinWith_cons, joinWith_cons, replaceChar_append, replaceChar_noop ha, replaceChar_sep_flatMap hl]

theorem nsId_underscore_collides (pre post : List Str) (u v : Str) :
    nsId (pre ++ (u ++ '_' :: v) :: post) = nsId (pre ++ u :: v :: post) := by
  unfold nsId
  cases pre <;> simp [joinWith_cons, replaceChar_append, replaceChar]

theorem join_ne_nil {sep : Char} {l : List Str} (h : ∀ c ∈ l, c ≠ []) (hl : l ≠ []) : joinWith sep l ≠ [] := by
  cases l with
  | nil => exact absurd rfl hl
  | cons a l => simp [joinWith_cons, h a]

theorem nsId_ne_nil {l : List Str} (h : ∀ c ∈ l, ValidComp c) (hne : l ≠ []) : nsId l ≠ [] := by
  rw [nsId_eq_join (fun c hc => validComp_noDot (h c hc))]
  exact join_ne_nil (fun c hc => (h c hc).1) hne

theorem splitOn_join {sep : Char} : ∀ {l : List Str}, l ≠ [] → (∀ c ∈ l, sep ∉ c) → splitOn sep (joinWith sep l) = l
  | [a], _, h => splitOn_noSep (h a (by simp))
  | a :: b :: l, _, h => by
    show splitOn sep (a ++ sep :: joinWith sep (b :: l)) = _
    rw [splitOn_append _ (h a (by simp)), splitOn_join (by simp) (fun c hc => h c (by simp [hc]))]

theorem joinWith_inj {sep : Char} {l l' : List Str} (hl : ∀ c ∈ l, c ≠ [] ∧ sep ∉ c) (hl' : ∀ c ∈ l', c ≠ [] ∧ sep ∉ c)
    (h : joinWith sep l = joinWith sep l') : l = l' := by
  by_cases hn : l = []
  · by_cases hn' : l' = []
    · rw [hn, hn']
    · exact absurd (by rw [← h, hn]; rfl) (join_ne_nil (fun c hc => (hl' c hc).1) hn')
  · by_cases hn' : l' = []
    · exact absurd (by rw [h, hn']; rfl) (join_ne_nil (fun c hc => (hl c hc).1) hn)
    · rw [← splitOn_join hn (fun c hc => (hl c hc).2), h, splitOn_join hn' (fun c hc => (hl' c hc).2)]

theorem nsId_inj {l l' : List Str} (hl : ∀ c ∈ l, ValidComp c ∧ '_' ∉ c) (hl' : ∀ c ∈ l', ValidComp c ∧ '_' ∉ c)
    (e : nsId l = nsId l') : l = l' := by
  rw [nsId_eq_join (fun c hc => validComp_noDot (hl c hc).1), nsId_eq_join (fun c hc => validComp_noDot (hl' c hc).1)] at e
  exact joinWith_inj (fun c hc => ⟨(hl c hc).1.1, (hl c hc).2⟩) (fun c hc => ⟨(hl' c hc).1.1, (hl' c hc).2⟩) e

theorem join_snoc (sep : Char) {init : List Str} (x : Str) (h : init ≠ []) :
    joinWith sep (init ++ [x]) = joinWith sep init ++ sep :: x := by
  cases init with
  | nil => exact absurd rfl h
  | cons a l => simp [joinWith_cons]

mutual
theorem entryIds_complete (tree : NsTree) (t : CType) (ht : t ∈ allTypes tree) (hs : t.comps.getLastD [] ≠ ['_']) :
    tagId t ∈ entryIds tree := by
  match tree with
  | .node name types children =>
    simp only [allTypes, List.mem_append] at ht
    simp only [entryIds, List.mem_append]
    rcases ht with ht | ht
    · left
      exact List.mem_map.mpr ⟨t, List.mem_filter.mpr ⟨ht, by simpa using hs⟩, rfl⟩
    · right
      exact entryIdsL_complete children t ht hs
theorem entryIdsL_complete (l : List NsTree) (t : CType) (ht : t ∈ allTypesL l) (hs : t.comps.getLastD [] ≠ ['_']) :
    tagId t ∈ entryIdsL l := by
  match l with
  | [] => simp [allTypesL] at ht
  | n :: l =>
    simp only [allTypesL, List.mem_append] at ht
    simp only [entryIdsL, List.mem_append]
    rcases ht with ht | ht
    · left; exact entryIds_complete n t ht hs
    · right; exact entryIdsL_complete l t ht hs
end

end NunavutVerif.Html
