import NunavutVerif.Model.Overwrite
/-!
Helper lemmas for C12 (`Properties/C12.lean`).  One file write has a closed form (`writeFile_eq`); three facts are read
off it — its error, the file system it leaves, its operations (`writeFile_err`, `writeFile_fs`, `writeFile_ops`) —, and
everything about runs is an induction over these.
-/
namespace NunavutVerif.Overwrite

theorem ownerWrite_addWriteBits (m : Nat) : ownerWrite (addWriteBits m) = true := by
  unfold ownerWrite addWriteBits permBits
  rw [show (4096 : Nat) = 2 ^ 12 from rfl, Nat.testBit_mod_two_pow, Nat.testBit_or]
  have : Nat.testBit 0o220 7 = true := by decide
  simp [this]

theorem permBits_lt (m : Nat) : permBits m < 4096 :=
  Nat.mod_lt _ (by decide)

@[simp] theorem FS.set_same (fs : FS) (p : Path) (f : File) : (fs.set p f) p = some f := by
  simp [FS.set]

theorem FS.set_other {fs : FS} {p q : Path} {f : File} (h : q ≠ p) : (fs.set p f) q = fs q := by
  simp [FS.set, h]

theorem FS.set_set (fs : FS) (p : Path) (f g : File) : (fs.set p f).set p g = fs.set p g := by
  funext q; simp only [FS.set]; split <;> rfl

theorem FS.preserved_refl (fs : FS) : FS.preserved fs fs := fun _ _ h => h

theorem FS.preserved_trans {a b c : FS} (h₁ : FS.preserved a b) (h₂ : FS.preserved b c) :
    FS.preserved a c := fun p f h => h₂ p f (h₁ p f h)

theorem FS.preserved_none {a b : FS} (h : FS.preserved a b) {p : Path} (hb : b p = none) : a p = none := by
  cases ha : a p with
  | none => rfl
  | some f => rw [h p f ha] at hb; cases hb

theorem FS.preserved_set_new (fs : FS) {p : Path} (h : fs p = none) (f : File) : FS.preserved fs (fs.set p f) := by
  intro q g hq
  rw [FS.set_other (fun e => by rw [e, h] at hq; cases hq)]; exact hq

theorem applyPPs_err_kind (p : Path) (pps : List FilePP) (i : Nat) (f : File) (e : Err)
    (h : (applyPPs p pps i f).err = some e) : ∃ j, e = .pp p j := by
  fun_induction applyPPs p pps i f with
  | case1 => cases h
  | case2 _ _ _ _ _ ih => exact ih h
  | case3 _ _ i => exact ⟨i, (Option.some.inj h).symm⟩
  | case4 _ _ _ _ _ _ _ _ ih => exact ih h
  | case5 _ i => exact ⟨i, (Option.some.inj h).symm⟩

theorem applyPPs_ops (p : Path) (pps : List FilePP) (i : Nat) (f : File) :
    ∀ op ∈ (applyPPs p pps i f).ops, op.path = p ∧ op.isDenied = false := by
  fun_induction applyPPs p pps i f with
  | case1 => intro op hop; cases hop
  | case2 _ _ _ _ _ ih | case4 _ _ _ _ _ _ _ _ ih =>
    intro op hop
    rcases List.mem_cons.mp hop with rfl | hop
    · exact ⟨rfl, rfl⟩
    · exact ih op hop
  | case3 =>
    intro op hop
    obtain rfl := List.mem_singleton.mp hop
    exact ⟨rfl, rfl⟩
  | case5 => intro op hop; cases hop

theorem applyPPs_mode_indep (p : Path) (pps : List FilePP) (i : Nat) (c : Content) (m₁ m₂ : Mode) :
    (applyPPs p pps i ⟨c, m₁⟩).err = (applyPPs p pps i ⟨c, m₂⟩).err ∧
    (applyPPs p pps i ⟨c, m₁⟩).ops = (applyPPs p pps i ⟨c, m₂⟩).ops ∧
    (applyPPs p pps i ⟨c, m₁⟩).file.content = (applyPPs p pps i ⟨c, m₂⟩).file.content ∧
    ((applyPPs p pps i ⟨c, m₁⟩).err = none → hasSetMode pps = true →
      (applyPPs p pps i ⟨c, m₁⟩).file.mode = (applyPPs p pps i ⟨c, m₂⟩).file.mode) := by
  induction pps generalizing i c m₁ m₂ with
  | nil => exact ⟨rfl, rfl, rfl, fun _ h => nomatch h⟩
  | cons pp rest ih =>
    cases pp with
    | setMode m => exact ⟨rfl, rfl, rfl, fun _ _ => rfl⟩
    | edit g =>
      simp only [applyPPs, hasSetMode]
      cases g c with
      | none => exact ⟨rfl, rfl, rfl, fun h => nomatch h⟩
      | some r =>
        obtain ⟨e, o, k, hm⟩ := ih (i + 1) r.1 (editMode r.2 m₁) (editMode r.2 m₂)
        exact ⟨e, congrArg (_ :: ·) o, k, hm⟩
    | raises => exact ⟨rfl, rfl, rfl, fun h => nomatch h⟩

theorem ppContent_eq (p : Path) (pps : List FilePP) (i : Nat) (f : File) :
    ppContent pps f.content =
      match (applyPPs p pps i f).err with
      | none => some (applyPPs p pps i f).file.content
      | some _ => none := by
  fun_induction applyPPs p pps i f with
  | case1 => rfl
  | case2 _ _ _ _ _ ih => exact ih
  | case3 _ _ _ _ hg => simp only [ppContent, hg]; rfl
  | case4 _ _ _ _ _ _ hg _ ih => simp only [ppContent, hg]; exact ih
  | case5 => rfl

theorem applyPPs_err_none_iff (p : Path) (pps : List FilePP) (i : Nat) (f : File) :
    (applyPPs p pps i f).err = none ↔ (ppContent pps f.content).isSome = true := by
  rw [ppContent_eq p pps i f]
  cases (applyPPs p pps i f).err <;> simp

theorem applyPPs_content (p : Path) (pps : List FilePP) (i : Nat) (f : File)
    (h : (applyPPs p pps i f).err = none) :
    ppContent pps f.content = some (applyPPs p pps i f).file.content := by
  rw [ppContent_eq p pps i f, h]

theorem applyPPs_ends_setMode (p : Path) (pre : List FilePP) (m : Nat) (i : Nat) (f : File)
    (h : (applyPPs p (pre ++ [.setMode m]) i f).err = none) :
    (applyPPs p (pre ++ [.setMode m]) i f).file.mode = permBits m := by
  induction pre generalizing i f with
  | nil => simp [applyPPs]
  | cons pp rest ih =>
    cases pp with
    | setMode m' =>
      simp only [List.cons_append, applyPPs] at h ⊢
      exact ih _ _ h
    | edit g =>
      simp only [List.cons_append, applyPPs] at h ⊢
      cases hg : g f.content with
      | none => simp [hg] at h
      | some r => simp only [hg] at h ⊢; exact ih (i + 1) ⟨r.1, editMode r.2 f.mode⟩ h
    | raises => simp [applyPPs] at h

theorem requestedMode_eq_some_iff {pps : List FilePP} {fm : Nat} :
    requestedMode pps = some fm ↔ ∃ pre, pps = pre ++ [.setMode fm] := by
  constructor
  · intro h
    unfold requestedMode at h
    split at h
    · rename_i m hl
      obtain rfl := Option.some.inj h
      exact List.getLast?_eq_some_iff.mp hl
    · cases h
  · rintro ⟨pre, rfl⟩
    simp [requestedMode]

theorem applyPPs_requested_mode {pps : List FilePP} {fm : Nat} (hfm : requestedMode pps = some fm)
    (p : Path) (i : Nat) (f : File) (h : (applyPPs p pps i f).err = none) :
    (applyPPs p pps i f).file.mode = permBits fm := by
  obtain ⟨pre, rfl⟩ := requestedMode_eq_some_iff.mp hfm
  exact applyPPs_ends_setMode p pre fm i f h

theorem hasSetMode_append_setMode (pre : List FilePP) (m : Nat) : hasSetMode (pre ++ [.setMode m]) = true := by
  induction pre with
  | nil => rfl
  | cons p r ih => cases p <;> simp [hasSetMode, ih]

def afterFile (pps : List FilePP) (w : Write) (m : Mode) : File :=
  if w.renderOk then (applyPPs w.path pps 0 ⟨w.content, startMode w m⟩).file else ⟨w.content, m⟩

/-- The mode `0` here and in `afterOps` is arbitrary: error and operations of `applyPPs` do not depend on the mode
(`applyPPs_mode_indep`). -/
def afterErr (pps : List FilePP) (w : Write) : Option Err :=
  if w.renderOk then (applyPPs w.path pps 0 ⟨w.content, 0⟩).err else some (.render w.path)

def afterOps (pps : List FilePP) (w : Write) : List Op :=
  if w.renderOk then copyOps w ++ (applyPPs w.path pps 0 ⟨w.content, 0⟩).ops else []

theorem afterOpen_eq (pps : List FilePP) (w : Write) (m : Mode) (fs : FS) (ops : List Op) :
    afterOpen pps w m fs ops = ⟨fs.set w.path (afterFile pps w m), ops ++ afterOps pps w, afterErr pps w⟩ := by
  have k := applyPPs_mode_indep w.path pps 0 w.content (startMode w m) 0
  unfold afterOpen afterFile afterOps afterErr; split
  · simp only [k.1, k.2.1, List.append_assoc]
  · rw [List.append_nil]

theorem afterOps_own (pps : List FilePP) (w : Write) : ∀ op ∈ afterOps pps w, op.path = w.path ∧ op.isDenied = false := by
  unfold afterOps; split
  · intro op hop
    rcases List.mem_append.1 hop with hop | hop
    · unfold copyOps at hop; split at hop
      · cases hop
      · obtain rfl := List.mem_singleton.mp hop; exact ⟨rfl, rfl⟩
    · exact applyPPs_ops _ _ _ _ op hop
  · intro op hop; cases hop

theorem afterErr_kind (pps : List FilePP) (w : Write) (e : Err) (h : afterErr pps w = some e) :
    e = .render w.path ∨ ∃ i, e = .pp w.path i := by
  unfold afterErr at h; split at h
  · exact Or.inr (applyPPs_err_kind _ _ _ _ _ h)
  · exact Or.inl (Option.some.inj h).symm

theorem afterErr_none_iff (pps : List FilePP) (w : Write) :
    afterErr pps w = none ↔ (w.renderOk = true ∧ (ppContent pps w.content).isSome = true) := by
  unfold afterErr; split
  · rename_i h; simp [h, applyPPs_err_none_iff]
  · rename_i h; simp [h]

theorem applyPPs_of_afterErr_none {pps : List FilePP} {w : Write} (h : afterErr pps w = none) (m : Mode) :
    (applyPPs w.path pps 0 ⟨w.content, startMode w m⟩).err = none ∧
    afterFile pps w m = (applyPPs w.path pps 0 ⟨w.content, startMode w m⟩).file := by
  unfold afterErr at h; unfold afterFile
  split at h
  · rename_i hr
    rw [if_pos hr, (applyPPs_mode_indep w.path pps 0 w.content (startMode w m) 0).1]
    exact ⟨h, rfl⟩
  · cases h

theorem afterFile_rel (pps : List FilePP) (w : Write) (m₁ m₂ : Mode) (h : afterErr pps w = none) :
    (afterFile pps w m₁).content = (afterFile pps w m₂).content ∧
    (hasSetMode pps = true → (afterFile pps w m₁).mode = (afterFile pps w m₂).mode) := by
  obtain ⟨e1, h1⟩ := applyPPs_of_afterErr_none h m₁
  rw [h1, (applyPPs_of_afterErr_none h m₂).2]
  have k := applyPPs_mode_indep w.path pps 0 w.content (startMode w m₁) (startMode w m₂)
  exact ⟨k.2.2.1, k.2.2.2 e1⟩

theorem afterFile_content (pps : List FilePP) (w : Write) (m : Mode) (h : afterErr pps w = none) :
    ppContent pps w.content = some (afterFile pps w m).content := by
  obtain ⟨e1, h1⟩ := applyPPs_of_afterErr_none h m
  rw [h1]; exact applyPPs_content _ _ _ _ e1

theorem afterFile_mode (pps : List FilePP) (w : Write) (m : Mode) (fm : Nat)
    (hfm : requestedMode pps = some fm) (h : afterErr pps w = none) :
    (afterFile pps w m).mode = permBits fm := by
  obtain ⟨e1, h1⟩ := applyPPs_of_afterErr_none h m
  rw [h1]; exact applyPPs_requested_mode hfm _ _ _ e1

def refused (allow : Bool) (fs : FS) (p : Path) : Bool := !allow && (fs p).isSome

def openMode (env : Env) (old : Option File) : Mode :=
  match old with
  | none => env.createMode
  | some f => addWriteBits f.mode

def gateOps (p : Path) : Option File → List Op
  | none => []
  | some f => [.chmod p (addWriteBits f.mode)]

/-- One write in closed form: the gate refuses, or the open succeeds — what is opened is created, or was just made writable
by `chmod(mode | 0o220)`, root or not. -/
theorem writeFile_eq (env : Env) (allow : Bool) (pps : List FilePP) (w : Write) (fs : FS) :
    writeFile env allow pps w fs =
      if refused allow fs w.path then ⟨fs, [], some (.conflict w.path)⟩
      else ⟨fs.set w.path (afterFile pps w (openMode env (fs w.path))),
        gateOps w.path (fs w.path) ++ [.mkdirs w.path, .openW w.path] ++ afterOps pps w, afterErr pps w⟩ := by
  cases h : fs w.path with
  | none => simp [writeFile, gate, openTrunc, h, refused, openMode, gateOps, afterOpen_eq, FS.set_set]
  | some f =>
    cases allow with
    | true =>
      simp [writeFile, gate, openTrunc, h, refused, openMode, gateOps, ownerWrite_addWriteBits, afterOpen_eq, FS.set_set]
    | false => simp [writeFile, gate, h, refused]

theorem writeFile_err (env : Env) (allow : Bool) (pps : List FilePP) (w : Write) (fs : FS) :
    (writeFile env allow pps w fs).err =
      if refused allow fs w.path then some (.conflict w.path) else afterErr pps w := by
  rw [writeFile_eq]; split <;> rfl

theorem writeFile_fs (env : Env) (allow : Bool) (pps : List FilePP) (w : Write) (fs : FS) :
    (writeFile env allow pps w fs).fs =
      if refused allow fs w.path then fs else fs.set w.path (afterFile pps w (openMode env (fs w.path))) := by
  rw [writeFile_eq]; split <;> rfl

theorem writeFile_ops (env : Env) (allow : Bool) (pps : List FilePP) (w : Write) (fs : FS) :
    ∀ op ∈ (writeFile env allow pps w fs).ops, op.path = w.path ∧ op.isDenied = false := by
  rw [writeFile_eq]; split
  · intro op hop; cases hop
  · intro op hop
    rcases List.mem_append.1 hop with hop | hop
    · rcases List.mem_append.1 hop with hop | hop
      · cases h : fs w.path with
        | none => rw [h] at hop; cases hop
        | some f => rw [h] at hop; obtain rfl := List.mem_singleton.1 hop; exact ⟨rfl, rfl⟩
      · simp only [List.mem_cons, List.not_mem_nil, or_false] at hop
        rcases hop with rfl | rfl <;> exact ⟨rfl, rfl⟩
    · exact afterOps_own pps w op hop

theorem writeFile_frame {env : Env} {allow : Bool} {pps : List FilePP} {w : Write} {fs : FS} {q : Path}
    (hq : q ≠ w.path) : (writeFile env allow pps w fs).fs q = fs q := by
  rw [writeFile_fs]; split
  · rfl
  · exact FS.set_other hq

theorem writeFile_allow_err (env : Env) (pps : List FilePP) (w : Write) (fs : FS) :
    (writeFile env true pps w fs).err = afterErr pps w := by
  rw [writeFile_err]; rfl

theorem writeFile_allow_at (env : Env) (pps : List FilePP) (w : Write) (fs : FS) :
    (writeFile env true pps w fs).fs w.path = some (afterFile pps w (openMode env (fs w.path))) := by
  rw [writeFile_fs]; exact FS.set_same _ _ _

theorem runWrites_frame {env : Env} {allow : Bool} {pps : List FilePP} {ws : List Write} {fs : FS} {q : Path}
    (hq : q ∉ ws.map Write.path) : (runWrites env allow pps ws fs).fs q = fs q := by
  fun_induction runWrites env allow pps ws fs with
  | case1 => rfl
  | case2 w ws fs =>
    exact writeFile_frame (fun e => hq (e ▸ List.mem_cons_self ..))
  | case3 w ws fs _ _ _ ih =>
    simp only [List.map_cons, List.mem_cons, not_or] at hq
    exact (ih hq.2).trans (writeFile_frame hq.1)

theorem runWrites_ops (env : Env) (allow : Bool) (pps : List FilePP) (ws : List Write) (fs : FS) :
    ∀ op ∈ (runWrites env allow pps ws fs).ops, op.path ∈ ws.map Write.path ∧ op.isDenied = false := by
  have head (w : Write) (ws : List Write) (fs : FS) (op : Op) (hop : op ∈ (writeFile env allow pps w fs).ops) :
      op.path ∈ (w :: ws).map Write.path ∧ op.isDenied = false := by
    obtain ⟨hp, hd⟩ := writeFile_ops _ _ _ _ _ op hop
    exact ⟨hp ▸ List.mem_cons_self .., hd⟩
  fun_induction runWrites env allow pps ws fs with
  | case1 => intro op hop; cases hop
  | case2 w ws fs => exact head w ws fs
  | case3 w ws fs _ _ _ ih =>
    intro op hop
    rcases List.mem_append.mp hop with hop | hop
    · exact head w ws fs op hop
    · exact ⟨List.mem_cons_of_mem _ (ih op hop).1, (ih op hop).2⟩

theorem findSome?_congr {α β : Type} {f g : α → Option β} {l : List α} (h : ∀ a ∈ l, f a = g a) :
    l.findSome? f = l.findSome? g := by
  induction l with
  | nil => rfl
  | cons a l ih =>
    rw [List.findSome?_cons, List.findSome?_cons, h a (List.mem_cons_self ..),
      ih (fun b hb => h b (List.mem_cons_of_mem _ hb))]

theorem runWrites_err (env : Env) (allow : Bool) (pps : List FilePP) (ws : List Write) (fs : FS)
    (h : allow = true ∨ (ws.map Write.path).Nodup) :
    (runWrites env allow pps ws fs).err =
      ws.findSome? (fun w => if refused allow fs w.path then some (.conflict w.path) else afterErr pps w) := by
  fun_induction runWrites env allow pps ws fs with
  | case1 => rfl
  | case2 w ws fs _ e he => rw [List.findSome?_cons, ← writeFile_err env, he]
  | case3 w ws fs _ he _ ih =>
    rw [List.findSome?_cons, ← writeFile_err env, he, ih (h.imp_right fun nd => (List.nodup_cons.1 nd).2)]
    -- `w` cannot make a later write refused: overwriting is allowed, or the later paths differ from its own
    apply findSome?_congr
    intro w' hw'
    rcases h with rfl | nd
    · rfl
    · rw [refused, refused, writeFile_frame (fun e => (List.nodup_cons.1 nd).1 (e ▸ List.mem_map_of_mem hw'))]

theorem runWrites_allow_err (env : Env) (pps : List FilePP) (ws : List Write) (fs : FS) :
    (runWrites env true pps ws fs).err = ws.findSome? (afterErr pps) :=
  runWrites_err env true pps ws fs (.inl rfl)

theorem findSome_afterErr_kind (pps : List FilePP) (ws : List Write) (e : Err)
    (h : ws.findSome? (afterErr pps) = some e) : (∃ p, e = .render p) ∨ ∃ p i, e = .pp p i := by
  obtain ⟨w, _, hw⟩ := List.exists_of_findSome?_eq_some h
  rcases afterErr_kind _ _ _ hw with h | ⟨i, h⟩
  · exact Or.inl ⟨_, h⟩
  · exact Or.inr ⟨_, i, h⟩

theorem runWrites_allow_ok_iff (env : Env) (pps : List FilePP) (ws : List Write) (fs : FS) :
    (runWrites env true pps ws fs).err = none ↔ ∀ w ∈ ws, afterErr pps w = none := by
  rw [runWrites_allow_err, List.findSome?_eq_none_iff]

/-- The last writer `w` of a path is chosen before the file system (`∃ w, .. ∀ fs`): that is what makes the content independent of what was there. -/
theorem runWrites_allow_last (env : Env) (pps : List FilePP) (ws : List Write)
    (hok : ∀ w ∈ ws, afterErr pps w = none) :
    ∀ p ∈ ws.map Write.path, ∃ w ∈ ws, w.path = p ∧
      ∀ fs, ∃ m, (runWrites env true pps ws fs).fs p = some (afterFile pps w m) := by
  induction ws with
  | nil => intro p hp; cases hp
  | cons w ws ih =>
    have hw (fs : FS) : (writeFile env true pps w fs).err = none :=
      (writeFile_allow_err ..).trans (hok w (List.mem_cons_self ..))
    simp only [runWrites, hw]
    intro p hp
    by_cases hin : p ∈ ws.map Write.path
    · obtain ⟨w', hw', hp', h⟩ := ih (fun w' h' => hok w' (List.mem_cons_of_mem _ h')) p hin
      exact ⟨w', List.mem_cons_of_mem _ hw', hp', fun fs => h _⟩
    · -- no later write to `p`: `w` is the last one
      obtain rfl := (List.mem_cons.mp hp).resolve_right hin
      exact ⟨w, List.mem_cons_self .., rfl, fun fs =>
        ⟨_, (runWrites_frame hin).trans (writeFile_allow_at ..)⟩⟩

theorem runWrites_allow_content (env : Env) (pps : List FilePP) (ws : List Write) (fs : FS)
    (nodup : (ws.map Write.path).Nodup) (herr : (runWrites env true pps ws fs).err = none) :
    ∀ w ∈ ws, ∃ f, (runWrites env true pps ws fs).fs w.path = some f ∧
      ppContent pps w.content = some f.content := by
  fun_induction runWrites env true pps ws fs with
  | case1 => intro w hw; cases hw
  | case2 => cases herr
  | case3 w ws fs _ he _ ih =>
    simp only [List.map_cons, List.nodup_cons] at nodup
    intro w' hw'
    rcases List.mem_cons.mp hw' with rfl | hw'
    · exact ⟨_, (runWrites_frame nodup.1).trans (writeFile_allow_at ..),
        afterFile_content pps w' _ ((writeFile_allow_err ..).symm.trans he)⟩
    · exact ih nodup.2 herr w' hw'

theorem runWrites_append (env : Env) (allow : Bool) (pps : List FilePP) (xs ys : List Write) (fs : FS) :
    runWrites env allow pps (xs ++ ys) fs =
      match (runWrites env allow pps xs fs).err with
      | some _ => runWrites env allow pps xs fs
      | none =>
        ⟨(runWrites env allow pps ys (runWrites env allow pps xs fs).fs).fs,
         (runWrites env allow pps xs fs).ops ++ (runWrites env allow pps ys (runWrites env allow pps xs fs).fs).ops,
         (runWrites env allow pps ys (runWrites env allow pps xs fs).fs).err⟩ := by
  induction xs generalizing fs with
  | nil => simp [runWrites]
  | cons w xs ih =>
    cases h : (writeFile env allow pps w fs).err with
    | some e => simp only [List.cons_append, runWrites, h]
    | none =>
      simp only [List.cons_append, runWrites, h, ih]
      cases hx : (runWrites env allow pps xs (writeFile env allow pps w fs).fs).err <;> simp [hx, List.append_assoc]

theorem writeFile_noow_preserved (env : Env) (pps : List FilePP) (w : Write) (fs : FS) :
    FS.preserved fs (writeFile env false pps w fs).fs := by
  rw [writeFile_fs]; split
  · exact FS.preserved_refl fs
  · rename_i h
    exact FS.preserved_set_new fs (by simpa [refused] using h) _

theorem runWrites_noow_preserved (env : Env) (pps : List FilePP) (ws : List Write) (fs : FS) :
    FS.preserved fs (runWrites env false pps ws fs).fs := by
  fun_induction runWrites env false pps ws fs with
  | case1 fs => exact FS.preserved_refl fs
  | case2 => exact writeFile_noow_preserved _ _ _ _
  | case3 _ _ _ _ _ _ ih => exact FS.preserved_trans (writeFile_noow_preserved _ _ _ _) ih

theorem writeFile_noow_ops (env : Env) (pps : List FilePP) (w : Write) (fs : FS) :
    ∀ op ∈ (writeFile env false pps w fs).ops, fs op.path = none := by
  intro op hop
  rw [(writeFile_ops _ _ _ _ _ op hop).1]
  rw [writeFile_eq] at hop
  split at hop
  · cases hop
  · rename_i h; simpa [refused] using h

theorem runWrites_noow_ops (env : Env) (pps : List FilePP) (ws : List Write) (fs : FS) :
    ∀ op ∈ (runWrites env false pps ws fs).ops, fs op.path = none := by
  fun_induction runWrites env false pps ws fs with
  | case1 => intro op hop; cases hop
  | case2 => exact writeFile_noow_ops _ _ _ _
  | case3 _ _ _ _ _ _ ih =>
    intro op hop
    rcases List.mem_append.mp hop with hop | hop
    · exact writeFile_noow_ops _ _ _ _ op hop
    · -- nothing that is there is ever removed
      exact FS.preserved_none (writeFile_noow_preserved _ _ _ _) (ih op hop)

theorem runWrites_noow_conflict_fails (env : Env) (pps : List FilePP) (ws : List Write) (fs : FS)
    (h : ∃ w ∈ ws, (fs w.path).isSome = true) : (runWrites env false pps ws fs).err ≠ none := by
  fun_induction runWrites env false pps ws fs with
  | case1 => obtain ⟨_, hw, _⟩ := h; cases hw
  | case2 => exact fun e => nomatch e
  | case3 w ws fs _ he _ ih =>
    apply ih
    obtain ⟨w', hw', hsome⟩ := h
    obtain ⟨g, hg⟩ := Option.isSome_iff_exists.mp hsome
    rcases List.mem_cons.mp hw' with rfl | hw'
    · -- the first file itself pre-exists: then `writeFile` raised
      have he' : (writeFile env false pps w' fs).err = none := he
      rw [writeFile_err, refused, hg] at he'; cases he'
    · exact ⟨w', hw', by rw [writeFile_noow_preserved _ _ _ _ _ _ hg]; rfl⟩

theorem runWrites_noow_err (env : Env) (pps : List FilePP) (ws : List Write) (fs : FS)
    (nodup : (ws.map Write.path).Nodup) (total : ∀ w ∈ ws, afterErr pps w = none) :
    (runWrites env false pps ws fs).err =
      (ws.find? (fun w => (fs w.path).isSome)).map (fun w => Err.conflict w.path) := by
  rw [runWrites_err env false pps ws fs (.inr nodup)]
  clear nodup
  unfold refused
  induction ws with
  | nil => rfl
  | cons w ws ih =>
    rw [List.findSome?_cons, List.find?_cons, total w (List.mem_cons_self ..)]
    cases (fs w.path).isSome
    · exact ih (fun w' h' => total w' (List.mem_cons_of_mem _ h'))
    · rfl

theorem runWrites_noow_eq_allow (env : Env) (pps : List FilePP) (ws : List Write) (fs : FS)
    (nodup : (ws.map Write.path).Nodup) (hnew : ∀ w ∈ ws, fs w.path = none) :
    runWrites env false pps ws fs = runWrites env true pps ws fs := by
  induction ws generalizing fs with
  | nil => rfl
  | cons w ws ih =>
    simp only [List.map_cons, List.nodup_cons] at nodup
    have hw : writeFile env false pps w fs = writeFile env true pps w fs := by
      rw [writeFile_eq, writeFile_eq env true, refused, refused, hnew w (List.mem_cons_self ..)]; rfl
    have hrest : ∀ w' ∈ ws, (writeFile env true pps w fs).fs w'.path = none := by
      intro w' hw'
      rw [writeFile_frame (fun e => nodup.1 (e ▸ List.mem_map_of_mem hw'))]
      exact hnew w' (List.mem_cons_of_mem _ hw')
    simp only [runWrites, hw]
    cases (writeFile env true pps w fs).err with
    | some e => rfl
    | none => simp only; rw [ih _ nodup.2 hrest]

theorem runHistory_step (env : Env) (hist : List Run) (fs₀ : FS) :
    ∀ s ∈ runHistory env hist fs₀, s.2.2 = runRun env s.2.1 s.1 := by
  induction hist generalizing fs₀ with
  | nil => simp [runHistory]
  | cons r rs ih =>
    intro s hs
    simp only [runHistory, List.mem_cons] at hs
    rcases hs with rfl | hs
    · rfl
    · exact ih _ s hs

end NunavutVerif.Overwrite
