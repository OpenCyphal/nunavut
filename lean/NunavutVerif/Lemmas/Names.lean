import NunavutVerif.Model.Names
import NunavutVerif.Lemmas.Namespace
/-!
Lemmas for the naming part of C06 (`Model/Names.lean`).  `splitU` and the `_`-join are inverse to one another, so two C
reference names are equal exactly when their words and versions are; the macro suffixes of the templates and of array
fields differ in the last character but one; pass 0 of `to_snake_case` turns a dotted name into the `_`-join of its
components.
-/
namespace NunavutVerif.Names
open NunavutVerif.Namespace (Str Ty shortVer joinWith joinWith_cons_cons shortVer_inj)

theorem joinWith_snoc_append (sep : Str) : ∀ (l : List Str) (a b : Str),
    joinWith sep (l ++ [a ++ b]) = joinWith sep (l ++ [a]) ++ b
  | [], a, b => by simp [joinWith]
  | [x], a, b => by simp [joinWith]
  | x :: y :: r, a, b => by
    have := joinWith_snoc_append sep (y :: r) a b
    simp only [List.cons_append] at this ⊢
    rw [joinWith_cons_cons, joinWith_cons_cons, this]
    simp [List.append_assoc]

theorem joinWith_cons_prefix (sep a : Str) (r : List Str) : ∃ tail, joinWith sep (a :: r) = a ++ tail := by
  cases r with
  | nil => exact ⟨[], (List.append_nil a).symm⟩
  | cons b r => exact ⟨sep ++ joinWith sep (b :: r), List.append_assoc ..⟩

theorem consHead_ne_nil (c : Char) (l : List Str) : consHead c l ≠ [] := by cases l <;> simp [consHead]

theorem splitU_ne_nil : ∀ s : Str, splitU s ≠ []
  | [] => by simp [splitU]
  | c :: cs => by
    unfold splitU
    split
    · simp
    · exact consHead_ne_nil _ _

theorem consHead_append (c : Char) (l m : List Str) (h : l ≠ []) : consHead c (l ++ m) = consHead c l ++ m := by
  cases l with
  | nil => exact absurd rfl h
  | cons a r => simp [consHead]

theorem splitU_append (a b : Str) : splitU (a ++ '_' :: b) = splitU a ++ splitU b := by
  induction a with
  | nil => simp [splitU]
  | cons c r ih =>
    by_cases hc : c = '_'
    · subst hc
      simp only [List.cons_append, splitU, if_true, ih, List.cons_append]
    · simp only [List.cons_append, splitU, hc, if_false, ih]
      exact consHead_append c _ _ (splitU_ne_nil r)

theorem joinWith_consHead (sep : Str) (c : Char) (l : List Str) (h : l ≠ []) :
    joinWith sep (consHead c l) = c :: joinWith sep l := by
  cases l with
  | nil => exact absurd rfl h
  | cons a t => cases t <;> simp [consHead, joinWith]

theorem join_splitU : ∀ s : Str, joinWith ['_'] (splitU s) = s
  | [] => by simp [splitU, joinWith]
  | c :: cs => by
    have ih := join_splitU cs
    by_cases hc : c = '_'
    · subst hc
      simp only [splitU, if_true]
      cases hr : splitU cs with
      | nil => exact absurd hr (splitU_ne_nil cs)
      | cons h t => rw [hr] at ih; simp [joinWith, ih]
    · simp only [splitU, hc, if_false]
      rw [joinWith_consHead _ _ _ (splitU_ne_nil cs), ih]

theorem splitU_join : ∀ l : List Str, l ≠ [] → splitU (joinWith ['_'] l) = l.flatMap splitU
  | [], h => absurd rfl h
  | [a], _ => by simp [joinWith]
  | a :: b :: r, _ => by
    have ih := splitU_join (b :: r) (by simp)
    rw [joinWith_cons_cons]
    simp only [List.append_assoc, List.singleton_append]
    rw [splitU_append, ih]
    simp

theorem joinU_eq_iff (l l' : List Str) (h : l ≠ []) (h' : l' ≠ []) :
    joinWith ['_'] l = joinWith ['_'] l' ↔ l.flatMap splitU = l'.flatMap splitU := by
  constructor
  · intro e
    rw [← splitU_join l h, ← splitU_join l' h', e]
  · intro e
    rw [← join_splitU (joinWith ['_'] l), ← join_splitU (joinWith ['_'] l'), splitU_join l h, splitU_join l' h', e]

theorem splitU_of_no_underscore : ∀ s : Str, '_' ∉ s → splitU s = [s]
  | [], _ => rfl
  | c :: cs, h => by
    have hc : c ≠ '_' := fun e => h (by simp [e])
    have ih := splitU_of_no_underscore cs (fun e => h (List.mem_cons_of_mem _ e))
    simp [splitU, hc, ih, consHead]

theorem flatMap_splitU_of_no_underscore : ∀ l : List Str, (∀ x ∈ l, '_' ∉ x) → l.flatMap splitU = l
  | [], _ => rfl
  | a :: r, h => by
    simp only [List.flatMap_cons, splitU_of_no_underscore a (h a (by simp)),
      flatMap_splitU_of_no_underscore r (fun x hx => h x (List.mem_cons_of_mem _ hx))]
    rfl

/-- The `_`-join that makes the C reference name is the `Short_M_m` of a type whose short name is the joined DSDL name:
it decodes like one (`shortVer_inj`). -/
theorem cJoin_shortVer (t : Ty) :
    joinWith ['_'] (t.ns ++ [shortVer t]) = shortVer ⟨[], joinWith ['_'] (t.ns ++ [t.short]), t.major, t.minor⟩ :=
  joinWith_snoc_append ..

theorem cJoin_eq_iff (t u : Ty) :
    joinWith ['_'] (t.ns ++ [shortVer t]) = joinWith ['_'] (u.ns ++ [shortVer u]) ↔
      cWords t = cWords u ∧ t.major = u.major ∧ t.minor = u.minor := by
  rw [cJoin_shortVer, cJoin_shortVer, cWords, cWords, ← joinU_eq_iff _ _ (by simp) (by simp)]
  exact ⟨shortVer_inj, fun ⟨h1, h2, h3⟩ => by simp only [shortVer, h1, h2, h3]⟩

def penult (s : Str) : Option Char :=
  match s.reverse with
  | _ :: x :: _ => some x
  | _ => none

theorem penult_append (a : Str) (x y : Char) : penult (a ++ [x, y]) = some x := by simp [penult]

theorem ne_of_penultimate {a b : Str} {x y : Char} (hxy : x ≠ y) (p q : Str) (ha : a = p ++ [x, '_']) (hb : b = q ++ [y, '_']) :
    a ≠ b := fun e =>
  hxy (Option.some.inj (penult_append p x '_' ▸ penult_append q y '_' ▸ ha ▸ hb ▸ congrArg penult e))

/-! Where a suffix has to be looked at character by character, `String.toList` of the literal is first rewritten to the
list of its characters (`String.toList_ofList`): evaluating it decodes the UTF-8 bytes, which costs far more than the
rest of the evaluation. -/

theorem penult_cap (f : Str) : penult (f ++ sCap) = some 'Y' := by
  unfold sCap lit penult
  rw [String.toList_ofList, List.reverse_append]
  rfl

theorem penult_isVar (f : Str) : penult (f ++ sIsVar) = some 'H' := by
  unfold sIsVar lit penult
  rw [String.toList_ofList, List.reverse_append]
  rfl

theorem cap_ne_isVar (f g : Str) : f ++ sCap ≠ g ++ sIsVar := fun e =>
  absurd (penult_cap f ▸ penult_isVar g ▸ congrArg penult e) (by decide)

theorem fixed_penult : ∀ s ∈ fixedSuffixes, penult s ≠ some 'Y' ∧ penult s ≠ some 'H' := by
  unfold fixedSuffixes sFullName sFullNameVer sExtent sBuffer sHasPort sPort sDisable sUnionCount lit
  repeat rw [String.toList_ofList]
  decide +kernel

theorem lit_inj {a b : String} : lit a = lit b ↔ a = b := by simp [lit, String.ext_iff]

theorem fixedSuffixes_nodup : fixedSuffixes.Nodup := by
  simp [fixedSuffixes, sFullName, sFullNameVer, sExtent, sBuffer, sHasPort, sPort, sDisable, sUnionCount, lit_inj]

def derived (l : List (Str × FKind)) : List Str := l.flatMap (fun f => [f.1 ++ sCap, f.1 ++ sIsVar])

theorem mem_derived {l : List (Str × FKind)} {x : Str} :
    x ∈ derived l ↔ ∃ f ∈ l, x = f.1 ++ sCap ∨ x = f.1 ++ sIsVar := by
  simp [derived, List.mem_flatMap]

theorem derived_penult {l : List (Str × FKind)} {x : Str} (h : x ∈ derived l) :
    penult x = some 'Y' ∨ penult x = some 'H' := by
  obtain ⟨f, _, hf | hf⟩ := mem_derived.1 h
  · exact Or.inl (hf ▸ penult_cap _)
  · exact Or.inr (hf ▸ penult_isVar _)

theorem derived_nodup (l : List (Str × FKind)) (h : (l.map (·.1)).Nodup) : (derived l).Nodup := by
  rw [derived, List.Nodup, List.pairwise_flatMap]
  refine ⟨fun f _ => List.pairwise_pair.2 (cap_ne_isVar _ _), (List.pairwise_map.1 h).imp ?_⟩
  intro f g hfg x hx y hy e
  simp only [List.mem_cons, List.not_mem_nil, or_false] at hx hy
  rcases hx with rfl | rfl <;> rcases hy with rfl | rfl
  · exact hfg (List.append_cancel_right e)
  · exact cap_ne_isVar _ _ e
  · exact cap_ne_isVar _ _ e.symm
  · exact hfg (List.append_cancel_right e)

theorem macroName_inj (ref : Str) {a b : Str} (h : macroName ref a = macroName ref b) : a = b := by
  simpa [macroName] using h

theorem fixed_not_derived {s : Str} (hs : s ∈ fixedSuffixes) (l : List (Str × FKind)) : s ∉ derived l := fun h =>
  (derived_penult h).elim (fixed_penult s hs).1 (fixed_penult s hs).2

theorem constsClear_iff (c : CompNames) :
    constsClear c = true ↔ ∀ k ∈ c.consts, k ∉ fixedSuffixes ∧ k ∉ derived (arrayFields c) := by
  simp only [constsClear, List.contains_eq_mem, ne_eq, decide_not, List.all_eq_true, Bool.and_eq_true,
    Bool.not_eq_eq_eq_not, Bool.not_true, decide_eq_false_iff_not, Prod.forall, mem_derived, Prod.exists,
    exists_and_right, not_exists, not_and, not_or, forall_exists_index]

theorem compSuffixSet_nodup (c : CompNames) (hnd : (c.fields.map (·.1) ++ c.consts).Nodup)
    (hclear : constsClear c = true) : (compSuffixSet c).Nodup := by
  obtain ⟨hf, hc, _⟩ := List.nodup_append.1 hnd
  have harr : ((arrayFields c).map (·.1)).Nodup := hf.sublist (List.filter_sublist.map _)
  have hclear := (constsClear_iff c).1 hclear
  show (fixedSuffixes ++ c.consts ++ derived (arrayFields c)).Nodup
  rw [List.nodup_append, List.nodup_append]
  refine ⟨⟨fixedSuffixes_nodup, hc, ?_⟩, derived_nodup _ harr, ?_⟩
  · rintro a ha _ hb rfl
    exact (hclear a hb).1 ha
  · rintro a ha _ hb rfl
    exact (List.mem_append.1 ha).elim (fixed_not_derived · _ hb) fun ha => (hclear a ha).2 hb

theorem arraySuffixes_sub (ovr : Bool) (f : Str × FKind) : ∀ x ∈ arraySuffixes ovr f,
    x = f.1 ++ sCap ∨ x = sDisable ∨ x = f.1 ++ sIsVar := by
  intro x hx
  simp only [arraySuffixes, List.mem_append, List.mem_singleton, List.mem_ite_nil_right] at hx
  rcases hx with (hx | ⟨_, hx⟩) | hx <;> simp [hx]

theorem compSuffixes_sub (ovr : Bool) (c : CompNames) : ∀ x ∈ compSuffixes ovr c, x ∈ compSuffixSet c := by
  intro x hx
  have harr := arraySuffixes_sub ovr
  simp only [compSuffixes, List.mem_append, List.mem_flatMap, List.mem_cons, List.not_mem_nil, or_false,
    List.mem_ite_nil_right] at hx
  simp only [compSuffixSet, fixedSuffixes, List.mem_append, List.mem_flatMap, List.mem_cons, List.not_mem_nil, or_false]
  -- every alternative of `hx` names its place in the goal
  grind

theorem portSuffixes_sub (fixedPort : Bool) (c : CompNames) :
    ∀ x ∈ (if fixedPort then [sHasPort, sPort] else [sHasPort]), x ∈ compSuffixSet c := by
  have h : sHasPort ∈ compSuffixSet c ∧ sPort ∈ compSuffixSet c := by
    simp only [compSuffixSet, fixedSuffixes, List.mem_append, List.mem_cons, true_or, or_true, and_self]
  cases fixedPort <;> simp [h]

theorem snake0_word : ∀ (a : Str), (∀ c ∈ a, isWordChar c = true) → ∀ rest, snake0 (a ++ rest) = a ++ snake0 rest
  | [], _, _ => rfl
  | c :: r, h, rest => by
    have hc := h c (by simp)
    have ih := snake0_word r (fun x hx => h x (List.mem_cons_of_mem _ hx)) rest
    simp [snake0, hc, ih]

theorem snake0_sep (c d : Char) (cs : Str) (hc : isWordChar c = false) (hd : isWordChar d = true) :
    snake0 (c :: d :: cs) = '_' :: snake0 (d :: cs) := by
  simp [snake0, hc, hd]

def WordComps (l : List Str) : Prop := ∀ x ∈ l, x ≠ [] ∧ ∀ c ∈ x, isWordChar c = true

theorem snake0_dotted : ∀ (l : List Str), WordComps l → snake0 (joinWith ['.'] l) = joinWith ['_'] l
  | [], _ => rfl
  | [a], hw => by
    have := snake0_word a (hw a (by simp)).2 []
    simpa [joinWith, snake0] using this
  | a :: b :: r, hw => by
    have hw' : WordComps (b :: r) := fun x hx => hw x (List.mem_cons_of_mem _ hx)
    have ih := snake0_dotted (b :: r) hw'
    obtain ⟨tail, hj⟩ := joinWith_cons_prefix ['.'] b r
    obtain ⟨hne, hb⟩ := hw' b (by simp)
    obtain ⟨d, cs, rfl⟩ := List.exists_cons_of_ne_nil hne
    rw [joinWith_cons_cons, joinWith_cons_cons, List.append_assoc, snake0_word a (hw a (by simp)).2]
    simp only [List.singleton_append]
    rw [hj, List.cons_append, snake0_sep '.' d _ (by decide) (hb d (by simp)), ← List.cons_append, ← hj, ih]
    simp

end NunavutVerif.Names
