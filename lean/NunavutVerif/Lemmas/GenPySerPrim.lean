import NunavutVerif.Lemmas.GenPyBits
import NunavutVerif.Lemmas.GenPyTy
import NunavutVerif.Lemmas.DsdlFloat
/-!
Each emitted call for a primitive field at an arbitrary offset and for the two bulk array paths appends exactly the bits
the specification prescribes (C14's Python contracts carried over to bit lists).
-/
namespace NunavutVerif.GenPy
open NunavutVerif.Dsdl
open NunavutVerif.Bits (Buf Err bitAt WF)
open NunavutVerif.Bits.Py

theorem storageBits_std {n : Nat} (h : n = 8 ∨ n = 16 ∨ n = 32 ∨ n = 64) : storageBits n = n := by
  rcases h with rfl | rfl | rfl | rfl <;> rfl

theorem appL_of_spec {s : Ser} {r : Except Err Ser} {n : Nat} {f : Nat → Bool} {bs : List Bool}
    (h : ∃ s', r = .ok s' ∧ Appends s s' n f) (hl : bs.length = n) (hf : ∀ i, i < n → f i = bitOf bs i) :
    ∃ s', lift r = .ok s' ∧ AppL s s' bs := by
  obtain ⟨s', h1, h2⟩ := h
  exact ⟨s', by rw [h1]; rfl, .of_appends h2 hl hf⟩

theorem appL_natToBits {s : Ser} {r : Except Err Ser} {n y : Nat} (h : ∃ s', r = .ok s' ∧ Appends s s' n y.testBit) :
    ∃ s', lift r = .ok s' ∧ AppL s s' (natToBits n y) :=
  appL_of_spec h (natToBits_length n y) fun _ hi => (bitOf_natToBits_of_lt y hi).symm

theorem intArg_unsigned (n : Nat) (m : Cast) {x : Int} (hx : 0 ≤ x) :
    0 ≤ intArg false n m x ∧ intArg false n m x ≤ x ∧
      natToBits n (intArg false n m x).toNat = natToBits n (castU n m x) := by
  cases m with
  | trunc => exact ⟨hx, Int.le_refl x, by rw [castU, toNat_emod_two_pow x hx, natToBits_mod]; rfl⟩
  | sat =>
    have hp : 1 ≤ 2 ^ n := Nat.pow_pos (by decide)
    have hc := two_pow_cast n
    simp only [intArg, PyObj.intHi, PyObj.intLo, castU, Bool.false_eq_true, if_false]
    refine ⟨by omega, by omega, congrArg _ ?_⟩
    split
    · omega
    · split <;> omega

theorem serInt_unsigned_spec (al : Bool) (n : Nat) (m : Cast) (s : Ser) (x : Int) (hinv : s.Inv)
    (hal : al = true → s.off % 8 = 0) (hn1 : 1 ≤ n) (hroom : Room s n)
    (hx0 : 0 ≤ x) (hx1 : x < (2 : Int) ^ storageBits n) :
    ∃ s', serInt al false n m s x = .ok s' ∧ AppL s s' (natToBits n (castU n m x)) := by
  obtain ⟨hy0, hyx, hbits⟩ := intArg_unsigned n m hx0
  rw [← hbits]
  simp only [serInt]
  generalize intArg false n m x = y at hy0 hyx ⊢
  rcases intPath_cases al n with ⟨hp, hstd, ha⟩ | ⟨hp, ha⟩ | hp <;> simp only [hp, Bool.false_eq_true, if_false]
  · exact appL_natToBits (addAlignedU_spec n s y (isStd_cases hstd) hinv (hal ha) hy0
      (fun h8 => Int.lt_of_le_of_lt hyx (by rw [h8] at hx1; exact hx1))
      (Nat.le_of_lt (hroom.bytes (Nat.mul_div_le n 8))))
  · exact appL_natToBits (addAlignedUnsigned_spec s y n hinv (hal ha) hy0 hn1 hroom.aligned)
  · exact appL_natToBits (addUnalignedUnsigned_spec s y n hinv hy0 hn1 hroom.unaligned)

theorem serInt_nat_spec (al : Bool) {W : Nat} (hW : W = 8 ∨ W = 16 ∨ W = 32 ∨ W = 64) (s : Ser) (k : Nat)
    (hinv : s.Inv) (hal : al = true → s.off % 8 = 0) (hroom : Room s W) (hk : k < 2 ^ W) :
    ∃ s', serInt al false W .trunc s (k : Int) = .ok s' ∧ AppL s s' (natToBits W k) := by
  have h := serInt_unsigned_spec al W .trunc s (k : Int) hinv hal (by omega) hroom (by omega) (by
    rw [storageBits_std hW]; exact_mod_cast hk)
  rwa [castU_of_lt .trunc hk] at h

theorem clamp_eq_clampS (n : Nat) (x : Int) :
    max (min x (PyObj.intHi true n)) (PyObj.intLo true n) = clampS n x := by
  have hp := two_pow_pos_int (n - 1)
  simp only [PyObj.intHi, PyObj.intLo, clampS, if_true]
  split
  · omega
  · split <;> omega

theorem twos_toNat {n : Nat} (hn : 1 ≤ n) {y : Int} (hlo : -((2 : Int) ^ (n - 1)) ≤ y) (hhi : y < (2 : Int) ^ (n - 1)) :
    (if y < 0 then (2 : Int) ^ n + y else y).toNat = (y % (2 : Int) ^ n).toNat := by
  have h2 := two_pow_pred_int _ hn
  have hp := two_pow_pos_int (n - 1)
  split
  · rw [← Int.add_emod_left, Int.emod_eq_of_lt (by omega) (by omega)]
  · rw [Int.emod_eq_of_lt (by omega) (by omega)]

theorem serInt_signed_spec (al : Bool) (n : Nat) (s : Ser) (x : Int) (hinv : s.Inv)
    (hal : al = true → s.off % 8 = 0) (hn1 : 2 ≤ n) (hn2 : n ≤ 64) (hroom : Room s n) :
    ∃ s', serInt al true n .sat s x = .ok s' ∧ AppL s s' (natToBits n (castS n .sat x)) := by
  have hr := clampS_range n x
  have h2 := two_pow_pred_int n (by omega)
  have hpp := two_pow_pos_int (n - 1)
  simp only [serInt, intArg, clamp_eq_clampS, castS]
  rw [← twos_toNat (by omega) hr.1 hr.2]
  rcases intPath_cases al n with ⟨hp, hstd, ha⟩ | ⟨hp, ha⟩ | hp <;> simp only [hp, if_true]
  · exact appL_natToBits (addAlignedI_spec n s (clampS n x) (isStd_cases hstd) hinv (hal ha) hr.1 hr.2
      (Nat.le_of_lt (hroom.bytes (Nat.mul_div_le n 8))))
  · exact appL_natToBits (addAlignedSigned_spec s (clampS n x) n hinv (hal ha) hn1 (by omega) hroom.aligned)
  · exact appL_natToBits (addUnalignedSigned_spec s (clampS n x) n hinv hn1 (by omega) hroom.unaligned)

theorem serBool_spec (s : Ser) (b : Bool) (hinv : s.Inv) (hroom : Room s 1) :
    ∃ s', lift (addUnalignedBit s b) = .ok s' ∧ AppL s s' [b] := by
  unfold Room at hroom
  refine appL_of_spec (addUnalignedBit_spec s b hinv (by omega)) rfl fun i hi => ?_
  rw [Nat.lt_one_iff.1 hi, bitOf_cons_zero]

theorem addBytes_spec (al : Bool) (s : Ser) (bytes : Buf) (hinv : s.Inv) (hal : al = true → s.off % 8 = 0)
    (hwf : WF bytes) (hfit : s.off / 8 + bytes.length < s.buf.length) {bs : List Bool}
    (hl : bs.length = 8 * bytes.length) (hb : ∀ i, i < 8 * bytes.length → bitAt bytes i = bitOf bs i) :
    ∃ s', lift (if al then addAlignedBytes s bytes else addUnalignedBytes s bytes) = .ok s' ∧ AppL s s' bs := by
  cases al with
  | true => exact appL_of_spec (addAlignedBytes_spec s _ hinv (hal rfl) hwf (Nat.le_of_lt hfit)) hl hb
  | false => exact appL_of_spec (addUnalignedBytes_spec s _ hinv hwf hfit) hl hb

theorem serFloat_spec (env : Env) (hf : FloatSound env) (al : Bool) (n : Nat) (m : Cast) (s : Ser) (x : Nat)
    (hinv : s.Inv) (hal : al = true → s.off % 8 = 0) (hn : n = 16 ∨ n = 32 ∨ n = 64) (hx : x < 2 ^ 64)
    (hroom : Room s n) :
    ∃ s', serFloat env al n m s x = .ok s' ∧ AppL s s' (natToBits n (narrow n m x)) := by
  obtain ⟨hlen, hwf, hbits⟩ := bytesLoop_spec (n / 8) (narrow n m x)
  have h8 : 8 * (n / 8) = n := by rcases hn with rfl | rfl | rfl <;> rfl
  simp only [serFloat, hf.wire n m x hn hx, bind, Except.bind]
  exact addBytes_spec al s _ hinv hal hwf (hroom.bytes (Nat.le_of_eq (hlen.symm ▸ h8)))
    (by rw [natToBits_length, hlen, h8]) fun i _ => by rw [hbits, bitOf_natToBits, h8]

theorem boolArray_bits : ∀ (vs : List Val), (∀ v ∈ vs, inDom true .bool v = true) →
    ∃ bits, vs.mapM asBool = some bits ∧ bits.length = vs.length ∧ serAllWith (serBits .bool) vs = .ok bits := by
  intro vs
  induction vs with
  | nil => intro _; exact ⟨[], rfl, rfl, rfl⟩
  | cons v vs ih =>
    intro h
    obtain ⟨bits, hb, hl, hs⟩ := ih fun w hw => h w (List.mem_cons_of_mem _ hw)
    have hv := h v List.mem_cons_self
    cases v with
    | bool b =>
      exact ⟨b :: bits, by rw [List.mapM_cons]; simp [asBool, hb], by simp [hl], by simp [serAllWith, serBits, hs]⟩
    | _ => simp [inDom] at hv

theorem serBitArray_spec (al : Bool) (s : Ser) (vs : List Val) (hinv : s.Inv) (hal : al = true → s.off % 8 = 0)
    (hdom : ∀ v ∈ vs, inDom true .bool v = true) (hroom : Room s vs.length) :
    ∃ bits, serAllWith (serBits .bool) vs = .ok bits ∧ ∃ s', serBitArray al s vs = .ok s' ∧ AppL s s' bits := by
  obtain ⟨bits, hb, hl, hs⟩ := boolArray_bits vs hdom
  refine ⟨bits, hs, ?_⟩
  simp only [serBitArray, hb]
  cases al with
  | true =>
    exact appL_of_spec (addAlignedArrayOfBits_spec s bits hinv (hal rfl) (hl ▸ hroom.aligned)) rfl fun _ _ => rfl
  | false => exact appL_of_spec (addUnalignedArrayOfBits_spec s bits hinv (hl ▸ hroom.unaligned)) rfl fun _ _ => rfl

theorem serStdArray_spec (env : Env) (hnp : NpSound env) (al : Bool) (t : Ty) (s : Ser) (vs : List Val)
    (hinv : s.Inv) (hal : al = true → s.off % 8 = 0) (hstd : isStdPrim t = true) (hw : wf t = true)
    (hdom : ∀ v ∈ vs, inDom true t v = true) (hroom : Room s (vs.length * primBits t)) :
    ∃ bits, serAllWith (serBits t) vs = .ok bits ∧ ∃ s', serStdArray env al t s vs = .ok s' ∧ AppL s s' bits := by
  obtain ⟨bytes, hv, hwf, hlen, hs⟩ := hnp.view t vs hstd hw hdom
  refine ⟨_, hs, ?_⟩
  simp only [serStdArray, hv]
  exact addBytes_spec al s bytes hinv hal hwf
    (hroom.bytes (k := bytes.length) (Nat.le_of_eq (by rw [hlen, Nat.mul_left_comm, (stdPrim_facts hstd hw).2.1])))
    (unpackBytes_length bytes)
    fun i _ => (bitOf_unpackBytes bytes i).symm

end NunavutVerif.GenPy
