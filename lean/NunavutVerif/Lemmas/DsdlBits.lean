import NunavutVerif.Model.Dsdl
import NunavutVerif.Lemmas.Core
namespace NunavutVerif.Dsdl

section
variable {P : Ty → Prop}
  (uint : ∀ n m, P (.uint n m)) (sint : ∀ n m, P (.sint n m)) (float : ∀ n m, P (.float n m))
  (bool : P .bool) (void : ∀ n, P (.void n))
  (arr : ∀ t n, P t → P (.arr t n)) (varr : ∀ t c, P t → P (.varr t c))
  (struct : ∀ fs, (∀ f ∈ fs, P f) → P (.struct fs))
  (union : ∀ fs, (∀ f ∈ fs, P f) → P (.union fs))
  (delim : ∀ e t, P t → P (.delim e t))
set_option linter.unusedSectionVars false
include uint sint float bool void arr varr struct union delim
mutual
theorem Ty.ind : ∀ t, P t
  | .uint n m => uint n m
  | .sint n m => sint n m
  | .float n m => float n m
  | .bool => bool
  | .void n => void n
  | .arr t n => arr t n (Ty.ind t)
  | .varr t c => varr t c (Ty.ind t)
  | .struct fs => struct fs (Ty.indList fs)
  | .union fs => union fs (Ty.indList fs)
  | .delim e t => delim e t (Ty.ind t)
theorem Ty.indList : ∀ fs : List Ty, ∀ f ∈ fs, P f
  | [], _, h => by cases h
  | g :: gs, f, h => by
    cases h with
    | head => exact Ty.ind g
    | tail _ h' => exact Ty.indList gs f h'
end
end

/-- `A` is a claim about every type, `F` one about the composite types, the ones that get a generated function of
their own (of any other type it has to hold for nothing, `fn`): a member of composite type is a call of that function
(`call`), and a delimited type wraps one (`delim`). -/
theorem Ty.ind_fn {A F : Ty → Prop} (fn : ∀ t, isComposite t = false → F t)
    (uint : ∀ n m, A (.uint n m)) (sint : ∀ n m, A (.sint n m)) (float : ∀ n m, A (.float n m))
    (bool : A .bool) (void : ∀ n, A (.void n))
    (arr : ∀ t n, A t → A (.arr t n)) (varr : ∀ t c, A t → A (.varr t c))
    (struct : ∀ fs, (∀ f ∈ fs, A f) → F (.struct fs)) (union : ∀ fs, (∀ f ∈ fs, A f) → F (.union fs))
    (call : ∀ t, isComposite t = true → F t → A t) (delim : ∀ e t, F t → A (.delim e t)) (t : Ty) : A t ∧ F t :=
  Ty.ind (P := fun t => A t ∧ F t) (fun n m => ⟨uint n m, fn _ rfl⟩) (fun n m => ⟨sint n m, fn _ rfl⟩)
    (fun n m => ⟨float n m, fn _ rfl⟩) ⟨bool, fn _ rfl⟩ (fun n => ⟨void n, fn _ rfl⟩)
    (fun t n ih => ⟨arr t n ih.1, fn _ rfl⟩) (fun t c ih => ⟨varr t c ih.1, fn _ rfl⟩)
    (fun fs ih => (fun h => ⟨call _ rfl h, h⟩) (struct fs fun f hf => (ih f hf).1))
    (fun fs ih => (fun h => ⟨call _ rfl h, h⟩) (union fs fun f hf => (ih f hf).1))
    (fun e t ih => ⟨delim e t ih.2, fn _ rfl⟩) t

theorem wf_sint {n : Nat} {m : Cast} (h : wf (.sint n m) = true) : 1 ≤ n ∧ n ≤ 64 :=
  of_decide_eq_true h

theorem wf_float {n : Nat} {m : Cast} (h : wf (.float n m) = true) : n = 16 ∨ n = 32 ∨ n = 64 :=
  of_decide_eq_true h

theorem wf_varr {t : Ty} {cap : Nat} (h : wf (.varr t cap) = true) : cap < 2 ^ 64 ∧ wf t = true := by
  obtain ⟨h1, h2⟩ := Bool.and_eq_true_iff.1 h
  exact ⟨of_decide_eq_true h1, h2⟩

theorem wf_union {fs : List Ty} (h : wf (.union fs) = true) :
    (1 ≤ fs.length ∧ fs.length ≤ 2 ^ 64) ∧ wfAll fs = true := by
  obtain ⟨h1, h2⟩ := Bool.and_eq_true_iff.1 h
  exact ⟨of_decide_eq_true h1, h2⟩

theorem wf_delim {e : Nat} {t : Ty} (h : wf (.delim e t) = true) :
    (isComposite t = true ∧ e % 8 = 0 ∧ maxBits t ≤ e ∧ e < 8 * 2 ^ 32) ∧ wf t = true := by
  obtain ⟨h1, h2⟩ := Bool.and_eq_true_iff.1 h
  obtain ⟨h3, h4⟩ := Bool.and_eq_true_iff.1 h1
  exact ⟨⟨h3, of_decide_eq_true h4⟩, h2⟩

theorem wfAll_cons {f : Ty} {fs : List Ty} (h : wfAll (f :: fs) = true) : wf f = true ∧ wfAll fs = true :=
  Bool.and_eq_true_iff.1 h

theorem wfAll_mem {fs : List Ty} (h : wfAll fs = true) : ∀ f ∈ fs, wf f = true := by
  induction fs with
  | nil => intro f hf; cases hf
  | cons g gs ih =>
    replace h := wfAll_cons h
    exact List.forall_mem_cons.2 ⟨h.1, ih h.2⟩

theorem forall_mem_of_wfAll {P : Ty → Prop} {fs : List Ty} (ih : ∀ f ∈ fs, wf f = true → P f)
    (hw : wfAll fs = true) : ∀ f ∈ fs, P f :=
  fun f hf => ih f hf (wfAll_mem hw f hf)

theorem nth_eq {α : Sort _} {F : List Ty → Nat → α} {G : Ty → α} (h0 : ∀ f fs, F (f :: fs) 0 = G f)
    (hs : ∀ f fs k, F (f :: fs) (k + 1) = F fs k) {fs : List Ty} {k : Nat} (hk : k < fs.length) :
    F fs k = G fs[k] := by
  induction fs generalizing k with
  | nil => cases hk
  | cons f fs ih =>
    cases k with
    | zero => exact h0 f fs
    | succ k => exact (hs f fs k).trans (ih (Nat.lt_of_succ_lt_succ hk))

theorem serNth_eq {fs : List Ty} {k : Nat} (hk : k < fs.length) : serNth fs k = serBits fs[k] :=
  nth_eq (fun _ _ => rfl) (fun _ _ _ => rfl) hk

theorem deNth_eq {fs : List Ty} {k : Nat} (hk : k < fs.length) : deNth fs k = deBits fs[k] :=
  nth_eq (fun _ _ => rfl) (fun _ _ _ => rfl) hk

theorem hasTyNth_eq {fs : List Ty} {k : Nat} (hk : k < fs.length) : hasTyNth fs k = hasTy fs[k] :=
  nth_eq (fun _ _ => rfl) (fun _ _ _ => rfl) hk

theorem adjNth_eq {fs : List Ty} {k : Nat} (hk : k < fs.length) : adjNth fs k = castAdjust fs[k] :=
  nth_eq (fun _ _ => rfl) (fun _ _ _ => rfl) hk

theorem adjNth_of_le {fs : List Ty} {k : Nat} (hk : fs.length ≤ k) : adjNth fs k = fun v => v := by
  induction fs generalizing k with
  | nil => rfl
  | cons f fs ih =>
    cases k with
    | zero => cases hk
    | succ k => exact ih (Nat.le_of_succ_le_succ hk)

theorem serNth_ge : ∀ (fs : List Ty) (k : Nat) (v : Val), fs.length ≤ k → serNth fs k v = .error .badUnionTag
  | [], _, _, _ => rfl
  | _ :: fs, k + 1, v, h => serNth_ge fs k v (Nat.le_of_succ_le_succ h)

theorem deNth_ge : ∀ (fs : List Ty) (k : Nat) (bs : List Bool), fs.length ≤ k → deNth fs k bs = .error .badUnionTag
  | [], _, _, _ => rfl
  | _ :: fs, k + 1, bs, h => deNth_ge fs k bs (Nat.le_of_succ_le_succ h)

/-- The types that get a generated function, and the objects of such a type. -/
theorem hasTy_composite {t : Ty} {v : Val} (hc : isComposite t = true) (ht : hasTy t v = true) :
    (∃ fs vs, t = .struct fs ∧ v = .struct vs) ∨ ∃ fs k x, t = .union fs ∧ v = .union k x := by
  cases t with
  | struct fs => cases v with | struct vs => exact .inl ⟨fs, vs, rfl, rfl⟩ | _ => cases ht
  | union fs => cases v with | union k x => exact .inr ⟨fs, k, x, rfl, rfl⟩ | _ => cases ht
  | _ => cases hc

@[simp] theorem natToBits_length (n x : Nat) : (natToBits n x).length = n := by
  induction n generalizing x with
  | zero => rfl
  | succ n ih => simp [natToBits, ih]

theorem zeros_zero : zeros 0 = [] := rfl

@[simp] theorem zeros_length (k : Nat) : (zeros k).length = k := by simp [zeros]

theorem bitsToNat_lt (bs : List Bool) : bitsToNat bs < 2 ^ bs.length := by
  induction bs with
  | nil => simp [bitsToNat]
  | cons b bs ih =>
    simp only [bitsToNat, List.length_cons, Nat.pow_succ]
    cases b <;> simp <;> omega

theorem bitsToNat_cons_mod (b : Bool) (bs : List Bool) : bitsToNat (b :: bs) % 2 = b.toNat := by
  rw [bitsToNat, Nat.add_mul_mod_self_left]
  cases b <;> rfl

theorem bitsToNat_cons_div (b : Bool) (bs : List Bool) : bitsToNat (b :: bs) / 2 = bitsToNat bs := by
  rw [bitsToNat, Nat.add_mul_div_left _ _ (by decide : 0 < 2)]
  cases b <;> exact Nat.zero_add _

theorem bitsToNat_natToBits (n x : Nat) : bitsToNat (natToBits n x) = x % 2 ^ n := by
  induction n generalizing x with
  | zero => simp [natToBits, bitsToNat, Nat.mod_one]
  | succ n ih =>
    simp only [natToBits, bitsToNat, ih, Nat.pow_succ']
    rw [Nat.mod_mul]
    have h : x % 2 = 0 ∨ x % 2 = 1 := by omega
    rcases h with h | h <;> simp [h]

theorem bitsToNat_append (a b : List Bool) :
    bitsToNat (a ++ b) = bitsToNat a + 2 ^ a.length * bitsToNat b := by
  induction a with
  | nil => simp [bitsToNat]
  | cons x a ih =>
    simp only [List.cons_append, bitsToNat, ih, List.length_cons, Nat.pow_succ']
    rw [Nat.mul_add, Nat.mul_assoc, Nat.add_assoc]

@[simp] theorem bitsToNat_zeros (k : Nat) : bitsToNat (zeros k) = 0 := by
  induction k with
  | zero => rfl
  | succ k ih =>
    show false.toNat + 2 * bitsToNat (zeros k) = 0
    rw [ih]
    rfl

theorem natToBits_mod (n x : Nat) : natToBits n (x % 2 ^ n) = natToBits n x := by
  induction n generalizing x with
  | zero => rfl
  | succ n ih =>
    simp only [natToBits]
    have h1 : x % 2 ^ (n + 1) % 2 = x % 2 := by
      rw [Nat.pow_succ']; exact Nat.mod_mul_right_mod x 2 (2 ^ n)
    have h2 : x % 2 ^ (n + 1) / 2 = (x / 2) % 2 ^ n := by
      rw [Nat.pow_succ', Nat.mod_mul_right_div_self]
    rw [h1, h2, ih]

theorem readNat_lt (n : Nat) (bs : List Bool) : readNat n bs < 2 ^ n := by
  unfold readNat
  exact Nat.lt_of_lt_of_le (bitsToNat_lt (bs.take n))
    (Nat.pow_le_pow_right (by decide) (List.length_take_le n bs))

theorem readNat_natToBits_append (n x : Nat) (rest : List Bool) :
    readNat n (natToBits n x ++ rest) = x % 2 ^ n := by
  unfold readNat
  rw [List.take_left' (natToBits_length n x), bitsToNat_natToBits]

theorem readNat_of_lt {n x : Nat} (h : x < 2 ^ n) (rest : List Bool) :
    readNat n (natToBits n x ++ rest) = x := by
  rw [readNat_natToBits_append, Nat.mod_eq_of_lt h]

theorem take_append_zeros (n k : Nat) (bs : List Bool) :
    ∃ j, (bs ++ zeros k).take n = bs.take n ++ zeros j := by
  refine ⟨min (n - bs.length) k, ?_⟩
  rw [List.take_append]
  simp [zeros, List.take_replicate]

theorem drop_append_zeros (n k : Nat) (bs : List Bool) :
    ∃ j, (bs ++ zeros k).drop n = bs.drop n ++ zeros j := by
  refine ⟨k - (n - bs.length), ?_⟩
  rw [List.drop_append]
  simp [zeros, List.drop_replicate]

theorem readNat_append_zeros (n k : Nat) (bs : List Bool) :
    readNat n (bs ++ zeros k) = readNat n bs := by
  unfold readNat
  obtain ⟨j, hj⟩ := take_append_zeros n k bs
  rw [hj, bitsToNat_append]; simp

theorem align_cases : ∀ t : Ty, align t = 1 ∨ align t = 8
  | .arr t _ | .varr t _ => align_cases t
  | .struct _ | .union _ | .delim _ _ => .inr rfl
  | .uint _ _ | .sint _ _ | .float _ _ | .bool | .void _ => .inl rfl

theorem align_mod_of_mod8 (t : Ty) {x : Nat} (h : x % 8 = 0) : x % align t = 0 := by
  rcases align_cases t with e | e <;> rw [e]
  · exact Nat.mod_one _
  · exact h

@[simp] theorem padLen_one (off : Nat) : padLen 1 off = 0 := by simp [padLen, Nat.mod_one]

theorem padTo_one (x : Nat) : padTo 1 x = x := by rw [padTo, padLen_one, Nat.add_zero]

theorem padLen_eight (off : Nat) : padLen 8 off = (8 - off % 8) % 8 := rfl

theorem padTo_eight (x : Nat) : padTo 8 x = (x + 7) / 8 * 8 := by
  simp only [padTo, padLen]; omega

theorem padTo_mono {a : Nat} (ha : a = 1 ∨ a = 8) {x y : Nat} (h : x ≤ y) : padTo a x ≤ padTo a y := by
  rcases ha with rfl | rfl
  · rwa [padTo_one, padTo_one]
  · rw [padTo_eight, padTo_eight]
    exact Nat.mul_le_mul_right 8 (Nat.div_le_div_right (Nat.add_le_add_right h 7))

theorem padTo_ge (a x : Nat) : x ≤ padTo a x := by simp [padTo]

theorem padTo_mod {a : Nat} (ha : a = 1 ∨ a = 8) (x : Nat) : padTo a x % a = 0 := by
  rcases ha with rfl | rfl
  · exact Nat.mod_one _
  · rw [padTo_eight]; exact Nat.mul_mod_left ..

theorem padLen_of_mod {a : Nat} (ha : a = 1 ∨ a = 8) {x : Nat} (h : x % a = 0) : padLen a x = 0 := by
  rcases ha with rfl | rfl
  · exact padLen_one x
  · simp only [padLen, h]

theorem padLen_add_base {a : Nat} (ha : a = 1 ∨ a = 8) {base : Nat} (hb : base % 8 = 0) (off : Nat) :
    padLen a (base + off) = padLen a off := by
  rcases ha with rfl | rfl
  · simp only [padLen, Nat.mod_one]
  · simp only [padLen, Nat.add_mod base off 8, hb, Nat.zero_add, Nat.mod_mod]

theorem stdWidth_cases (x : Nat) :
    stdWidth x = 8 ∨ stdWidth x = 16 ∨ stdWidth x = 32 ∨ stdWidth x = 64 := by
  unfold stdWidth; repeat' split
  all_goals simp

theorem stdWidth_bounds (x : Nat) : 8 ≤ stdWidth x ∧ stdWidth x ≤ 64 ∧ stdWidth x % 8 = 0 := by
  rcases stdWidth_cases x with h | h | h | h <;> rw [h] <;> decide

theorem stdWidth_mod8 (x : Nat) : stdWidth x % 8 = 0 := (stdWidth_bounds x).2.2

theorem lt_two_pow_stdWidth {x : Nat} (h : x < 2 ^ 64) : x < 2 ^ stdWidth x := by
  unfold stdWidth
  split
  · assumption
  · split
    · assumption
    · split <;> assumption

theorem toNat_emod_two_pow (x : Int) (hx : 0 ≤ x) (n : Nat) : (x % (2 : Int) ^ n).toNat = x.toNat % 2 ^ n := by
  obtain ⟨k, rfl⟩ := Int.eq_ofNat_of_zero_le hx
  have : ((k : Int) % (2 : Int) ^ n) = ((k % 2 ^ n : Nat) : Int) := by simp
  rw [this]; exact Int.toNat_natCast _

/-- the two's complement pattern of `z` in `n` bits: what `castU` and `castS` end in, and what a C conversion to an
unsigned type of that width keeps -/
def lowBits (n : Nat) (z : Int) : Nat := (z % (2 : Int) ^ n).toNat

theorem lowBits_lt (n : Nat) (z : Int) : lowBits n z < 2 ^ n := by
  have h1 := Int.emod_lt_of_pos z (two_pow_pos_int n)
  have h0 := Int.emod_nonneg z (Int.ne_of_gt (two_pow_pos_int n))
  have hc := two_pow_cast n
  unfold lowBits
  omega

theorem lowBits_mod {n k : Nat} (h : n ≤ k) (z : Int) : lowBits k z % 2 ^ n = lowBits n z := by
  unfold lowBits
  rw [← toNat_emod_two_pow _ (Int.emod_nonneg z (Int.ne_of_gt (two_pow_pos_int k))),
    Int.emod_emod_of_dvd z ⟨(2 : Int) ^ (k - n), by rw [← Int.pow_add, Nat.add_sub_cancel' h]⟩]

theorem testBit_lowBits {n k i : Nat} (h : n ≤ k) (hi : i < n) (z : Int) :
    (lowBits k z).testBit i = (lowBits n z).testBit i := by
  rw [← lowBits_mod h z, Nat.testBit_mod_two_pow]
  simp [hi]

theorem lowBits_natCast (n x : Nat) : lowBits n (x : Int) = x % 2 ^ n := by
  rw [lowBits, toNat_emod_two_pow _ (Int.natCast_nonneg x), Int.toNat_natCast]

theorem lowBits_of_range {n : Nat} {z : Int} (h0 : 0 ≤ z) (h1 : z < (2 : Int) ^ n) : lowBits n z = z.toNat := by
  unfold lowBits
  rw [Int.emod_eq_of_lt h0 h1]

theorem castU_lt (n : Nat) (m : Cast) (i : Int) : castU n m i < 2 ^ n := by
  cases m with
  | sat =>
    have hp : 0 < 2 ^ n := Nat.pow_pos (by decide)
    have hc := two_pow_cast n
    simp only [castU]
    split
    · exact hp
    · split <;> omega
  | trunc => exact lowBits_lt n i

theorem castU_of_lt {n : Nat} (m : Cast) {x : Nat} (h : x < 2 ^ n) : castU n m (x : Int) = x := by
  have hc := two_pow_cast n
  cases m with
  | sat => simp only [castU]; rw [if_neg (by omega), if_neg (by omega)]; rfl
  | trunc => exact (lowBits_natCast n x).trans (Nat.mod_eq_of_lt h)

theorem castU_idem (n : Nat) (m : Cast) (i : Int) : castU n m (castU n m i : Int) = castU n m i :=
  castU_of_lt m (castU_lt n m i)

theorem castS_lt (n : Nat) (m : Cast) (i : Int) : castS n m i < 2 ^ n := by
  cases m <;> exact lowBits_lt n _

theorem clampS_range (n : Nat) (x : Int) :
    -((2 : Int) ^ (n - 1)) ≤ clampS n x ∧ clampS n x < (2 : Int) ^ (n - 1) := by
  have hp := two_pow_pos_int (n - 1)
  unfold clampS; split
  · omega
  · split <;> omega

theorem clampS_of_range {n : Nat} {x : Int} (h0 : -((2 : Int) ^ (n - 1)) ≤ x) (h1 : x < (2 : Int) ^ (n - 1)) :
    clampS n x = x := by
  unfold clampS
  rw [if_neg (by omega), if_neg (by omega)]

theorem signExtend_range {n : Nat} (hn : 1 ≤ n) {w : Nat} (h : w < 2 ^ n) :
    -((2 : Int) ^ (n - 1)) ≤ signExtend n w ∧ signExtend n w < (2 : Int) ^ (n - 1) := by
  have hc := two_pow_cast n
  have hc1 := two_pow_cast (n - 1)
  have h2 := two_pow_pred_int _ hn
  unfold signExtend
  split <;> omega

theorem signExtend_emod {n w : Nat} (h : w < 2 ^ n) :
    signExtend n w % (2 : Int) ^ n = w := by
  have hc := two_pow_cast n
  unfold signExtend
  split
  · exact Int.emod_eq_of_lt (by omega) (by omega)
  · have : (w : Int) - (2 : Int) ^ n = w + (-1) * (2 : Int) ^ n := by omega
    rw [this, Int.add_mul_emod_self_right]
    exact Int.emod_eq_of_lt (by omega) (by omega)

theorem lowBits_signExtend {n w : Nat} (h : w < 2 ^ n) : lowBits n (signExtend n w) = w := by
  rw [lowBits, signExtend_emod h, Int.toNat_natCast]

theorem castS_signExtend {n : Nat} (hn : 1 ≤ n) (m : Cast) {w : Nat} (h : w < 2 ^ n) :
    castS n m (signExtend n w) = w := by
  cases m with
  | sat =>
    have hr := signExtend_range hn h
    exact (congrArg (lowBits n) (clampS_of_range hr.1 hr.2)).trans (lowBits_signExtend h)
  | trunc => exact lowBits_signExtend h

theorem castS_idem {n : Nat} (hn : 1 ≤ n) (m : Cast) (i : Int) :
    castS n m (signExtend n (castS n m i)) = castS n m i :=
  castS_signExtend hn m (castS_lt n m i)

/-! The equation lemmas of the model's recursive functions are derived here, once: a module that unfolds one of them by
`simp`, `rw` or `unfold` and finds no equation lemmas in its imports derives its own, and then pays for them at every
use. -/

attribute [local simp] natToBits bitsToNat packBytes unpackBytes align maxBits maxFields maxOpts minBits
  minFields minOpts hasTy hasTyFields hasTyNth castAdjust adjFields adjNth serAllWith serBits serFields serNth
  deAllWith deBits deFields deNth wf wfAll

theorem serAllWith_cons_ok {g : Val → Except SerErr (List Bool)} {v : Val} {vs : List Val}
    {bs : List Bool} (h : serAllWith g (v :: vs) = .ok bs) :
    ∃ a b, g v = .ok a ∧ serAllWith g vs = .ok b ∧ bs = a ++ b := by
  dsimp only [serAllWith] at h
  split at h
  · cases h
  · split at h
    · cases h
    · cases h; exact ⟨_, _, ‹_›, ‹_›, rfl⟩

theorem serAll_triv {t : Ty} (h : ∀ v, hasTy t v = true → serBits t v = .ok []) :
    ∀ vs : List Val, vs.all (hasTy t) = true → serAllWith (serBits t) vs = .ok [] := by
  intro vs
  induction vs with
  | nil => intro _; rfl
  | cons v vs ih =>
    intro hv
    simp only [List.all_cons, Bool.and_eq_true] at hv
    simp [serAllWith, h v hv.1, ih hv.2]

theorem serFields_cons_ok {f : Ty} {fs : List Ty} {vs : List Val} {off : Nat} {bs : List Bool}
    (h : serFields (f :: fs) vs off = .ok bs) :
    ∃ v vs' a b, vs = v :: vs' ∧ serBits f v = .ok a ∧
      serFields fs vs' (padTo (align f) off + a.length) = .ok b ∧
      bs = zeros (padLen (align f) off) ++ a ++ b := by
  cases vs with
  | nil => cases h
  | cons v vs' =>
    dsimp only [serFields] at h
    split at h
    · cases h
    · split at h
      · cases h
      · cases h; exact ⟨_, _, _, _, rfl, ‹_›, ‹_›, rfl⟩

theorem serBits_arr_ok {t : Ty} {n : Nat} {v : Val} {bs : List Bool} (h : serBits (.arr t n) v = .ok bs) :
    ∃ vs, v = .arr vs ∧ vs.length = n ∧ serAllWith (serBits t) vs = .ok bs := by
  cases v with
  | arr vs =>
    dsimp only [serBits] at h
    split at h
    · exact ⟨vs, rfl, ‹_›, h⟩
    · cases h
  | _ => cases h

theorem serBits_varr_ok {t : Ty} {cap : Nat} {v : Val} {bs : List Bool} (h : serBits (.varr t cap) v = .ok bs) :
    ∃ vs b, v = .arr vs ∧ vs.length ≤ cap ∧ serAllWith (serBits t) vs = .ok b ∧
      bs = natToBits (prefixBits cap) vs.length ++ b := by
  cases v with
  | arr vs =>
    dsimp only [serBits] at h
    split at h
    · cases h
    · obtain ⟨b, hb, rfl⟩ := map_eq_ok.1 h
      exact ⟨vs, b, rfl, Nat.not_lt.1 ‹_›, hb, rfl⟩
  | _ => cases h

theorem serBits_struct_ok {fs : List Ty} {v : Val} {bs : List Bool} (h : serBits (.struct fs) v = .ok bs) :
    ∃ vs b, v = .struct vs ∧ serFields fs vs 0 = .ok b ∧ bs = b ++ zeros (padLen 8 b.length) := by
  cases v with
  | struct vs =>
    dsimp only [serBits] at h
    obtain ⟨b, hb, rfl⟩ := map_eq_ok.1 h
    exact ⟨vs, b, rfl, hb, rfl⟩
  | _ => cases h

theorem serBits_union_ok {fs : List Ty} {v : Val} {bs : List Bool} (h : serBits (.union fs) v = .ok bs) :
    ∃ k u b, ∃ hk : k < fs.length, v = .union k u ∧ serBits fs[k] u = .ok b ∧
      bs = natToBits (tagBits fs.length) k ++ b ++
        zeros (padLen 8 (natToBits (tagBits fs.length) k ++ b).length) := by
  cases v with
  | union k u =>
    dsimp only [serBits] at h
    split at h
    · cases h
    · have hk := Nat.not_le.1 ‹_›
      obtain ⟨b, hb, rfl⟩ := map_eq_ok.1 h
      exact ⟨k, u, b, hk, rfl, serNth_eq hk ▸ hb, rfl⟩
  | _ => cases h

theorem serBits_delim_ok {e : Nat} {t : Ty} {v : Val} {bs : List Bool} (h : serBits (.delim e t) v = .ok bs) :
    ∃ b, serBits t v = .ok b ∧ bs = natToBits headerBits (b.length / 8) ++ b := by
  dsimp only [serBits] at h
  obtain ⟨b, hb, rfl⟩ := map_eq_ok.1 h
  exact ⟨b, hb, rfl⟩

theorem deAllWith_succ_ok {g : List Bool → Except DeErr (Val × Nat)} {c : Nat} {bs : List Bool}
    {vs : List Val} {n : Nat} (h : deAllWith g (c + 1) bs = .ok (vs, n)) :
    ∃ v n₁ vs' m, g bs = .ok (v, n₁) ∧ deAllWith g c (bs.drop n₁) = .ok (vs', m) ∧
      vs = v :: vs' ∧ n = n₁ + m := by
  dsimp only [deAllWith] at h
  split at h
  · cases h
  · split at h
    · cases h
    · cases h; exact ⟨_, _, _, _, ‹_›, ‹_›, rfl, rfl⟩

theorem deFields_cons_ok {f : Ty} {fs : List Ty} {bs : List Bool} {off e : Nat} {vs : List Val}
    (h : deFields (f :: fs) bs off = .ok (vs, e)) :
    ∃ v n vs', deBits f (bs.drop (padTo (align f) off)) = .ok (v, n) ∧
      deFields fs bs (padTo (align f) off + n) = .ok (vs', e) ∧ vs = v :: vs' := by
  dsimp only [deFields] at h
  split at h
  · cases h
  · split at h
    · cases h
    · cases h; exact ⟨_, _, _, ‹_›, ‹_›, rfl⟩

theorem deBits_arr_ok {t : Ty} {n c : Nat} {bs : List Bool} {v : Val}
    (h : deBits (.arr t n) bs = .ok (v, c)) :
    ∃ vs, deAllWith (deBits t) n bs = .ok (vs, c) ∧ v = .arr vs := by
  dsimp only [deBits] at h
  split at h
  · cases h
  · cases h; exact ⟨_, ‹_›, rfl⟩

theorem deBits_varr_ok {t : Ty} {cap c : Nat} {bs : List Bool} {v : Val}
    (h : deBits (.varr t cap) bs = .ok (v, c)) :
    ¬ readNat (prefixBits cap) bs > cap ∧ ∃ vs used,
      deAllWith (deBits t) (readNat (prefixBits cap) bs) (bs.drop (prefixBits cap)) = .ok (vs, used) ∧
      v = .arr vs ∧ c = prefixBits cap + used := by
  dsimp only [deBits] at h
  split at h
  · cases h
  · split at h
    · cases h
    · cases h; exact ⟨‹_›, _, _, ‹_›, rfl, rfl⟩

theorem deBits_struct_ok {fs : List Ty} {c : Nat} {bs : List Bool} {v : Val}
    (h : deBits (.struct fs) bs = .ok (v, c)) :
    ∃ vs off, deFields fs bs 0 = .ok (vs, off) ∧ v = .struct vs ∧ c = padTo 8 off := by
  dsimp only [deBits] at h
  split at h
  · cases h
  · cases h; exact ⟨_, _, ‹_›, rfl, rfl⟩

theorem deBits_union_ok {fs : List Ty} {c : Nat} {bs : List Bool} {v : Val}
    (h : deBits (.union fs) bs = .ok (v, c)) :
    ∃ (hk : readNat (tagBits fs.length) bs < fs.length) (v' : Val) (used : Nat),
      deBits fs[readNat (tagBits fs.length) bs] (bs.drop (tagBits fs.length)) = .ok (v', used) ∧
      v = .union (readNat (tagBits fs.length) bs) v' ∧ c = padTo 8 (tagBits fs.length + used) := by
  dsimp only [deBits] at h
  split at h
  · cases h
  · have hk := Nat.not_le.1 ‹_›
    split at h
    · cases h
    · cases h; exact ⟨hk, _, _, deNth_eq hk ▸ ‹_›, rfl, rfl⟩

theorem deBits_delim_ok {ext : Nat} {t : Ty} {c : Nat} {bs : List Bool} {v : Val}
    (h : deBits (.delim ext t) bs = .ok (v, c)) :
    ¬ 8 * readNat headerBits bs > (bs.drop headerBits).length ∧ ∃ used,
      deBits t ((bs.drop headerBits).take (8 * readNat headerBits bs)) = .ok (v, used) ∧
      c = headerBits + 8 * readNat headerBits bs := by
  dsimp only [deBits] at h
  split at h
  · cases h
  · split at h
    · cases h
    · cases h; exact ⟨‹_›, _, ‹_›, rfl⟩

/-! The same equations in the shape the refinement proofs of the generated functions read them in: a composite as its
body followed by the padding to whole bytes, a field list as head, rest, and the padding in front. -/

theorem serFields_cons (f : Ty) (fs : List Ty) (v : Val) (vs : List Val) (off : Nat) :
    serFields (f :: fs) (v :: vs) off =
      ((match serBits f v with
        | .error e => .error e
        | .ok a => match serFields fs vs (padTo (align f) off + a.length) with
          | .error e => .error e
          | .ok b => .ok (a ++ b) : Except SerErr (List Bool))).map (zeros (padLen (align f) off) ++ ·) := by
  rw [serFields]
  cases serBits f v with
  | error e => rfl
  | ok a =>
    dsimp only
    cases serFields fs vs (padTo (align f) off + a.length) with
    | error e => rfl
    | ok b => simp only [Except.map, List.append_assoc]

/-- The range check of the tag is left to `serNth`, which falls off the end of the options as the emitted `if` chain does. -/
theorem serBits_union_nth (fs : List Ty) (k : Nat) (v : Val) :
    serBits (.union fs) (.union k v) =
      ((serNth fs k v).map (natToBits (tagBits fs.length) k ++ ·)).map
        fun bs => bs ++ zeros (padLen 8 bs.length) := by
  rw [serBits]
  by_cases hk : k ≥ fs.length
  · rw [if_pos hk, serNth_ge fs k v hk]
    rfl
  · rw [if_neg hk]
    cases serNth fs k v <;> rfl

/-- The specification of a structure and of a union with the padding to whole bytes outermost, as in the skeleton of a
generated function. -/
theorem deBits_struct_body (fs : List Ty) (bs : List Bool) :
    deBits (.struct fs) bs =
      match (match deFields fs bs 0 with
        | .ok (vs, off) => (.ok (.struct vs, off) : Except DeErr (Val × Nat))
        | .error e => .error e) with
      | .ok (v, off) => .ok (v, padTo 8 off)
      | .error e => .error e := by
  simp only [deBits]
  cases deFields fs bs 0 <;> rfl

/-- The range check of the tag is left to `deNth`, which falls off the end of the options as the emitted `if` chain does. -/
theorem deBits_union_nth (fs : List Ty) (bs : List Bool) :
    deBits (.union fs) bs =
      match (match deNth fs (readNat (tagBits fs.length) bs) (bs.drop (tagBits fs.length)) with
          | .error e => (.error e : Except DeErr (Val × Nat))
          | .ok (v, used) => .ok (.union (readNat (tagBits fs.length) bs) v, tagBits fs.length + used)) with
      | .ok (v, off) => .ok (v, padTo 8 off)
      | .error e => .error e := by
  simp only [deBits]
  split
  · rw [deNth_ge fs _ _ ‹_›]
  · cases deNth fs (readNat (tagBits fs.length) bs) (bs.drop (tagBits fs.length)) <;> rfl

end NunavutVerif.Dsdl
