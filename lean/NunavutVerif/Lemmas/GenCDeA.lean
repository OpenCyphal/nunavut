import NunavutVerif.Lemmas.GenCDePrim
import NunavutVerif.Lemmas.DsdlDecode
/-!
The judgement `DeRefines` (a site of the generated C deserializer computes what the specification says) with its
eliminator, the contract `DeFnOK` of a generated function, and the structural pieces: nested calls on sub-buffers with the
remaining size, delimiter header check, the function skeleton with `min(offset, capacity) / 8`, the bulk array paths
(`nunavutGetBits` into the member array), data-free types.
-/
namespace NunavutVerif.GenC
open NunavutVerif.Dsdl NunavutVerif.Bits
open NunavutVerif.Bits.Py (bitOf bitOf_drop)
open AOff

def embedD : DeErr → Err
  | .badArrayLength => eBadArrayLength
  | .badUnionTag => eBadUnionTag
  | .badDelimiterHeader => eBadDelimiterHeader

/-- `r` (a site of the generated code at `offset_bits = off`, `capacity_bytes = cap`) computes what the
specification `spec` (run on the data from `off` on) says, and leaves `offset_bits` where the specification is — or
beyond the end of the data, where it no longer matters. -/
def DeRefines {α : Type} (r : Except Err (α × Nat)) (spec : Except DeErr (α × Nat)) (cap off : Nat) : Prop :=
  match spec with
  | .ok (v, used) => ∃ off', r = .ok (v, off') ∧ Rel cap off' (off + used)
  | .error e => r = .error (embedD e)

/-- An eliminator and not a `bind` rule: a rule stated over a type variable would carry a `match` of its own, which does
not unify with the model's. -/
@[elab_as_elim]
theorem DeRefines.step {α : Type} {motive : Except Err (α × Nat) → Except DeErr (α × Nat) → Prop}
    {r : Except Err (α × Nat)} {spec : Except DeErr (α × Nat)} {cap off : Nat} (h : DeRefines r spec cap off)
    (error : ∀ e, motive (.error (embedD e)) (.error e))
    (ok : ∀ v n off', spec = .ok (v, n) → Rel cap off' (off + n) → motive (.ok (v, off')) (.ok (v, n))) :
    motive r spec := by
  cases spec with
  | error e =>
    obtain rfl : r = _ := h
    exact error e
  | ok p =>
    obtain ⟨off', rfl, hrel⟩ := h
    exact ok p.1 p.2 off' rfl hrel

theorem DeRefines.ok {α : Type} {v : α} {used off' cap off : Nat} (h : Rel cap off' (off + used)) :
    DeRefines (.ok (v, off')) (.ok (v, used)) cap off := ⟨off', rfl, h⟩

theorem DeRefines.rel {α : Type} {r : Except Err (α × Nat)} {spec : Except DeErr (α × Nat)} {cap c s : Nat}
    (h : DeRefines r spec cap c) (hrel : Rel cap c s) : DeRefines r spec cap s := by
  cases spec with
  | error e => exact h
  | ok p =>
    obtain ⟨off', hr, h2⟩ := h
    exact ⟨off', hr, Rel.trans_add h2 hrel⟩

/-- contract of a generated function `T_deserialize_`: on any sub-buffer of `size` bytes it returns the specified
object and reports `min(consumed, size)` bytes -/
def DeFnOK (inner : Buf → Nat → Except Err (Val × Nat)) (T : Ty) : Prop :=
  ∀ sub size, WF sub → size ≤ sub.length → inner sub size =
    match deBits T (bitsOf sub size) with
    | .ok (v, used) => .ok (v, min used (8 * size) / 8)
    | .error e => .error (embedD e)

def DeTrivOK (t : Ty) : Prop :=
  wf t = true → wfC t = true → maxBits t = 0 → ∀ bs, deBits t bs = .ok (trivVal t, 0)

theorem deFields_triv : ∀ fs : List Ty, (∀ f ∈ fs, DeTrivOK f) → wfAll fs = true → wfCAll fs = true →
    ∀ bs off, maxFields fs off = off → Dsdl.deFields fs bs off = .ok (trivVals fs, off) := by
  intro fs
  induction fs with
  | nil => intro _ _ _ bs off _; rfl
  | cons f fs ih =>
    intro hT hw hwC bs off hm
    simp only [wfAll, Bool.and_eq_true] at hw
    simp only [wfCAll, Bool.and_eq_true] at hwC
    obtain ⟨hpad, hmax, hm'⟩ := maxFields_cons_fix hm
    have hf := hT f (by simp) hw.1 hwC.1 hmax
    have hrest := ih (fun g hg => hT g (List.mem_cons_of_mem _ hg)) hw.2 hwC.2 bs off hm'
    simp only [Dsdl.deFields, hpad, hf, Nat.add_zero, hrest, trivVals]

theorem deTrivOK (t : Ty) : DeTrivOK t := by
  refine ind_triv (P := fun t => ∀ bs, deBits t bs = .ok (trivVal t, 0)) ?_ ?_ t
  · intro t n hw hwC ih bs
    by_cases hn : n = 0
    · subst hn; simp [deBits, deAllWith, trivVal]
    · simp [deBits, deAll_triv (ih hn).2, trivVal]
  · intro fs hw hwC hm ih bs
    simp [deBits, deFields_triv fs ih hw hwC bs 0 hm, trivVal, padTo, padLen]

theorem hasTyFields_trivVals : ∀ fs : List Ty, (∀ f ∈ fs, hasTy f (trivVal f) = true) →
    hasTyFields fs (trivVals fs) = true := by
  intro fs
  induction fs with
  | nil => intro _; rfl
  | cons f fs ih =>
    intro h
    simp only [trivVals, hasTyFields, Bool.and_eq_true]
    exact ⟨(List.forall_mem_cons.1 h).1, ih (List.forall_mem_cons.1 h).2⟩

theorem hasTy_trivVal (t : Ty) : hasTy t (trivVal t) = true := by
  refine Ty.ind (P := fun t => hasTy t (trivVal t) = true) ?_ ?_ ?_ ?_ ?_ ?_ ?_ ?_ ?_ ?_ t
  · intro n m; rfl
  · intro n m; rfl
  · intro n m; simp [trivVal, hasTy]
  · rfl
  · intro n; rfl
  · intro t n ih
    simp only [trivVal, hasTy, List.length_replicate, beq_self_eq_true, Bool.true_and, List.all_eq_true]
    intro v hv
    rw [List.mem_replicate] at hv
    rw [hv.2]; exact ih
  · intro t c _; simp [trivVal, hasTy]
  · intro fs ih
    simp only [trivVal, hasTy]
    exact hasTyFields_trivVals fs ih
  · intro fs ih
    cases fs with
    | nil => simp [trivVal, hasTy, hasTyNth]
    | cons f fs => simpa [trivVal, trivHead, hasTy, hasTyNth] using ih f (by simp)
  · intro e t ih
    simpa [trivVal, hasTy] using ih

def TrivUnique (t : Ty) : Prop :=
  wf t = true → wfC t = true → maxBits t = 0 → ∀ v, hasTy t v = true → v = trivVal t

theorem fields_trivUnique : ∀ fs : List Ty, (∀ f ∈ fs, TrivUnique f) → wfAll fs = true → wfCAll fs = true →
    ∀ vs off, hasTyFields fs vs = true → maxFields fs off = off → vs = trivVals fs := by
  intro fs
  induction fs with
  | nil =>
    intro _ _ _ vs off ht _
    cases vs with
    | nil => rfl
    | cons v vs => cases ht
  | cons f fs ih =>
    intro hT hw hwC vs off ht hm
    cases vs with
    | nil => cases ht
    | cons v vs =>
      simp only [hasTyFields, wfAll, wfCAll, Bool.and_eq_true] at ht hw hwC
      obtain ⟨_, hmax, hm'⟩ := maxFields_cons_fix hm
      obtain ⟨hf, hfs⟩ := List.forall_mem_cons.1 hT
      simp only [trivVals, hf hw.1 hwC.1 hmax v ht.1, ih hfs hw.2 hwC.2 vs off ht.2 hm']

theorem trivUnique (t : Ty) : TrivUnique t := by
  refine ind_triv (P := fun t => ∀ v, hasTy t v = true → v = trivVal t) ?_ ?_ t
  · intro t n _ _ ih v ht
    cases v with
    | arr vs =>
      simp only [hasTy, Bool.and_eq_true, beq_iff_eq, List.all_eq_true] at ht
      simp only [trivVal]
      congr 1
      rw [List.eq_replicate_iff]
      exact ⟨ht.1, fun x hx => (ih (ht.1 ▸ Nat.ne_of_gt (List.length_pos_of_mem hx))).2 x (ht.2 x hx)⟩
    | _ => cases ht
  · intro fs hw hwC hm ih v ht
    cases v with
    | struct vs =>
      simp only [trivVal]
      congr 1
      exact fields_trivUnique fs ih hw hwC vs 0 ht hm
    | _ => cases ht

theorem remainingBytes_eq (cap off : Nat) : remainingBytes cap off = cap - off / 8 := by
  rw [remainingBytes, chooseMin_eq]
  omega

theorem remainingBytes_bits (cap : Nat) {off : Nat} (hal : off % 8 = 0) : 8 * remainingBytes cap off = 8 * cap - off := by
  rw [remainingBytes_eq, Nat.mul_sub, mul_div_aligned hal]

theorem bitsOf_remaining {buf : Buf} {cap off : Nat} (hcap : cap ≤ buf.length) (hal : off % 8 = 0) :
    bitsOf (buf.drop (off / 8)) (remainingBytes cap off) = (bitsOf buf cap).drop off := by
  rw [remainingBytes_eq, bitsOf_sub (Nat.le_refl _), mul_div_aligned hal]
  apply List.take_of_length_le
  rw [List.length_drop, bitsOf_length hcap]
  omega

theorem rel_consumed {cap off used R : Nat} (hal : off % 8 = 0) (h8 : used % 8 = 0) (hR : 8 * R = 8 * cap - off) :
    Rel cap (off + min used (8 * R) / 8 * 8) (off + used) := by
  rcases Nat.le_total used (8 * R) with h | h
  · rw [Nat.min_eq_left h, Nat.div_mul_cancel (Nat.dvd_of_mod_eq_zero h8)]
    exact Rel.refl _ _
  · rw [Nat.min_eq_right h, Nat.mul_div_cancel_left R (by decide), Nat.mul_comm R 8]
    exact ⟨by omega, by rw [Nat.add_mod, Nat.mul_mod_right, Nat.add_mod off used, h8], Or.inr (by omega)⟩

theorem nestedDe_sealed (o : Opts) (inner : Buf → Nat → Except Err (Val × Nat)) (T : Ty) (hfn : DeFnOK inner T)
    (ha : align T = 8) (d : AOff) (buf : Buf) (cap off : Nat)
    (hw : WF buf) (hcap : cap ≤ buf.length) (hal : off % 8 = 0) :
    DeRefines (nestedDe o inner false d buf cap off) (deBits T ((bitsOf buf cap).drop off)) cap off := by
  unfold nestedDe
  simp only [Bool.false_eq_true, if_false]
  rw [assertC_ok o hal, hfn _ _ (WF_drop hw _) (by rw [List.length_drop, remainingBytes_eq]; omega),
    bitsOf_remaining hcap hal]
  cases hsp : deBits T ((bitsOf buf cap).drop off) with
  | error e => rfl
  | ok r => exact .ok (rel_consumed hal (ha ▸ (deLen T _ r.1 r.2 hsp).2) (remainingBytes_bits cap hal))

theorem nestedDe_delim (o : Opts) (hs : o.Sound) (inner : Buf → Nat → Except Err (Val × Nat)) (T : Ty)
    (hfn : DeFnOK inner T) (ext : Nat) (d : AOff) (buf : Buf) (cap off : Nat)
    (hw : WF buf) (hcap : cap ≤ buf.length) (hal : off % 8 = 0) (hd : Adm d off) :
    DeRefines (nestedDe o inner true d buf cap off) (deBits (.delim ext T) ((bitsOf buf cap).drop off)) cap off := by
  have hal1 : (off + 32) % 8 = 0 := add_mod_zero hal (by decide)
  unfold nestedDe
  simp only [if_true, deBits, headerBits, List.drop_drop]
  rw [deUint_spec o hs 32 d buf cap off (by decide) (by decide) hw hcap hd]
  dsimp only
  generalize readNat 32 ((bitsOf buf cap).drop off) = h
  -- the specification's check, in bits, is the code's, in bytes
  rw [List.length_drop, bitsOf_length hcap, ← remainingBytes_bits cap hal1]
  simp only [gt_iff_lt, Nat.mul_lt_mul_left (show 0 < 8 by decide)]
  by_cases hbad : remainingBytes cap (off + 32) < h
  · simp only [hbad, if_true, DeRefines, embedD]
  · simp only [hbad, if_false]
    rw [remainingBytes_eq] at hbad
    rw [assertC_ok o hal1, hfn _ h (WF_drop hw _) (by rw [List.length_drop]; omega),
      bitsOf_sub (Nat.le_of_not_lt hbad), mul_div_aligned hal1]
    cases deBits T (((bitsOf buf cap).drop (off + 32)).take (8 * h)) with
    | error e => rfl
    | ok r => exact .ok (by rw [Nat.add_assoc, Nat.mul_comm h 8]; exact Rel.refl _ _)

theorem topDe_fnOK (o : Opts) (maxB : Nat) (triv : Val) (body : Buf → Nat → Except Err (Val × Nat)) (T : Ty)
    (specBody : List Bool → Except DeErr (Val × Nat))
    (hT : ∀ bs, deBits T bs = match specBody bs with
      | .ok (v, off) => .ok (v, padTo 8 off)
      | .error e => .error e)
    (hbody : ∀ sub size, WF sub → size ≤ sub.length → DeRefines (body sub size) (specBody (bitsOf sub size)) size 0)
    (h0 : maxB = 0 → ∀ bs, deBits T bs = .ok (triv, 0)) :
    DeFnOK (topDe o maxB triv body) T := by
  intro sub size hw hsz
  unfold topDe
  by_cases hz : maxB = 0
  · rw [h0 hz]
    simp [hz]
  · simp only [hz, if_false]
    rw [hT]
    refine DeRefines.step (hbody sub size hw hsz) (fun e => rfl) fun v off off' _ hrel => ?_
    simp only [chooseMin_eq, padDe_eq 8 off' (Or.inr rfl)]
    rw [assertC_ok o (padTo_mod (a := 8) (Or.inr rfl) off'),
      assertC_ok o (show size ≥ min (padTo 8 off') (size * 8) / 8 by omega), Nat.mul_comm size 8,
      (Rel.pad (a := 8) (Or.inr rfl) hrel).min_eq, Nat.zero_add]

def primVal : Ty → Nat → Val
  | .uint _ _, u => .int u
  | .sint n _, u => .int (Dsdl.signExtend n u)
  | .float n _, u => .float (widen n u)
  | _, _ => .void

theorem deBits_zeroCost {o : Opts} {t : Ty} (hz : zeroCost o t = true) (bs : List Bool) :
    deBits t bs = .ok (primVal t (readNat (primBits t) bs), primBits t) := by
  cases t <;> simp [zeroCost] at hz <;> rfl

theorem elemVal_eq {o : Opts} {t : Ty} (hz : zeroCost o t = true) (b : Buf) : elemVal t b = primVal t (objValLE b) := by
  cases t <;> simp [zeroCost] at hz <;> rfl

theorem deElems_nonbool (o : Opts) (t : Ty) (ht : t ≠ .bool) (elem : Nat → Except Err (Val × Nat))
    (count storN : Nat) (buf : Buf) (cap off : Nat) :
    deElems o t elem count storN buf cap off =
      if zeroCost o t then
        match liftP (getBits (List.replicate (storN * (primBits t / 8)) (o.fill % 256)) buf cap off (count * primBits t)) with
        | .error e => .error e
        | .ok r =>
          .ok ((List.range count).map (fun i => elemVal t ((r.drop (i * (primBits t / 8))).take (primBits t / 8))),
            off + count * primBits t)
      else deLoop elem count off := by
  cases t <;> first | exact absurd rfl ht | rfl

theorem deElems_bool (o : Opts) (elem : Nat → Except Err (Val × Nat)) (count storN : Nat) (buf : Buf)
    (cap off : Nat) (hcap : cap ≤ buf.length) (hc : count ≤ storN) :
    DeRefines (deElems o .bool elem count storN buf cap off)
      (deAllWith (deBits .bool) count ((bitsOf buf cap).drop off)) cap off := by
  rw [deAll_prim (t := .bool) (w := 1) (f := fun bs => .bool (readNat 1 bs == 1)) (fun bs => rfl)]
  obtain ⟨r, hr, _, _, hbits⟩ := getBits_spec (List.replicate ((storN + 7) / 8) (o.fill % 256)) buf cap off count hcap
    (by rw [List.length_replicate]; omega)
  simp only [deElems, hr, liftP, DeRefines, Nat.mul_one]
  refine ⟨_, ?_, Rel.refl _ _⟩
  congr 2
  apply List.map_congr_left
  intro i hi
  rw [List.mem_range] at hi
  rw [hbits i, if_pos (by omega), readNat_one, List.drop_drop, bitOf_drop, bitOf_bitsOf]
  simp [hi]

theorem deElems_zeroCost (o : Opts) (t : Ty) (hz : zeroCost o t = true)
    (elem : Nat → Except Err (Val × Nat)) (count storN : Nat) (buf : Buf)
    (cap off : Nat) (hwf : WF buf) (hcap : cap ≤ buf.length) (hc : count ≤ storN) :
    DeRefines (deElems o t elem count storN buf cap off)
      (deAllWith (deBits t) count ((bitsOf buf cap).drop off)) cap off := by
  have hb : t ≠ .bool := by intro e; subst e; simp [zeroCost] at hz
  rw [deAll_prim (deBits_zeroCost hz), deElems_nonbool o t hb]
  simp only [hz, if_true]
  obtain ⟨m, hm⟩ := zeroCost_bytes hz
  rw [hm, Nat.mul_div_cancel_left m (by decide)]
  have hmul : ∀ k, k * (8 * m) = 8 * (k * m) := fun k => Nat.mul_left_comm k 8 m
  simp only [hmul]
  have h7 : (8 * (count * m) + 7) / 8 = count * m := by rw [Nat.mul_add_div (by decide)]; rfl
  obtain ⟨r, hr, hrl, hrwf, hbits⟩ := getBits_spec (List.replicate (storN * m) (o.fill % 256)) buf cap off
    (8 * (count * m)) hcap (by rw [List.length_replicate, h7]; exact Nat.mul_le_mul_right m hc)
  rw [h7] at hbits
  have hwr : WF r := hrwf hwf (WF_replicate_of_lt _ _ (Nat.mod_lt _ (by decide)))
  simp only [hr, liftP, DeRefines]
  refine ⟨_, ?_, Rel.refl _ _⟩
  congr 2
  apply List.map_congr_left
  intro i hi
  rw [List.mem_range] at hi
  have him : i * m + m ≤ count * m := by rw [← Nat.succ_mul]; exact Nat.mul_le_mul_right m hi
  rw [elemVal_eq hz]
  congr 1
  rw [List.drop_drop, readNat_bitsOf]
  apply Nat.eq_of_testBit_eq
  intro j
  -- bit `j` of element `i` is bit `8 * (i * m) + j` of the member array, copied from `off + 8 * (i * m) + j` of the data
  rw [testBit_objValLE _ _ (WF_take (WF_drop hwr _) _), bitAt_take, bitAt_drop, testBit_fieldOf, hbits]
  by_cases hj : j < 8 * m
  · rw [if_pos (by omega), decide_eq_true (show j / 8 < m by omega), decide_eq_true hj,
      decide_eq_true (show 8 * (i * m) + j < 8 * (count * m) by omega), Bool.true_and, Bool.true_and, Bool.true_and,
      Nat.add_assoc]
  · rw [decide_eq_false (show ¬ j / 8 < m by omega), decide_eq_false hj, Bool.false_and, Bool.false_and]

end NunavutVerif.GenC
