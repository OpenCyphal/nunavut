import NunavutVerif.Lemmas.DsdlBits
/-!
Bytes ↔ bits: `packBytes` pads with zeros to a whole byte and `unpackBytes` gives the bits back.
-/
namespace NunavutVerif.Dsdl

theorem natToBits_zero (n : Nat) : natToBits n 0 = zeros n := by
  induction n with
  | zero => rfl
  | succ n ih => simp only [natToBits, ih, zeros, List.replicate_succ]; rfl

theorem natToBits_bitsToNat_pad (bs : List Bool) :
    ∀ n, bs.length ≤ n → natToBits n (bitsToNat bs) = bs ++ zeros (n - bs.length) := by
  induction bs with
  | nil => intro n _; exact natToBits_zero n
  | cons b bs ih =>
    intro n hn
    cases n with
    | zero => cases hn
    | succ k =>
      rw [natToBits, bitsToNat_cons_mod, bitsToNat_cons_div, ih k (Nat.le_of_succ_le_succ hn), List.length_cons,
        Nat.add_sub_add_right]
      cases b <;> rfl

theorem padLen_add_self (a x : Nat) : padLen a (x + a) = padLen a x := by
  simp only [padLen, Nat.add_mod_right]

theorem unpackBytes_length (xs : List Nat) : (unpackBytes xs).length = 8 * xs.length := by
  induction xs with
  | nil => rfl
  | cons x xs ih => simp only [unpackBytes, List.length_append, natToBits_length, ih, List.length_cons]; omega

theorem packBytes_step {bs : List Bool} (h : bs ≠ []) :
    packBytes bs = readNat 8 bs :: packBytes (bs.drop 8) := by
  rcases bs with _ | ⟨b0, _ | ⟨b1, _ | ⟨b2, _ | ⟨b3, _ | ⟨b4, _ | ⟨b5, _ | ⟨b6, _ | ⟨b7, r⟩⟩⟩⟩⟩⟩⟩⟩
  · exact absurd rfl h
  all_goals rfl

theorem packBytes_short {bs : List Bool} (h0 : bs ≠ []) (h8 : bs.length < 8) :
    packBytes bs = [bitsToNat bs] := by
  rw [packBytes_step h0, List.drop_of_length_le (Nat.le_of_lt h8), readNat, List.take_of_length_le (Nat.le_of_lt h8)]
  rfl

theorem bytewise_ind {P : List Bool → Prop} (nil : P []) (step : ∀ bs, bs ≠ [] → P (bs.drop 8) → P bs)
    (bs : List Bool) : P bs := by
  generalize hn : bs.length = n
  induction n using Nat.strongRecOn generalizing bs with
  | _ n ih =>
    by_cases h0 : bs = []
    · exact h0 ▸ nil
    · have hpos : 0 < bs.length := List.length_pos_iff.2 h0
      exact step bs h0 (ih (bs.drop 8).length (by rw [List.length_drop]; omega) _ rfl)

theorem pack_spec (bs : List Bool) :
    (packBytes bs).length = (bs.length + 7) / 8 ∧
    unpackBytes (packBytes bs) = bs ++ zeros (padLen 8 bs.length) := by
  induction bs using bytewise_ind with
  | nil => exact ⟨rfl, rfl⟩
  | step bs h0 ih =>
    rw [packBytes_step h0, unpackBytes, List.length_cons, ih.1, ih.2, readNat,
      natToBits_bitsToNat_pad _ 8 (List.length_take_le ..)]
    by_cases h8 : 8 ≤ bs.length
    · -- a whole byte: no padding here, and the rest is padded as the whole is
      have hl : bs.length = (bs.drop 8).length + 8 := by rw [List.length_drop, Nat.sub_add_cancel h8]
      rw [List.length_take, Nat.min_eq_left h8, hl, padLen_add_self, Nat.add_right_comm,
        Nat.add_div_right _ (by decide), ← List.append_assoc]
      exact ⟨rfl, congrArg (· ++ _) ((List.append_assoc ..).trans (List.take_append_drop 8 bs))⟩
    · -- the last, short byte: all of the padding is here
      have hlt := Nat.not_le.1 h8
      have hl := Nat.le_of_lt hlt
      have hpos : 0 < bs.length := List.length_pos_iff.2 h0
      rw [List.take_of_length_le hl, List.drop_of_length_le hl]
      simp only [padLen, Nat.mod_eq_of_lt hlt, Nat.mod_eq_of_lt (Nat.sub_lt (by decide : 0 < 8) hpos)]
      exact ⟨by show 1 = _; omega, List.append_nil _⟩

theorem packBytes_length (bs : List Bool) : (packBytes bs).length = (bs.length + 7) / 8 :=
  (pack_spec bs).1

theorem unpack_pack (bs : List Bool) :
    unpackBytes (packBytes bs) = bs ++ zeros (padLen 8 bs.length) := (pack_spec bs).2

theorem unpackBytes_append (a b : List Nat) :
    unpackBytes (a ++ b) = unpackBytes a ++ unpackBytes b := by
  induction a with
  | nil => rfl
  | cons x a ih => simp only [List.cons_append, unpackBytes, ih, List.append_assoc]

theorem unpackBytes_zeros (k : Nat) : unpackBytes (List.replicate k 0) = zeros (8 * k) := by
  induction k with
  | zero => rfl
  | succ k ih =>
    rw [List.replicate_succ, unpackBytes, ih, natToBits_zero]
    exact (List.replicate_append_replicate ..).trans (congrArg zeros (Nat.add_comm 8 (8 * k)))

theorem wf_topInner {t : Ty} (h : wf t = true) : wf (topInner t) = true := by
  cases t with
  | delim e t => exact (wf_delim h).2
  | _ => exact h

theorem castAdjust_topInner (t : Ty) (v : Val) : castAdjust (topInner t) v = castAdjust t v := by
  cases t <;> rfl

theorem hasTy_topInner (t : Ty) (v : Val) : hasTy (topInner t) v = hasTy t v := by
  cases t <;> rfl

theorem maxBits_topInner_le_extent {t : Ty} (h : wf t = true) : maxBits (topInner t) ≤ extent t := by
  cases t with
  | delim e t => exact (wf_delim h).1.2.2.1
  | _ => exact Nat.le_refl _

theorem deTop_ok {t : Ty} {bs : List Bool} {v : Val} {n : Nat} (h : deTop t bs = .ok (v, n)) :
    ∃ m, deBits (topInner t) bs = .ok (v, m) ∧ n = min m bs.length := by
  unfold deTop at h
  split at h
  · cases h
  · cases h; exact ⟨_, ‹_›, rfl⟩

theorem deBytes_ok {t : Ty} {bytes : List Nat} {v : Val} {n : Nat} (h : deBytes t bytes = .ok (v, n)) :
    ∃ m, deTop t (unpackBytes bytes) = .ok (v, m) ∧ n = (m + 7) / 8 := by
  unfold deBytes at h
  split at h
  · cases h
  · cases h; exact ⟨_, ‹_›, rfl⟩

end NunavutVerif.Dsdl
