import NunavutVerif.Model.Dsdl
import NunavutVerif.Lemmas.Core
/-!
IEEE-754 bit patterns: the shape of a narrowed pattern (it fits its width, its NaNs are quiet) and, for any format
narrower than binary64, that narrowing undoes widening on every pattern the narrowing can produce.  Beside them what
the overflow behaviour of a target rests on: rounding is monotone (`rne_mono`, `magOf_mono`), a finite number narrows to
its rounded magnitude `magOf` clamped at the infinity pattern (`narrowCore_fin_trunc`, `narrowCore_fin_sat`), and a
widened finite pattern lies within the largest finite value of its format (`widenFrom_mag`).
-/
namespace NunavutVerif.Dsdl

theorem rne_exact (a j : Nat) : rne (a * 2 ^ j) j = a := by
  unfold rne
  by_cases hj : j = 0
  · subst hj; simp
  · have hp : 0 < 2 ^ j := Nat.pow_pos (by decide)
    have hh : 0 < 2 ^ (j - 1) := Nat.pow_pos (by decide)
    simp only [hj, if_false, Nat.shiftRight_eq_div_pow, Nat.mul_div_cancel _ hp, Nat.mul_mod_left]
    rw [if_neg]
    omega

theorem rne_zero (sh : Nat) : rne 0 sh = 0 := by
  simpa using rne_exact 0 sh

theorem rne_bounds (sig sh : Nat) : sig >>> sh ≤ rne sig sh ∧ rne sig sh ≤ sig >>> sh + 1 := by
  unfold rne
  by_cases h : sh = 0
  · subst h; simp
  · simp only [h, if_false]; split <;> omega

theorem rne_mono {a b : Nat} (h : a ≤ b) (sh : Nat) : rne a sh ≤ rne b sh := by
  by_cases hq : a >>> sh < b >>> sh
  · exact Nat.le_trans (rne_bounds a sh).2 (Nat.le_trans hq (rne_bounds b sh).1)
  · -- same quotient: the remainders are ordered like the numbers
    have heq : a / 2 ^ sh = b / 2 ^ sh := by
      have := Nat.div_le_div_right (c := 2 ^ sh) h
      simp only [Nat.shiftRight_eq_div_pow] at hq; omega
    have ha := Nat.div_add_mod a (2 ^ sh)
    have hb := Nat.div_add_mod b (2 ^ sh)
    rw [heq] at ha
    unfold rne
    by_cases h0 : sh = 0
    · simp only [h0, if_true]; exact h
    · simp only [h0, if_false, Nat.shiftRight_eq_div_pow, heq]
      generalize 2 ^ sh * (b / 2 ^ sh) = Q at ha hb
      split <;> split <;> omega

theorem rne_normal {mb : Nat} (hmb : mb ≤ 52) (f : Nat) :
    2 ^ mb ≤ rne (2 ^ 52 + f) (52 - mb) ∧ (f < 2 ^ 52 → rne (2 ^ 52 + f) (52 - mb) ≤ 2 * 2 ^ mb) := by
  have e : ∀ k, rne (k * 2 ^ 52) (52 - mb) = k * 2 ^ mb := fun k => by
    have := rne_exact (k * 2 ^ mb) (52 - mb)
    rwa [Nat.mul_assoc, ← Nat.pow_add, Nat.add_sub_cancel' hmb] at this
  have h1 := rne_mono (show 1 * 2 ^ 52 ≤ 2 ^ 52 + f by omega) (52 - mb)
  rw [e, Nat.one_mul] at h1
  exact ⟨h1, fun hf => e 2 ▸ rne_mono (show 2 ^ 52 + f ≤ 2 * 2 ^ 52 by omega) (52 - mb)⟩

/-- the rounded magnitude (exponent and fraction fields, the hidden bit carried into the exponent) -/
def magOf (eb mb e f : Nat) : Nat :=
  let d := 1023 - (2 ^ (eb - 1) - 1)
  let sig := if e = 0 then f else 2 ^ 52 + f
  let e1 := if e = 0 then 1 else e
  if e1 > d then (e1 - d - 1) <<< mb + rne sig (52 - mb) else rne sig ((52 - mb) + (d + 1 - e1))

theorem magOf_zero (eb mb : Nat) : magOf eb mb 0 0 = 0 := by
  simp only [magOf, if_true, rne_zero, Nat.add_zero]
  split
  · rw [show 1 - (1023 - (2 ^ (eb - 1) - 1)) - 1 = 0 by omega, Nat.zero_shiftLeft]
  · rfl

theorem magOf_normal (eb mb : Nat) {e : Nat} (f : Nat) (he : e > 1023 - (2 ^ (eb - 1) - 1)) :
    magOf eb mb e f = (e - (1023 - (2 ^ (eb - 1) - 1)) - 1) <<< mb + rne (2 ^ 52 + f) (52 - mb) := by
  have he0 : e ≠ 0 := by omega
  simp only [magOf, he0, if_false, he, if_true]

theorem magOf_sub (eb mb : Nat) {e : Nat} (f : Nat) (h0 : e ≠ 0) (he : e ≤ 1023 - (2 ^ (eb - 1) - 1)) :
    magOf eb mb e f = rne (2 ^ 52 + f) (52 - mb + (1023 - (2 ^ (eb - 1) - 1) + 1 - e)) := by
  simp only [magOf, h0, if_false, Nat.not_lt.2 he]

theorem shr_add_le (sig a b : Nat) : sig >>> (a + b) ≤ sig >>> a := by
  rw [Nat.shiftRight_add]; exact Nat.shiftRight_le _ _

theorem magOf_sub_le (eb : Nat) {mb e f : Nat} (hmb : mb ≤ 52) (hf : f < 2 ^ 52)
    (hd : 1 ≤ 1023 - (2 ^ (eb - 1) - 1)) (he : e ≤ 1023 - (2 ^ (eb - 1) - 1)) :
    magOf eb mb e f ≤ 2 * 2 ^ mb + 1 := by
  have he1 : ¬ (if e = 0 then 1 else e) > 1023 - (2 ^ (eb - 1) - 1) := by split <;> omega
  have h2 : 2 ^ 53 >>> (52 - mb) = 2 * 2 ^ mb := by
    rw [Nat.shiftRight_eq_div_pow, show 53 = mb + 1 + (52 - mb) by omega, Nat.pow_add,
      Nat.mul_div_cancel _ (Nat.pow_pos (by decide)), Nat.pow_succ, Nat.mul_comm]
  simp only [magOf, he1, if_false]
  refine Nat.le_trans (rne_bounds _ _).2 (Nat.add_le_add_right (Nat.le_trans (shr_add_le _ _ _) (h2 ▸ ?_)) 1)
  simp only [Nat.shiftRight_eq_div_pow]
  exact Nat.div_le_div_right (by split <;> omega)

/-- stated only with the larger number normal in the narrow format and above its lowest two binades, which is all the
overflow threshold (`Fmt.threshold`) needs -/
theorem magOf_mono (eb : Nat) {mb e f e' f' : Nat} (hmb : mb ≤ 52) (hf : f < 2 ^ 52) (hf' : f' < 2 ^ 52)
    (hd : 1 ≤ 1023 - (2 ^ (eb - 1) - 1)) (he' : 1023 - (2 ^ (eb - 1) - 1) + 3 ≤ e')
    (h : e * 2 ^ 52 + f ≤ e' * 2 ^ 52 + f') : magOf eb mb e f ≤ magOf eb mb e' f' := by
  generalize hdd : 1023 - (2 ^ (eb - 1) - 1) = d at hd he'
  rw [magOf_normal eb mb f' (by omega), hdd, Nat.shiftLeft_eq]
  have hr' := (rne_normal hmb f').1
  by_cases hsub : e ≤ d
  · -- the smaller number is subnormal in the narrow format (or zero)
    have h1 := magOf_sub_le eb hmb hf (hdd ▸ hd) (hdd ▸ hsub)
    have h3 := Nat.mul_le_mul_right (2 ^ mb) (show 2 ≤ e' - d - 1 by omega)
    have hM : 0 < 2 ^ mb := Nat.pow_pos (by decide)
    omega
  · rw [magOf_normal eb mb f (by omega), hdd, Nat.shiftLeft_eq]
    have hr := (rne_normal hmb f).2 hf
    rcases Nat.lt_or_ge e e' with hlt | hge
    · -- a lower binade: even rounded up it stays below the start of the next one
      have h3 := Nat.mul_le_mul_right (2 ^ mb) (show e - d - 1 + 1 ≤ e' - d - 1 by omega)
      rw [Nat.add_mul] at h3
      omega
    · have : e = e' := by omega
      subst this
      exact Nat.add_le_add_left (rne_mono (by omega) _) _

/-- `narrowTo` on the fields of its argument: infinities and NaNs, else the rounded magnitude clamped at the infinity
pattern as the cast mode says -/
def narrowCore (eb mb : Nat) (m : Cast) (s e f : Nat) : Nat :=
  let sign := s <<< (eb + mb)
  let inf := (2 ^ eb - 1) <<< mb
  if e = 2047 then
    if f = 0 then sign + inf
    else sign + inf + 2 ^ (mb - 1) + (if mb = 23 then (f >>> (52 - mb)) % 2 ^ (mb - 1) else 0)
  else if magOf eb mb e f ≥ inf then
    match m with
    | .trunc => sign + inf
    | .sat => sign + (inf - 1)
  else sign + magOf eb mb e f

theorem narrowTo_eq_core (eb mb : Nat) (m : Cast) (x : Nat) :
    narrowTo eb mb m x = narrowCore eb mb m ((x >>> 63) % 2) ((x >>> 52) % 2048) (x % 2 ^ 52) := rfl

theorem x_fields (x : Nat) (hx : x < 2 ^ 64) :
    ∃ s e f, x = s * 2 ^ 63 + e * 2 ^ 52 + f ∧ s < 2 ∧ e < 2048 ∧ f < 2 ^ 52 :=
  ⟨x / 2 ^ 63, x / 2 ^ 52 % 2048, x % 2 ^ 52, by omega, by omega, by omega, by omega⟩

theorem fields_hi_lo (s e f : Nat) : s * 2 ^ 63 + e * 2 ^ 52 + f = (s * 2048 + e) * 2 ^ 52 + f := by
  rw [Nat.add_mul, Nat.mul_assoc]

theorem fields_shiftRight (s e : Nat) {f : Nat} (hf : f < 2 ^ 52) :
    (s * 2 ^ 63 + e * 2 ^ 52 + f) >>> 52 = s * 2048 + e := by
  rw [Nat.shiftRight_eq_div_pow, fields_hi_lo, Nat.mul_comm, Nat.mul_add_div (by decide), Nat.div_eq_of_lt hf,
    Nat.add_zero]

theorem exp_fields (s : Nat) {e f : Nat} (he : e < 2048) (hf : f < 2 ^ 52) :
    ((s * 2 ^ 63 + e * 2 ^ 52 + f) >>> 52) % 2048 = e := by
  rw [fields_shiftRight s e hf, Nat.mul_comm, Nat.mul_add_mod, Nat.mod_eq_of_lt he]

theorem narrowTo_fields (eb mb : Nat) (m : Cast) {s E F : Nat} (hs : s < 2) (hE : E < 2048)
    (hF : F < 2 ^ 52) :
    narrowTo eb mb m (s * 2 ^ 63 + E * 2 ^ 52 + F) = narrowCore eb mb m s E F := by
  rw [narrowTo_eq_core, exp_fields s hE hF]
  congr 1
  · rw [show 63 = 52 + 11 from rfl, Nat.shiftRight_add, fields_shiftRight s E hF, Nat.shiftRight_eq_div_pow,
      Nat.mul_comm, Nat.mul_add_div (by decide), Nat.div_eq_of_lt hE, Nat.add_zero, Nat.mod_eq_of_lt hs]
  · rw [fields_hi_lo, Nat.mul_comm, Nat.mul_add_mod, Nat.mod_eq_of_lt hF]

theorem narrowCore_fin_trunc (eb mb s e f : Nat) (he : e ≠ 2047) :
    narrowCore eb mb .trunc s e f =
      if magOf eb mb e f ≥ (2 ^ eb - 1) <<< mb then s <<< (eb + mb) + (2 ^ eb - 1) <<< mb
      else s <<< (eb + mb) + magOf eb mb e f := by
  simp only [narrowCore, he, if_false]

theorem narrowCore_fin_sat (eb mb s e f : Nat) (he : e ≠ 2047) :
    narrowCore eb mb .sat s e f =
      if magOf eb mb e f ≥ (2 ^ eb - 1) <<< mb then s <<< (eb + mb) + ((2 ^ eb - 1) <<< mb - 1)
      else s <<< (eb + mb) + magOf eb mb e f := by
  simp only [narrowCore, he, if_false]

theorem narrowCore_of_lt (eb mb : Nat) (m : Cast) (s : Nat) {e f : Nat} (he : e ≠ 2047)
    (h : magOf eb mb e f < (2 ^ eb - 1) <<< mb) :
    narrowCore eb mb m s e f = s <<< (eb + mb) + magOf eb mb e f := by
  simp only [narrowCore, he, if_false, if_neg (Nat.not_le.2 h)]

theorem narrowCore_nonfin (eb mb : Nat) (m : Cast) (s f : Nat) :
    narrowCore eb mb m s 2047 f = narrowCore eb mb .trunc s 2047 f := by
  simp only [narrowCore, if_true]

theorem inf_lt (eb mb : Nat) : (2 ^ eb - 1) <<< mb < 2 ^ (eb + mb) := by
  rw [Nat.shiftLeft_eq, Nat.pow_add]
  exact Nat.mul_lt_mul_of_pos_right (Nat.sub_lt (Nat.pow_pos (by decide)) (by decide)) (Nat.pow_pos (by decide))

theorem inf_pos {eb : Nat} (heb : 1 ≤ eb) (mb : Nat) : 0 < (2 ^ eb - 1) <<< mb := by
  rw [Nat.shiftLeft_eq]
  exact Nat.mul_pos (Nat.sub_pos_of_lt (Nat.one_lt_two_pow (Nat.ne_of_gt heb))) (Nat.pow_pos (by decide))

theorem narrowCore_shape (eb mb : Nat) (m : Cast) (s e f : Nat) :
    ∃ r p, narrowCore eb mb m s e f = s * 2 ^ (eb + mb) + r ∧ p < 2 ^ (mb - 1) ∧ (mb ≠ 23 → p = 0) ∧
      (r ≤ (2 ^ eb - 1) * 2 ^ mb ∨ r = (2 ^ eb - 1) * 2 ^ mb + 2 ^ (mb - 1) + p) := by
  have h2 : 0 < 2 ^ (mb - 1) := Nat.pow_pos (by decide)
  by_cases he : e = 2047
  · subst he
    simp only [narrowCore, if_true, Nat.shiftLeft_eq]
    by_cases hf : f = 0
    · rw [if_pos hf]; exact ⟨_, 0, rfl, h2, fun _ => rfl, .inl (Nat.le_refl _)⟩
    · rw [if_neg hf, Nat.add_assoc, Nat.add_assoc]
      refine ⟨_, _, rfl, ?_, fun h => if_neg h, .inr (Nat.add_assoc ..).symm⟩
      split
      · exact Nat.mod_lt _ h2
      · exact h2
  · cases m
    · rw [narrowCore_fin_sat _ _ _ _ _ he]
      simp only [Nat.shiftLeft_eq]
      split
      · exact ⟨_, 0, rfl, h2, fun _ => rfl, .inl (Nat.sub_le _ 1)⟩
      · exact ⟨_, 0, rfl, h2, fun _ => rfl, .inl (by omega)⟩
    · rw [narrowCore_fin_trunc _ _ _ _ _ he]
      simp only [Nat.shiftLeft_eq]
      split
      · exact ⟨_, 0, rfl, h2, fun _ => rfl, .inl (Nat.le_refl _)⟩
      · exact ⟨_, 0, rfl, h2, fun _ => rfl, .inl (by omega)⟩

/-- The patterns of the format `(eb, mb)` that narrowing produces: they fit the width, and the fraction of a NaN is the
quiet bit, followed for binary32 only by a payload. -/
def CanonF (eb mb w : Nat) : Prop :=
  w < 2 ^ (eb + mb + 1) ∧ ((w >>> mb) % 2 ^ eb = 2 ^ eb - 1 → w % 2 ^ mb ≠ 0 →
    w % 2 ^ mb = 2 ^ (mb - 1) + (if mb = 23 then w % 2 ^ mb % 2 ^ (mb - 1) else 0))

theorem canonF_narrowTo {eb mb : Nat} (hmb : 1 ≤ mb) (m : Cast) (x : Nat) : CanonF eb mb (narrowTo eb mb m x) := by
  have hs : (x >>> 63) % 2 < 2 := Nat.mod_lt _ (by decide)
  obtain ⟨r, p, h, hp, hp0, hr⟩ := narrowCore_shape eb mb m ((x >>> 63) % 2) ((x >>> 52) % 2048) (x % 2 ^ 52)
  rw [narrowTo_eq_core, h]
  clear h
  generalize (x >>> 63) % 2 = s at hs ⊢
  have hP := two_pow_pred mb hmb
  have hQ : 0 < 2 ^ eb := Nat.pow_pos (by decide)
  have hP0 : 0 < 2 ^ mb := Nat.pow_pos (by decide)
  -- exponent field `a`, fraction `q`
  obtain ⟨a, q, rfl, hq, ha, haq⟩ : ∃ a q, r = a * 2 ^ mb + q ∧ q < 2 ^ mb ∧ a < 2 ^ eb ∧
      (a = 2 ^ eb - 1 → q ≠ 0 → q = 2 ^ (mb - 1) + p) := by
    rcases hr with hr | rfl
    · refine ⟨r / 2 ^ mb, r % 2 ^ mb, (Nat.div_add_mod' ..).symm, Nat.mod_lt _ hP0, ?_, ?_⟩
      · exact Nat.lt_of_le_of_lt (Nat.div_le_of_le_mul (Nat.mul_comm .. ▸ hr)) (Nat.sub_lt hQ (by decide))
      · intro ha hq0
        have := Nat.div_add_mod' r (2 ^ mb)
        rw [ha] at this
        omega
    · exact ⟨_, _, Nat.add_assoc .., by omega, Nat.sub_lt hQ (by decide), fun _ _ => rfl⟩
  have e : s * 2 ^ (eb + mb) + (a * 2 ^ mb + q) = (s * 2 ^ eb + a) * 2 ^ mb + q := by
    rw [Nat.pow_add, ← Nat.mul_assoc, ← Nat.add_assoc, ← Nat.add_mul]
  rw [e]
  refine ⟨?_, ?_⟩
  · have h1 : s * 2 ^ eb + a + 1 ≤ 2 * 2 ^ eb := by
      have := Nat.mul_le_mul_right (2 ^ eb) (Nat.le_of_lt_succ hs)
      omega
    have h2 := Nat.mul_le_mul_right (2 ^ mb) h1
    rw [Nat.pow_succ, Nat.pow_add, Nat.mul_comm _ 2, ← Nat.mul_assoc]
    rw [Nat.succ_mul] at h2
    omega
  · rw [Nat.shiftRight_eq_div_pow, Nat.mul_comm _ (2 ^ mb), Nat.mul_add_div hP0, Nat.mul_add_mod, Nat.div_eq_of_lt hq,
      Nat.mod_eq_of_lt hq, Nat.add_zero, Nat.mul_comm s, Nat.mul_add_mod, Nat.mod_eq_of_lt ha]
    intro h1 h2
    rw [haq h1 h2]
    by_cases h23 : mb = 23
    · rw [if_pos h23, Nat.add_mod_left, Nat.mod_eq_of_lt hp]
    · rw [if_neg h23, hp0 h23]

theorem pow_log2_bounds {f : Nat} (hf : f ≠ 0) {mb : Nat} (hlt : f < 2 ^ mb) :
    mb ≤ 52 → f.log2 < mb ∧ 2 ^ 52 ≤ f * 2 ^ (52 - f.log2) ∧ f * 2 ^ (52 - f.log2) < 2 ^ 53 := by
  intro hmb
  have h3 : f.log2 < mb := (Nat.log2_lt hf).2 hlt
  have hl : f.log2 ≤ 52 := Nat.le_trans (Nat.le_of_lt h3) hmb
  refine ⟨h3, ?_, ?_⟩
  · have e : 2 ^ 52 = 2 ^ f.log2 * 2 ^ (52 - f.log2) := by rw [← Nat.pow_add, Nat.add_sub_cancel' hl]
    rw [e]; exact Nat.mul_le_mul_right _ (Nat.log2_self_le hf)
  · have e : 2 ^ 53 = 2 ^ (f.log2 + 1) * 2 ^ (52 - f.log2) := by
      rw [← Nat.pow_add, Nat.add_right_comm, Nat.add_sub_cancel' hl]
    rw [e]; exact Nat.mul_lt_mul_of_pos_right Nat.lt_log2_self (Nat.pow_pos (by decide))

theorem fields_eq {eb mb w : Nat} (hw : w < 2 ^ (eb + mb + 1)) :
    (w >>> (eb + mb)) % 2 * 2 ^ (eb + mb) + (w >>> mb) % 2 ^ eb * 2 ^ mb + w % 2 ^ mb = w := by
  have h1 : w / 2 ^ (eb + mb) < 2 := Nat.div_lt_of_lt_mul (by rwa [← Nat.pow_succ])
  have h2 : w / 2 ^ (eb + mb) = w / 2 ^ mb / 2 ^ eb := by
    rw [Nat.div_div_eq_div_mul, ← Nat.pow_add, Nat.add_comm]
  simp only [Nat.shiftRight_eq_div_pow]
  rw [Nat.mod_eq_of_lt h1, h2, Nat.pow_add, ← Nat.mul_assoc, ← Nat.add_mul, Nat.div_add_mod',
    Nat.div_add_mod']

/-- `hd`: all numbers of the format are binary64 normal numbers; `hc`: the narrowing reproduces the NaN fraction.
The widened significand is the narrow one times a power of two, so rounding is exact (`rne_exact`). -/
theorem narrowTo_widenFrom {eb mb : Nat} (heb : 1 ≤ eb) (hmb : 1 ≤ mb) (hmb52 : mb ≤ 52)
    (hd : mb + 2 ^ (eb - 1) ≤ 1024) (m : Cast) {w : Nat} (hc : CanonF eb mb w) :
    narrowTo eb mb m (widenFrom eb mb w) = w := by
  obtain ⟨hw, hnan⟩ := hc
  refine Eq.trans ?_ (fields_eq hw)
  have hs : (w >>> (eb + mb)) % 2 < 2 := Nat.mod_lt _ (by decide)
  have he : (w >>> mb) % 2 ^ eb < 2 ^ eb := Nat.mod_lt _ (Nat.pow_pos (by decide))
  have hf : w % 2 ^ mb < 2 ^ mb := Nat.mod_lt _ (Nat.pow_pos (by decide))
  have hH := two_pow_pred eb heb
  have hpos : 0 < 2 ^ (eb - 1) := Nat.pow_pos (by decide)
  -- `d`: the difference of the exponent biases
  obtain ⟨d, hdd, hdH⟩ : ∃ d, 1023 - (2 ^ (eb - 1) - 1) = d ∧ d + 2 ^ (eb - 1) = 1024 := ⟨_, rfl, by omega⟩
  simp only [widenFrom, Nat.shiftLeft_eq, hdd]
  generalize (w >>> (eb + mb)) % 2 = s at *
  generalize (w >>> mb) % 2 ^ eb = e at *
  generalize w % 2 ^ mb = f at *
  have hP : 2 ^ mb * 2 ^ (52 - mb) = 2 ^ 52 := by rw [← Nat.pow_add, Nat.add_sub_cancel' hmb52]
  have hF : f * 2 ^ (52 - mb) < 2 ^ 52 :=
    hP ▸ Nat.mul_lt_mul_of_pos_right hf (Nat.pow_pos (by decide))
  have hinf : 2 ^ mb ≤ (2 ^ eb - 1) * 2 ^ mb :=
    Nat.le_mul_of_pos_left _ (Nat.sub_pos_of_lt (Nat.one_lt_two_pow (Nat.ne_of_gt heb)))
  by_cases hA : e = 2 ^ eb - 1
  · -- infinity or NaN
    rw [if_pos hA, narrowTo_fields eb mb m hs (by decide : 2047 < 2048) hF]
    subst hA
    simp only [narrowCore, if_true, Nat.shiftLeft_eq, Nat.shiftRight_eq_div_pow,
      Nat.mul_div_cancel _ (Nat.pow_pos (by decide : 0 < 2))]
    by_cases hf0 : f = 0
    · subst hf0; simp only [Nat.zero_mul, if_true, Nat.add_zero]
    · rw [if_neg (Nat.mul_ne_zero hf0 (Nat.ne_of_gt (Nat.pow_pos (by decide)))),
        Nat.add_assoc _ (2 ^ (mb - 1)), ← hnan rfl hf0]
  · rw [if_neg hA]
    by_cases h0 : e = 0
    · subst h0
      rw [if_pos rfl]
      by_cases hf0 : f = 0
      · -- zero
        subst hf0
        have := narrowTo_fields eb mb m (s := s) (E := 0) (F := 0) hs (by decide) (by decide)
        simp only [Nat.zero_mul, Nat.add_zero] at this
        rw [if_pos rfl, this, narrowCore_of_lt _ _ _ _ (by decide) ((magOf_zero eb mb).symm ▸ inf_pos heb mb),
          magOf_zero, Nat.shiftLeft_eq, Nat.zero_mul]
      · -- subnormal: the leading bit of `f` is the hidden bit of the widened number and adds into its
        -- exponent field
        rw [if_neg hf0]
        obtain ⟨hk, hg1, hg2⟩ := pow_log2_bounds hf0 hf hmb52
        generalize f.log2 = k at *
        obtain ⟨j, hj, hjd⟩ : ∃ j, k + d - mb = j ∧ j + mb = k + d := ⟨_, rfl, by omega⟩
        obtain ⟨hj', hjd', hdj⟩ : j + 1 < 2047 ∧ j < d ∧ d - j = mb - k := by omega
        have e3 : 52 - mb + (d + 1 - (j + 1)) = 52 - k := by
          rw [Nat.add_sub_add_right, hdj, Nat.sub_add_sub_cancel hmb52 (Nat.le_of_lt hk)]
        have hM : magOf eb mb (j + 1) (f * 2 ^ (52 - k) - 2 ^ 52) = f := by
          rw [magOf_sub eb mb _ (Nat.succ_ne_zero j) (hdd ▸ hjd'), hdd, Nat.add_sub_cancel' hg1, e3, rne_exact]
        rw [hj, ← Nat.add_sub_cancel' hg1, ← Nat.add_assoc, Nat.add_assoc (s * 2 ^ 63), ← Nat.add_one_mul,
          narrowTo_fields eb mb m hs (Nat.lt_succ_of_lt hj') (Nat.sub_lt_left_of_lt_add hg1 hg2),
          narrowCore_of_lt _ _ _ _ (Nat.ne_of_lt hj') (by rw [hM, Nat.shiftLeft_eq]; exact Nat.lt_of_lt_of_le hf hinf),
          hM, Nat.shiftLeft_eq, Nat.zero_mul, Nat.add_zero]
    · -- normal: the exponent field of the widened number is in the normal range too
      have hE : e + d < 2047 := by omega
      have hM : magOf eb mb (e + d) (f * 2 ^ (52 - mb)) = e * 2 ^ mb + f := by
        rw [magOf_normal eb mb _ (by omega), hdd, Nat.shiftLeft_eq, ← hP, ← Nat.add_mul, rne_exact,
          Nat.add_sub_cancel, ← Nat.add_assoc, ← Nat.succ_mul, Nat.succ_eq_add_one,
          Nat.sub_add_cancel (Nat.pos_of_ne_zero h0)]
      have h5 : e * 2 ^ mb + f < (2 ^ eb - 1) * 2 ^ mb :=
        Nat.lt_of_lt_of_le (Nat.add_lt_add_left hf _)
          (Nat.succ_mul .. ▸ Nat.mul_le_mul_right _ (show e + 1 ≤ 2 ^ eb - 1 by omega))
      rw [if_neg h0, narrowTo_fields eb mb m hs (Nat.lt_succ_of_lt hE) hF,
        narrowCore_of_lt _ _ _ _ (Nat.ne_of_lt hE) (by rwa [hM, Nat.shiftLeft_eq]), hM, Nat.shiftLeft_eq,
        Nat.add_assoc]

/-- exponent field and fraction of the binary64 pattern of the largest finite value of the format `(eb, mb)` -/
def maxExp (eb : Nat) : Nat := 2 ^ eb - 2 + (1023 - (2 ^ (eb - 1) - 1))
def maxFrac (mb : Nat) : Nat := (2 ^ mb - 1) * 2 ^ (52 - mb)

theorem widenFrom_mag (eb mb : Nat) (heb : 2 ≤ eb) (hmb : mb ≤ 52) (w : Nat) :
    ∃ r, widenFrom eb mb w = (w >>> (eb + mb)) % 2 * 2 ^ 63 + r ∧
      ((widenFrom eb mb w >>> 52) % 2048 = 2047 ∨ r ≤ maxExp eb * 2 ^ 52 + maxFrac mb) := by
  have he : (w >>> mb) % 2 ^ eb < 2 ^ eb := Nat.mod_lt _ (Nat.pow_pos (by decide))
  have hf : w % 2 ^ mb < 2 ^ mb := Nat.mod_lt _ (Nat.pow_pos (by decide))
  have hE : 2 ^ 2 ≤ 2 ^ eb := Nat.pow_le_pow_right (by decide) heb
  simp only [widenFrom, Nat.shiftLeft_eq, maxExp, maxFrac]
  generalize (w >>> (eb + mb)) % 2 = s
  generalize (w >>> mb) % 2 ^ eb = e at *
  generalize w % 2 ^ mb = f at *
  generalize 1023 - (2 ^ (eb - 1) - 1) = d
  split
  · have hF : f * 2 ^ (52 - mb) < 2 ^ 52 := by
      have := Nat.mul_lt_mul_of_pos_right hf (Nat.pow_pos (a := 2) (n := 52 - mb) (by decide))
      rwa [← Nat.pow_add, Nat.add_sub_cancel' hmb] at this
    exact ⟨_, Nat.add_assoc _ _ _, .inl (exp_fields s (by decide) hF)⟩
  · split
    · split
      · exact ⟨0, (Nat.add_zero _).symm, .inr (Nat.zero_le _)⟩
      · -- subnormal in the narrow format: below the second binade of the format's normal numbers
        rename_i hf0
        obtain ⟨hk, _, hhi⟩ := pow_log2_bounds hf0 hf hmb
        refine ⟨_, Nat.add_assoc _ _ _, .inr (Nat.le_trans (Nat.le_of_lt (Nat.add_lt_add_left hhi _)) ?_)⟩
        have := Nat.mul_le_mul_right (2 ^ 52) (show f.log2 + d - mb + 2 ≤ 2 ^ eb - 2 + d by omega)
        omega
    · exact ⟨_, Nat.add_assoc _ _ _, .inr (Nat.add_le_add (Nat.mul_le_mul_right _ (by omega))
        (Nat.mul_le_mul_right _ (by omega)))⟩

def Canon (n w : Nat) : Prop :=
  if n = 16 then CanonF 5 10 w else if n = 32 then CanonF 8 23 w else w < 2 ^ 64

theorem canon_narrow {n : Nat} (hn : n = 16 ∨ n = 32 ∨ n = 64) (m : Cast) (x : Nat) :
    Canon n (narrow n m x) := by
  rcases hn with rfl | rfl | rfl
  · simpa [Canon, narrow] using canonF_narrowTo (eb := 5) (mb := 10) (by decide) m x
  · simpa [Canon, narrow] using canonF_narrowTo (eb := 8) (mb := 23) (by decide) m x
  · simp only [Canon, narrow]; exact Nat.mod_lt _ (by decide)

theorem Canon.lt {n w : Nat} (hn : n = 16 ∨ n = 32 ∨ n = 64) (hc : Canon n w) : w < 2 ^ n := by
  rcases hn with rfl | rfl | rfl
  · exact (show CanonF 5 10 w from hc).1
  · exact (show CanonF 8 23 w from hc).1
  · exact hc

theorem narrow_lt {n : Nat} (hn : n = 16 ∨ n = 32 ∨ n = 64) (m : Cast) (x : Nat) :
    narrow n m x < 2 ^ n :=
  (canon_narrow hn m x).lt hn

theorem narrow_widen {n : Nat} (hn : n = 16 ∨ n = 32 ∨ n = 64) (m : Cast) {w : Nat} (hc : Canon n w) :
    narrow n m (widen n w) = w := by
  rcases hn with rfl | rfl | rfl
  · simpa [narrow, widen] using
      narrowTo_widenFrom (eb := 5) (mb := 10) (by decide) (by decide) (by decide) (by decide) m hc
  · simpa [narrow, widen] using
      narrowTo_widenFrom (eb := 8) (mb := 23) (by decide) (by decide) (by decide) (by decide) m hc
  · simpa [narrow, widen, Canon, Nat.mod_eq_of_lt] using hc

theorem narrow_widen_narrow {n : Nat} (hn : n = 16 ∨ n = 32 ∨ n = 64) (m : Cast) (x : Nat) :
    narrow n m (widen n (narrow n m x)) = narrow n m x :=
  narrow_widen hn m (canon_narrow hn m x)

end NunavutVerif.Dsdl
