import NunavutVerif.Lemmas.Resolve
import NunavutVerif.Model.ResolveDirs
/-!
C16, the loader over a directory list (Model/ResolveDirs.lean).  Python's string order is `<` on `List Char`
(`pathLt_iff_lt`), so `sorted(set(·))` is determined by its members (`sortDedup_congr`); a directory and the loop over
the directories are core's `find?` and `findSome?`; the rest says what is a member of each listing.
-/
namespace NunavutVerif.Resolve

theorem pathLt_iff_lt : ∀ a b : Path, pathLt a b = true ↔ a < b
  | [], [] => by simp [pathLt]
  | [], _ :: _ => by simp [pathLt]
  | _ :: _, [] => by simp [pathLt]
  | x :: xs, y :: ys => by
    have hc : x.toNat < y.toNat ↔ x < y := Iff.rfl
    rw [List.cons_lt_cons_iff, ← pathLt_iff_lt xs ys, ← hc]
    simp only [pathLt]
    by_cases h1 : x.toNat < y.toNat
    · simp [h1]
    · by_cases h2 : y.toNat < x.toNat
      · have : x ≠ y := fun e => by rw [e] at h2; omega
        simp [h1, h2, this]
      · simp [show x = y from Char.toNat_inj.mp (by omega)]

theorem pathLt_irrefl (a : Path) : ¬ pathLt a a = true :=
  fun h => List.lt_irrefl a ((pathLt_iff_lt a a).mp h)

theorem pathLt_asymm (a b : Path) (h : pathLt a b = true) : ¬ pathLt b a = true :=
  fun h' => List.lt_asymm ((pathLt_iff_lt a b).mp h) ((pathLt_iff_lt b a).mp h')

theorem pathLt_trans (a b c : Path) (h1 : pathLt a b = true) (h2 : pathLt b c = true) : pathLt a c = true :=
  (pathLt_iff_lt a c).mpr (List.lt_trans ((pathLt_iff_lt a b).mp h1) ((pathLt_iff_lt b c).mp h2))

theorem pathLt_total (a b : Path) (h : ¬ pathLt a b = true) (hne : a ≠ b) : pathLt b a = true := by
  rw [pathLt_iff_lt] at h ⊢
  exact Decidable.by_contra fun h' => hne (List.le_antisymm h' h)

def StrictSorted (l : List Path) : Prop := l.Pairwise fun a b => pathLt a b = true

theorem mem_insertSorted (x p : Path) : ∀ l : List Path, p ∈ insertSorted x l ↔ p = x ∨ p ∈ l
  | [] => by simp [insertSorted]
  | y :: ys => by
    unfold insertSorted
    split
    · simp
    · split
      · next h => subst h; simp
      · simp only [List.mem_cons, mem_insertSorted x p ys]; exact or_left_comm

theorem strictSorted_insertSorted (x : Path) : ∀ l : List Path, StrictSorted l → StrictSorted (insertSorted x l)
  | [], _ => by simp [insertSorted, StrictSorted]
  | y :: ys, h => by
    unfold StrictSorted at h ⊢
    rw [List.pairwise_cons] at h
    unfold insertSorted
    split
    · next hxy =>
      refine List.pairwise_cons.mpr ⟨?_, List.pairwise_cons.mpr h⟩
      intro b hb
      rcases List.mem_cons.mp hb with rfl | hb
      · exact hxy
      · exact pathLt_trans _ _ _ hxy (h.1 b hb)
    · next hxy =>
      split
      · exact List.pairwise_cons.mpr h
      · next hne =>
        refine List.pairwise_cons.mpr ⟨?_, strictSorted_insertSorted x ys h.2⟩
        intro b hb
        rcases (mem_insertSorted x b ys).mp hb with rfl | hb
        · exact pathLt_total _ _ hxy hne
        · exact h.1 b hb

theorem mem_sortDedup (p : Path) : ∀ l : List Path, p ∈ sortDedup l ↔ p ∈ l
  | [] => by simp [sortDedup]
  | x :: xs => by simp [sortDedup, mem_insertSorted, mem_sortDedup p xs]

theorem strictSorted_sortDedup : ∀ l : List Path, StrictSorted (sortDedup l)
  | [] => by simp [sortDedup, StrictSorted]
  | x :: xs => strictSorted_insertSorted x _ (strictSorted_sortDedup xs)

theorem strictSorted_nodup {l : List Path} (h : StrictSorted l) : l.Nodup := by
  refine List.Pairwise.imp (fun hxy e => ?_) h
  rw [e] at hxy
  exact pathLt_irrefl _ hxy

theorem strictSorted_ext (a b : List Path) (ha : StrictSorted a) (hb : StrictSorted b) (h : ∀ p, p ∈ a ↔ p ∈ b) :
    a = b :=
  ((List.perm_ext_iff_of_nodup (strictSorted_nodup ha) (strictSorted_nodup hb)).mpr h).eq_of_pairwise
    (fun x y _ _ hxy hyx => absurd hyx (pathLt_asymm x y hxy)) ha hb

theorem sortDedup_congr (a b : List Path) (h : ∀ p, p ∈ a ↔ p ∈ b) : sortDedup a = sortDedup b :=
  strictSorted_ext _ _ (strictSorted_sortDedup a) (strictSorted_sortDedup b)
    fun p => by rw [mem_sortDedup, mem_sortDedup, h]

theorem sfind_eq_find (d : Store) (t : Path) : sfind d t = (d.find? (·.1 = t)).map (·.2) := by
  induction d with
  | nil => rfl
  | cons e d ih => by_cases h : e.1 = t <;> simp [sfind, h, ih]

theorem sfind_isSome_iff (t : Path) (d : Store) : (sfind d t).isSome ↔ t ∈ names d := by
  simp [sfind_eq_find, names, List.find?_isSome]

theorem sfind_none_iff (t : Path) (d : Store) : sfind d t = none ↔ t ∉ names d := by
  rw [← sfind_isSome_iff]; cases sfind d t <;> simp

theorem sfind_append (a b : Store) (t : Path) :
    sfind (a ++ b) t = match sfind a t with
      | some v => some v
      | none => sfind b t := by
  simp only [sfind_eq_find, List.find?_append]
  cases List.find? _ a <;> rfl

theorem fsSource_eq_findSome (dirs : List Store) (t : Path) : fsSource dirs t = dirs.findSome? (sfind · t) := by
  induction dirs with
  | nil => rfl
  | cons d ds ih => simp only [fsSource, List.findSome?_cons, ih]; cases sfind d t <;> rfl

theorem fsSource_isSome_iff (t : Path) (dirs : List Store) : (fsSource dirs t).isSome ↔ ∃ d ∈ dirs, t ∈ names d := by
  simp only [fsSource_eq_findSome, List.findSome?_isSome_iff, sfind_isSome_iff]

theorem mem_fsList (p : Path) (dirs : List Store) : p ∈ fsList dirs ↔ ∃ d ∈ dirs, p ∈ names d := by
  unfold fsList
  rw [mem_sortDedup, List.mem_flatMap]

def UnionOf (u : Store) (dirs : List Store) : Prop := ∀ t, sfind u t = fsSource dirs t

theorem fsList_union {u : Store} {dirs : List Store} (h : UnionOf u dirs) : fsList [u] = fsList dirs := by
  unfold fsList
  apply sortDedup_congr
  intro p
  rw [List.mem_flatMap, List.mem_flatMap]
  have := fsSource_isSome_iff p dirs
  rw [← h p, sfind_isSome_iff] at this
  simp only [List.mem_singleton, exists_eq_left]
  exact this

theorem unionOf_flatten (dirs : List Store) : UnionOf dirs.flatten dirs := fun t => by
  simp only [sfind_eq_find, fsSource_eq_findSome, List.find?_flatten, List.map_findSome?]
  rfl

theorem firstDir_fsSource (t : Path) : ∀ dirs : List Store, (firstDir dirs t).map (·.2) = fsSource dirs t
  | [] => rfl
  | d :: ds => by
    unfold firstDir fsSource
    cases sfind d t with
    | some v => rfl
    | none => simp [← firstDir_fsSource t ds, Option.map_map, Function.comp_def]

theorem firstDir_spec (t : Path) : ∀ (dirs : List Store) (i v : Nat), firstDir dirs t = some (i, v) →
    (∃ d, dirs[i]? = some d ∧ sfind d t = some v) ∧ ∀ j, j < i → ∀ d, dirs[j]? = some d → sfind d t = none
  | [], _, _, h => by simp [firstDir] at h
  | d :: ds, i, v, h => by
    unfold firstDir at h
    cases hd : sfind d t with
    | some w => rw [hd] at h; cases h; exact ⟨⟨d, rfl, hd⟩, fun j hj => absurd hj (Nat.not_lt_zero j)⟩
    | none =>
      rw [hd] at h
      cases hr : firstDir ds t with
      | none => rw [hr] at h; cases h
      | some r =>
        rw [hr] at h
        cases h
        obtain ⟨⟨d', h1, h2⟩, h3⟩ := firstDir_spec t ds r.1 r.2 hr
        refine ⟨⟨d', h1, h2⟩, fun j hj d'' hj' => ?_⟩
        cases j with
        | zero => cases hj'; exact hd
        | succ j => exact h3 j (Nat.lt_of_succ_lt_succ hj) d'' hj'

theorem mem_templatesOf (sfx : Name) (files : List Path) (n : Name) (p : Path) :
    (n, p) ∈ templatesOf sfx files ↔ p ∈ files ∧ splitExt (baseName p) = (n, sfx) := by
  unfold templatesOf
  rw [List.mem_filterMap]
  constructor
  · rintro ⟨f, hf, h⟩
    by_cases hs : (splitExt (baseName f)).2 = sfx
    · simp only [hs, if_true, Option.some.injEq, Prod.mk.injEq] at h
      obtain ⟨h1, rfl⟩ := h
      exact ⟨hf, by rw [← h1, ← hs]⟩
    · simp [hs] at h
  · rintro ⟨hf, h⟩
    exact ⟨p, hf, by simp [h]⟩

theorem suffixMatch_globMatch (sfx : Name) (p : Path) (h : suffixMatch sfx p = true) : globMatch sfx p = true := by
  unfold suffixMatch at h
  unfold globMatch
  have hs : (splitExt (baseName p)).2 <:+ baseName p := by
    unfold splitExt
    split
    · split
      · exact List.drop_suffix _ _
      · exact List.nil_suffix
    · exact List.nil_suffix
  rw [of_decide_eq_true h] at hs
  exact List.isSuffixOf_iff_suffix.mpr hs

theorem globMatch_iff (x : List Char) (hx : x ≠ []) (hdot : '.' ∉ x) (p : Path) :
    globMatch ('.' :: x) p = true ↔ suffixMatch ('.' :: x) p = true ∨ baseName p = '.' :: x := by
  constructor
  · intro h
    unfold globMatch at h
    obtain ⟨s, hs⟩ := List.isSuffixOf_iff_suffix.mp h
    by_cases hnil : s = []
    · right; rw [← hs, hnil]; rfl
    · left
      unfold suffixMatch
      rw [← hs, splitExt_last_suffix s x hnil hx hdot]
      simp
  · rintro (h | h)
    · exact suffixMatch_globMatch _ _ h
    · unfold globMatch; rw [h]; exact List.isSuffixOf_iff_suffix.mpr (List.suffix_refl _)

theorem mem_enumDir (sfx : Name) (i : Nat) (d : Store) (o : Origin) (j : Nat) (p : Path) :
    (o, j, p) ∈ enumDir sfx i d ↔ o = .user ∧ j = i ∧ p ∈ names d ∧ globMatch sfx p = true := by
  unfold enumDir
  simp only [List.mem_map, List.mem_filter, Prod.mk.injEq]
  constructor
  · rintro ⟨q, ⟨h1, h2⟩, h3, h4, h5⟩
    subst h5; exact ⟨h3.symm, h4.symm, h1, h2⟩
  · rintro ⟨h1, h2, h3, h4⟩
    exact ⟨p, ⟨h3, h4⟩, h1.symm, h2.symm, rfl⟩

theorem enumDirs_eq (sfx : Name) (dirs : List Store) (k : Nat) :
    enumDirs sfx k dirs = (dirs.zipIdx k).flatMap fun di => enumDir sfx di.2 di.1 := by
  induction dirs generalizing k with
  | nil => rfl
  | cons d ds ih => simp only [enumDirs, List.zipIdx_cons, List.flatMap_cons, ih]

theorem mem_getTemplates_user (sfx : Name) (dirs : List Store) (pkg : Option Store) (j : Nat) (p : Path) :
    (Origin.user, j, p) ∈ getTemplates sfx (some dirs) pkg ↔
      ∃ d, dirs[j]? = some d ∧ p ∈ names d ∧ globMatch sfx p = true := by
  simp only [getTemplates, List.mem_append, enumDirs_eq, List.mem_flatMap, Prod.exists, List.mk_mem_zipIdx_iff_getElem?,
    mem_enumDir, true_and]
  constructor
  · rintro (⟨d, i, h, rfl, h'⟩ | h)
    · exact ⟨d, h, h'⟩
    · cases pkg <;> simp at h
  · rintro ⟨d, h, h'⟩
    exact Or.inl ⟨d, j, h, rfl, h'⟩

theorem mem_getTemplates_builtin (sfx : Name) (dirs : Option (List Store)) (pkg : Option Store) (j : Nat) (p : Path) :
    (Origin.builtin, j, p) ∈ getTemplates sfx dirs pkg ↔
      ∃ s, pkg = some s ∧ j = 0 ∧ p ∈ pkgList s ∧ suffixMatch sfx p = true := by
  unfold getTemplates
  rw [List.mem_append]
  constructor
  · rintro (h | h)
    · cases dirs with
      | none => cases h
      | some ds => simp [enumDirs_eq, mem_enumDir] at h
    · cases pkg with
      | none => cases h
      | some s =>
        obtain ⟨q, hq, h⟩ := List.mem_map.mp h
        cases h
        exact ⟨s, rfl, rfl, List.mem_filter.mp hq⟩
  · rintro ⟨s, rfl, rfl, h⟩
    exact Or.inr (List.mem_map.mpr ⟨p, List.mem_filter.mpr h, rfl⟩)

theorem mem_dirsTemplates (sfx : Name) (dirs : List Store) (n : Name) (q : Path) :
    (n, q) ∈ dirsTemplates sfx dirs ↔ (∃ d ∈ dirs, q ∈ names d) ∧ splitExt (baseName q) = (n, sfx) := by
  unfold dirsTemplates
  rw [mem_templatesOf, mem_fsList]

theorem stem_of_mem_merged {sfx : Name} {dirs : List Store} {pkg : Option Store} {n : Name} {q : Path}
    (h : (n, q) ∈ merged (some (dirsTemplates sfx dirs)) (pkg.map (pkgTemplates sfx))) :
    splitExt (baseName q) = (n, sfx) := by
  rcases List.mem_append.mp h with h | h
  · cases pkg with
    | none => cases h
    | some s => exact ((mem_templatesOf ..).mp h).2
  · exact ((mem_templatesOf ..).mp h).2

theorem mem_candidates (sfx : Name) (dirs : Option (List Store)) (pkg : Option Store) (p : Path) :
    p ∈ candidates sfx dirs pkg ↔
      ∃ n, mfind (dirs.map (dirsTemplates sfx)) (pkg.map (pkgTemplates sfx)) n = some p := by
  unfold candidates
  simp only [List.mem_map, List.mem_filter, decide_eq_true_eq]
  constructor
  · rintro ⟨e, ⟨_, h2⟩, rfl⟩
    exact ⟨e.1, by rw [← tfind_merged]; exact h2⟩
  · rintro ⟨n, h⟩
    rw [← tfind_merged] at h
    exact ⟨(n, p), ⟨tfind_mem h, h⟩, rfl⟩

end NunavutVerif.Resolve
