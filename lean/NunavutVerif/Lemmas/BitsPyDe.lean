import NunavutVerif.Lemmas.BitOf
import NunavutVerif.Lemmas.Bits
/-!
Helper lemmas for C14 (Python `Deserializer`): every fetch returns bytes that hold the zero-extended bits from the cursor
on (`slice_at_cursor` at an aligned cursor, `fetchUnalignedLoop_spec` otherwise), and numbers are `fieldOf` of those.
-/
namespace NunavutVerif.Bits.Py
open NunavutVerif.Bits

theorem getByte_testBit (buf : Buf) (k j : Nat) (hj : j < 8) : (getByte buf k).testBit j = bitAt buf (8 * k + j) := by
  rw [bitAt_mul_add buf k hj]
  unfold getByte
  cases buf[k]? <;> simp

theorem getByte_lt (buf : Buf) (hw : WF buf) (k : Nat) : getByte buf k < 256 := by
  unfold getByte
  cases h : buf[k]? with
  | none => simp
  | some x => exact hw x (List.mem_of_getElem? h)

theorem getByte_testBit_ge (buf : Buf) (hw : WF buf) (k j : Nat) (hj : 8 ≤ j) : (getByte buf k).testBit j = false :=
  testBit_ge_of_lt_256 (getByte_lt buf hw k) hj

theorem slice_eq (buf : Buf) (l r : Nat) (h : l ≤ r) :
    getUnsignedSlice buf l r = .ok ((buf.drop l).take (r - l) ++
      List.replicate (r - l - ((buf.drop l).take (r - l)).length) 0) := by
  unfold getUnsignedSlice
  rw [if_neg (fun c => c h)]
  dsimp only
  split
  · rfl
  · rw [show r - l - ((buf.drop l).take (r - l)).length = 0 by omega, List.replicate_zero, List.append_nil]

theorem slice_bits (buf : Buf) (l r : Nat) (h : l ≤ r) :
    ∃ out, getUnsignedSlice buf l r = .ok out ∧ out.length = r - l ∧ (WF buf → WF out) ∧
      ∀ i, bitAt out i = (decide (i < 8 * (r - l)) && bitAt buf (8 * l + i)) := by
  refine ⟨_, slice_eq buf l r h,
    by rw [List.length_append, List.length_replicate, List.length_take, List.length_drop]; omega,
    fun hw => WF_append (WF_take (WF_drop hw _) _) (WF_replicate _), fun i => ?_⟩
  rw [bitAt_append_zeros, bitAt_take, bitAt_drop, decide_eq_decide.mpr (show i / 8 < r - l ↔ i < 8 * (r - l) by omega)]

theorem slice_at_cursor (d : De) (n : Nat) (ha : d.off % 8 = 0) :
    ∃ bs, getUnsignedSlice d.buf (d.off / 8) (d.off / 8 + n) = .ok bs ∧ bs.length = n ∧ (WF d.buf → WF bs) ∧
      ∀ i, bitAt bs i = (decide (i < 8 * n) && bitAt d.buf (d.off + i)) := by
  obtain ⟨bs, h1, h2, h3, h4⟩ := slice_bits d.buf (d.off / 8) (d.off / 8 + n) (Nat.le_add_right _ _)
  rw [Nat.add_sub_cancel_left] at h2 h4
  rw [mul_div_aligned ha] at h4
  exact ⟨bs, h1, h2, h3, h4⟩

theorem fetchByte_testBit (buf : Buf) (hw : WF buf) (off j : Nat) (hj : j < 8) :
    (((getByte buf (off / 8)) >>> (off % 8)) |||
      (((getByte buf (off / 8 + 1)) <<< (8 - off % 8)) &&& 0xFF)).testBit j = bitAt buf (off + j) := by
  obtain ⟨k, m, hm, rfl⟩ := exists_byte_bit off
  rw [mul_add_div8 k hm, mul_add_mod8 k hm, Nat.testBit_or, Nat.testBit_shiftRight, testBit_and_255,
    Nat.testBit_shiftLeft, decide_eq_true hj, Bool.and_true]
  by_cases h : m + j < 8
  · rw [getByte_testBit _ _ _ h, decide_eq_false (show ¬ j ≥ 8 - m by omega), Bool.false_and, Bool.or_false,
      Nat.add_assoc]
  · rw [getByte_testBit_ge buf hw _ _ (by omega), Bool.false_or, decide_eq_true (show j ≥ 8 - m by omega),
      Bool.true_and, getByte_testBit _ _ _ (show j - (8 - m) < 8 by omega),
      show 8 * (k + 1) + (j - (8 - m)) = 8 * k + m + j by omega]

theorem fetchByte_lt (x y l r : Nat) (hx : x < 256) : ((x >>> r) ||| ((y <<< l) &&& 0xFF)) < 256 := by
  exact Nat.or_lt_two_pow (n := 8) (Nat.lt_of_le_of_lt (Nat.shiftRight_le _ _) hx) (and_255_lt _)

theorem fetchUnalignedLoop_spec (buf : Buf) (hw : WF buf) (n : Nat) : ∀ (off : Nat),
    (fetchUnalignedLoop buf (8 - off % 8) (off % 8) n off).length = n ∧
    WF (fetchUnalignedLoop buf (8 - off % 8) (off % 8) n off) ∧
    ∀ i, bitAt (fetchUnalignedLoop buf (8 - off % 8) (off % 8) n off) i
      = (decide (i < 8 * n) && bitAt buf (off + i)) := by
  induction n with
  | zero => intro off; simp [fetchUnalignedLoop, bitAt_nil, WF]
  | succ n ih =>
    intro off
    obtain ⟨h1, h2, h3⟩ := ih (off + 8)
    rw [show (off + 8) % 8 = off % 8 by omega] at h1 h2 h3
    rw [fetchUnalignedLoop]
    refine ⟨by rw [List.length_cons, h1], fun x hx => ?_,
      bitAt_cons_step (fun j hj => fetchByte_testBit buf hw off j hj) fun i => by rw [h3, Nat.add_assoc]⟩
    rcases List.mem_cons.mp hx with e | e
    · rw [e]; exact fetchByte_lt _ _ _ _ (getByte_lt buf hw _)
    · exact h2 x e

theorem fetchAlignedBytes_spec (d : De) (count : Nat) (ha : d.off % 8 = 0) :
    ∃ bs, fetchAlignedBytes d count = .ok (bs, ⟨d.buf, d.off + count * 8⟩) ∧ bs.length = count ∧
      (WF d.buf → WF bs) ∧ ∀ i, bitAt bs i = (decide (i < 8 * count) && bitAt d.buf (d.off + i)) := by
  obtain ⟨bs, h1, h2, h3, h4⟩ := slice_at_cursor d count ha
  exact ⟨bs, by simp [fetchAlignedBytes, assertAligned_ok ha, h1, bind, Except.bind], h2, h3, h4⟩

theorem fetchUnalignedBytes_spec (d : De) (count : Nat) (hw : WF d.buf) :
    ∃ bs, fetchUnalignedBytes d count = .ok (bs, ⟨d.buf, d.off + count * 8⟩) ∧ bs.length = count ∧ WF bs ∧
      ∀ i, bitAt bs i = (decide (i < 8 * count) && bitAt d.buf (d.off + i)) := by
  unfold fetchUnalignedBytes
  by_cases hc : count > 0
  · rw [if_pos hc]
    by_cases hu : d.off % 8 ≠ 0
    · rw [if_pos hu]
      obtain ⟨h1, h2, h3⟩ := fetchUnalignedLoop_spec d.buf hw count d.off
      exact ⟨_, rfl, h1, h2, h3⟩
    · rw [if_neg hu]
      obtain ⟨bs, h1, h2, h3, h4⟩ := fetchAlignedBytes_spec d count (by omega)
      exact ⟨bs, h1, h2, h3 hw, h4⟩
  · have : count = 0 := by omega
    subst this
    refine ⟨[], by simp, rfl, by simp [WF], fun i => by simp [bitAt_nil]⟩

theorem fromBytesLoop_eq (x : Buf) (n : Nat) : ∀ (i : Nat), i + n ≤ x.length →
    fromBytesLoop x n i = .ok (leLoadAux ((x.drop i).take n) i) := by
  induction n with
  | zero => intro i _; rfl
  | succ n ih =>
    intro i hi
    have hlt : i < x.length := by omega
    rw [fromBytesLoop, get?_ok hlt, List.drop_eq_getElem_cons hlt, List.take_succ_cons, leLoadAux, Nat.mul_comm i 8]
    simp only [bind, Except.bind, ih (i + 1) (by omega)]

theorem unsignedFromBytes_spec (x : Buf) (bl : Nat) (hw : WF x) (hbl : 1 ≤ bl) (hlen : (bl + 7) / 8 ≤ x.length) :
    unsignedFromBytes x bl = .ok (fieldOf (bitAt x) bl) := by
  unfold unsignedFromBytes
  rw [if_neg (by omega)]
  dsimp only
  rw [if_neg (by omega)]
  -- the field ends in byte `last` at bit `r` (8: on the byte boundary); both forms of the mask are `2 ^ r - 1`
  obtain ⟨last, r, hnb, hr, he, hr1, hr8⟩ := ceil_byte bl (by omega)
  have hmask : (if bl % 8 ≠ 0 then 2 ^ (bl % 8) - 1 else 0xFF) = 2 ^ r - 1 := by
    by_cases h : bl % 8 = 0
    · rw [if_pos h] at hr
      rw [if_neg (fun c => c h), ← hr]
    · rw [if_neg h] at hr
      rw [if_pos h, hr]
  rw [hnb, Nat.add_sub_cancel, hmask]
  obtain ⟨lb, hlb⟩ := get?_of_lt (show last < x.length by omega)
  simp only [fromBytesLoop_eq x last 0 (by omega), List.drop_zero, hlb, bind, Except.bind]
  -- the whole bytes below `last`, and above them the `r` bits of byte `last`
  rw [he, fieldOf_add, Nat.mul_comm last 8]
  refine congrArg _ (congr (congrArg _ (eq_fieldOf fun k => ?_)) (congrArg (· <<< _) (eq_fieldOf fun j => ?_)))
  · rw [show leLoadAux (x.take last) 0 = leLoad (x.take last) from rfl, testBit_leLoad _ _ (WF_take hw _), bitAt_take,
      decide_eq_decide.mpr (show k / 8 < last ↔ k < 8 * last by omega)]
  · rw [Nat.testBit_and, Nat.testBit_two_pow_sub_one, Bool.and_comm]
    by_cases hj : j < r
    · rw [testBit_of_get? hlb (by omega)]
    · rw [decide_eq_false hj, Bool.false_and, Bool.false_and]

theorem backtrack_off (off n : Nat) : sub? ((n + 7) / 8 * 8) n = .ok ((n + 7) / 8 * 8 - n) ∧
    sub? (off + (n + 7) / 8 * 8) ((n + 7) / 8 * 8 - n) = .ok (off + n) := by
  obtain ⟨q, j, hj, h⟩ := exists_byte_bit (n + 7)
  unfold sub?
  rw [h, mul_add_div8 q hj, if_pos (by omega), if_pos (by omega), show off + q * 8 - (q * 8 - n) = off + n by omega]
  exact ⟨rfl, rfl⟩

theorem fieldOf_fetched (d : De) (bs : Buf) (bl N : Nat) (hN : bl ≤ 8 * N)
    (h : ∀ i, bitAt bs i = (decide (i < 8 * N) && bitAt d.buf (d.off + i))) : fieldOf (bitAt bs) bl = deField d bl :=
  fieldOf_congr fun i hi => by rw [h, decide_eq_true (show i < 8 * N by omega), Bool.true_and]

theorem fetchUnalignedUnsigned_spec (d : De) (bl : Nat) (hw : WF d.buf) (hbl : 1 ≤ bl) :
    fetchUnalignedUnsigned d bl = .ok (deField d bl, ⟨d.buf, d.off + bl⟩) := by
  unfold fetchUnalignedUnsigned
  dsimp only
  obtain ⟨bs, h1, h2, h3, h4⟩ := fetchUnalignedBytes_spec d ((bl + 7) / 8) hw
  rw [h1]
  simp only [bind, Except.bind, (backtrack_off d.off bl).1, (backtrack_off d.off bl).2]
  rw [unsignedFromBytes_spec bs bl h3 hbl (by omega), fieldOf_fetched d bs bl _ (by omega) h4]

theorem signOf_eq {u bl : Nat} (hu : u < 2 ^ bl) :
    signOf u bl = if u.testBit (bl - 1) then (u : Int) - 2 ^ bl else (u : Int) := by
  rw [testBit_top hu]
  simp only [signOf, decide_eq_true_eq, ge_iff_le]

theorem signOf_deField (d : De) (bl : Nat) :
    signOf (deField d bl) bl =
      if (deField d bl).testBit (bl - 1) then (deField d bl : Int) - 2 ^ bl else (deField d bl : Int) :=
  signOf_eq (fieldOf_lt _ _)

theorem fetchUnalignedSigned_spec (d : De) (bl : Nat) (hw : WF d.buf) (hbl : 2 ≤ bl) :
    fetchUnalignedSigned d bl = .ok
      (if (deField d bl).testBit (bl - 1) then (deField d bl : Int) - 2 ^ bl else (deField d bl : Int),
       ⟨d.buf, d.off + bl⟩) := by
  unfold fetchUnalignedSigned
  rw [if_neg (by omega), fetchUnalignedUnsigned_spec d bl hw (by omega)]
  simp only [bind, Except.bind]
  rw [signOf_deField d bl]

theorem fetchUnalignedBit_spec (d : De) :
    fetchUnalignedBit d = .ok (bitAt d.buf d.off, ⟨d.buf, d.off + 1⟩) := by
  unfold fetchUnalignedBit
  dsimp only
  obtain ⟨k, j, hj, hoff⟩ := exists_byte_bit d.off
  rw [hoff, mul_add_div8 k hj, mul_add_mod8 k hj, ← getByte_testBit _ _ _ hj, Nat.one_shiftLeft, and_two_pow]
  cases (getByte d.buf k).testBit j <;> simp [Nat.ne_of_lt (Nat.two_pow_pos j)]

theorem fetchAlignedUnsigned_spec (d : De) (bl : Nat) (hw : WF d.buf) (hbl : 1 ≤ bl) (ha : d.off % 8 = 0) :
    fetchAlignedUnsigned d bl = .ok (deField d bl, ⟨d.buf, d.off + bl⟩) := by
  unfold fetchAlignedUnsigned
  obtain ⟨bs, h1, h2, h3, h4⟩ := slice_at_cursor d ((bl + 7) / 8) ha
  simp only [assertAligned_ok ha, h1, bind, Except.bind]
  rw [unsignedFromBytes_spec bs bl (h3 hw) hbl (by omega), fieldOf_fetched d bs bl _ (by omega) h4]

theorem fetchAlignedSigned_spec (d : De) (bl : Nat) (hw : WF d.buf) (hbl : 2 ≤ bl) (ha : d.off % 8 = 0) :
    fetchAlignedSigned d bl = .ok
      (if (deField d bl).testBit (bl - 1) then (deField d bl : Int) - 2 ^ bl else (deField d bl : Int),
       ⟨d.buf, d.off + bl⟩) := by
  unfold fetchAlignedSigned
  rw [if_neg (by omega), fetchAlignedUnsigned_spec d bl hw (by omega) ha]
  simp only [bind, Except.bind]
  rw [signOf_deField d bl]

theorem fetchAlignedU8_spec (d : De) (ha : d.off % 8 = 0) (hw : WF d.buf) :
    fetchAlignedU8 d = .ok (deField d 8, ⟨d.buf, d.off + 8⟩) := by
  simp only [fetchAlignedU8, assertAligned_ok ha, bind, Except.bind]
  refine congrArg (fun v => Except.ok (v, _)) (eq_fieldOf fun i => ?_)
  by_cases hi : i < 8
  · rw [getByte_testBit _ _ _ hi, mul_div_aligned ha, decide_eq_true hi, Bool.true_and]
  · rw [getByte_testBit_ge _ hw _ _ (by omega), decide_eq_false hi, Bool.false_and]

theorem deField_add (d : De) (m n : Nat) :
    deField d (m + n) = deField d m ||| (deField ⟨d.buf, d.off + m⟩ n <<< m) := by
  unfold deField
  rw [fieldOf_add]
  simp only [Nat.add_assoc]

theorem fetchDouble_spec (W : Nat) (f : De → Except Err (Nat × De)) (hW : W % 8 = 0)
    (hf : ∀ d : De, d.off % 8 = 0 → WF d.buf → f d = .ok (deField d W, ⟨d.buf, d.off + W⟩))
    (d : De) (ha : d.off % 8 = 0) (hw : WF d.buf) :
    (do let (a, d1) ← f d; let (b, d2) ← f d1; Except.ok (a ||| (b <<< W), d2))
      = .ok (deField d (2 * W), ⟨d.buf, d.off + 2 * W⟩) := by
  rw [hf d ha hw]
  simp only [bind, Except.bind]
  rw [hf ⟨d.buf, d.off + W⟩ (by show (d.off + W) % 8 = 0; omega) hw]
  simp only []
  rw [← deField_add, ← Nat.two_mul, Nat.add_assoc, ← Nat.two_mul]

theorem fetchAlignedU16_spec (d : De) (ha : d.off % 8 = 0) (hw : WF d.buf) :
    fetchAlignedU16 d = .ok (deField d 16, ⟨d.buf, d.off + 16⟩) :=
  fetchDouble_spec 8 fetchAlignedU8 (by omega) fetchAlignedU8_spec d ha hw

theorem fetchAlignedU32_spec (d : De) (ha : d.off % 8 = 0) (hw : WF d.buf) :
    fetchAlignedU32 d = .ok (deField d 32, ⟨d.buf, d.off + 32⟩) :=
  fetchDouble_spec 16 fetchAlignedU16 (by omega) fetchAlignedU16_spec d ha hw

theorem fetchAlignedU64_spec (d : De) (ha : d.off % 8 = 0) (hw : WF d.buf) :
    fetchAlignedU64 d = .ok (deField d 64, ⟨d.buf, d.off + 64⟩) :=
  fetchDouble_spec 32 fetchAlignedU32 (by omega) fetchAlignedU32_spec d ha hw

theorem fetchAlignedU_spec (W : Nat) (d : De) (hW : W = 8 ∨ W = 16 ∨ W = 32 ∨ W = 64) (ha : d.off % 8 = 0)
    (hw : WF d.buf) : fetchAlignedU W d = .ok (deField d W, ⟨d.buf, d.off + W⟩) := by
  rcases hW with rfl | rfl | rfl | rfl
  · exact fetchAlignedU8_spec d ha hw
  · exact fetchAlignedU16_spec d ha hw
  · exact fetchAlignedU32_spec d ha hw
  · exact fetchAlignedU64_spec d ha hw

theorem fetchAlignedI_spec (W : Nat) (d : De) (hW : W = 8 ∨ W = 16 ∨ W = 32 ∨ W = 64) (ha : d.off % 8 = 0)
    (hw : WF d.buf) :
    fetchAlignedI W d = .ok
      (if (deField d W).testBit (W - 1) then (deField d W : Int) - 2 ^ W else (deField d W : Int),
       ⟨d.buf, d.off + W⟩) := by
  unfold fetchAlignedI
  rw [fetchAlignedU_spec W d hW ha hw]
  simp only [bind, Except.bind]
  exact congrArg (fun v => Except.ok (v, _)) (signOf_deField d W)

theorem filterMap_eq_map_of_some {α β} (f : α → Option β) (g : α → β) (l : List α)
    (h : ∀ a ∈ l, f a = some (g a)) : l.filterMap f = l.map g := by
  induction l with
  | nil => rfl
  | cons a l ih =>
    rw [List.filterMap_cons, h a List.mem_cons_self, List.map_cons,
      ih (fun b hb => h b (List.mem_cons_of_mem _ hb))]

theorem unpackBits_spec (bs : Buf) (count : Nat) (h : count ≤ 8 * bs.length) :
    unpackBits bs count = (List.range count).map (bitAt bs) := by
  unfold unpackBits
  apply filterMap_eq_map_of_some
  intro i hi
  have : i < count := List.mem_range.mp hi
  have hlt : i / 8 < bs.length := by omega
  simp [bitAt, hlt]

theorem unpackBits_fetched (d : De) (bs : Buf) (count : Nat) (hlen : count ≤ 8 * bs.length)
    (h : ∀ i, bitAt bs i = (decide (i < 8 * bs.length) && bitAt d.buf (d.off + i))) :
    unpackBits bs count = (List.range count).map (fun i => bitAt d.buf (d.off + i)) := by
  rw [unpackBits_spec bs count hlen]
  apply List.map_congr_left
  intro i hi
  have : i < count := List.mem_range.mp hi
  rw [h, decide_eq_true (show i < 8 * bs.length by omega), Bool.true_and]

theorem fetchUnalignedArrayOfBits_spec (d : De) (count : Nat) (hw : WF d.buf) :
    fetchUnalignedArrayOfBits d count
      = .ok ((List.range count).map (fun i => bitAt d.buf (d.off + i)), ⟨d.buf, d.off + count⟩) := by
  unfold fetchUnalignedArrayOfBits
  dsimp only
  obtain ⟨bs, h1, h2, h3, h4⟩ := fetchUnalignedBytes_spec d ((count + 7) / 8) hw
  rw [h1]
  simp only [bind, Except.bind, (backtrack_off d.off count).1, (backtrack_off d.off count).2]
  rw [unpackBits_fetched d bs count (by omega) (h2 ▸ h4)]

theorem fetchAlignedArrayOfBits_spec (d : De) (count : Nat) (ha : d.off % 8 = 0) :
    fetchAlignedArrayOfBits d count
      = .ok ((List.range count).map (fun i => bitAt d.buf (d.off + i)), ⟨d.buf, d.off + count⟩) := by
  unfold fetchAlignedArrayOfBits
  obtain ⟨bs, h1, h2, _, h4⟩ := slice_at_cursor d ((count + 7) / 8) ha
  simp only [assertAligned_ok ha, h1, bind, Except.bind]
  rw [unpackBits_fetched d bs count (by omega) (h2 ▸ h4)]

theorem dePadLoop_spec (n : Nat) (hn : 0 < n) (fuel : Nat) : ∀ off, padBits off n ≤ fuel →
    dePadLoop n fuel off = .ok (off + padBits off n) := by
  induction fuel with
  | zero =>
    intro off h
    have h0 := Nat.le_zero.mp h
    simp [dePadLoop, padBits_eq_zero hn h0, h0]
  | succ fuel ih =>
    intro off h
    rw [dePadLoop]
    by_cases c : off % n ≠ 0
    · have hs := padBits_succ off n hn c
      rw [if_pos c, ih (off + 1) (by omega)]
      congr 1; omega
    · have c' : off % n = 0 := by omega
      rw [if_neg c, padBits_zero off n c']; rfl

theorem dePadToAlignment_spec (d : De) (n : Nat) (hn : 0 < n) :
    dePadToAlignment d n = .ok ⟨d.buf, d.off + padBits d.off n⟩ := by
  unfold dePadToAlignment
  rw [if_neg (by omega), dePadLoop_spec n hn n d.off (Nat.le_of_lt (padBits_lt _ _ hn))]
  rfl

end NunavutVerif.Bits.Py
