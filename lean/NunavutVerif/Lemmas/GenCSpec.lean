import NunavutVerif.Lemmas.GenCSerPrim
import NunavutVerif.Lemmas.DsdlFloat
import NunavutVerif.Lemmas.DsdlDecode
/-!
Facts about the *specification* the refinement needs: which types carry no data, that the lengths `serBits` writes and
`deBits` consumes are admitted by the static descriptors (`resBits`), that the storage width of an integer member
holds it, that the emitted saturation code and float conversion compute the spec's casts.
-/
namespace NunavutVerif.GenC
open NunavutVerif.Dsdl NunavutVerif.Bits
open AOff

/-- Induction over the types that carry no data (`bit_length_set.max = 0`): PyDSDL's constraints leave only arrays
without elements or of such a type, and structures of such types. -/
theorem ind_triv {P : Ty → Prop}
    (arr : ∀ t n, wf t = true → wfC t = true → (n ≠ 0 → maxBits t = 0 ∧ P t) → P (.arr t n))
    (struct : ∀ fs, wfAll fs = true → wfCAll fs = true → maxFields fs 0 = 0 →
      (∀ f ∈ fs, wf f = true → wfC f = true → maxBits f = 0 → P f) → P (.struct fs))
    (t : Ty) : wf t = true → wfC t = true → maxBits t = 0 → P t := by
  have hstd : ∀ n x, padTo 8 (stdWidth n + x) ≠ 0 := fun n x h => by
    have := padTo_ge 8 (stdWidth n + x)
    have := stdWidth_bounds n
    omega
  refine Ty.ind (P := fun t => wf t = true → wfC t = true → maxBits t = 0 → P t) ?_ ?_ ?_ ?_ ?_ ?_ ?_ ?_ ?_ ?_ t
  · intro n m hw _ hm; simp [wf, maxBits] at hw hm; omega
  · intro n m hw _ hm; simp [wf, maxBits] at hw hm; omega
  · intro n m hw _ hm; simp [wf, maxBits] at hw hm; omega
  · intro _ _ hm; cases hm
  · intro n _ hwC hm; simp [wfC, maxBits] at hwC hm; omega
  · intro t n ih hw hwC hm
    simp only [wf] at hw
    simp only [wfC, Bool.and_eq_true] at hwC
    simp only [maxBits, Nat.mul_eq_zero] at hm
    exact arr t n hw hwC.2 fun hn => have h := hm.resolve_left hn; ⟨h, ih hw hwC.2 h⟩
  · intro t c _ _ _ hm
    simp only [maxBits, prefixBits] at hm
    have := stdWidth_bounds c
    omega
  · intro fs ih hw hwC hm
    simp only [wf] at hw
    simp only [wfC] at hwC
    simp only [maxBits] at hm
    have h1 := padTo_ge 8 (maxFields fs 0)
    exact struct fs hw hwC (by omega) ih
  · intro fs _ _ _ hm
    exact absurd hm (hstd _ _)
  · intro e t _ _ _ hm
    simp [maxBits, headerBits] at hm

theorem serAll_sumsEq {t : Ty} {s : AOff} (h : ∀ v b, serBits t v = .ok b → Adm s b.length) :
    ∀ vs bits, serAllWith (serBits t) vs = .ok bits → SumsEq s vs.length bits.length := by
  intro vs
  induction vs with
  | nil => intro bits hs; simp [serAllWith] at hs; subst hs; exact sumsEq_zero s
  | cons v vs ih =>
    intro bits hs
    obtain ⟨a, b, ha, hb, rfl⟩ := serAllWith_cons_ok hs
    have := sumsEq_step (ih b hb) (h v a ha)
    simp only [List.length_cons, List.length_append]
    rwa [Nat.add_comm a.length]

def ResOK (t : Ty) : Prop := wf t = true → ∀ v bits, serBits t v = .ok bits → Adm (resBits t) bits.length

theorem resOK_composite {t : Ty} (hc : align t = 8) (hr : resBits t = AOff.zero) : ResOK t := by
  intro hw v bits h
  have := (lenOK t hw v bits h).2.2
  rw [hc] at this
  rw [hr]
  exact adm_zero this

theorem resOK_prim {t : Ty} {n : Nat} (hr : resBits t = AOff.single n) (hmin : minBits t = n) (hmax : maxBits t = n) :
    ResOK t := by
  intro hw v bits h
  have := lenOK t hw v bits h
  rw [hr, show bits.length = n by omega]
  exact adm_single n

theorem resOK (t : Ty) : ResOK t := by
  refine Ty.ind (P := ResOK) ?_ ?_ ?_ ?_ ?_ ?_ ?_ ?_ ?_ ?_ t
  · exact fun n m => resOK_prim rfl rfl rfl
  · exact fun n m => resOK_prim rfl rfl rfl
  · exact fun n m => resOK_prim rfl rfl rfl
  · exact resOK_prim rfl rfl rfl
  · exact fun n => resOK_prim rfl rfl rfl
  · intro t n ih hw v bits h
    simp only [wf] at hw
    obtain ⟨vs, rfl, rfl, hs⟩ := serBits_arr_ok h
    exact adm_kfold_zero (serAll_sumsEq (ih hw) vs bits hs)
  · intro t c ih hw v bits h
    simp only [wf, Bool.and_eq_true] at hw
    obtain ⟨vs, bs, rfl, hl, hb, rfl⟩ := serBits_varr_ok h
    have h1 := sums_of_sumsEq (serAll_sumsEq (ih hw.2) vs bs hb)
    have h2 := adm_rangeRep_zero (sums_mono h1 hl)
    simp only [resBits, List.length_append, natToBits_length]
    exact Nat.add_comm .. ▸ adm_add_bytes (stdWidth_mod8 c) h2
  · intro fs _; exact resOK_composite rfl rfl
  · intro fs _; exact resOK_composite rfl rfl
  · intro e t _; exact resOK_composite rfl rfl

theorem deAll_sumsEq {t : Ty} {s : AOff} (h : ∀ bs v u, deBits t bs = .ok (v, u) → Adm s u) :
    ∀ k bs vs used, deAllWith (deBits t) k bs = .ok (vs, used) → SumsEq s k used := by
  intro k
  induction k with
  | zero =>
    intro bs vs used hd
    simp [deAllWith] at hd
    obtain ⟨_, rfl⟩ := hd
    exact sumsEq_zero s
  | succ k ih =>
    intro bs vs used hd
    obtain ⟨v, n, vs', m, hv, hm, _, rfl⟩ := deAllWith_succ_ok hd
    have := sumsEq_step (ih (bs.drop n) vs' m hm) (h bs v n hv)
    rwa [Nat.add_comm m n] at this

def ResOKD (t : Ty) : Prop :=
  wf t = true → ∀ bs v used, deBits t bs = .ok (v, used) → Adm (resBits t) used

theorem resOKD_composite {t : Ty} (hc : align t = 8) (hr : resBits t = AOff.zero) : ResOKD t := by
  intro _ bs v used h
  have := (deLen t bs v used h).2
  rw [hc] at this
  rw [hr]
  exact adm_zero this

theorem resOKD_prim {t : Ty} {n : Nat} (hr : resBits t = AOff.single n)
    (hu : ∀ bs v u, deBits t bs = .ok (v, u) → u = n) : ResOKD t := by
  intro _ bs v u h
  rw [hu bs v u h, hr]
  exact adm_single n

theorem resOKD (t : Ty) : ResOKD t := by
  refine Ty.ind (P := ResOKD) ?_ ?_ ?_ ?_ ?_ ?_ ?_ ?_ ?_ ?_ t
  · exact fun n m => resOKD_prim rfl (fun bs v u h => by rw [deBits] at h; cases h; rfl)
  · exact fun n m => resOKD_prim rfl (fun bs v u h => by rw [deBits] at h; cases h; rfl)
  · exact fun n m => resOKD_prim rfl (fun bs v u h => by rw [deBits] at h; cases h; rfl)
  · exact resOKD_prim rfl (fun bs v u h => by rw [deBits] at h; cases h; rfl)
  · exact fun n => resOKD_prim rfl (fun bs v u h => by rw [deBits] at h; cases h; rfl)
  · intro t n ih hw bs v used h
    simp only [wf] at hw
    obtain ⟨vs, hu, _⟩ := deBits_arr_ok h
    exact adm_kfold_zero (deAll_sumsEq (ih hw) n bs vs used hu)
  · intro t c ih hw bs v used h
    simp only [wf, Bool.and_eq_true] at hw
    obtain ⟨hk, vs, u, hu, _, rfl⟩ := deBits_varr_ok h
    have h2 := adm_rangeRep_zero
      (sums_mono (sums_of_sumsEq (deAll_sumsEq (ih hw.2) _ _ vs u hu)) (Nat.le_of_not_lt hk))
    exact Nat.add_comm .. ▸ adm_add_bytes (stdWidth_mod8 c) h2
  · exact fun fs _ => resOKD_composite rfl rfl
  · exact fun fs _ => resOKD_composite rfl rfl
  · exact fun e t _ => resOKD_composite rfl rfl

theorem isStd_storW {n : Nat} (h : isStd n = true) : storW n = n := by
  simp only [isStd, Bool.or_eq_true, beq_iff_eq] at h
  rcases h with ((rfl | rfl) | rfl) | rfl <;> rfl

theorem storW_spec (n : Nat) : storW n % 8 = 0 ∧ 0 < storW n ∧ storW n ≤ 64 ∧ (n ≤ 64 → n ≤ storW n) := by
  unfold storW
  by_cases h8 : n ≤ 8
  · rw [if_pos h8]; exact ⟨rfl, by decide, by decide, fun _ => h8⟩
  · rw [if_neg h8]
    by_cases h16 : n ≤ 16
    · rw [if_pos h16]; exact ⟨rfl, by decide, by decide, fun _ => h16⟩
    · rw [if_neg h16]
      by_cases h32 : n ≤ 32
      · rw [if_pos h32]; exact ⟨rfl, by decide, by decide, fun _ => h32⟩
      · rw [if_neg h32]; exact ⟨rfl, by decide, by decide, id⟩

theorem storW_ge (n : Nat) (h : n ≤ 64) : n ≤ storW n := (storW_spec n).2.2.2 h

theorem storW_mod8 (n : Nat) : storW n % 8 = 0 := (storW_spec n).1

theorem storW_le (n : Nat) : storW n ≤ 64 := (storW_spec n).2.2.1

theorem storW_pos (n : Nat) : 0 < storW n := (storW_spec n).2.1

theorem zeroCost_mod8 {o : Opts} {t : Ty} (hz : zeroCost o t = true) : primBits t % 8 = 0 := by
  cases t <;> simp only [zeroCost, Bool.and_eq_true, Bool.or_eq_true, beq_iff_eq, Bool.false_eq_true] at hz
  · exact isStd_storW hz.2 ▸ storW_mod8 _
  · exact isStd_storW hz.2 ▸ storW_mod8 _
  · rcases hz.2 with h | h <;> rw [primBits, h]

theorem zeroCost_bytes {o : Opts} {t : Ty} (hz : zeroCost o t = true) : ∃ m, primBits t = 8 * m :=
  ⟨primBits t / 8, (mul_div_aligned (zeroCost_mod8 hz)).symm⟩

theorem zeroCost_maxBits {o : Opts} {t : Ty} (h : zeroCost o t = true) : maxBits t = primBits t := by
  cases t <;> simp [zeroCost] at h <;> rfl

theorem castU_eq_lowBits (n : Nat) (m : Cast) (i : Int) (h0 : 0 ≤ i) (h1 : i < (2 : Int) ^ storW n) :
    castU n m i = lowBits n (satV false n (m == .sat) i) := by
  cases m with
  | trunc => rfl
  | sat =>
    have hp : (0 : Int) < (2 : Int) ^ n := two_pow_pos_int n
    by_cases hstd : isStd n = true
    · have hsv : satV false n (Cast.sat == Cast.sat) i = i := by simp [satV, hstd]
      rw [hsv, isStd_storW hstd] at *
      rw [lowBits_of_range h0 h1]
      simp only [castU]
      rw [if_neg (by omega), if_neg (by omega)]
    · have hsv : satV false n (Cast.sat == Cast.sat) i = if i > (2 : Int) ^ n - 1 then (2 : Int) ^ n - 1 else i := by
        simp [satV, hstd, satInt]
      rw [hsv]
      simp only [castU]
      rw [if_neg (by omega)]
      by_cases hge : i ≥ (2 : Int) ^ n
      · rw [if_pos hge, if_pos (by omega), lowBits_of_range (by omega) (by omega)]
        have := two_pow_cast n
        omega
      · rw [if_neg hge, if_neg (by omega), lowBits_of_range h0 (by omega)]

theorem clampS_eq_satInt (n : Nat) (i : Int) : clampS n i = satInt true n i := by
  have hp : (0 : Int) < (2 : Int) ^ (n - 1) := two_pow_pos_int (n - 1)
  simp only [clampS, satInt, true_and, if_true]
  by_cases h1 : i < -(2 : Int) ^ (n - 1)
  · simp only [h1, if_true]
    rw [if_neg (by omega)]
  · simp only [h1, if_false]
    by_cases h2 : i ≥ (2 : Int) ^ (n - 1)
    · rw [if_pos h2, if_pos (by omega)]
    · rw [if_neg h2, if_neg (by omega)]

theorem castS_eq_lowBits (n : Nat) (m : Cast) (i : Int)
    (h0 : -((2 : Int) ^ (storW n - 1)) ≤ i) (h1 : i < (2 : Int) ^ (storW n - 1)) :
    castS n m i = lowBits n (satV true n (m == .sat) i) := by
  cases m with
  | trunc => rfl
  | sat =>
    by_cases hstd : isStd n = true
    · have hsv : satV true n (Cast.sat == Cast.sat) i = i := by simp [satV, hstd]
      rw [hsv]
      rw [isStd_storW hstd] at h0 h1
      simp only [castS, lowBits]
      rw [clampS_of_range h0 h1]
    · have hsv : satV true n (Cast.sat == Cast.sat) i = satInt true n i := by simp [satV, hstd]
      rw [hsv, ← clampS_eq_satInt]
      rfl

theorem floatBits_eq_narrow {n : Nat} (hn : n = 16 ∨ n = 32 ∨ n = 64) (m : Cast) (x : Nat)
    (hx : x < 2 ^ 64) (hs : n = 64 ∨ widen 32 (f32bits x) = x) :
    floatBits n m x = narrow n m x := by
  rcases hn with rfl | rfl | rfl
  · simp [floatBits]
  · simp only [floatBits, show ¬ (32 = 16) by decide, if_false, if_true]
    rcases hs with h | h
    · cases h
    · -- the `float` member holds a binary32 value: both cast modes keep it
      have hc : Canon 32 (f32bits x) := canon_narrow (Or.inr (Or.inl rfl)) .trunc x
      have := narrow_widen (Or.inr (Or.inl rfl)) m hc
      rw [h] at this
      exact this.symm
  · simp only [floatBits, narrow, show ¬ (64 = 16) by decide, show ¬ (64 = 32) by decide, if_false]
    exact (Nat.mod_eq_of_lt hx).symm

theorem wfC_topInner {t : Ty} (h : wfC t = true) : wfC (topInner t) = true := by
  cases t with
  | delim e inner => rwa [wfC] at h
  | _ => exact h

theorem storageOK_topInner {t : Ty} {v : Val} (h : storageOK t v = true) : storageOK (topInner t) v = true := by
  cases t with
  | delim e inner => rwa [storageOK] at h
  | _ => exact h

end NunavutVerif.GenC
