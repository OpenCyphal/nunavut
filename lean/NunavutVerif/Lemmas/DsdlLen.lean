import NunavutVerif.Lemmas.DsdlBits
/-!
Length law of the DSDL specification model: the serialized length lies between `minBits` and `maxBits` and
is a multiple of the alignment.
-/
namespace NunavutVerif.Dsdl

theorem add_mod_zero {x y a : Nat} (hx : x % a = 0) (hy : y % a = 0) : (x + y) % a = 0 := by
  rw [Nat.add_mod, hx, hy]; rfl

theorem stdWidth_mod_align (x : Nat) (t : Ty) : stdWidth x % align t = 0 :=
  align_mod_of_mod8 t (stdWidth_mod8 x)

def LenOK (t : Ty) : Prop :=
  ∀ v bs, serBits t v = .ok bs → minBits t ≤ bs.length ∧ bs.length ≤ maxBits t ∧ bs.length % align t = 0

theorem serAll_len {t : Ty} {A B : Nat}
    (h : ∀ v bs, serBits t v = .ok bs → A ≤ bs.length ∧ bs.length ≤ B ∧ bs.length % align t = 0) :
    ∀ vs bs, serAllWith (serBits t) vs = .ok bs →
      vs.length * A ≤ bs.length ∧ bs.length ≤ vs.length * B ∧ bs.length % align t = 0 := by
  intro vs
  induction vs with
  | nil => intro bs hs; cases hs; simp
  | cons v vs ih =>
    intro bs hs
    obtain ⟨a, b, ha, hb, rfl⟩ := serAllWith_cons_ok hs
    have h1 := h v a ha
    have h2 := ih b hb
    simp only [List.length_append, List.length_cons, Nat.succ_mul, Nat.add_comm (vs.length * _)]
    exact ⟨Nat.add_le_add h1.1 h2.1, Nat.add_le_add h1.2.1 h2.2.1, add_mod_zero h1.2.2 h2.2.2⟩

theorem maxFields_ge (fs : List Ty) : ∀ off, off ≤ maxFields fs off := by
  induction fs with
  | nil => exact fun off => Nat.le_refl off
  | cons f fs ih =>
    exact fun off => Nat.le_trans (Nat.le_trans (padTo_ge (align f) off) (Nat.le_add_right ..)) (ih _)

theorem maxFields_cons_fix {f : Ty} {fs : List Ty} {off : Nat} (h : maxFields (f :: fs) off = off) :
    padTo (align f) off = off ∧ maxBits f = 0 ∧ maxFields fs off = off := by
  rw [maxFields] at h
  have h1 := maxFields_ge fs (padTo (align f) off + maxBits f)
  have h2 := padTo_ge (align f) off
  have hpad : padTo (align f) off = off := by omega
  have hmax : maxBits f = 0 := by omega
  rw [hpad, hmax] at h
  exact ⟨hpad, hmax, h⟩

theorem maxFields_mono (fs : List Ty) {x y : Nat} (h : x ≤ y) : maxFields fs x ≤ maxFields fs y := by
  induction fs generalizing x y with
  | nil => exact h
  | cons f fs ih => exact ih (Nat.add_le_add_right (padTo_mono (align_cases f) h) _)

theorem minFields_mono (fs : List Ty) {x y : Nat} (h : x ≤ y) : minFields fs x ≤ minFields fs y := by
  induction fs generalizing x y with
  | nil => exact h
  | cons f fs ih => exact ih (Nat.add_le_add_right (padTo_mono (align_cases f) h) _)

theorem serFields_len {fs : List Ty} (ih : ∀ f ∈ fs, LenOK f) :
    ∀ vs off bs, serFields fs vs off = .ok bs →
      minFields fs off ≤ off + bs.length ∧ off + bs.length ≤ maxFields fs off := by
  induction fs with
  | nil =>
    intro vs off bs hs
    cases vs <;> cases hs
    simp [minFields, maxFields]
  | cons f fs ihf =>
    intro vs off bs hs
    obtain ⟨ihf', ihfs⟩ := List.forall_mem_cons.1 ih
    obtain ⟨v, vs, a, b, rfl, ha, hb, rfl⟩ := serFields_cons_ok hs
    have h1 := ihf' v a ha
    have h2 := ihf ihfs vs _ b hb
    have hmn := minFields_mono fs (Nat.add_le_add_left h1.1 (padTo (align f) off))
    have hmx := maxFields_mono fs (Nat.add_le_add_left h1.2.1 (padTo (align f) off))
    have e : off + (zeros (padLen (align f) off) ++ a ++ b).length
        = padTo (align f) off + a.length + b.length := by
      simp only [List.length_append, zeros_length, padTo, Nat.add_assoc]
    rw [e]
    exact ⟨Nat.le_trans hmn h2.1, Nat.le_trans h2.2 hmx⟩

theorem opts_bounds {fs : List Ty} {k : Nat} (hk : k < fs.length) :
    minOpts fs ≤ minBits fs[k] ∧ maxBits fs[k] ≤ maxOpts fs := by
  induction fs generalizing k with
  | nil => cases hk
  | cons f fs ih =>
    dsimp only [minOpts, maxOpts]
    cases k with
    | zero =>
      refine ⟨?_, Nat.le_max_left ..⟩
      split
      · exact Nat.le_refl _
      · exact Nat.min_le_left ..
    | succ k =>
      replace hk := Nat.lt_of_succ_lt_succ hk
      have h := ih hk
      cases fs with
      | nil => cases hk
      | cons => exact ⟨Nat.le_trans (Nat.min_le_right ..) h.1, Nat.le_trans h.2 (Nat.le_max_right ..)⟩

theorem align_of_isComposite {t : Ty} (h : isComposite t = true) : align t = 8 := by
  cases t <;> first | rfl | cases h

theorem maxBits_composite_mod8 {t : Ty} (h : isComposite t = true) : maxBits t % 8 = 0 := by
  cases t with
  | struct fs | union fs => simp only [maxBits]; exact padTo_mod (Or.inr rfl) _
  | _ => cases h

theorem extent_mod8 {t : Ty} (hw : wf t = true) (hc : isComposite (topInner t) = true) : extent t % 8 = 0 := by
  cases t with
  | struct fs | union fs => exact maxBits_composite_mod8 rfl
  | delim e inner => exact (wf_delim hw).1.2.1
  | _ => cases hc

theorem lenOK (t : Ty) : wf t = true → LenOK t := by
  have h8 : (8 : Nat) = 1 ∨ 8 = 8 := Or.inr rfl
  induction t using Ty.ind with
  | uint | sint | float | bool | void =>
    intro _ v bs h
    cases v <;> cases h
    dsimp only [minBits, maxBits, align]
    simp [Nat.mod_one]
  | arr t n ih =>
    intro hw v bs h
    obtain ⟨vs, rfl, rfl, hs⟩ := serBits_arr_ok h
    exact serAll_len (ih hw) _ bs hs
  | varr t cap ih =>
    intro hw v bs h
    replace hw := wf_varr hw
    obtain ⟨vs, b, rfl, hn, hb, rfl⟩ := serBits_varr_ok h
    have h1 := serAll_len (ih hw.2) _ b hb
    have h3 : vs.length * maxBits t ≤ cap * maxBits t := Nat.mul_le_mul_right _ hn
    simp only [minBits, maxBits, align, List.length_append, natToBits_length]
    exact ⟨Nat.le_add_right .., Nat.add_le_add_left (Nat.le_trans h1.2.1 h3) _,
      add_mod_zero (stdWidth_mod_align ..) h1.2.2⟩
  | struct fs ih =>
    intro hw v bs h
    obtain ⟨vs, b, rfl, hb, rfl⟩ := serBits_struct_ok h
    have h1 := serFields_len (forall_mem_of_wfAll ih hw) _ 0 b hb
    simp only [List.length_append, zeros_length, Nat.zero_add] at h1 ⊢
    exact ⟨padTo_mono h8 h1.1, padTo_mono h8 h1.2, padTo_mod h8 _⟩
  | union fs ih =>
    intro hw v bs h
    replace hw := wf_union hw
    obtain ⟨k, u, b, hk, rfl, hb, rfl⟩ := serBits_union_ok h
    have h1 := forall_mem_of_wfAll ih hw.2 _ (List.getElem_mem hk) u b hb
    have h2 := opts_bounds hk
    simp only [List.length_append, zeros_length, natToBits_length]
    exact ⟨padTo_mono h8 (Nat.add_le_add_left (Nat.le_trans h2.1 h1.1) _),
      padTo_mono h8 (Nat.add_le_add_left (Nat.le_trans h1.2.1 h2.2) _), padTo_mod h8 _⟩
  | delim e t ih =>
    intro hw v bs h
    obtain ⟨⟨hc, _, hmax, _⟩, hwt⟩ := wf_delim hw
    obtain ⟨b, hb, rfl⟩ := serBits_delim_ok h
    have h1 := ih hwt v b hb
    rw [align_of_isComposite hc] at h1
    simp only [minBits, maxBits, align, headerBits, List.length_append, natToBits_length]
    exact ⟨Nat.le_add_right .., Nat.add_le_add_left (Nat.le_trans h1.2.1 hmax) _, add_mod_zero rfl h1.2.2⟩

theorem lenOK_bounds {t : Ty} (hw : wf t = true) {v : Val} {bits : List Bool} (h : serBits t v = .ok bits) :
    minBits t ≤ bits.length ∧ bits.length ≤ maxBits t :=
  ⟨(lenOK t hw v bits h).1, (lenOK t hw v bits h).2.1⟩

end NunavutVerif.Dsdl
