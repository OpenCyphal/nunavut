import NunavutVerif.Model.CppObj
/-!
Prior-state independence (C04): decoding into an object of the right layout, whatever it holds, produces exactly the
value, the size and the error of the specification `Dsdl.deBits`.  `Ref` is that relation; `deInto_ref` proves it by
recursion over the type.
-/
namespace NunavutVerif.CppObj
open NunavutVerif.Dsdl

/-- `a` abstracts an object to the value it holds; `S` is the layout the destination has and must keep. -/
def Ref {O V : Type} (a : O → Option V) (S : O → Bool) (spec : Except DeErr (V × Nat)) (impl : Except Err (O × Nat)) : Prop :=
  match spec with
  | .error e => impl = .error (.de e)
  | .ok (v, n) => ∃ o', impl = .ok (o', n) ∧ a o' = some v ∧ S o' = true

section
variable {O V : Type} {a : O → Option V} {S : O → Bool}

theorem Ref.error {e : DeErr} : Ref a S (.error e) (.error (.de e)) := rfl

theorem Ref.ok {o : O} {v : V} {n : Nat} (ha : a o = some v) (hS : S o = true) : Ref a S (.ok (v, n)) (.ok (o, n)) :=
  ⟨o, rfl, ha, hS⟩

@[elab_as_elim]
theorem Ref.elim {motive : Except DeErr (V × Nat) → Except Err (O × Nat) → Prop} {spec : Except DeErr (V × Nat)}
    {impl : Except Err (O × Nat)} (h : Ref a S spec impl) (error : ∀ e, motive (.error e) (.error (.de e)))
    (ok : ∀ v n o, a o = some v → S o = true → motive (.ok (v, n)) (.ok (o, n))) : motive spec impl := by
  cases spec with
  | error e => exact h ▸ error e
  | ok vn =>
    obtain ⟨o, hi, ha, hS⟩ := h
    exact hi ▸ ok vn.1 vn.2 o ha hS

end

theorem intoElems_ref {f : List Bool → Except DeErr (Val × Nat)} {g : List Bool → Obj → Except Err (Obj × Nat)}
    {a : Obj → Option Val} {S : Obj → Bool} (H : ∀ bs o, S o = true → Ref a S (f bs) (g bs o)) :
    ∀ (k : Nat) (bs : List Bool) (elems : List Obj), k ≤ elems.length → elems.all S = true →
      Ref (fun es => absAll a (es.take k)) (fun es => decide (es.length = elems.length) && es.all S)
        (deAllWith f k bs) (intoElems g k bs elems)
  | 0, bs, elems, _, hs => .ok rfl (by simpa using hs)
  | k + 1, bs, [], hk, _ => by simp at hk
  | k + 1, bs, e :: rest, hk, hs => by
    simp only [List.all_cons, Bool.and_eq_true] at hs
    simp only [deAllWith, intoElems]
    refine (H bs e hs.1).elim (fun _ => .error) fun v n e' ha hS => ?_
    dsimp only
    refine (intoElems_ref H k (bs.drop n) rest (by simpa using hk) hs.2).elim (fun _ => .error) fun vs m es' habs hS' => ?_
    simp only [Bool.and_eq_true, decide_eq_true_eq] at hS'
    exact .ok (by simp [absAll, ha, habs]) (by simp [hS, hS'.1, hS'.2])

theorem pushElems_eq (g : List Bool → Obj → Except Err (Obj × Nat)) (d : Obj) : ∀ (k : Nat) (bs : List Bool),
    pushElems g d k bs = intoElems g k bs (List.replicate k d)
  | 0, _ => rfl
  | k + 1, bs => by simp only [pushElems, intoElems, List.replicate_succ, pushElems_eq g d k]

theorem okAll_cons {f : Ty} {fs : List Ty} : okAll (f :: fs) = true ↔ okTy f = true ∧ okAll fs = true :=
  Bool.and_eq_true_iff

theorem shapeFields_cons {f : Ty} {fs : List Ty} {o : Obj} {os : List Obj} :
    shapeFields (f :: fs) (o :: os) = true ↔ shape f o = true ∧ shapeFields fs os = true :=
  Bool.and_eq_true_iff

theorem absAll_take_all {a : Obj → Option Val} (es : List Obj) : absAll a (es.take es.length) = absAll a es := by
  simp

mutual
theorem shape_default : ∀ (t : Ty), okTy t = true → shape t (defaultX t) = true
  | .arr t n, h => by
    show (decide ((List.replicate n (defaultX t)).length = n) && (List.replicate n (defaultX t)).all (shape t)) = true
    simp [shape_default t h]
  | .varr t cap, _ => rfl
  | .struct fs, h => shape_defaults fs h
  | .union fs, h => by
    have h : (!fs.isEmpty && okAll fs) = true := h
    simp only [Bool.and_eq_true, Bool.not_eq_true', List.isEmpty_eq_false_iff] at h
    exact shape_defaultHead fs h.2 h.1
  | .delim _ inner, h => shape_default inner h
  | .uint _ _, _ | .sint _ _, _ | .float _ _, _ | .bool, _ | .void _, _ => rfl
theorem shape_defaults : ∀ (fs : List Ty), okAll fs = true → shapeFields fs (defaultXs fs) = true
  | [], _ => rfl
  | f :: fs, h => by
    have h := okAll_cons.mp h
    exact shapeFields_cons.mpr ⟨shape_default f h.1, shape_defaults fs h.2⟩
theorem shape_defaultHead : ∀ (fs : List Ty), okAll fs = true → fs ≠ [] → shapeNth fs 0 (defaultHead fs) = true
  | [], _, hne => by simp at hne
  | f :: fs, h, _ => shape_default f (okAll_cons.mp h).1
end

mutual
/-- Specification, decoder, `abs` and `shape` reduce by computation on the constructors of type and object; the proof
    lets them (`unfold` and definitional unfolding) instead of rewriting with their equation lemmas, which is far slower
    to check. -/
theorem deInto_ref : ∀ (t : Ty) (bs : List Bool) (o : Obj), okTy t = true → shape t o = true →
    Ref (abs t) (shape t) (deBits t bs) (deIntoG true t bs o)
  | .arr t n, bs, o, hk, hs => by
    cases o with
    | arr elems =>
      obtain ⟨hl, hall⟩ := (Bool.and_eq_true _ _).mp hs
      have hl : elems.length = n := of_decide_eq_true hl
      unfold deBits deIntoG
      dsimp only
      refine (intoElems_ref (fun bs o h => deInto_ref t bs o hk h) n bs elems (by omega) hall).elim (fun _ => .error)
        fun vs used es' ha hS => ?_
      simp only [Bool.and_eq_true, decide_eq_true_eq] at hS
      have hl' : es'.length = n := by omega
      rw [← hl', absAll_take_all] at ha
      refine .ok ?_ ((Bool.and_eq_true _ _).mpr ⟨decide_eq_true hl', hS.2⟩)
      show (if es'.length = n then (absAll (abs t) es').map Val.arr else none) = _
      rw [if_pos hl', ha]; rfl
    | _ => cases hs
  | .varr t cap, bs, o, hk, hs => by
    cases o with
    | varr elems cnt =>
      obtain ⟨hl, hall⟩ := (Bool.and_eq_true _ _).mp hs
      have hl : elems.length = cap := of_decide_eq_true hl
      unfold deBits deIntoG
      dsimp only
      split
      · exact .error
      rename_i hc
      refine (intoElems_ref (fun bs o h => deInto_ref t bs o hk h) (readNat (prefixBits cap) bs)
        (bs.drop (prefixBits cap)) elems (by omega) hall).elim (fun _ => .error) fun vs used es' ha hS => ?_
      simp only [Bool.and_eq_true, decide_eq_true_eq] at hS
      refine .ok ?_ ((Bool.and_eq_true _ _).mpr ⟨decide_eq_true (by omega), hS.2⟩)
      show (if readNat (prefixBits cap) bs ≤ es'.length then
        (absAll (abs t) (es'.take (readNat (prefixBits cap) bs))).map Val.arr else none) = _
      rw [if_pos (by omega), ha]; rfl
    | vec old =>
      unfold deBits deIntoG
      dsimp only
      split
      · exact .error
      rw [pushElems_eq]
      refine (intoElems_ref (fun bs o h => deInto_ref t bs o hk h) (readNat (prefixBits cap) bs)
        (bs.drop (prefixBits cap)) (List.replicate _ (defaultX t)) (by simp) (by simp [shape_default t hk])).elim
        (fun _ => .error) fun vs used es' ha hS => ?_
      simp only [List.length_replicate, Bool.and_eq_true, decide_eq_true_eq] at hS
      rw [← hS.1, absAll_take_all] at ha
      exact .ok (congrArg (Option.map Val.arr) ha) hS.2
    | _ => cases hs
  | .struct fs, bs, o, hk, hs => by
    cases o with
    | struct os =>
      unfold deBits deIntoG
      dsimp only
      exact (deIntoFields_ref fs bs 0 os hk hs).elim (fun _ => .error)
        fun vs off os' ha hS => .ok (congrArg (Option.map Val.struct) ha) hS
    | _ => cases hs
  | .union fs, bs, o, hk, hs => by
    have hk : okAll fs = true := ((Bool.and_eq_true _ _).mp hk).2
    cases o with
    | cunion tg ms =>
      unfold deBits deIntoG
      dsimp only
      split
      · exact .error
      exact (deIntoNthC_ref fs (readNat (tagBits fs.length) bs) (bs.drop (tagBits fs.length)) ms hk hs).elim
        (fun _ => .error) fun v used ms' ha hS => .ok (congrArg (Option.map (Val.union _)) ha) hS
    | variant tg a =>
      unfold deBits deIntoG
      dsimp only
      split
      · exact .error
      exact (deIntoNthX_ref fs (readNat (tagBits fs.length) bs) (bs.drop (tagBits fs.length)) hk).elim
        (fun _ => .error) fun v used a' ha hS => .ok (congrArg (Option.map (Val.union _)) ha) hS
    | _ => cases hs
  | .delim ext inner, bs, o, hk, hs => by
    unfold deBits deIntoG
    dsimp only
    split
    · exact .error
    exact (deInto_ref inner ((bs.drop headerBits).take (8 * readNat headerBits bs)) o hk hs).elim (fun _ => .error)
      fun v used o' ha hS => .ok ha hS
  | .uint _ _, bs, o, _, hs | .sint _ _, bs, o, _, hs | .float _ _, bs, o, _, hs | .bool, bs, o, _, hs
  | .void _, bs, o, _, hs => by
    cases o with
    | leaf v0 => exact .ok rfl rfl
    | _ => cases hs
theorem deIntoFields_ref : ∀ (fs : List Ty) (bs : List Bool) (off : Nat) (os : List Obj), okAll fs = true →
    shapeFields fs os = true →
    Ref (absFields fs) (shapeFields fs) (deFields fs bs off) (deIntoFields true fs bs off os)
  | [], bs, off, os, _, hs => by
    cases os with
    | nil => exact .ok rfl rfl
    | cons _ _ => cases hs
  | f :: fs, bs, off, os, hk, hs => by
    have hk := okAll_cons.mp hk
    cases os with
    | nil => cases hs
    | cons o os =>
      have hs := shapeFields_cons.mp hs
      unfold deFields deIntoFields
      dsimp only
      refine (deInto_ref f (bs.drop (padTo (align f) off)) o hk.1 hs.1).elim (fun _ => .error) fun v n o' ha hS => ?_
      dsimp only
      refine (deIntoFields_ref fs bs (padTo (align f) off + n) os hk.2 hs.2).elim (fun _ => .error)
        fun vs e os' ha2 hS2 => .ok ?_ (shapeFields_cons.mpr ⟨hS, hS2⟩)
      show (match abs f o', absFields fs os' with | some v, some vs => some (v :: vs) | _, _ => none) = _
      rw [ha, ha2]
theorem deIntoNthC_ref : ∀ (fs : List Ty) (k : Nat) (bs : List Bool) (ms : List Obj), okAll fs = true →
    shapeFields fs ms = true →
    Ref (absNthC fs k) (shapeFields fs) (deNth fs k bs) (deIntoNthC true fs k bs ms)
  | [], k, bs, ms, _, _ => .error
  | f :: fs, 0, bs, ms, hk, hs => by
    have hk := okAll_cons.mp hk
    cases ms with
    | nil => cases hs
    | cons m rest =>
      have hs := shapeFields_cons.mp hs
      unfold deNth deIntoNthC
      dsimp only
      exact (deInto_ref f bs m hk.1 hs.1).elim (fun _ => .error)
        fun v n m' ha hS => .ok ha (shapeFields_cons.mpr ⟨hS, hs.2⟩)
  | f :: fs, k + 1, bs, ms, hk, hs => by
    have hk := okAll_cons.mp hk
    cases ms with
    | nil => cases hs
    | cons m rest =>
      have hs := shapeFields_cons.mp hs
      unfold deNth deIntoNthC
      dsimp only
      exact (deIntoNthC_ref fs k bs rest hk.2 hs.2).elim (fun _ => .error)
        fun v n rest' ha hS => .ok ha (shapeFields_cons.mpr ⟨hs.1, hS⟩)
theorem deIntoNthX_ref : ∀ (fs : List Ty) (k : Nat) (bs : List Bool), okAll fs = true →
    Ref (absNthX fs k) (shapeNth fs k) (deNth fs k bs) (deIntoNthX true fs k bs)
  | [], _, _, _ => .error
  | f :: _, 0, bs, hk =>
    have hf := (okAll_cons.mp hk).1
    deInto_ref f bs (defaultX f) hf (shape_default f hf)
  | _ :: fs, k + 1, bs, hk => deIntoNthX_ref fs k bs (okAll_cons.mp hk).2
end

theorem deInto_shape {t : Ty} {bs : List Bool} {o o' : Obj} {n : Nat} (hok : okTy t = true) (hs : shape t o = true)
    (h : deInto t bs o = .ok (o', n)) : shape t o' = true := by
  refine (deInto_ref t bs o hok hs).elim (fun e h => nomatch h) (fun v n a _ sa h => ?_) (show deIntoG true t bs o = _ from h)
  cases h
  exact sa

end NunavutVerif.CppObj
