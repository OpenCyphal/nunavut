import NunavutVerif.Lemmas.GenCXSim
import NunavutVerif.Lemmas.GenCDeA
/-!
The address- and override-aware deserializer simulates `deserializeC` (induction along the recursion of `deAnyX`, no
typing hypotheses).  The capacity override enters at the count check of a variable-length array only (`Sim.guard`);
the shorter member array it decodes into holds the same values (`deElems_storN`).
-/
namespace NunavutVerif.GenC
open NunavutVerif.Dsdl NunavutVerif.Bits

section
variable {o : Opts} {X : Ext} {b0 L0 : Nat} {B : Prop}

theorem assertC_sim {α : Type} (c : Prop) [Decidable c] {kX k : Except Err α}
    (h : Sim B kX k) : Sim B (assertC o c kX) (assertC o c k) := by
  unfold assertC
  by_cases hc : o.asserts = true ∧ ¬ c
  · rw [if_pos hc, if_pos hc]; exact Sim.refl
  · rw [if_neg hc, if_neg hc]; exact h

theorem anyGuard_sim {α : Type} (t : Ty) (room : Option Nat) (d : AOff) (off : Nat) {kX k : Except Err α}
    (h : Sim B kX k) : Sim B (anyGuard o t room d off kX) (anyGuard o t room d off k) :=
  assertC_sim _ (assertC_sim _ (assertC_sim _ h))

theorem deUintX_sim (hfx : X.fixed = true) (hp : Placed X b0 L0) (hh : HeadOK X b0 L0) (pb n : Nat) (d : AOff)
    (buf : Buf) (cap off : Nat) (hi : InvD o X b0 L0 pb buf) :
    Sim B (deUintX o X pb n d buf cap off) (deUint o n d buf cap off) := by
  unfold deUintX
  split
  · exact Sim.refl
  · rename_i h
    rw [deUint, if_neg h]
    exact getUX_sim hfx hp hh pb _ buf cap off n hi

theorem deSintX_sim (hfx : X.fixed = true) (hp : Placed X b0 L0) (hh : HeadOK X b0 L0) (pb n : Nat)
    (buf : Buf) (cap off : Nat) (hi : InvD o X b0 L0 pb buf) :
    Sim B (deSintX o X pb n buf cap off) (deSint o n buf cap off) :=
  getIX_sim hfx hp hh pb _ buf cap off n hi

theorem deFloatX_sim (hfx : X.fixed = true) (hp : Placed X b0 L0) (hh : HeadOK X b0 L0) (pb n : Nat)
    (buf : Buf) (cap off : Nat) (hi : InvD o X b0 L0 pb buf) :
    Sim B (deFloatX o X pb n buf cap off) (deFloat o n buf cap off) := by
  unfold deFloatX deFloat
  exact (getUX_sim (B := B) hfx hp hh pb n buf cap off n hi).bind (fun _ => .refl) (fun _ => .refl) .bad .prim

theorem deLoop_sim {elemX elem : Nat → Except Err (Val × Nat)} (h : ∀ f, Sim B (elemX f) (elem f)) :
    ∀ (k off : Nat), Sim B (deLoop elemX k off) (deLoop elem k off) := by
  intro k
  induction k with
  | zero => intro off; exact .refl
  | succ k ih =>
    intro off
    simp only [deLoop]
    refine (h off).bind (fun ⟨v, o'⟩ => ?_) (fun _ => .refl) .bad .prim
    dsimp only
    exact (ih o').bind (fun _ => .refl) (fun _ => .refl) .bad .prim

theorem deElemsX_nonbool (pb : Nat) (t : Ty) (ht : t ≠ .bool) (elem : Nat → Except Err (Val × Nat))
    (count storN : Nat) (buf : Buf) (cap off : Nat) :
    deElemsX o X pb t elem count storN buf cap off =
      if zeroCost o t then
        match getBitsX o X pb (List.replicate (storN * (primBits t / 8)) (o.fill % 256)) buf cap off (count * primBits t) with
        | .error e => .error e
        | .ok r =>
          .ok ((List.range count).map (fun i => elemVal t ((r.drop (i * (primBits t / 8))).take (primBits t / 8))),
            off + count * primBits t)
      else deLoop elem count off := by
  cases t <;> first | exact absurd rfl ht | rfl

theorem deElemsX_sim (hfx : X.fixed = true) (hp : Placed X b0 L0) (hh : HeadOK X b0 L0) (pb : Nat) (t : Ty)
    {elemX elem : Nat → Except Err (Val × Nat)} (he : ∀ f, Sim B (elemX f) (elem f)) (count storN : Nat)
    (buf : Buf) (cap off : Nat) (hi : InvD o X b0 L0 pb buf) :
    Sim B (deElemsX o X pb t elemX count storN buf cap off) (deElems o t elem count storN buf cap off) := by
  by_cases hb : t = .bool
  · subst hb
    simp only [deElemsX, deElems]
    exact (getBitsX_sim (B := B) hfx hp hh pb (List.replicate ((storN + 7) / 8) (o.fill % 256)) buf cap off count hi).bind
      (fun _ => .refl) (fun _ => .refl) .bad .prim
  · rw [deElemsX_nonbool pb t hb, deElems_nonbool o t hb]
    split
    · exact (getBitsX_sim (B := B) hfx hp hh pb (List.replicate (storN * (primBits t / 8)) (o.fill % 256)) buf cap
        off (count * primBits t) hi).bind (fun _ => .refl) (fun _ => .refl) .bad .prim
    · exact deLoop_sim he count off

theorem invD_drop {pb : Nat} {buf : Buf} (hi : InvD o X b0 L0 pb buf) (k : Nat) :
    InvD o X b0 L0 (pb + k) (buf.drop k) := by
  intro ha hx
  obtain ⟨h0, h1⟩ := hi ha hx
  refine ⟨Nat.le_add_right_of_le h0, fun hne => ?_⟩
  have hk : k < buf.length := Nat.lt_of_not_le fun h => hne (List.drop_eq_nil_of_le h)
  have := h1 (List.ne_nil_of_length_pos (Nat.zero_lt_of_lt hk))
  rw [List.length_drop]
  omega

theorem nestedDeX_sim (hfx : X.fixed = true) (hp : Placed X b0 L0) (hh : HeadOK X b0 L0) (pb : Nat)
    {innerX : Nat → Buf → Nat → Except Err (Val × Nat)} {inner : Buf → Nat → Except Err (Val × Nat)}
    (hin : ∀ pb' buf' c, InvD o X b0 L0 pb' buf' → Sim B (innerX pb' buf' c) (inner buf' c))
    (isDelim : Bool) (d : AOff) (buf : Buf) (cap off : Nat) (hi : InvD o X b0 L0 pb buf) :
    Sim B (nestedDeX o X pb innerX isDelim d buf cap off) (nestedDe o inner isDelim d buf cap off) := by
  unfold nestedDeX nestedDe
  split
  · refine (deUintX_sim (B := B) hfx hp hh pb 32 d buf cap off hi).bind (fun h => ?_) (fun _ => .refl) .bad .prim
    dsimp only
    split
    · exact .refl
    · exact assertC_sim _ ((hin _ _ h (invD_drop hi _)).bind (fun _ => .refl) (fun _ => .refl) .bad .prim)
  · exact assertC_sim _ ((hin _ _ _ (invD_drop hi _)).bind (fun _ => .refl) (fun _ => .refl) .bad .prim)

theorem topDe_sim (maxB : Nat) (triv : Val) {bodyX body : Buf → Nat → Except Err (Val × Nat)} (buf : Buf) (cap : Nat)
    (h : Sim B (bodyX buf cap) (body buf cap)) :
    Sim B (topDe o maxB triv bodyX buf cap) (topDe o maxB triv body buf cap) := by
  unfold topDe
  split
  · exact .refl
  · exact h.bind (fun _ => .refl) (fun _ => .refl) .bad .prim

theorem liftP_appR (x : Buf) (r : Except Bits.Err Buf) :
    liftP (appR x r) = match liftP r with | .error e => .error e | .ok b => .ok (b ++ x) := by
  cases r <;> rfl

theorem deElems_storN (t : Ty) (elem : Nat → Except Err (Val × Nat)) (count s' s : Nat) (hc : count ≤ s') (hs : s' ≤ s)
    (hb : t = .bool → s' = s) (buf : Buf) (cap off : Nat) :
    deElems o t elem count s' buf cap off = deElems o t elem count s buf cap off := by
  by_cases hbool : t = .bool
  · rw [hb hbool]
  · rw [deElems_nonbool o t hbool, deElems_nonbool o t hbool]
    split
    · rename_i hz
      -- elements of `m` bytes; the array of `s` elements is the one of `s'` followed by `s - s'` more
      obtain ⟨m, hm⟩ := zeroCost_bytes hz
      rw [hm, Nat.mul_div_cancel_left m (by decide), Nat.mul_left_comm count 8 m]
      have hcm : count * m ≤ s' * m := Nat.mul_le_mul_right m hc
      rw [show s * m = s' * m + (s - s') * m by rw [← Nat.add_mul, Nat.add_sub_cancel' hs],
        ← List.replicate_append_replicate,
        getBits_append _ _ _ _ _ _ (by rw [List.length_replicate]; omega), liftP_appR]
      cases hg : liftP (getBits (List.replicate (s' * m) (o.fill % 256)) buf cap off (8 * (count * m))) with
      | error e => rfl
      | ok r =>
        simp only [Except.ok.injEq, Prod.mk.injEq, and_true]
        apply List.map_congr_left
        intro i hi
        have hl : r.length = s' * m := by rw [getBits_ok_length (liftP_ok hg), List.length_replicate]
        have h2 : i * m + m ≤ r.length := by
          rw [hl, ← Nat.succ_mul]
          exact Nat.mul_le_mul_right m (Nat.le_trans (List.mem_range.mp hi) hc)
        congr 1
        rw [List.drop_append_of_le_length (by omega), List.take_append_of_le_length (by rw [List.length_drop]; omega)]
    · rfl

def DeSimAny (o : Opts) (X : Ext) (b0 L0 : Nat) (B : Prop) (t : Ty) : Prop :=
  ∀ pb d buf cap off, InvD o X b0 L0 pb buf → Sim B (deAnyX o X t pb d buf cap off) (deAny o t d buf cap off)

def DeSimFn (o : Opts) (X : Ext) (b0 L0 : Nat) (B : Prop) (t : Ty) : Prop :=
  ∀ pb buf cap, InvD o X b0 L0 pb buf → Sim B (deFnX o X t pb buf cap) (deFn o t buf cap)

def DeSimNth (o : Opts) (X : Ext) (b0 L0 : Nat) (B : Prop) (fs : List Ty) (k : Nat) : Prop :=
  ∀ pb d buf cap off, InvD o X b0 L0 pb buf → Sim B (deNthX o X fs k pb d buf cap off) (deNth o fs k d buf cap off)

def DeSimFields (o : Opts) (X : Ext) (b0 L0 : Nat) (B : Prop) (fs : List Ty) : Prop :=
  ∀ first pb d buf cap off, InvD o X b0 L0 pb buf →
    Sim B (deFieldsX o X fs first pb d buf cap off) (deFields o fs first d buf cap off)

theorem deSim (hfx : X.fixed = true) (hp : Placed X b0 L0) (hh : HeadOK X b0 L0)
    (hle : ∀ t c, effCap X t c ≤ c) (hB : ∀ t c, effCap X t c < c → B) :
    (∀ t, DeSimAny o X b0 L0 B t) ∧ (∀ t, DeSimFn o X b0 L0 B t) ∧ (∀ fs k, DeSimNth o X b0 L0 B fs k) ∧
      ∀ fs, DeSimFields o X b0 L0 B fs := by
  -- the body of `T_deserialize_` is needed twice: as the function itself and nested in `_deserialize_any`
  have hstruct : ∀ fs, DeSimFields o X b0 L0 B fs → DeSimFn o X b0 L0 B (.struct fs) := by
    intro fs ih pb buf cap hi
    simp only [deFnX, deFn]
    exact topDe_sim _ _ buf cap ((ih true pb AOff.zero buf cap 0 hi).bind (fun _ => .refl) (fun _ => .refl) .bad .prim)
  have hunion : ∀ fs, (∀ k, DeSimNth o X b0 L0 B fs k) → DeSimFn o X b0 L0 B (.union fs) := by
    intro fs ih pb buf cap hi
    simp only [deFnX, deFn]
    refine topDe_sim _ _ buf cap ((deUintX_sim (B := B) hfx hp hh pb _ AOff.zero buf cap 0 hi).bind (fun k => ?_)
      (fun _ => .refl) .bad .prim)
    dsimp only
    exact (ih k pb _ buf cap _ hi).bind (fun _ => .refl) (fun _ => .refl) .bad .prim
  apply deAnyX.mutual_induct
  · intro n m pb d buf cap off hi
    simp only [deAnyX, deAny]
    exact (deUintX_sim (B := B) hfx hp hh pb n d buf cap off hi).bind (fun _ => .refl) (fun _ => .refl) .bad .prim
  · intro n m pb d buf cap off hi
    simp only [deAnyX, deAny]
    exact (deSintX_sim (B := B) hfx hp hh pb n buf cap off hi).bind (fun _ => .refl) (fun _ => .refl) .bad .prim
  · intro n m pb d buf cap off hi
    simp only [deAnyX, deAny]
    exact (deFloatX_sim (B := B) hfx hp hh pb n buf cap off hi).bind (fun _ => .refl) (fun _ => .refl) .bad .prim
  · exact fun _ _ _ _ _ _ => .refl
  · exact fun _ _ _ _ _ _ _ => .refl
  · intro t n ih pb d buf cap off hi
    simp only [deAnyX, deAny]
    exact (deElemsX_sim (B := B) hfx hp hh pb t (fun f => anyGuard_sim t none _ f (ih pb _ buf cap f hi)) n n buf cap off
      hi).bind (fun _ => .refl) (fun _ => .refl) .bad .prim
  · intro t c ih pb d buf cap off hi
    simp only [deAnyX, deAny]
    refine (deUintX_sim (B := B) hfx hp hh pb (prefixBits c) d buf cap off hi).bind (fun count => ?_) (fun _ => .refl)
      .bad .prim
    refine Sim.guard (hle t c) (hB t c) (fun hc1 => ?_)
    apply assertC_sim
    -- the shorter member array of the override build holds the same values
    rw [← deElems_storN (o := o) t _ count (effCap X t c) c (Nat.le_of_not_lt hc1) (hle t c)
      (fun e => e ▸ effCap_bool X c) buf cap (off + prefixBits c)]
    exact (deElemsX_sim (B := B) hfx hp hh pb t (fun f => anyGuard_sim t none _ f (ih pb _ buf cap f hi)) count _ buf cap
      _ hi).bind (fun _ => .refl) (fun _ => .refl) .bad .prim
  · intro fs ih pb d buf cap off hi
    simp only [deAnyX, deAny]
    exact nestedDeX_sim hfx hp hh pb (hstruct fs ih) false d buf cap off hi
  · intro fs ih pb d buf cap off hi
    simp only [deAnyX, deAny]
    exact nestedDeX_sim hfx hp hh pb (hunion fs ih) false d buf cap off hi
  · intro e t ih pb d buf cap off hi
    simp only [deAnyX, deAny]
    exact nestedDeX_sim hfx hp hh pb ih true d buf cap off hi
  · exact hstruct
  · exact hunion
  · intro e t ih pb buf cap hi
    simp only [deFnX, deFn]
    exact ih pb buf cap hi
  · intro t h1 h2 h3 pb buf cap _
    rw [deFnX.eq_4 o X t h1 h2 h3, deFn.eq_4 o t h1 h2 h3]
    exact .refl
  · exact fun _ _ _ _ _ _ _ => .refl
  · intro f fs ih pb d buf cap off hi
    simp only [deNthX, deNth]
    exact anyGuard_sim f none d off (ih pb d buf cap off hi)
  · intro f fs k ih pb d buf cap off hi
    simp only [deNthX, deNth]
    exact ih pb d buf cap off hi
  · exact fun _ _ _ _ _ _ _ => .refl
  · intro f fs ihf ih first pb d buf cap off hi
    simp only [deFieldsX, deFields]
    refine (anyGuard_sim (o := o) f none _ _ (ihf pb _ buf cap _ hi)).bind (fun ⟨v, o'⟩ => ?_) (fun _ => .refl) .bad .prim
    dsimp only
    exact (ih false pb _ buf cap o' hi).bind (fun _ => .refl) (fun _ => .refl) .bad .prim

end

end NunavutVerif.GenC
