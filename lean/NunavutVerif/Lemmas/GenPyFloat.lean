import NunavutVerif.Lemmas.GenPyDefs
import NunavutVerif.Lemmas.DsdlFloat
/-!
`FloatSound stdEnv` (put together in `C01_py_float_oracles_lawful` from `Fmt.wire`, `Fmt.ctor`, `fmt16`, `fmt32`): the
float operations of the driver's environment (IEEE round-to-nearest-even `narrowTo` as `struct.pack`, `OverflowError`
when a finite value rounds to infinity, comparisons on bit patterns) obey the laws the refinement theorems assume of
CPython:
* `_float_to_bytes` (pack, on `OverflowError` pack ±inf) is the truncated-mode `narrow`: the pack fails exactly when
  the rounded magnitude is the infinity pattern, and then the sign picks the infinity that is packed instead;
* the emitted saturation text (`isfinite`, `x > max.0`, `x < -max.0`) in front of it gives the saturated mode: rounding
  is monotone (`magOf_mono`) and the literal `max.0` rounds to the largest finite magnitude, so everything beyond the
  literal rounds to at least that and everything up to it to at most that (`Fmt.threshold`);
* a decoded (widened) finite value lies inside `±max` (`widenFrom_mag`), so the generated setter accepts it.
The argument is written once for a format `(eb, mb)` (`Fmt`); binary16 and binary32 are its two instances, whose
leaves are evaluated constants.  What it needs of the specification's `narrowTo` and `widenFrom` alone (the rounded
magnitude `magOf`, its monotonicity, `narrowCore_fin_*`, `widenFrom_mag`) is in `Lemmas/DsdlFloat.lean`; here is what
speaks of `stdEnv`.
-/
namespace NunavutVerif.GenPy
open NunavutVerif.Dsdl

theorem mag_lt {e f : Nat} (he : e < 2047) (hf : f < 2 ^ 52) : e * 2 ^ 52 + f < 2047 * 2 ^ 52 := by omega

theorem signed_lt {s L : Nat} (hs : s < 2) (hL : L < 2047 * 2 ^ 52) : s * 2 ^ 63 + L < 2 ^ 64 := by omega

theorem fgt64_sign_mag {s m L : Nat} (hs : s < 2) (hm : m < 2047 * 2 ^ 52) (hL : L < 2047 * 2 ^ 52)
    (hnz : m ≠ 0 ∨ L ≠ 0) :
    fgt64 (s * 2 ^ 63 + m) L = decide (s = 0 ∧ m > L) ∧
    fgt64 (negOf L) (s * 2 ^ 63 + m) = decide (s = 1 ∧ m > L) := by
  have hn : ∀ z, z % 2 ^ 63 < 2047 * 2 ^ 52 → isNaN64 z = false := fun z hz => by
    simp only [isNaN64, Nat.shiftRight_eq_div_pow, Bool.and_eq_false_imp, beq_iff_eq]; omega
  have hz : ∀ z, z % 2 ^ 63 = L → (isZero64 (s * 2 ^ 63 + m) && isZero64 z) = false := fun z hz => by
    simp only [isZero64, Bool.and_eq_false_imp, beq_iff_eq, beq_eq_false_iff_ne]; omega
  have hz' : (isZero64 (negOf L) && isZero64 (s * 2 ^ 63 + m)) = false := by
    rw [Bool.and_comm]; exact hz _ (by unfold negOf; omega)
  have hnl : ¬ negOf L < 2 ^ 63 := by unfold negOf; omega
  have hsub : negOf L - 2 ^ 63 = L := by unfold negOf; omega
  simp only [fgt64, hn _ (show (s * 2 ^ 63 + m) % 2 ^ 63 < _ by omega), hn L (by omega),
    hn (negOf L) (by unfold negOf; omega), hz L (by omega), hz', Bool.not_false, Bool.true_and, fkey,
    show L < 2 ^ 63 by omega, hnl, hsub, if_true, if_false, decide_eq_decide]
  rcases (by omega : s = 0 ∨ s = 1) with rfl | rfl
  · rw [if_pos (by omega)]; omega
  · rw [if_neg (by omega)]; omega

theorem narrowTo_inf (eb mb : Nat) (m : Cast) {s : Nat} (hs : s < 2) :
    narrowTo eb mb m (s * 2 ^ 63 + infPat) = s <<< (eb + mb) + (2 ^ eb - 1) <<< mb := by
  rw [show s * 2 ^ 63 + infPat = s * 2 ^ 63 + 2047 * 2 ^ 52 + 0 by simp only [infPat, Nat.reducePow, Nat.reduceMul,
    Nat.add_zero], narrowTo_fields eb mb m hs (by decide) (by decide)]
  simp only [narrowCore, if_true]

theorem isFinite64_inf (s : Nat) : isFinite64 (s * 2 ^ 63 + infPat) = false := by
  have := exp_fields s (e := 2047) (f := 0) (by decide) (by decide)
  simp only [isFinite64, infPat, this, bne_self_eq_false]

/-- What the argument uses of the wire format `(eb, mb)` of an `n`-bit float field (`(2 ^ eb - 1) <<< mb` is the
pattern of infinity; `fmaxLit n` is the binary64 pattern of the largest finite value of the format). -/
structure Fmt (n eb mb : Nat) : Prop where
  lt64 : n < 64
  eb_ge : 3 ≤ eb
  eb_le : eb ≤ 10
  mb_le : mb ≤ 52
  narrow_eq : ∀ m x, narrow n m x = narrowTo eb mb m x
  widen_eq : ∀ w, widen n w = widenFrom eb mb w
  isInf : ∀ w, isInfW n w = (w % 2 ^ (eb + mb) == (2 ^ eb - 1) <<< mb)
  max_pos : 0 < fmaxLit n
  max_lt : fmaxLit n < 2047 * 2 ^ 52
  narrow_max : ∀ s, s < 2 → narrowTo eb mb .trunc (s * 2 ^ 63 + fmaxLit n) = s <<< (eb + mb) + ((2 ^ eb - 1) <<< mb - 1)
  max_eq : fmaxLit n = maxExp eb * 2 ^ 52 + maxFrac mb
  max_frac : maxFrac mb < 2 ^ 52
  max_mag : magOf eb mb (maxExp eb) (maxFrac mb) = (2 ^ eb - 1) <<< mb - 1

variable {n eb mb : Nat}

theorem Fmt.threshold (F : Fmt n eb mb) {e f : Nat} (hf : f < 2 ^ 52) :
    (e * 2 ^ 52 + f > fmaxLit n → magOf eb mb e f ≥ (2 ^ eb - 1) <<< mb - 1) ∧
    (e * 2 ^ 52 + f ≤ fmaxLit n → magOf eb mb e f ≤ (2 ^ eb - 1) <<< mb - 1) := by
  have hE : 2 ^ 3 ≤ 2 ^ eb := Nat.pow_le_pow_right (by decide) F.eb_ge
  have hH : 2 ^ (eb - 1) ≤ 2 ^ 9 := Nat.pow_le_pow_right (by decide) (by have := F.eb_le; omega)
  have hd : 1 ≤ 1023 - (2 ^ (eb - 1) - 1) := by omega
  have heL : 1023 - (2 ^ (eb - 1) - 1) + 3 ≤ maxExp eb := by unfold maxExp; omega
  have hfL := F.max_frac
  rw [F.max_eq, ← F.max_mag]
  exact ⟨fun h => magOf_mono eb F.mb_le hfL hf hd (by omega) (Nat.le_of_lt h),
    fun h => magOf_mono eb F.mb_le hf hfL hd heL h⟩

theorem floatToWire_of_some {env : Env} {n x w : Nat} (h : env.pack n x = some w) :
    floatToWire env n x = .ok w := by
  simp only [floatToWire, h]

theorem floatToWire_of_none {env : Env} {n x w : Nat} (h : env.pack n x = none)
    (h2 : env.pack n (if env.fgt x 0 then infPat else negOf infPat) = some w) : floatToWire env n x = .ok w := by
  simp only [floatToWire, h, h2]

theorem Fmt.toWire (F : Fmt n eb mb) (y : Nat) (hy : y < 2 ^ 64) :
    floatToWire stdEnv n y = .ok (narrowTo eb mb .trunc y) := by
  cases hp : pack64 n y with
  | some w =>
    rw [floatToWire_of_some (env := stdEnv) hp]
    simp only [pack64, F.narrow_eq] at hp
    split at hp
    · cases hp
    · cases hp; rfl
  | none =>
    -- the pack overflowed: the magnitude is the infinity pattern, `y` is not zero, its sign picks the infinity
    apply floatToWire_of_none (env := stdEnv) hp
    simp only [pack64, F.narrow_eq] at hp
    split at hp
    · rename_i hov
      obtain ⟨s, e, f, rfl, hs, he, hf⟩ := x_fields y hy
      have hI := inf_lt eb mb
      have hI0 := inf_pos (Nat.le_trans (by decide) F.eb_ge) mb
      simp only [F.isInf, Bool.and_eq_true, beq_iff_eq, isFinite64, bne_iff_ne, ne_eq, exp_fields s he hf,
        narrowTo_fields eb mb .trunc hs he hf] at hov
      obtain ⟨hfin, hmod⟩ := hov
      rw [narrowCore_fin_trunc _ _ _ _ _ hfin, Nat.shiftLeft_eq s] at hmod
      have hmag : magOf eb mb e f ≥ (2 ^ eb - 1) <<< mb := by
        apply Classical.byContradiction
        intro hc
        rw [if_neg hc, Nat.mul_add_mod_of_lt (by omega)] at hmod
        omega
      have hnz : e * 2 ^ 52 + f ≠ 0 := by
        intro h0
        have : e = 0 ∧ f = 0 := by omega
        rw [this.1, this.2, magOf_zero] at hmag
        omega
      have hY : (if stdEnv.fgt (s * 2 ^ 63 + e * 2 ^ 52 + f) 0 = true then infPat else negOf infPat)
          = s * 2 ^ 63 + infPat := by
        show (if fgt64 _ 0 = true then infPat else negOf infPat) = _
        rw [Nat.add_assoc, (fgt64_sign_mag hs (mag_lt (by omega) hf) (Nat.mul_pos (by decide) (Nat.pow_pos (by decide)))
          (.inl hnz)).1]
        rcases (by omega : s = 0 ∨ s = 1) with rfl | rfl
        · rw [if_pos (decide_eq_true ⟨rfl, Nat.pos_of_ne_zero hnz⟩)]; simp
        · rw [if_neg (by simp)]; simp [negOf, Nat.add_comm]
      rw [hY, narrowTo_fields eb mb .trunc hs he hf, narrowCore_fin_trunc _ _ _ _ _ hfin, if_pos hmag,
        ← narrowTo_inf eb mb .trunc hs]
      show pack64 n _ = _
      simp only [pack64, isFinite64_inf, Bool.false_and, Bool.false_eq_true, if_false, F.narrow_eq]
    · cases hp

theorem Fmt.floatArg_fin (F : Fmt n eb mb) {s e f : Nat} (hs : s < 2) (he : e < 2047) (hf : f < 2 ^ 52) :
    floatArg stdEnv n .sat (s * 2 ^ 63 + e * 2 ^ 52 + f) =
      if e * 2 ^ 52 + f > fmaxLit n then s * 2 ^ 63 + fmaxLit n else s * 2 ^ 63 + e * 2 ^ 52 + f := by
  have hfn : stdEnv.isFinite (s * 2 ^ 63 + e * 2 ^ 52 + f) = true := by
    simp only [stdEnv, isFinite64, exp_fields s (Nat.lt_succ_of_lt he) hf, bne_iff_ne]; omega
  obtain ⟨h1, h2⟩ := fgt64_sign_mag hs (mag_lt he hf) F.max_lt (.inr (Nat.ne_of_gt F.max_pos))
  rw [← Nat.add_assoc] at h1 h2
  simp only [floatArg, F.lt64, if_true, hfn, show stdEnv.fgt = fgt64 from rfl,
    show stdEnv.flt = fun x y => fgt64 y x from rfl, h1, h2, decide_eq_true_eq]
  rcases (by omega : s = 0 ∨ s = 1) with rfl | rfl
  · simp only [Nat.zero_mul, Nat.zero_add, true_and, Nat.zero_ne_one, false_and, if_false]
  · simp only [Nat.one_mul, Nat.one_ne_zero, false_and, if_false, true_and, negOf, Nat.add_comm (fmaxLit n)]

theorem Fmt.wire (F : Fmt n eb mb) (m : Cast) (x : Nat) (hx : x < 2 ^ 64) :
    floatWire stdEnv n m x = .ok (narrowTo eb mb m x) := by
  cases m with
  | trunc => exact F.toWire x hx
  | sat =>
    obtain ⟨s, e, f, rfl, hs, he, hf⟩ := x_fields x hx
    have hI0 := inf_pos (Nat.le_trans (by decide) F.eb_ge) mb
    rw [floatWire, narrowTo_fields eb mb .sat hs he hf]
    by_cases hfin : e = 2047
    · -- infinities and NaN are packed as they are
      subst hfin
      have hex := exp_fields s he hf
      have : stdEnv.isFinite (s * 2 ^ 63 + 2047 * 2 ^ 52 + f) = false := by simp [stdEnv, isFinite64, hex]
      simp only [floatArg, F.lt64, if_true, this, Bool.false_eq_true, if_false, F.toWire _ hx,
        narrowTo_fields eb mb .trunc hs he hf, narrowCore_nonfin eb mb .sat]
    · have he' : e < 2047 := by omega
      rw [F.floatArg_fin hs he' hf, narrowCore_fin_sat _ _ _ _ _ hfin]
      split
      · -- beyond `±max`: the literal is packed
        rename_i h
        have hM := (F.threshold hf).1 h
        simp only [F.toWire _ (signed_lt hs F.max_lt), F.narrow_max s hs]
        split
        · rfl
        · congr 2; omega
      · -- inside the range: the value itself, which cannot overflow
        rename_i h
        have hM := (F.threshold hf).2 (Nat.le_of_not_lt h)
        rw [F.toWire _ hx, narrowTo_fields eb mb .trunc hs he hf, narrowCore_fin_trunc _ _ _ _ _ hfin,
          if_neg (by omega), if_neg (by omega)]

theorem Fmt.ctor (F : Fmt n eb mb) (w : Nat) : floatCtorOK stdEnv n (widenFrom eb mb w) = true := by
  unfold floatCtorOK
  by_cases hfin : stdEnv.isFinite (widenFrom eb mb w) = true
  · obtain ⟨r, hX, hr⟩ := widenFrom_mag eb mb (Nat.le_of_succ_le F.eb_ge) F.mb_le w
    have hr' : r ≤ fmaxLit n := by
      rcases hr with h | h
      · simp [stdEnv, isFinite64, h] at hfin
      · exact F.max_eq ▸ h
    have hL := F.max_lt
    obtain ⟨h1, h2⟩ := fgt64_sign_mag (m := r) (Nat.mod_lt (w >>> (eb + mb)) (by decide)) (by omega) hL
      (.inr (Nat.ne_of_gt F.max_pos))
    simp only [show stdEnv.fgt = fgt64 from rfl, show stdEnv.flt = fun x y => fgt64 y x from rfl, hX, h1, h2,
      Nat.not_lt.2 hr', and_false, decide_false, Bool.not_false, Bool.and_self, ite_self]
  · simp [hfin]

theorem fmt16 : Fmt 16 5 10 where
  lt64 := by decide
  eb_ge := by decide
  eb_le := by decide
  mb_le := by decide
  narrow_eq := fun m x => by simp [narrow]
  widen_eq := fun w => by simp [widen]
  isInf := fun w => by simp [isInfW]
  max_pos := by decide
  max_lt := by decide
  narrow_max := fun s hs => by rcases (by omega : s = 0 ∨ s = 1) with rfl | rfl <;> decide +kernel
  max_eq := by decide +kernel
  max_frac := by decide +kernel
  max_mag := by decide +kernel

theorem fmt32 : Fmt 32 8 23 where
  lt64 := by decide
  eb_ge := by decide
  eb_le := by decide
  mb_le := by decide
  narrow_eq := fun m x => by simp [narrow]
  widen_eq := fun w => by simp [widen]
  isInf := fun w => by simp [isInfW]
  max_pos := by decide
  max_lt := by decide
  narrow_max := fun s hs => by rcases (by omega : s = 0 ∨ s = 1) with rfl | rfl <;> decide +kernel
  max_eq := by decide +kernel
  max_frac := by decide +kernel
  max_mag := by decide +kernel

end NunavutVerif.GenPy
