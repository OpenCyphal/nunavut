import NunavutVerif.Model.LexerFull
import NunavutVerif.Lemmas.Lexer
/-!
The whole lexer of `Model/LexerFull.lean`.  Without a marker `lexF` and `tokeniter` agree with their versions at
`Env.upstream`: a tag state leaves a suffix of what it was given, and the source normalisation creates no marker.
Without line statement / comment prefixes the root rule is the one of `Model/Lexer.lean`, and a block / variable state
does not see the last character of its begin token unless it is a dot; hence one root step of `lexF` on `d w {c t` and
on `d w {c* t`.  What an upstream alternative matches is no marker for the repaired parser and no tag state emits a
begin token: the upstream lexer never yields a marker begin token, so without a marker in the source `tokenize` hands
none to the parser.
-/
namespace NunavutVerif.Lexer

theorem Env.upstream_cfg (e : Env) : e.upstream.cfg = e.cfg.upstream := rfl

theorem Env.upstream_order (e : Env) : e.upstream.order = e.order := rfl

theorem altF_upstream (e : Env) (prev : Option Char) (s : Str) (k : RKind) (h : hasMarker e.cfg s = false) :
    altF e prev s k = altF e.upstream prev s k := by
  cases k
  case raw => exact rawBegin_upstream e.cfg _ s h
  case lstmt | lcmt => rfl
  all_goals exact tagBegin_upstream e.cfg _ _ s h

theorem firstAlt_upstream (e : Env) (prev : Option Char) (s : Str) (ks : List RKind)
    (h : hasMarker e.cfg s = false) : firstAlt e prev s ks = firstAlt e.upstream prev s ks := by
  induction ks with
  | nil => rfl
  | cons k ks ih => dsimp only [firstAlt]; rw [altF_upstream e prev s k h, ih]

theorem matchAtF_upstream (e : Env) (prev : Option Char) (s : Str) (h : hasMarker e.cfg s = false) :
    matchAtF e prev s = matchAtF e.upstream prev s := by
  unfold matchAtF
  rw [firstAlt_upstream e prev s _ h, Env.upstream_order]

theorem findBeginF_upstream (e : Env) (prev : Option Char) (s : Str) (h : hasMarker e.cfg s = false) :
    findBeginF e prev s = findBeginF e.upstream prev s := by
  induction s generalizing prev with
  | nil => simp [findBeginF]
  | cons c cs ih =>
    have ⟨_, h2⟩ := hasMarker_cons_false h
    dsimp only [findBeginF]
    rw [matchAtF_upstream e prev (c :: cs) h, ih _ h2]

theorem Inner.cons_done {t : Tok} {i : Inner} {ts : List Tok} {r : Str} {p : Option Char}
    (h : i.cons t = .done ts r p) : ∃ ts', i = .done ts' r p := by
  cases i with
  | done ts' r' p' => simp only [Inner.cons, Inner.done.injEq] at h; exact ⟨ts', by rw [h.2.1, h.2.2]⟩
  | halt ts' => simp [Inner.cons] at h

theorem lexTag_rest (tb : Tables) (st : TagState) (trim : Bool) (fuel : Nat) (bal : List Char)
    (prev : Option Char) (s : Str) {ts : List Tok} {r : Str} {p : Option Char}
    (h : lexTag tb st trim fuel bal prev s = .done ts r p) : r <:+ s := by
  revert ts
  fun_induction lexTag tb st trim fuel bal prev s <;> intro ts h
  case case1 => cases h
  case case2 => cases h; exact List.drop_suffix _ _
  case case3 ih =>
    obtain ⟨ts', h'⟩ := Inner.cons_done h
    exact (ih h').trans (List.drop_suffix _ _)
  case case4 => cases h

theorem innerF_rest (lstrip trim : Bool) (tb : Tables) (k : RKind) (prev : Option Char) (s : Str)
    {ts : List Tok} {r : Str} {p : Option Char}
    (h : innerF lstrip trim tb k prev s = .done ts r p) : r <:+ s := by
  match k with
  | .raw =>
    revert h
    dsimp only [innerF]
    fun_cases lexRaw lstrip trim prev s <;> intro h <;> cases h
    exact List.drop_suffix _ _
  | .comment =>
    revert h
    dsimp only [innerF]
    fun_cases lexComment trim prev s <;> intro h <;> cases h
    exact List.drop_suffix _ _
  | .lcmt => cases h; exact List.drop_suffix _ _
  | .variable => exact lexTag_rest tb _ trim _ _ prev s h
  | .block => exact lexTag_rest tb _ trim _ _ prev s h
  | .lstmt => exact lexTag_rest tb _ trim _ _ prev s h

theorem Inner.andThen_congr {i : Inner} {f g : Option Char → Str → List Tok}
    (h : ∀ ts r p, i = .done ts r p → f p r = g p r) : i.andThen f = i.andThen g := by
  cases i with
  | done ts r p => exact congrArg (ts ++ ·) (h ts r p rfl)
  | halt ts => rfl

theorem lexF_upstream (e : Env) (tb : Tables) (fuel : Nat) (prev : Option Char) (s : Str)
    (h : hasMarker e.cfg s = false) : lexF e tb fuel prev s = lexF e.upstream tb fuel prev s := by
  induction fuel generalizing prev s with
  | zero => rfl
  | succ fuel ih =>
    dsimp only [lexF]
    rw [findBeginF_upstream e prev s h]
    cases findBeginF e.upstream prev s with
    | none => rfl
    | some r =>
      obtain ⟨o, k, n⟩ := r
      refine congrArg (_ ++ Tok.tok _ _ :: ·) (Inner.andThen_congr fun ts r p hin => ?_)
      exact ih p r (hasMarker_infix ((innerF_rest _ _ _ _ _ _ hin).trans (List.drop_suffix _ _)).isInfix h)

theorem hasMarker_append_nl (cfg : Cfg) (a b : Str) (ha : hasMarker cfg a = false) (hb : hasMarker cfg b = false) :
    hasMarker cfg (a ++ '\n' :: b) = false := by
  rw [Bool.eq_false_iff] at ha hb ⊢
  intro h
  obtain ⟨x, c, y, hs, hc⟩ := (hasMarker_iff cfg _).1 h
  have hcn : c ≠ '\n' := by rintro rfl; simp at hc
  rcases List.append_eq_append_iff.1 hs with ⟨a', rfl, ht⟩ | ⟨c', rfl, ht⟩
  · cases a' with
    | nil => cases ht
    | cons z a' =>
      cases ht
      exact hb ((hasMarker_iff cfg _).2 ⟨a', c, y, rfl, hc⟩)
  · match c', ht with
    | [], ht => cases ht
    | [_], ht => cases ht; exact hcn rfl
    | [_, _], ht => cases ht
    | _ :: _ :: _ :: c', ht =>
      cases ht
      exact ha ((hasMarker_iff cfg _).2 ⟨x, c, c', rfl, hc⟩)

theorem hasMarker_joinNl (cfg : Cfg) (ls : List Str) (h : ∀ l ∈ ls, hasMarker cfg l = false) :
    hasMarker cfg (joinNl ls) = false := by
  match ls with
  | [] => rfl
  | [l] => exact h l (by simp)
  | l :: l' :: ls =>
    exact hasMarker_append_nl cfg l _ (h l (by simp)) (hasMarker_joinNl cfg (l' :: ls) fun x hx => h x (by simp [hx]))

theorem splitlines_infix {s l : Str} (h : l ∈ splitlines s) : l <:+: s := by
  obtain ⟨lt, hlt, rfl⟩ := List.mem_map.1 h
  rw [← linesT_flatten s]
  exact (List.prefix_append lt.1 lt.2).isInfix.trans (List.infix_of_mem_flatten (List.mem_map_of_mem hlt))

theorem hasMarker_normalizeSource (cfg : Cfg) (keep : Bool) (s : Str) (h : hasMarker cfg s = false) :
    hasMarker cfg (normalizeSource keep s) = false := by
  unfold normalizeSource
  apply hasMarker_joinNl
  intro l hl
  rw [List.mem_append] at hl
  rcases hl with hl | hl
  · exact hasMarker_infix (splitlines_infix hl) h
  · split at hl
    · simp only [List.mem_singleton] at hl; subst hl; rfl
    · simp at hl

theorem tokeniter_upstream (e : Env) (tb : Tables) (keep : Bool) (source : Str)
    (h : hasMarker e.cfg source = false) : tokeniter e tb keep source = tokeniter e.upstream tb keep source := by
  unfold tokeniter
  exact lexF_upstream e tb _ none _ (hasMarker_normalizeSource e.cfg keep source h)

theorem order_noLine (e : Env) (hl : e.noLinePrefixes) : e.order = [.variable, .comment, .block] := by
  simp [Env.order, hl.1, hl.2, insertDesc, keyGt, RKind.rank]

theorem matchAtF_noLine (e : Env) (hl : e.noLinePrefixes) (prev : Option Char) (s : Str) :
    matchAtF e prev s = (matchAt e.cfg (isBol prev) s).map fun p => (p.1.toR, p.2) := by
  unfold matchAtF matchAt
  rw [order_noLine e hl]
  dsimp only [firstAlt, altF]
  cases rawBegin e.cfg (isBol prev) s <;> cases tagBegin e.cfg Kind.variable (isBol prev) s <;>
    cases tagBegin e.cfg Kind.comment (isBol prev) s <;> cases tagBegin e.cfg Kind.block (isBol prev) s <;> rfl

theorem findBeginF_noLine (e : Env) (hl : e.noLinePrefixes) (prev : Option Char) (s : Str) :
    findBeginF e prev s = (findBegin e.cfg (isBol prev) s).map fun p => (p.1, p.2.1.toR, p.2.2) := by
  induction s generalizing prev with
  | nil => rfl
  | cons c cs ih =>
    dsimp only [findBeginF, findBegin]
    rw [matchAtF_noLine e hl, ih (some c)]
    have : isBol (some c) = (c == '\n') := rfl
    rw [this]
    cases matchAt e.cfg (isBol prev) (c :: cs) with
    | some r => obtain ⟨k, n⟩ := r; rfl
    | none =>
      cases findBegin e.cfg (c == '\n') cs with
      | none => rfl
      | some r => obtain ⟨o, k, n⟩ := r; rfl

theorem nextIsPlus_of_noSign {t : Str} (ht : noSign t) : nextIsPlus t = false := by
  rw [nextIsPlus_eq]; exact beq_eq_false_iff_ne.2 ht.2.2

section
attribute [local simp] altMinus_at altStar_at altPlain_at altPlusOpt_at altLstrip_at

theorem matchAt_plain (cfg : Cfg) (bol : Bool) (c : Char) (W t : Str) (hc : c = '{' ∨ c = '%')
    (hW : Blanks W) (ht : noSign t) (hraw : c = '%' → rawTail t = none) :
    matchAt cfg bol (W ++ '{' :: c :: t) =
      if (cfg.lstrip && bol && c == '%') = true ∨ W = [] then some (kindOf c, W.length + 2) else none := by
  have hp := nextIsPlus_of_noSign ht
  rcases hc with rfl | rfl
  · simp [matchAt, rawBegin, tagBegin, altRest, Kind.start, hW, ht.1, ht.2.1, thenTail_none, kindOf]
  · have h2 := thenTail_at W 2 ('{' :: '%' :: t) (hraw rfl)
    simp [matchAt, rawBegin, tagBegin, altRest, Kind.start, hW, ht.1, ht.2.1, hp, thenTail_ite, h2, thenTail_none, kindOf]
    cases cfg.lstrip <;> cases bol <;> by_cases hw : W = [] <;> simp [hw]

end

theorem findBegin_blanks (cfg : Cfg) (bol : Bool) (c : Char) (w t : Str) (hc : c = '{' ∨ c = '%')
    (hw : Blanks w) (ht : noSign t) (hraw : c = '%' → rawTail t = none) :
    findBegin cfg bol (w ++ '{' :: c :: t) =
      if (cfg.lstrip && bol && c == '%') = true then some (0, kindOf c, w.length + 2)
      else some (w.length, kindOf c, 2) := by
  induction w generalizing bol with
  | nil =>
    have hm := matchAt_plain cfg bol c [] t hc hw ht hraw
    rw [if_pos (Or.inr rfl)] at hm
    rw [findBegin_of_matchAt hm (by simp)]
    simp
  | cons b w ih =>
    have hm := matchAt_plain cfg bol c (b :: w) t hc hw ht hraw
    split
    · rename_i hcap
      exact findBegin_of_matchAt (by rw [hm, if_pos (Or.inl hcap)]) (by simp)
    · rename_i hcap
      rw [if_neg (by simp [hcap])] at hm
      rw [List.cons_append] at hm ⊢
      rw [findBegin, hm, ih (b == '\n') fun x hx => hw x (List.mem_cons_of_mem _ hx)]
      simp [blank_not_nl (hw b List.mem_cons_self), pick]

theorem findBegin_plain (cfg : Cfg) (bol : Bool) (c : Char) (d w t : Str) (hc : c = '{' ∨ c = '%')
    (hd : ∀ x ∈ d, x ≠ '{') (hlast : ∀ x, d.getLast? = some x → isBlank x = false)
    (hw : Blanks w) (ht : noSign t) (hraw : c = '%' → rawTail t = none) :
    findBegin cfg bol (d ++ (w ++ '{' :: c :: t)) =
      if (cfg.lstrip && bolAfter bol d && c == '%') = true then some (d.length, kindOf c, w.length + 2)
      else some (d.length + w.length, kindOf c, 2) := by
  rw [findBegin_skip_data cfg d _ hd hlast (fun a => altMinus_at_none a c w t hw ht.1) bol,
    findBegin_blanks cfg _ c w t hc hw ht hraw]
  split <;> simp [Nat.add_comm]

theorem findBegin_marker (cfg : Cfg) (hs : cfg.star = true) (bol : Bool) (c : Char) (d w rest : Str)
    (hc : c = '{' ∨ c = '%')
    (hd : ∀ x ∈ d, x ≠ '{') (hlast : ∀ x, d.getLast? = some x → isBlank x = false)
    (hw : Blanks w) (hraw : c = '%' → rawTail rest = none) :
    findBegin cfg bol (d ++ (w ++ '{' :: c :: '*' :: rest)) = some (d.length, kindOf c, w.length + 3) := by
  rw [findBegin_skip_data cfg d _ hd hlast (fun a => altMinus_at_none a c w _ hw (by simp)) bol,
    findBegin_of_matchAt (matchAt_marker cfg hs _ c w rest hc hw hraw) (by simp)]
  simp [kindOf]

theorem take_data (d x : Str) : (d ++ x).take d.length = d := by simp
theorem drop_data (d x : Str) : (d ++ x).drop d.length = x := by simp

theorem rootStep_of_findBegin {cfg : Cfg} {bol : Bool} {d x rest src : Str} {k : Kind} (hsrc : src = d ++ x ++ rest)
    (h : findBegin cfg bol src = some (d.length, k, x.length)) : rootStep cfg bol src = some ⟨d, k, x, rest⟩ := by
  subst hsrc
  simp only [rootStep, h]
  simp [List.drop_length_add_append]

theorem prevAfter_ne_nil {prev prev' : Option Char} {x : Str} (h : x ≠ []) : prevAfter prev x = prevAfter prev' x := by
  unfold prevAfter
  cases hx : x.getLast? with
  | none => exact absurd (List.getLast?_eq_none_iff.1 hx) h
  | some c => rfl

theorem prevAfter_dot {prev prev' : Option Char} (x : Str) (hp : (prev != some '.') = (prev' != some '.')) :
    (prevAfter prev x != some '.') = (prevAfter prev' x != some '.') := by
  unfold prevAfter
  cases x.getLast? with
  | none => exact hp
  | some c => rfl

theorem closeAt_consumes {c1 c2 : Char} {tr : Bool} {s : Str} {n : Nat} (h : closeAt c1 c2 tr s = some n) :
    s.take n ≠ [] := by
  cases s with
  | nil => simp [closeAt, List.isPrefixOf] at h
  | cons a s =>
    revert h
    fun_cases closeAt c1 c2 tr (a :: s) <;> intro h <;> cases h
    · simp [Nat.add_comm 3]
    · split <;> simp

/-- `hst`: the end token of a line statement is empty when `$` matches at the end of the text -/
theorem endAt_consumes {st : TagState} {tr : Bool} {s : Str} {n : Nat} (hst : st ≠ .lstmt)
    (h : endAt st tr s = some n) : s.take n ≠ [] := by
  cases st
  · exact closeAt_consumes h
  · exact closeAt_consumes h
  · exact absurd rfl hst

theorem operatorAct_ne_finish (bal : List Char) (op : Str) (n : Nat) : operatorAct bal op ≠ .finish n := by
  fun_cases operatorAct bal op <;> simp

theorem tagAct_finish {tb : Tables} {st : TagState} {trim : Bool} {bal : List Char} {prev : Option Char} {s : Str}
    {n : Nat} (h : tagAct tb st trim bal prev s = .finish n) : endAt st trim s = some n := by
  unfold tagAct at h
  revert h
  fun_cases tagRules tb st trim bal (floatAt tb prev s) s <;> intro h
  case case1 hend =>
    cases h
    split at hend
    · exact hend
    · cases hend
  all_goals first | cases h | exact absurd h (operatorAct_ne_finish _ _ _)

theorem tagAct_prev (tb : Tables) (st : TagState) (trim : Bool) (bal : List Char) (prev prev' : Option Char) (s : Str)
    (hp : (prev != some '.') = (prev' != some '.')) :
    tagAct tb st trim bal prev s = tagAct tb st trim bal prev' s := by
  simp only [tagAct, floatAt, hp]

/-- The only look-behind of a block / variable state is `(?<!\.)` of the float rule.  Whether the character in front is
a dot is handed on from token to token (a token may be empty); the end token is not, so what the state leaves as
character in front does not depend on `prev` at all. -/
theorem lexTag_prev (tb : Tables) (st : TagState) (hst : st ≠ .lstmt)
    (trim : Bool) (fuel : Nat) (bal : List Char) (prev prev' : Option Char) (s : Str)
    (hp : (prev != some '.') = (prev' != some '.')) :
    lexTag tb st trim fuel bal prev s = lexTag tb st trim fuel bal prev' s := by
  induction fuel generalizing bal prev prev' s with
  | zero => rfl
  | succ fuel ih =>
    dsimp only [lexTag]
    rw [tagAct_prev tb st trim bal prev prev' s hp]
    cases hact : tagAct tb st trim bal prev' s with
    | finish n =>
      simp only [prevAfter_ne_nil (prev' := prev') (endAt_consumes hst (tagAct_finish hact))]
    | emit t n bal' => simp only [ih bal' _ _ _ (prevAfter_dot _ hp)]
    | stop toks => rfl

theorem innerF_prev (lstrip trim : Bool) (tb : Tables) (k : RKind)
    (hk : k = .variable ∨ k = .block) (prev prev' : Option Char) (s : Str)
    (hp : (prev != some '.') = (prev' != some '.')) :
    innerF lstrip trim tb k prev s = innerF lstrip trim tb k prev' s := by
  rcases hk with rfl | rfl
  · exact lexTag_prev tb _ (by decide) trim _ _ prev prev' s hp
  · exact lexTag_prev tb _ (by decide) trim _ _ prev prev' s hp

theorem lexF_step (e : Env) (tb : Tables) (hl : e.noLinePrefixes) (fuel : Nat) (prev : Option Char)
    (d x rest : Str) (a : Char) {src : Str} {k : Kind} (hsrc : src = d ++ x ++ rest)
    (ha : x.getLast? = some a) (h : findBegin e.cfg (isBol prev) src = some (d.length, k, x.length)) :
    lexF e tb (fuel + 1) prev src =
      optTok .data d ++ .tok k.toR.beginTT x ::
        (innerF e.lstrip e.trim tb k.toR (some a) rest).andThen (lexF e tb fuel) := by
  subst hsrc
  have hp : prevAfter prev (d ++ x) = some a := by simp [prevAfter, List.getLast?_append, ha]
  simp only [lexF, findBeginF_noLine e hl, h, Option.map_some]
  simp [List.take_length_add_append, List.drop_length_add_append, hp]

theorem lexF_plain (e : Env) (tb : Tables) (hl : e.noLinePrefixes) (fuel : Nat) (prev : Option Char)
    (c : Char) (d w t : Str) (hc : c = '{' ∨ c = '%')
    (hd : ∀ x ∈ d, x ≠ '{') (hlast : ∀ x, d.getLast? = some x → isBlank x = false)
    (hw : Blanks w) (ht : noSign t) (hraw : c = '%' → rawTail t = none) :
    lexF e tb (fuel + 1) prev (d ++ (w ++ '{' :: c :: t)) =
      (if (e.lstrip && bolAfter (isBol prev) d && c == '%') = true
        then optTok .data d ++ [.tok (kindOf c).toR.beginTT (w ++ ['{', c])]
        else optTok .data (d ++ w) ++ [.tok (kindOf c).toR.beginTT ['{', c]]) ++
        (innerF e.lstrip e.trim tb (kindOf c).toR (some c) t).andThen (lexF e tb fuel) := by
  have hfb := findBegin_plain e.cfg (isBol prev) c d w t hc hd hlast hw ht hraw
  rw [show e.cfg.lstrip = e.lstrip from rfl] at hfb
  split
  · rename_i hcap
    rw [if_pos hcap] at hfb
    rw [lexF_step e tb hl fuel prev d (w ++ ['{', c]) t c (by simp) (by simp) (by simpa using hfb)]
    simp
  · rename_i hcap
    rw [if_neg hcap] at hfb
    rw [lexF_step e tb hl fuel prev (d ++ w) ['{', c] t c (by simp) rfl (by simpa using hfb)]
    simp

theorem getLast?_append_ne_nil (a b : Str) (h : b ≠ []) : (a ++ b).getLast? = b.getLast? := by
  rw [List.getLast?_append, List.getLast?_eq_some_getLast h]; rfl

theorem take_of_prefix (s lit : Str) (m : Nat) (h : lit.isPrefixOf (s.drop m) = true) :
    s.take (m + lit.length) = s.take m ++ lit := by
  rw [List.isPrefixOf_iff_prefix] at h
  obtain ⟨t, ht⟩ := h
  rw [List.take_add, ← ht]; simp

theorem skipLit_take {cls : Char → Bool} {lit s : Str} {n : Nat} (h : skipLit cls lit s = some n) :
    s.take n = s.take (spanLen cls s) ++ lit := by
  revert h
  fun_cases skipLit cls lit s <;> intro h <;> cases h
  exact take_of_prefix s lit _ (by assumption)

theorem skipLit_last {cls : Char → Bool} {lit s : Str} {n : Nat} (h : skipLit cls lit s = some n) (hne : lit ≠ []) :
    (s.take n).getLast? = lit.getLast? := by
  rw [skipLit_take h, getLast?_append_ne_nil _ _ hne]

theorem altLstrip_last {st : Str} {np bol : Bool} {s : Str} {m : Nat} (h : altLstrip st np bol s = some m)
    (hne : st ≠ []) : (s.take m).getLast? = st.getLast? := by
  revert h
  fun_cases altLstrip st np bol s <;> intro h <;> cases h
  exact skipLit_last (by assumption) hne

theorem altPlusOpt_last {st s : Str} {m : Nat} (h : altPlusOpt st s = some m) (hne : st ≠ []) :
    (s.take m).getLast? = st.getLast? ∨ (s.take m).getLast? = some '+' := by
  revert h
  fun_cases altPlusOpt st s <;> intro h <;> cases h
  rename_i n hs
  split
  · rename_i hp
    rw [nextIsPlus_eq, List.head?_drop, beq_iff_eq] at hp
    right
    rw [List.take_add_one, hp]
    simp
  · exact Or.inl (skipLit_last hs hne)

theorem tagBegin_upstream_last (cfg : Cfg) (k : Kind) (bol : Bool) (s : Str) (n : Nat)
    (h : tagBegin cfg.upstream k bol s = some n) : (s.take n).getLast? ≠ some '*' := by
  have hne : k.start ≠ [] := by cases k <;> simp [Kind.start]
  have hst : k.start.getLast? ≠ some '*' := by cases k <;> simp [Kind.start]
  have hsf : cfg.upstream.starFor k = false := by cases k <;> rfl
  have plain : ∀ m, altPlain k.start s = some m → (s.take m).getLast? ≠ some '*' := by
    intro m hp; rw [skipLit_last hp hne]; exact hst
  have lstripOrPlus : ∀ np m, (altLstrip k.start np bol s).or (altPlusOpt k.start s) = some m →
      (s.take m).getLast? ≠ some '*' := by
    intro np m hm
    rcases Option.or_eq_some_iff.1 hm with hl | ⟨_, hp⟩
    · rw [altLstrip_last hl hne]; exact hst
    · rcases altPlusOpt_last hp hne with h' | h' <;> rw [h']
      · exact hst
      · simp
  simp only [tagBegin, hsf, Bool.false_eq_true, if_false, Option.none_or, Option.or_eq_some_iff] at h
  rcases h with hm | ⟨_, h⟩
  · rw [skipLit_last hm (by simp)]; simp
  · -- `altRest` of each kind is `altPlain`, or under `lstrip_blocks` `altLstrip` before `altPlusOpt`
    cases k <;> simp only [altRest] at h <;> (try split at h) <;>
      first | exact plain _ h | exact lstripOrPlus _ _ h

theorem matchAt_upstream_last (cfg : Cfg) (bol : Bool) (s : Str) (k : Kind) (n : Nat)
    (h : matchAt cfg.upstream bol s = some (k, n)) : k = .raw ∨ (s.take n).getLast? ≠ some '*' := by
  simp only [matchAt, Option.or_eq_some_iff, Option.map_eq_some_iff, Prod.mk.injEq] at h
  rcases h with ⟨m, _, rfl, rfl⟩ | ⟨-, ⟨m, hv, rfl, rfl⟩ | ⟨-, ⟨m, hc, rfl, rfl⟩ | ⟨-, m, hb, rfl, rfl⟩⟩⟩
  · exact Or.inl rfl
  all_goals exact Or.inr (tagBegin_upstream_last cfg _ bol s _ ‹_›)

theorem findBegin_matchAt {cfg : Cfg} {bol : Bool} {s : Str} {o n : Nat} {k : Kind}
    (h : findBegin cfg bol s = some (o, k, n)) : ∃ bol', matchAt cfg bol' (s.drop o) = some (k, n) := by
  induction s generalizing bol o with
  | nil => cases h
  | cons c cs ih =>
    dsimp only [findBegin, pick] at h
    split at h
    · cases h; exact ⟨bol, ‹_›⟩
    · split at h <;> cases h
      exact ih ‹_›

/-- is this a begin token the (repaired) parser would wrap in `lineprefix` once `Lexer.wrap` has passed it on (a line statement
begin reaches the parser as a block begin: `parserWraps_wrapped`) -/
def starBegin : Tok → Bool
  | .tok t v => (t = .variableBegin && isVariableMarker v) || ((t = .blockBegin || t = .lstmtBegin) && isBlockMarker v)
  | _ => false

def isBeginTok : Tok → Bool
  | .tok t _ => t = .variableBegin || t = .blockBegin || t = .lstmtBegin
  | _ => false

theorem starBegin_of_not_begin {t : Tok} (h : isBeginTok t = false) : starBegin t = false := by
  cases t with
  | tok ty v =>
    simp only [isBeginTok, Bool.or_eq_false_iff, decide_eq_false_iff_not] at h
    simp [starBegin, h.1.1, h.1.2, h.2]
  | err e => rfl
  | outOfFuel => rfl

theorem optTok_no_begin (t : TT) (v : Str) (ht : isBeginTok (.tok t v) = false) :
    ∀ x ∈ optTok t v, isBeginTok x = false := by
  unfold optTok
  split <;> simp [ht]

theorem cons_no_begin {t : Tok} {i : Inner} (ht : isBeginTok t = false) :
    (∀ ts r p, i = .done ts r p → ∀ x ∈ ts, isBeginTok x = false) → (∀ ts, i = .halt ts → ∀ x ∈ ts, isBeginTok x = false) →
    (∀ ts r p, i.cons t = .done ts r p → ∀ x ∈ ts, isBeginTok x = false) ∧ (∀ ts, i.cons t = .halt ts → ∀ x ∈ ts, isBeginTok x = false) := by
  intro h1 h2
  cases i with
  | done ts0 r0 p0 =>
    refine ⟨fun ts r p h => ?_, fun ts h => nomatch h⟩
    cases h
    exact List.forall_mem_cons.2 ⟨ht, h1 _ _ _ rfl⟩
  | halt ts0 =>
    refine ⟨fun ts r p h => (nomatch h), fun ts h => ?_⟩
    cases h
    exact List.forall_mem_cons.2 ⟨ht, h2 _ rfl⟩

def Inner.toks : Inner → List Tok
  | .done ts _ _ => ts
  | .halt ts => ts

theorem Inner.toks_cons (t : Tok) (i : Inner) : (i.cons t).toks = t :: i.toks := by
  cases i <;> rfl

def TagAct.noBegin : TagAct → Prop
  | .finish _ => True
  | .emit t _ _ => isBeginTok (.tok t []) = false
  | .stop toks => ∀ x ∈ toks, isBeginTok x = false

theorem operatorAct_noBegin (bal : List Char) (op : Str) : (operatorAct bal op).noBegin := by
  fun_cases operatorAct bal op <;> simp [TagAct.noBegin, isBeginTok]

theorem tagRules_noBegin (tb : Tables) (st : TagState) (trim : Bool) (bal : List Char) (fl : Option Nat) (s : Str) :
    (tagRules tb st trim bal fl s).noBegin := by
  fun_cases tagRules tb st trim bal fl s
  all_goals first | exact operatorAct_noBegin _ _ | simp [TagAct.noBegin, isBeginTok]

theorem tagAct_noBegin {tb : Tables} {st : TagState} {trim : Bool} {bal : List Char} {prev : Option Char} {s : Str}
    {a : TagAct} (h : tagAct tb st trim bal prev s = a) : a.noBegin :=
  h ▸ tagRules_noBegin ..

theorem lexTag_no_begin (tb : Tables) (st : TagState) (trim : Bool) (fuel : Nat) (bal : List Char) (prev : Option Char) (s : Str) :
    ∀ x ∈ (lexTag tb st trim fuel bal prev s).toks, isBeginTok x = false := by
  fun_induction lexTag tb st trim fuel bal prev s
  case case1 => simp only [Inner.toks, List.mem_singleton, forall_eq, isBeginTok]
  case case2 =>
    simp only [Inner.toks, List.mem_singleton, forall_eq]
    cases st <;> rfl
  case case3 hact ih =>
    rw [Inner.toks_cons]
    exact List.forall_mem_cons.2 ⟨tagAct_noBegin hact, ih⟩
  case case4 hact => exact tagAct_noBegin hact

theorem done_no_begin {t e : TT} {a b r : Str} {p : Option Char} (ht : isBeginTok (.tok t a) = false)
    (he : isBeginTok (.tok e b) = false) :
    ∀ x ∈ (Inner.done (optTok t a ++ [.tok e b]) r p).toks, isBeginTok x = false := by
  intro x hx
  rcases List.mem_append.1 hx with hx | hx
  · exact optTok_no_begin t a ht x hx
  · rw [List.mem_singleton.1 hx]; exact he

theorem innerF_no_begin (lstrip trim : Bool) (tb : Tables) (k : RKind) (prev : Option Char) (s : Str) :
    ∀ x ∈ (innerF lstrip trim tb k prev s).toks, isBeginTok x = false := by
  match k with
  | .variable => exact lexTag_no_begin tb _ trim _ _ prev s
  | .block => exact lexTag_no_begin tb _ trim _ _ prev s
  | .lstmt => exact lexTag_no_begin tb _ trim _ _ prev s
  | .raw =>
    dsimp only [innerF]
    fun_cases lexRaw lstrip trim prev s
    · exact done_no_begin rfl rfl
    · simp [Inner.toks]
    · simp [Inner.toks, isBeginTok]
  | .comment =>
    dsimp only [innerF]
    fun_cases lexComment trim prev s
    · exact done_no_begin rfl rfl
    · simp [Inner.toks]
    · simp [Inner.toks, isBeginTok]
  | .lcmt => exact done_no_begin rfl rfl

theorem Inner.andThen_mem {i : Inner} {next : Option Char → Str → List Tok} {x : Tok} (hx : x ∈ i.andThen next) :
    x ∈ i.toks ∨ ∃ ts r p, i = .done ts r p ∧ x ∈ next p r := by
  cases i with
  | done ts r p =>
    simp only [Inner.andThen, List.mem_append] at hx
    rcases hx with hx | hx
    · exact Or.inl hx
    · exact Or.inr ⟨ts, r, p, rfl, hx⟩
  | halt ts => exact Or.inl hx

theorem endsWith3_iff {a b c : Char} {v : Str} : endsWith3 a b c v = true ↔ [a, b, c] <:+ v := by
  rw [← List.reverse_prefix, endsWith3]
  generalize v.reverse = u
  match u with
  | [] | [_] | [_, _] => simp
  | z :: y :: x :: r =>
    simp only [List.reverse_cons, List.reverse_nil, List.nil_append, List.cons_append, List.cons_prefix_cons,
      List.nil_prefix, and_true, Bool.and_eq_true, decide_eq_true_eq]
    exact ⟨fun ⟨⟨hx, hy⟩, hz⟩ => ⟨hz.symm, hy.symm, hx.symm⟩, fun ⟨hz, hy, hx⟩ => ⟨⟨hx.symm, hy.symm⟩, hz.symm⟩⟩

theorem not_endsWith3_of_last {a b c : Char} {v : Str} (h : v.getLast? ≠ some c) : endsWith3 a b c v = false := by
  rw [Bool.eq_false_iff, Ne, endsWith3_iff]
  rintro ⟨u, rfl⟩
  simp at h

theorem endsWith3_append_left {a b c : Char} (r p : Str) (hr : ∀ x ∈ r, x ≠ a)
    (h : endsWith3 a b c (r ++ p) = true) : endsWith3 a b c p = true := by
  rw [endsWith3_iff] at h ⊢
  induction r with
  | nil => exact h
  | cons x r ih =>
    rcases List.suffix_cons_iff.1 h with h | h
    · exact absurd (List.head_eq_of_cons_eq h).symm (hr x List.mem_cons_self)
    · exact ih (fun y hy => hr y (List.mem_cons_of_mem _ hy)) h

theorem spanLen_take_all (p : Char → Bool) (s : Str) : ∀ x ∈ s.take (spanLen p s), p x = true := by
  induction s with
  | nil => simp [spanLen]
  | cons c cs ih =>
    dsimp only [spanLen]
    split
    · rename_i hc
      intro x hx
      simp only [List.take_succ_cons, List.mem_cons] at hx
      rcases hx with rfl | hx
      · exact hc
      · exact ih x hx
    · simp

theorem runThenLit_take {cls : Char → Bool} {at0 : Bool} {lit s : Str} {n : Nat} (h : runThenLit cls at0 lit s = some n) :
    s.take n = s.take (spanLen isSpace s) ++ lit := by
  revert h
  fun_cases runThenLit cls at0 lit s <;> intro h <;> cases h
  exact take_of_prefix s lit _ (Bool.and_eq_true_iff.1 (by assumption)).2

theorem vblank_not_brace {x : Char} (h : isVBlank x = true) : x ≠ '{' := by
  simp only [isVBlank, Bool.or_eq_true, decide_eq_true_eq] at h
  rcases h with (rfl | rfl) | rfl <;> decide

theorem lstmt_not_marker (p : Str) (prev : Option Char) (s : Str) (n : Nat) (hp : isBlockMarker p = false)
    (h : (lstmtMinus p prev s).or (lstmtPlain p prev s) = some n) : isBlockMarker (s.take n) = false := by
  rcases Option.or_eq_some_iff.1 h with hm | ⟨_, hm⟩
  · rw [runThenLit_take hm]
    exact not_endsWith3_of_last (by simp)
  · unfold lstmtPlain at hm
    split at hm
    · rw [skipLit_take hm, Bool.eq_false_iff]
      intro hb
      have := endsWith3_append_left _ p (fun x hx => vblank_not_brace (spanLen_take_all isVBlank s x hx)) hb
      exact Bool.false_ne_true (hp.symm.trans this)
    · cases hm

theorem firstAlt_some {e : Env} {prev : Option Char} {s : Str} {ks : List RKind} {k : RKind} {n : Nat}
    (h : firstAlt e prev s ks = some (k, n)) : altF e prev s k = some n := by
  induction ks with
  | nil => cases h
  | cons k0 ks ih =>
    dsimp only [firstAlt] at h
    split at h
    · cases h; assumption
    · exact ih h

theorem findBeginF_altF {e : Env} {prev : Option Char} {s : Str} {o n : Nat} {k : RKind}
    (h : findBeginF e prev s = some (o, k, n)) : ∃ prev', altF e prev' (s.drop o) k = some n := by
  induction s generalizing prev o with
  | nil => cases h
  | cons c cs ih =>
    dsimp only [findBeginF, pickF] at h
    split at h
    · cases h; exact ⟨prev, firstAlt_some ‹_›⟩
    · split at h <;> cases h
      exact ih ‹_›

theorem altF_upstream_not_marker (e : Env) (hP : ∀ p, e.lineStmt = some p → isBlockMarker p = false)
    (prev : Option Char) (s : Str) (k : RKind) (n : Nat) (h : altF e.upstream prev s k = some n) :
    starBegin (.tok k.beginTT (s.take n)) = false := by
  match k with
  | .raw => rfl
  | .comment => rfl
  | .lcmt => rfl
  | .variable =>
    have := tagBegin_upstream_last e.cfg _ _ s n h
    simp [starBegin, RKind.beginTT, isVariableMarker, not_endsWith3_of_last this]
  | .block =>
    have := tagBegin_upstream_last e.cfg _ _ s n h
    simp [starBegin, RKind.beginTT, isBlockMarker, not_endsWith3_of_last this]
  | .lstmt =>
    dsimp only [altF] at h
    have hls : e.upstream.lineStmt = e.lineStmt := rfl
    rw [hls] at h
    cases hp : e.lineStmt with
    | none => rw [hp] at h; simp at h
    | some p =>
      rw [hp] at h
      have := lstmt_not_marker p prev s n (hP p hp) h
      simp [starBegin, RKind.beginTT, this]

theorem lexF_upstream_no_starBegin (e : Env) (hP : ∀ p, e.lineStmt = some p → isBlockMarker p = false) (tb : Tables)
    (fuel : Nat) (prev : Option Char) (s : Str) : ∀ x ∈ lexF e.upstream tb fuel prev s, starBegin x = false := by
  induction fuel generalizing prev s with
  | zero => exact List.forall_mem_singleton.2 rfl
  | succ fuel ih =>
    dsimp only [lexF]
    cases hf : findBeginF e.upstream prev s with
    | none =>
      dsimp only
      split
      · exact fun _ h => nomatch h
      · exact List.forall_mem_singleton.2 rfl
    | some r =>
      obtain ⟨o, k, n⟩ := r
      obtain ⟨prev', hm⟩ := findBeginF_altF hf
      simp only [List.forall_mem_append, List.forall_mem_cons]
      refine ⟨fun x hx => starBegin_of_not_begin (optTok_no_begin _ _ rfl x hx),
        altF_upstream_not_marker e hP prev' _ k n hm, fun x hx => ?_⟩
      rcases Inner.andThen_mem hx with hx | ⟨ts, r, p, -, hx⟩
      · exact starBegin_of_not_begin (innerF_no_begin _ _ _ _ _ _ x hx)
      · exact ih p r x hx

/-- `wrap` leaves the text of a begin token alone and makes a block begin of a line statement begin: hence the line
statement begin in `starBegin`. -/
theorem parserWraps_wrapped (l : Nat) (ty : TT) (v seq : Str) (h : starBegin (.tok ty v) = false) :
    parserWraps (.tok l (wrapType ty) (if ty = .data then normNewlines seq v else v)) = false := by
  cases ty <;> first | rfl | simpa [starBegin, parserWraps, wrapType] using h

theorem wrap_no_parserWraps (seq : Str) (toks : List Tok) (l : Nat) (h : ∀ x ∈ toks, starBegin x = false) :
    ∀ p ∈ wrap seq (linenos l toks), parserWraps p = false := by
  induction toks generalizing l with
  | nil => exact fun _ hp => nomatch hp
  | cons t ts ih =>
    have ⟨ht, hts⟩ := List.forall_mem_cons.1 h
    cases t with
    | tok ty v =>
      dsimp only [linenos, wrap]
      split
      · exact ih _ hts
      · exact List.forall_mem_cons.2 ⟨parserWraps_wrapped _ ty v seq ht, ih _ hts⟩
    | err e => exact List.forall_mem_singleton.2 rfl
    | outOfFuel => exact List.forall_mem_singleton.2 rfl

theorem tokenize_no_parserWraps (e : Env) (hP : ∀ p, e.lineStmt = some p → isBlockMarker p = false) (tb : Tables)
    (keep : Bool) (seq source : Str) (h : hasMarker e.cfg source = false) :
    ∀ p ∈ tokenize e tb keep seq source, parserWraps p = false := by
  unfold tokenize
  rw [tokeniter_upstream e tb keep source h]
  exact wrap_no_parserWraps seq _ 1 (lexF_upstream_no_starBegin e hP tb _ none _)

end NunavutVerif.Lexer
