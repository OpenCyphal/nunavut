import NunavutVerif.Model.OptionFlow
import NunavutVerif.Lemmas.Options
/-!
An emission table that passes `tableOK` renders, for every header kind, what `defines` / `asserts` of the hand-written
model render (`tableRender_of_ok`).  A history of API calls in one process answers call by call as the stateless
specification does (`runHistory_eq_spec`, by the invariant `Inv`).  A lookup in the merged configuration finds the value
written last for the key.
-/
namespace NunavutVerif.Options

theorem numeral_of_lt {v : Int} (h : v.natAbs < 9223372036854775808) :
    numeral v = some ⟨if v.natAbs < 2147483648 then .int else .long, v⟩ := by
  unfold numeral litTy
  by_cases h1 : v.natAbs < 2147483648
  · simp [h1]
  · simp [h1, h]

def modelRender (nf : NameFilters) (lang : Lang) (side : Side) (om : Bool) (o : OptSet) : Option (List (String × Int)) :=
  match side with
  | .support => defines (canonicalName nf lang) o
  | .type => asserts lang om (canonicalName nf lang) o

theorem siteRender_expected (nf : NameFilters) (lang : Lang) (side : Side) (s : EmitSite)
    (h : expectedSite lang side s = true) (om : Bool) (o : OptSet) :
    siteRender nf s om o = some (modelRender nf lang side om o) := by
  simp only [expectedSite, Bool.and_eq_true, decide_eq_true_eq] at h
  obtain ⟨⟨⟨⟨⟨⟨⟨-, -⟩, hlo⟩, hlv⟩, hg⟩, hn⟩, hv⟩, -⟩ := h
  -- once `side` and `lang` are known, `hg` and `hn` say what the guards and the name expression are
  cases side <;> cases lang <;> cases om <;> simp only [decide_eq_true_eq] at hg hn <;>
    simp [siteRender, modelRender, hlo, hlv, hv, hg, hn, guardsHold, Guard.holds, NameExpr.apply, canonicalName,
      defines, asserts]

theorem renderAll_single (nf : NameFilters) (s : EmitSite) (om : Bool) (o : OptSet) :
    renderAll nf om o [s] = siteRender nf s om o := by
  rcases h : siteRender nf s om o with _ | _ | a <;> simp [renderAll, h]

theorem tableRender_of_ok {tbl : List EmitSite} (h : tableOK tbl = true) (nf : NameFilters) (lang : Lang) (side : Side)
    (om : Bool) (o : OptSet) :
    tableRender tbl nf lang side om o = some (modelRender nf lang side om o) := by
  have key := List.all_eq_true.mp (List.all_eq_true.mp h lang (by cases lang <;> decide)) side
    (by cases side <;> decide)
  unfold tableRender
  split at key
  · rename_i s hs
    rw [hs, renderAll_single]
    exact siteRender_expected nf lang side s key om o
  · cases key

/-- The process invariant: a live generator object holds the effective set of the request it was created from. -/
def Inv (lang : Lang) (file : LangConfig) (past : List Call) (p : Proc) : Prop :=
  ∀ id, Option.Rel (fun g req => effective lang file req = .ok g.options) (p.lookup id) (requestOf lang file id past)

theorem specRun_modelEmitter {lang : Lang} {file : LangConfig} {name : String → String} {req o : OptSet}
    (he : effective lang file req = .ok o) (hf : ∀ kv ∈ o, encFits kv.2 = true) :
    specRun lang file (modelEmitter lang name) req false = .ok ⟨some (rendered name o), rendered name o⟩ := by
  simp [specRun, he, modelEmitter, defines, asserts, render_eq_rendered hf]

theorem create_snd (lang : Lang) (b : Builder) : (b.create lang).2 = effective lang b.config b.pending := by
  simp only [Builder.create, effective]
  rcases validate lang b.config.presets (update b.config.options b.pending) with ⟨o, _ | e⟩ <;> rfl

theorem create_fresh (lang : Lang) (file : LangConfig) (req : OptSet) :
    (((Builder.fresh file).setOverride req).create lang).2 = effective lang file req :=
  create_snd lang _

/-- `step` with the builder traffic replaced by `effective`. -/
theorem step_eq (lang : Lang) (file : LangConfig) (E : Emitter) (p : Proc) (c : Call) :
    step lang file E p c = match c with
      | .generateTypes req om => (p, specRun lang file E req om)
      | .newGenerators id req =>
        (match effective lang file req with
          | .error e => (p, .rejected e)
          | .ok o => ((id, ⟨o, false⟩) :: p, .created))
      | .pass id om =>
        (match p.lookup id with
          | none => (p, .noSuchGenerator)
          | some g => ((id, (g.pass E om).1) :: p, (g.pass E om).2)) := by
  cases c with
  | pass id om => rfl
  | generateTypes req om =>
    simp only [step, specRun, ← create_fresh lang file req]
    rcases ((Builder.fresh file).setOverride req).create lang with ⟨b, e | o⟩ <;> rfl
  | newGenerators id req =>
    simp only [step, ← create_fresh lang file req]
    rcases ((Builder.fresh file).setOverride req).create lang with ⟨b, e | o⟩ <;> rfl

theorem step_spec (lang : Lang) (file : LangConfig) (E : Emitter) (past : List Call) (p : Proc) (c : Call)
    (hinv : Inv lang file past p) :
    (step lang file E p c).2 = specCall lang file E past c ∧ Inv lang file (c :: past) (step lang file E p c).1 := by
  rw [step_eq]
  cases c with
  | generateTypes req om => exact ⟨rfl, hinv⟩
  | newGenerators gid req =>
    simp only [specCall]
    cases he : effective lang file req with
    | error e =>
      refine ⟨rfl, fun id => ?_⟩
      simp only [requestOf, he, ite_self]
      exact hinv id
    | ok o =>
      refine ⟨rfl, fun id => ?_⟩
      simp only [requestOf, he, lookup_cons_if]
      by_cases hid : id = gid
      · rw [if_pos hid, if_pos hid.symm]
        exact .some he
      · rw [if_neg hid, if_neg (Ne.symm hid)]
        exact hinv id
  | pass gid om =>
    simp only [specCall]
    match hl : p.lookup gid, hr : requestOf lang file gid past, hinv gid with
    | _, _, .none => exact ⟨rfl, hinv⟩
    | some g, some req, .some ho =>
      refine ⟨by simp [GenObj.pass, specRun, ho], fun id => ?_⟩
      simp only [requestOf, lookup_cons_if]
      by_cases hid : id = gid
      · rw [if_pos hid, hid, hr]
        exact .some ho
      · rw [if_neg hid]
        exact hinv id

theorem inv_nil (lang : Lang) (file : LangConfig) : Inv lang file [] [] := fun _ => .none

theorem runHistory_eq_spec (lang : Lang) (file : LangConfig) (E : Emitter) : ∀ (cs past : List Call) (p : Proc),
    Inv lang file past p → runHistory lang file E p cs = specHistory lang file E past cs := by
  intro cs
  induction cs with
  | nil => intro past p _; rfl
  | cons c cs ih =>
    intro past p hinv
    obtain ⟨h1, h2⟩ := step_spec lang file E past p c hinv
    simp only [runHistory, specHistory, h1]
    rw [ih (c :: past) _ h2]

/-- *Some* past is enough for a `generate_types` call: `specCall` does not look at it and is `specRun` of the call's own
request. -/
theorem specHistory_zip (lang : Lang) (file : LangConfig) (E : Emitter) : ∀ (cs past : List Call) (c : Call) (r : RunResult),
    (c, r) ∈ cs.zip (specHistory lang file E past cs) → ∃ past', r = specCall lang file E past' c := by
  intro cs
  induction cs with
  | nil => intro past c r h; simp at h
  | cons c0 cs ih =>
    intro past c r h
    simp only [specHistory, List.zip_cons_cons, List.mem_cons] at h
    rcases h with h | h
    · cases h
      exact ⟨past, rfl⟩
    · exact ih (c0 :: past) c r h

theorem lookup_setKey (o : OptSet) (k : String) (v : OptVal) (k' : String) :
    (setKey o k v).lookup k' = if k' = k then some v else o.lookup k' := by
  induction o with
  | nil => simp [setKey, lookup_cons_if]
  | cons kv r ih =>
    obtain ⟨a, b⟩ := kv
    by_cases h : a = k
    · subst h
      by_cases h2 : k' = a <;> simp [setKey, lookup_cons_if, h2]
    · by_cases h2 : k' = a <;> simp [setKey, lookup_cons_if, h, h2, ih]

theorem lookup_update (u : OptSet) (k : String) : ∀ d : OptSet,
    (update d u).lookup k = (lastVal u k).or (d.lookup k) := by
  induction u with
  | nil => intro d; rfl
  | cons kv r ih =>
    intro d
    obtain ⟨a, b⟩ := kv
    show (update (setKey d a b) r).lookup k = _
    rw [ih, lookup_setKey, lastVal, lastVal, List.reverse_cons, List.lookup_append, Option.or_assoc, lookup_cons_if]
    by_cases h : k = a <;> simp [h]

theorem lookup_files (k : String) (files : List OptSet) : ∀ base : OptSet,
    (files.foldl update base).lookup k = (files.reverse.findSome? fun f => lastVal f k).or (base.lookup k) := by
  induction files with
  | nil => intro base; rfl
  | cons f r ih =>
    intro base
    rw [List.foldl_cons, ih, lookup_update, List.reverse_cons, List.findSome?_append, Option.or_assoc]
    simp

theorem foldl_setOverride (ovs : List OptSet) : ∀ b : Builder,
    ovs.foldl Builder.setOverride b = { b with pending := ovs.getLast?.getD b.pending } := by
  induction ovs with
  | nil => intro b; rfl
  | cons o r ih =>
    intro b
    rw [List.foldl_cons, ih, List.getLast?_cons]
    rfl

end NunavutVerif.Options
