import NunavutVerif.Model.Lexer
/-!
The root rule and the text functions of `Model/Lexer.lean`.  Without a marker sequence Nunavut's alternative `altStar`
never matches, so everything from `tagBegin` up to `scan` agrees with its version at `Cfg.upstream`.  At a marker, every
alternative of the root rule is evaluated at `W{c t` (`W` blanks), and nothing matches inside the data in front.  Then
`linesT` / `normTerms` for `lineprefix` and the source normalisation, and the `ifuses` chain.
-/
namespace NunavutVerif.Lexer

theorem skipLit_nil (cls : Char → Bool) (lit : Str) (h : lit ≠ []) : skipLit cls lit [] = none := by
  cases lit with
  | nil => exact absurd rfl h
  | cons a l => simp [skipLit, spanLen]

theorem skipLit_cons_skip {cls : Char → Bool} {lit : Str} {x : Char} {t : Str} (h : cls x = true) :
    skipLit cls lit (x :: t) = (skipLit cls lit t).map (· + 1) := by
  simp only [skipLit, spanLen, h, if_true, List.drop_succ_cons]
  split <;> simp [Nat.add_right_comm]

theorem skipLit_cons_stop {cls : Char → Bool} {lit : Str} {x : Char} {t : Str} (h : cls x = false) :
    skipLit cls lit (x :: t) = if lit.isPrefixOf (x :: t) then some lit.length else none := by
  simp [skipLit, spanLen, h]

theorem skipLit_cons_none {cls : Char → Bool} {a : Char} {l : Str} {x : Char} {t : Str}
    (h : cls x = false) (hx : a ≠ x) : skipLit cls (a :: l) (x :: t) = none := by
  rw [skipLit_cons_stop h]
  simp [List.isPrefixOf, hx]

theorem skipLit_run {cls : Char → Bool} {lit : Str} (w : Str) (y : Char) (t : Str)
    (hw : ∀ x ∈ w, cls x = true) (hy : cls y = false) :
    skipLit cls lit (w ++ y :: t) =
      if lit.isPrefixOf (y :: t) then some (w.length + lit.length) else none := by
  induction w with
  | nil => simp [skipLit_cons_stop hy]
  | cons a w ih =>
    have ha : cls a = true := hw a (by simp)
    have hw' : ∀ x ∈ w, cls x = true := fun x hx => hw x (by simp [hx])
    rw [List.cons_append, skipLit_cons_skip ha, ih hw']
    split <;> simp [Nat.add_right_comm]

/-- the configuration with Nunavut's alternatives removed -/
def Cfg.upstream (cfg : Cfg) : Cfg := ⟨false, false, cfg.lstrip⟩

theorem hasMarker_cons_false {cfg : Cfg} {c : Char} {cs : Str} (h : hasMarker cfg (c :: cs) = false) :
    startsMarker cfg (c :: cs) = false ∧ hasMarker cfg cs = false := by
  simpa [hasMarker] using h

theorem startsMarker_iff {cfg : Cfg} {s : Str} :
    startsMarker cfg s = true ↔
      ∃ c b, s = '{' :: c :: '*' :: b ∧
        ((cfg.star = true ∧ (c = '{' ∨ c = '%')) ∨ (cfg.commentStar = true ∧ c = '#')) := by
  unfold startsMarker
  split
  · simp
  · rename_i hne
    simp only [Bool.false_eq_true, false_iff]
    rintro ⟨c, b, rfl, _⟩
    exact hne c b rfl

theorem hasMarker_iff (cfg : Cfg) (s : Str) :
    hasMarker cfg s = true ↔
      ∃ a c b, s = a ++ '{' :: c :: '*' :: b ∧
        ((cfg.star = true ∧ (c = '{' ∨ c = '%')) ∨ (cfg.commentStar = true ∧ c = '#')) := by
  induction s with
  | nil => simp [hasMarker]
  | cons x t ih =>
    simp only [hasMarker, Bool.or_eq_true, ih, startsMarker_iff]
    constructor
    · rintro (⟨c, b, hs, hc⟩ | ⟨a, c, b, rfl, hc⟩)
      · exact ⟨[], c, b, hs, hc⟩
      · exact ⟨x :: a, c, b, rfl, hc⟩
    · rintro ⟨a, c, b, hs, hc⟩
      cases a with
      | nil => exact Or.inl ⟨c, b, hs, hc⟩
      | cons y a =>
        cases hs
        exact Or.inr ⟨a, c, b, rfl, hc⟩

theorem hasMarker_infix {cfg : Cfg} {l s : Str} (hl : l <:+: s) (h : hasMarker cfg s = false) :
    hasMarker cfg l = false := by
  obtain ⟨a, b, rfl⟩ := hl
  rw [Bool.eq_false_iff] at h ⊢
  intro hl
  obtain ⟨x, c, y, rfl, hc⟩ := (hasMarker_iff cfg l).1 hl
  exact h ((hasMarker_iff cfg _).2 ⟨a ++ x, c, y ++ b, by simp, hc⟩)

theorem hasMarker_cons_ne (cfg : Cfg) (x : Char) (s : Str) (hx : x ≠ '{') :
    hasMarker cfg (x :: s) = hasMarker cfg s := by
  have : startsMarker cfg (x :: s) = false := Bool.eq_false_iff.2 fun h => by
    obtain ⟨c, r, hs, _⟩ := startsMarker_iff.1 h
    cases hs
    exact hx rfl
  simp [hasMarker, this]

theorem hasMarker_append_noBrace (cfg : Cfg) (a s : Str) (ha : ∀ x ∈ a, x ≠ '{') :
    hasMarker cfg (a ++ s) = hasMarker cfg s := by
  induction a with
  | nil => rfl
  | cons x a ih =>
    rw [List.cons_append, hasMarker_cons_ne cfg x _ (ha x (by simp)), ih (fun y hy => ha y (by simp [hy]))]

theorem startsMarker_of_isPrefixOf {cfg : Cfg} {k : Kind} {s : Str} (hk : cfg.starFor k = true)
    (hp : (k.start ++ ['*']).isPrefixOf s = true) : startsMarker cfg s = true := by
  rw [List.isPrefixOf_iff_prefix] at hp
  obtain ⟨t, rfl⟩ := hp
  cases k <;> exact startsMarker_iff.2 ⟨_, t, rfl, by simpa [Cfg.starFor] using hk⟩

theorem altStar_none_of_noMarker (cfg : Cfg) (k : Kind) (s : Str) (hk : cfg.starFor k = true)
    (h : hasMarker cfg s = false) : altStar k.start s = none := by
  unfold altStar
  induction s with
  | nil => exact skipLit_nil _ _ (by simp)
  | cons x t ih =>
    have ⟨h1, h2⟩ := hasMarker_cons_false h
    by_cases hb : isBlank x = true
    · rw [skipLit_cons_skip hb, ih h2]; rfl
    · rw [skipLit_cons_stop (by simpa using hb), if_neg]
      intro hp
      rw [startsMarker_of_isPrefixOf hk hp] at h1
      cases h1

theorem thenTail_none (s : Str) : thenTail none s = none := rfl

theorem tagBegin_upstream (cfg : Cfg) (k : Kind) (bol : Bool) (s : Str) (h : hasMarker cfg s = false) :
    tagBegin cfg k bol s = tagBegin cfg.upstream k bol s := by
  have hr : altRest cfg k bol s = altRest cfg.upstream k bol s := by
    cases k <;> rfl
  unfold tagBegin
  rw [hr]
  by_cases hk : cfg.starFor k = true
  · rw [if_pos hk, altStar_none_of_noMarker cfg k s hk h]
    cases k <;> simp [Cfg.upstream, Cfg.starFor]
  · have : cfg.upstream.starFor k = false := by cases k <;> simp [Cfg.upstream, Cfg.starFor]
    simp [hk, this]

theorem rawBegin_upstream (cfg : Cfg) (bol : Bool) (s : Str) (h : hasMarker cfg s = false) :
    rawBegin cfg bol s = rawBegin cfg.upstream bol s := by
  unfold rawBegin
  by_cases hk : cfg.star = true
  · have := altStar_none_of_noMarker cfg .raw s (by simpa [Cfg.starFor] using hk) h
    simp only [hk, this, thenTail_none, if_true, Option.none_or]
    rfl
  · have hk' : cfg.star = false := by simpa using hk
    simp only [hk']
    rfl

theorem matchAt_upstream (cfg : Cfg) (bol : Bool) (s : Str) (h : hasMarker cfg s = false) :
    matchAt cfg bol s = matchAt cfg.upstream bol s := by
  unfold matchAt
  rw [rawBegin_upstream cfg bol s h, tagBegin_upstream cfg .variable bol s h,
    tagBegin_upstream cfg .comment bol s h, tagBegin_upstream cfg .block bol s h]

theorem findBegin_upstream (cfg : Cfg) (bol : Bool) (s : Str) (h : hasMarker cfg s = false) :
    findBegin cfg bol s = findBegin cfg.upstream bol s := by
  induction s generalizing bol with
  | nil => simp [findBegin]
  | cons c cs ih =>
    have ⟨_, h2⟩ := hasMarker_cons_false h
    dsimp only [findBegin]
    rw [matchAt_upstream cfg bol (c :: cs) h, ih _ h2]

theorem rootStep_upstream (cfg : Cfg) (bol : Bool) (s : Str) (h : hasMarker cfg s = false) :
    rootStep cfg bol s = rootStep cfg.upstream bol s := by
  unfold rootStep
  rw [findBegin_upstream cfg bol s h]

theorem rootStep_rest {cfg : Cfg} {bol : Bool} {s : Str} {st : Step} (h : rootStep cfg bol s = some st) :
    st.rest <:+ s := by
  unfold rootStep at h
  split at h <;> cases h
  exact List.drop_suffix _ _

theorem scan_upstream (cfg : Cfg) (inner : Kind → Str → Option Nat) (fuel : Nat) (bol : Bool) (s : Str)
    (h : hasMarker cfg s = false) :
    scan cfg inner fuel bol s = scan cfg.upstream inner fuel bol s := by
  induction fuel generalizing bol s with
  | zero => rfl
  | succ fuel ih =>
    dsimp only [scan]
    rw [rootStep_upstream cfg bol s h]
    cases hst : rootStep cfg.upstream bol s with
    | none => rfl
    | some st =>
      simp only
      cases inner st.kind st.rest with
      | none => rfl
      | some n =>
        simp only
        congr 1
        exact ih _ _ (hasMarker_infix ((List.drop_suffix _ _).trans (rootStep_rest hst)).isInfix h)

theorem isBlank_iff {x : Char} : isBlank x = true ↔ x = ' ' ∨ x = '\t' := by simp [isBlank]

theorem isSpace_of_isBlank {x : Char} (h : isBlank x = true) : isSpace x = true := by
  rcases isBlank_iff.1 h with rfl | rfl <;> decide

theorem ne_brace_of_isBlank {x : Char} (h : isBlank x = true) : '{' ≠ x := by
  rcases isBlank_iff.1 h with rfl | rfl <;> decide

theorem blank_not_nl {x : Char} (h : isBlank x = true) : (x == '\n') = false := by
  rcases isBlank_iff.1 h with rfl | rfl <;> decide

theorem nextIsPlus_eq (s : Str) : nextIsPlus s = (s.head? == some '+') := by
  unfold nextIsPlus
  split
  · rfl
  · rename_i h
    cases s with
    | nil => rfl
    | cons c r =>
      refine (beq_eq_false_iff_ne.2 fun hc => h r ?_).symm
      cases hc; rfl

theorem rawTail_star (rest : Str) : rawTail ('*' :: rest) = none := by
  simp [rawTail, spanLen, show isSpace '*' = false by decide]

/-- A name of its own lets `simp` discharge the side condition of the equations below from a hypothesis. -/
def Blanks (w : Str) : Prop := ∀ x ∈ w, isBlank x = true

theorem skipSpace_at (lit w t : Str) (hw : Blanks w) :
    skipLit isSpace lit (w ++ '{' :: t) =
      if lit.isPrefixOf ('{' :: t) then some (w.length + lit.length) else none :=
  skipLit_run w '{' t (fun x hx => isSpace_of_isBlank (hw x hx)) (by decide)

theorem skipBlank_at (lit w t : Str) (hw : Blanks w) :
    skipLit isBlank lit (w ++ '{' :: t) =
      if lit.isPrefixOf ('{' :: t) then some (w.length + lit.length) else none :=
  skipLit_run w '{' t hw (by decide)

theorem skipNone_at (l w t : Str) (hw : Blanks w) :
    skipLit noSkip ('{' :: l) (w ++ '{' :: t) =
      if w = [] ∧ l.isPrefixOf t then some (w.length + (l.length + 1)) else none := by
  cases w with
  | nil =>
    rw [List.nil_append, skipLit_cons_stop rfl]
    simp [List.isPrefixOf]
  | cons b w =>
    rw [List.cons_append, skipLit_cons_none rfl (ne_brace_of_isBlank (hw b (by simp)))]
    simp

theorem isPrefixOf_brace2 (a c : Char) (t : Str) : List.isPrefixOf ['{', a] ('{' :: c :: t) = true ↔ a = c := by
  simp [List.isPrefixOf]

theorem isPrefixOf_brace3 (a x c : Char) (t : Str) :
    List.isPrefixOf ['{', a, x] ('{' :: c :: t) = true ↔ a = c ∧ t.head? = some x := by
  cases t <;> simp [List.isPrefixOf, eq_comm (a := x)]

section
variable (a c : Char) (W t : Str) (hW : Blanks W)
include hW

theorem altMinus_at :
    altMinus ['{', a] (W ++ '{' :: c :: t) =
      if a = c ∧ t.head? = some '-' then some (W.length + 3) else none := by
  simp only [altMinus, List.cons_append, List.nil_append, skipSpace_at _ W _ hW, isPrefixOf_brace3,
    List.length_cons, List.length_nil]

theorem altMinus_at_none (ht : t.head? ≠ some '-') : altMinus ['{', a] (W ++ '{' :: c :: t) = none :=
  (altMinus_at a c W t hW).trans (if_neg fun h => ht h.2)

theorem altStar_at :
    altStar ['{', a] (W ++ '{' :: c :: t) =
      if a = c ∧ t.head? = some '*' then some (W.length + 3) else none := by
  simp only [altStar, List.cons_append, List.nil_append, skipBlank_at _ W _ hW, isPrefixOf_brace3,
    List.length_cons, List.length_nil]

theorem altPlain_at :
    altPlain ['{', a] (W ++ '{' :: c :: t) = if W = [] ∧ a = c then some (W.length + 2) else none := by
  simp [altPlain, skipNone_at _ W _ hW, List.isPrefixOf]

theorem altPlusOpt_at :
    altPlusOpt ['{', a] (W ++ '{' :: c :: t) =
      if W = [] ∧ a = c then some (W.length + if nextIsPlus t then 3 else 2) else none := by
  by_cases h : W = [] ∧ a = c
  · obtain ⟨rfl, rfl⟩ := h
    simp [altPlusOpt, skipLit, spanLen, noSkip, List.isPrefixOf]
  · simp [altPlusOpt, skipNone_at _ W _ hW, List.isPrefixOf, h]

theorem altLstrip_at (np bol : Bool) :
    altLstrip ['{', a] np bol (W ++ '{' :: c :: t) =
      if bol = true ∧ a = c ∧ (np && nextIsPlus t) = false then some (W.length + 2) else none := by
  have hd : List.drop (W.length + 2) (W ++ '{' :: c :: t) = t := List.drop_length_add_append 2
  simp only [altLstrip, skipBlank_at _ W _ hW, isPrefixOf_brace2, List.length_cons, List.length_nil]
  cases bol <;> by_cases hac : a = c <;> cases h : (np && nextIsPlus t) <;> simp [hac, hd, h]

end

theorem thenTail_ite (p : Prop) [Decidable p] (m : Nat) (s : Str) :
    thenTail (if p then some m else none) s = if p then thenTail (some m) s else none := by
  split <;> rfl

theorem thenTail_at (W : Str) (n : Nat) (x : Str) (h : rawTail (x.drop n) = none) :
    thenTail (some (W.length + n)) (W ++ x) = none := by
  simp only [thenTail, List.drop_length_add_append, h]; rfl

section
attribute [local simp] altMinus_at altStar_at altPlain_at altPlusOpt_at altLstrip_at

theorem matchAt_marker (cfg : Cfg) (hs : cfg.star = true) (bol : Bool) (c : Char) (w rest : Str)
    (hc : c = '{' ∨ c = '%') (hw : Blanks w) (hraw : c = '%' → rawTail rest = none) :
    matchAt cfg bol (w ++ '{' :: c :: '*' :: rest) =
      some (if c = '{' then Kind.variable else Kind.block, w.length + 3) := by
  rcases hc with rfl | rfl
  · simp [matchAt, rawBegin, tagBegin, altRest, Kind.start, Cfg.starFor, hw, hs, thenTail_none]
  · -- `w{%*` does not open a raw block unless `raw … %}` follows: every prefix alternative stops in front of `*` or behind it
    have h3 := thenTail_at w 3 ('{' :: '%' :: '*' :: rest) (hraw rfl)
    have h2 := thenTail_at w 2 ('{' :: '%' :: '*' :: rest) (rawTail_star rest)
    simp [matchAt, rawBegin, tagBegin, altRest, Kind.start, Cfg.starFor, hw, hs, thenTail_none, thenTail_ite, h2, h3,
      nextIsPlus]

end

theorem skipLit_none_in_data {cls : Char → Bool} (l d t : Str) (hd : ∀ x ∈ d, x ≠ '{')
    (h : (∀ x ∈ d, cls x = true) → skipLit cls ('{' :: l) t = none) :
    skipLit cls ('{' :: l) (d ++ t) = none := by
  induction d with
  | nil => exact h (by simp)
  | cons x d ih =>
    by_cases hx : cls x = true
    · rw [List.cons_append, skipLit_cons_skip hx, ih (fun y hy => hd y (List.mem_cons_of_mem _ hy))
        fun hall => h (List.forall_mem_cons.2 ⟨hx, hall⟩)]
      rfl
    · exact skipLit_cons_none (by simpa using hx) (hd x List.mem_cons_self).symm

theorem getLast?_of_cons {x y : Char} {d : Str} (h : d.getLast? = some y) : (x :: d).getLast? = some y := by
  rw [List.getLast?_cons, h]; rfl

theorem matchAt_none_in_data (cfg : Cfg) (bol : Bool) (d u : Str) (hne : d ≠ [])
    (hd : ∀ x ∈ d, x ≠ '{') (hlast : ∀ x, d.getLast? = some x → isBlank x = false)
    (hu : ∀ a, altMinus ['{', a] u = none) : matchAt cfg bol (d ++ u) = none := by
  -- `\s*{a-` is the one alternative whose class can run over the end of `d`: there `hu` stops it
  have hm : ∀ a, altMinus ['{', a] (d ++ u) = none := fun a => skipLit_none_in_data _ d _ hd fun _ => hu a
  -- neither the blanks `[ \t]*` nor the empty class run over the last character of `d`
  obtain ⟨y, hy⟩ := Option.ne_none_iff_exists'.1 (mt List.getLast?_eq_none_iff.1 hne)
  have hyd : y ∈ d := List.mem_of_getLast? hy
  have hb : ∀ l, skipLit isBlank ('{' :: l) (d ++ u) = none := fun l =>
    skipLit_none_in_data l d _ hd fun hall => absurd (hall y hyd) (by simp [hlast y hy])
  have hn : ∀ l, skipLit noSkip ('{' :: l) (d ++ u) = none := fun l =>
    skipLit_none_in_data l d _ hd fun hall => absurd (hall y hyd) (by simp [noSkip])
  simp [matchAt, rawBegin, tagBegin, altRest, altStar, altLstrip, altPlusOpt, altPlain, Kind.start, hb, hn, hm, thenTail_none]

theorem bolAfter_cons (bol : Bool) (x : Char) (d : Str) : bolAfter (x == '\n') d = bolAfter bol (x :: d) := by
  simp only [bolAfter, List.getLast?_cons]
  cases d.getLast? <;> rfl

theorem findBegin_skip_data (cfg : Cfg) (d u : Str)
    (hd : ∀ x ∈ d, x ≠ '{') (hlast : ∀ x, d.getLast? = some x → isBlank x = false)
    (hu : ∀ a, altMinus ['{', a] u = none) (bol : Bool) :
    findBegin cfg bol (d ++ u) = (findBegin cfg (bolAfter bol d) u).map fun r => (r.1 + d.length, r.2) := by
  induction d generalizing bol with
  | nil => simp [bolAfter]
  | cons x d ih =>
    have hnone := matchAt_none_in_data cfg bol (x :: d) u (by simp) hd hlast hu
    rw [List.cons_append] at hnone ⊢
    rw [findBegin, hnone, ih (fun y hy => hd y (List.mem_cons_of_mem _ hy)) (fun y hy => hlast y (getLast?_of_cons hy)),
      bolAfter_cons bol]
    cases findBegin cfg (bolAfter bol (x :: d)) u with
    | none => rfl
    | some r => simp [pick, Nat.add_assoc]

theorem findBegin_of_matchAt {cfg : Cfg} {bol : Bool} {s : Str} {k : Kind} {n : Nat}
    (h : matchAt cfg bol s = some (k, n)) (hne : s ≠ []) : findBegin cfg bol s = some (0, k, n) := by
  cases s with
  | nil => exact absurd rfl hne
  | cons c cs => rw [findBegin, h]; rfl

theorem not_cr_of_not_break {c : Char} (h : isBreak c = false) : c ≠ '\r' := by
  intro hc; subst hc; simp [isBreak] at h

theorem linesT_cons_plain {c : Char} (hc : isBreak c = false) (s : Str) :
    linesT (c :: s) = consHead c (linesT s) := by
  simp only [linesT, not_cr_of_not_break hc, if_false, hc, Bool.false_eq_true]

theorem linesT_cons_nl (s : Str) : linesT ('\n' :: s) = ([], ['\n']) :: linesT s := by
  simp [linesT, isBreak]

theorem nl_or_not_break {s : Str} (hb : ∀ c ∈ s, isBreak c = true → c = '\n') {c : Char} (hc : c ∈ s) :
    c = '\n' ∨ isBreak c = false := by
  cases h : isBreak c
  · exact Or.inr rfl
  · exact Or.inl (hb c hc h)

theorem flatten_consHead (c : Char) (L : List (Str × Str)) :
    ((consHead c L).map fun lt => lt.1 ++ lt.2).flatten = c :: (L.map fun lt => lt.1 ++ lt.2).flatten := by
  cases L with
  | nil => simp [consHead]
  | cons lt rest => obtain ⟨l, t⟩ := lt; simp [consHead]

theorem linesT_flatten (s : Str) : ((linesT s).map fun lt => lt.1 ++ lt.2).flatten = s := by
  fun_induction linesT s
  case case1 => rfl
  case case2 cs hh ih =>
    match cs, hh with
    | d :: ds, hh =>
      simp at hh; subst hh
      rw [linesT_cons_nl] at ih ⊢
      simpa [mergeCR] using ih
  case case3 ih => simp [ih]
  case case4 ih => simp [ih]
  case case5 ih => rw [flatten_consHead, ih]

theorem linesT_ne_nil {s : Str} (h : s ≠ []) : linesT s ≠ [] := by
  fun_cases linesT s
  · exact absurd rfl h
  · cases linesT _ <;> simp [mergeCR]
  · simp
  · simp
  · cases linesT _ <;> simp [consHead]

theorem joinNl_eq_normTerms (f : Str → Str) (L : List (Str × Str)) :
    joinNl (L.map fun lt => f lt.1) = ((normTerms L).map fun lt => f lt.1 ++ lt.2).flatten := by
  induction L with
  | nil => simp [joinNl, normTerms]
  | cons a L ih =>
    cases L with
    | nil => obtain ⟨l, t⟩ := a; simp [joinNl, normTerms]
    | cons b L =>
      obtain ⟨l, t⟩ := a
      simp only [List.map_cons, joinNl, normTerms, List.flatten_cons] at ih ⊢
      rw [ih]
      simp

theorem normTerms_consHead (c : Char) (L : List (Str × Str)) (h : normTerms L = L) :
    normTerms (consHead c L) = consHead c L := by
  cases L with
  | nil => simp [consHead, normTerms]
  | cons a L =>
    obtain ⟨l, t⟩ := a
    cases L with
    | nil => simp [consHead, normTerms] at h ⊢; exact h
    | cons b L =>
      simp only [consHead, normTerms, List.cons.injEq, Prod.mk.injEq, true_and] at h ⊢
      exact h

theorem normTerms_linesT_plain (s : Str) (hb : ∀ c ∈ s, isBreak c = true → c = '\n')
    (hl : s.getLast? ≠ some '\n') : normTerms (linesT s) = linesT s := by
  induction s with
  | nil => rfl
  | cons c cs ih =>
    have ih := ih (fun x hx => hb x (List.mem_cons_of_mem _ hx)) fun h => hl (getLast?_of_cons h)
    rcases nl_or_not_break hb List.mem_cons_self with rfl | hc
    · have hcs : cs ≠ [] := by rintro rfl; exact hl rfl
      rw [linesT_cons_nl]
      cases hL : linesT cs with
      | nil => exact absurd hL (linesT_ne_nil hcs)
      | cons a L => rw [hL] at ih; simp only [normTerms, ih]
    · rw [linesT_cons_plain hc]
      exact normTerms_consHead c _ ih

theorem of_plainLines {s : Str} (h : plainLines s = true) :
    (∀ c ∈ s, isBreak c = true → c = '\n') ∧ s.getLast? ≠ some '\n' := by
  simp only [plainLines, Bool.and_eq_true, List.all_eq_true, Bool.or_eq_true, Bool.not_eq_true',
    decide_eq_true_eq, bne_iff_ne, ne_eq] at h
  refine ⟨fun c hc hb => ?_, h.2⟩
  rcases h.1 c hc with h' | h'
  · rw [hb] at h'; cases h'
  · exact h'

/-- `consHead` and `mergeCR` on the contents alone (what `splitlines` keeps of `linesT`) -/
def consHeadS (a : Char) : List Str → List Str
  | [] => [[a]]
  | l :: r => (a :: l) :: r

def mergeS : List Str → List Str
  | _ :: r => [] :: r
  | [] => [[]]

theorem fst_consHead (a : Char) (L : List (Str × Str)) : (consHead a L).map (·.1) = consHeadS a (L.map (·.1)) := by
  cases L with
  | nil => rfl
  | cons x L => obtain ⟨l, t⟩ := x; rfl

theorem fst_mergeCR (L : List (Str × Str)) : (mergeCR L).map (·.1) = mergeS (L.map (·.1)) := by
  cases L with
  | nil => rfl
  | cons x L => obtain ⟨l, t⟩ := x; rfl

theorem joinNl_consHeadS (c : Char) (ls : List Str) : joinNl (consHeadS c ls) = c :: joinNl ls := by
  match ls with
  | [] => rfl
  | [_] => rfl
  | _ :: _ :: _ => rfl

theorem joinNl_nil_cons (ls : List Str) (h : ls ≠ []) : joinNl ([] :: ls) = '\n' :: joinNl ls := by
  cases ls with
  | nil => exact absurd rfl h
  | cons a ls => simp [joinNl]

theorem joinNl_snoc_nil (ls : List Str) (h : ls ≠ []) : joinNl (ls ++ [[]]) = joinNl ls ++ ['\n'] := by
  induction ls with
  | nil => exact absurd rfl h
  | cons a ls ih =>
    cases ls with
    | nil => simp [joinNl]
    | cons b ls =>
      have := ih (by simp)
      simp only [List.cons_append, joinNl] at this ⊢
      rw [this]; simp

theorem joinNl_splitlines_snoc_nl (t : Str) (hb : ∀ c ∈ t, isBreak c = true → c = '\n') :
    joinNl (splitlines (t ++ ['\n'])) = t := by
  induction t with
  | nil => simp [splitlines, linesT, isBreak, joinNl]
  | cons c t ih =>
    have ih := ih fun x hx => hb x (List.mem_cons_of_mem _ hx)
    have hne : linesT (t ++ ['\n']) ≠ [] := linesT_ne_nil (by simp)
    unfold splitlines at ih ⊢
    rcases nl_or_not_break hb List.mem_cons_self with rfl | hc
    · rw [List.cons_append, linesT_cons_nl, List.map_cons, joinNl_nil_cons _ (by simpa using hne), ih]
    · rw [List.cons_append, linesT_cons_plain hc, fst_consHead, joinNl_consHeadS, ih]

theorem parseLoop_ok {negate : Bool} {name body : Str} {segs : List Seg}
    {cs : List (Bool × Str × Str)} {e : Str} (h : parseLoop negate name body segs = .ok (cs, e)) :
    cs = clausesOf negate name body segs ∧ e = elseOf segs := by
  revert cs e
  fun_induction parseLoop negate name body segs <;> intro cs e h <;> cases h
  case case2 hrec ih => obtain ⟨rfl, rfl⟩ := ih hrec; exact ⟨rfl, rfl⟩
  case case4 hrec ih => obtain ⟨rfl, rfl⟩ := ih hrec; exact ⟨rfl, rfl⟩
  all_goals exact ⟨rfl, rfl⟩

theorem evalClauses_eq_ifElifElse (q : Str → Option Bool) (cs : List (Bool × Str × Str)) (e : Str) :
    evalClauses q cs e = ifElifElse (cs.map fun c => (useQuery q c.1 c.2.1, c.2.2)) e := by
  induction cs with
  | nil => rfl
  | cons c cs ih =>
    obtain ⟨ng, n, b⟩ := c
    simp only [evalClauses, List.map_cons]
    cases hq : useQuery q ng n with
    | error x => simp [ifElifElse]
    | ok v => cases v <;> simp [ifElifElse, ih]

end NunavutVerif.Lexer
