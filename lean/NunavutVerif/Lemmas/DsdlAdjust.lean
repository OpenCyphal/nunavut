import NunavutVerif.Lemmas.DsdlBits
import NunavutVerif.Lemmas.DsdlFloat
/-!
Cast adjustment: the adjusted value serializes to the same bits, and adjusting twice is adjusting once.
-/
namespace NunavutVerif.Dsdl

/-- Both laws at once: they are proved by the same induction over the type. -/
def AdjOK (t : Ty) : Prop :=
  ∀ v, serBits t (castAdjust t v) = serBits t v ∧ castAdjust t (castAdjust t v) = castAdjust t v

@[simp] theorem adjAll_length (t : Ty) (vs : List Val) : (List.map (castAdjust t) vs).length = vs.length :=
  List.length_map ..

theorem adjAll_ok {t : Ty} (h : AdjOK t) (vs : List Val) :
    serAllWith (serBits t) (vs.map (castAdjust t)) = serAllWith (serBits t) vs ∧
      (vs.map (castAdjust t)).map (castAdjust t) = vs.map (castAdjust t) := by
  induction vs with
  | nil => exact ⟨rfl, rfl⟩
  | cons v vs ih => simp only [List.map, serAllWith, h v, ih, and_self]

theorem adjFields_ok {fs : List Ty} (ih : ∀ f ∈ fs, AdjOK f) :
    ∀ vs, (∀ off, serFields fs (adjFields fs vs) off = serFields fs vs off) ∧
      adjFields fs (adjFields fs vs) = adjFields fs vs := by
  induction fs with
  | nil => intro vs; exact ⟨fun _ => rfl, rfl⟩
  | cons f fs ihf =>
    intro vs
    obtain ⟨ihf', ihfs⟩ := List.forall_mem_cons.1 ih
    cases vs with
    | nil => exact ⟨fun _ => rfl, rfl⟩
    | cons v vs =>
      simp only [adjFields, serFields, ihf' v, ihf ihfs vs, implies_true, and_self]

theorem adjOK (t : Ty) : wf t = true → AdjOK t := by
  induction t using Ty.ind with
  | uint n m =>
    intro _ v
    cases v with
    | int i =>
      simp only [castAdjust, serBits, castU_idem, and_self]
    | _ => exact ⟨rfl, rfl⟩
  | sint n m =>
    intro hw v
    replace hw := wf_sint hw
    cases v with
    | int i =>
      simp only [castAdjust, serBits, castS_idem hw.1, and_self]
    | _ => exact ⟨rfl, rfl⟩
  | float n m =>
    intro hw v
    replace hw := wf_float hw
    cases v with
    | float x =>
      simp only [castAdjust, serBits, narrow_widen_narrow hw, and_self]
    | _ => exact ⟨rfl, rfl⟩
  | bool | void => exact fun _ v => ⟨rfl, rfl⟩
  | arr t n ih =>
    intro hw v
    cases v with
    | arr vs =>
      simp only [castAdjust, serBits, adjAll_length, adjAll_ok (ih hw), and_self]
    | _ => exact ⟨rfl, rfl⟩
  | varr t cap ih =>
    intro hw v
    replace hw := wf_varr hw
    cases v with
    | arr vs =>
      simp only [castAdjust, serBits, adjAll_length, adjAll_ok (ih hw.2), and_self]
    | _ => exact ⟨rfl, rfl⟩
  | struct fs ih =>
    intro hw v
    cases v with
    | struct vs =>
      simp only [castAdjust, serBits, adjFields_ok (forall_mem_of_wfAll ih hw) vs, and_self]
    | _ => exact ⟨rfl, rfl⟩
  | union fs ih =>
    intro hw v
    replace hw := wf_union hw
    cases v with
    | union k v =>
      by_cases hk : k < fs.length
      · simp only [castAdjust, serBits, serNth_eq hk, adjNth_eq hk,
          forall_mem_of_wfAll ih hw.2 _ (List.getElem_mem hk) v, and_self]
      · simp only [castAdjust, serBits, adjNth_of_le (Nat.not_lt.1 hk), and_self]
    | _ => exact ⟨rfl, rfl⟩
  | delim e t ih =>
    intro hw v
    replace hw := wf_delim hw
    obtain ⟨h1, h2⟩ := ih hw.2 v
    exact ⟨congrArg (Except.map _) h1, h2⟩

end NunavutVerif.Dsdl
