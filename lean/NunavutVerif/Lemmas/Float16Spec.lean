import NunavutVerif.Model.Float16
/-!
The value functions `F32.mag` / `F16.mag` (exact magnitudes in units of `2^-149`) are strictly increasing in the
bit pattern and linear inside a binade, so values are compared by comparing patterns.  A binary16 pattern, subnormal
or not, shifted left by 13 is a binary32 pattern denoting `2^-112` times its value (`F16.mag_scaled`), hence the
embedding of the normal binary16 numbers into binary32 (`embed`: `h ↦ (h + 112·1024)·8192` on patterns preserves
the value).
-/
namespace NunavutVerif.Float16

theorem F32.mag_eq (a : Nat) (h : a < 2147483648) :
    F32.mag a = if a / 8388608 = 0 then a % 8388608 else (8388608 + a % 8388608) * 2 ^ (a / 8388608 - 1) := by
  simp only [F32.mag, Nat.mod_eq_of_lt h, cond_eq_ite, Nat.beq_eq]

theorem F16.mag_eq (p : Nat) (h : p < 32768) :
    F16.mag p = (if p / 1024 = 0 then p % 1024 else (1024 + p % 1024) * 2 ^ (p / 1024 - 1)) * 2 ^ 125 := by
  simp only [F16.mag, Nat.mod_eq_of_lt h, cond_eq_ite, Nat.beq_eq]

theorem F32.mag_mod (x : Nat) : F32.mag x = F32.mag (x % 2147483648) := by
  simp only [F32.mag, Nat.mod_mod]

theorem F16.mag_mod (h : Nat) : F16.mag h = F16.mag (h % 32768) := by
  simp only [F16.mag, Nat.mod_mod]

/-- Significand and exponent (biased, at least 1) of a finite non-negative pattern, the way `f32mul` and `f32add`
read their operands: `|a| = sig a · 2^(exp a - 150)`. -/
def F32.sig (a : Nat) : Nat := if a / 8388608 = 0 then a else a % 8388608 + 8388608

def F32.exp (a : Nat) : Nat := if a / 8388608 = 0 then 1 else a / 8388608

theorem F32.mag_sig (a : Nat) (h : a < 2147483648) : F32.mag a = F32.sig a * 2 ^ (F32.exp a - 1) := by
  rw [F32.mag_eq a h, F32.sig, F32.exp]
  split
  · rw [Nat.mod_eq_of_lt (by omega), Nat.sub_self, Nat.pow_zero, Nat.mul_one]
  · rw [Nat.add_comm]

theorem F32.sig_exp_of_lt (a : Nat) (h : a < 8388608) : F32.sig a = a ∧ F32.exp a = 1 := by
  rw [F32.sig, F32.exp, if_pos (by omega), if_pos (by omega)]; exact ⟨rfl, rfl⟩

theorem F32.sig_exp_of_ge (a : Nat) (h : 8388608 ≤ a) :
    F32.sig a = a % 8388608 + 8388608 ∧ F32.exp a = a / 8388608 := by
  rw [F32.sig, F32.exp, if_neg (by omega), if_neg (by omega)]; exact ⟨rfl, rfl⟩

theorem F32.sig_lt (a : Nat) : F32.sig a < 16777216 := by
  rw [F32.sig]; split <;> omega

theorem F32.exp_bounds (a E : Nat) (hE : 1 ≤ E) (h : a < (E + 1) * 8388608) : 1 ≤ F32.exp a ∧ F32.exp a ≤ E := by
  rw [F32.exp]; split <;> omega

/-- A 24-bit significand `M` (hidden bit included) added to the exponent field `e`, the way `f32round` assembles a
normal result; `M = 2^24`, the carry into the next binade, is covered. -/
theorem F32.mag_normal (e M : Nat) (hM1 : 8388608 ≤ M) (hM2 : M ≤ 16777216) (h : e * 8388608 + M < 2147483648) :
    F32.mag (e * 8388608 + M) = M * 2 ^ e := by
  rw [F32.mag_eq _ h, if_neg (by omega)]
  by_cases htop : M = 16777216
  · rw [htop, show (e * 8388608 + 16777216) / 8388608 = e + 2 by omega,
      show (e * 8388608 + 16777216) % 8388608 = 0 by omega, show e + 2 - 1 = e + 1 from rfl, Nat.pow_succ]
    omega
  · rw [show (e * 8388608 + M) / 8388608 = e + 1 by omega, show 8388608 + (e * 8388608 + M) % 8388608 = M by omega,
      Nat.add_sub_cancel]

theorem F32.mag_binade (e y : Nat) (he : 1 ≤ e) (hy : y ≤ 8388608) (h : e * 8388608 + y < 2147483648) :
    F32.mag (e * 8388608 + y) = (8388608 + y) * 2 ^ (e - 1) := by
  rw [show e * 8388608 + y = (e - 1) * 8388608 + (8388608 + y) by lia, F32.mag_normal _ _ (by omega) (by omega) (by lia)]

/-- Subnormals and the first normal binade share the unit `2^-149`. -/
theorem F32.mag_small (a : Nat) (h : a < 16777216) : F32.mag a = a := by
  rw [F32.mag_eq a (by omega)]
  split
  · exact Nat.mod_eq_of_lt (by omega)
  · rw [show a / 8388608 = 1 by omega]; omega

theorem F32.mag_mid (e y d : Nat) (hy : y + 2 * d ≤ 8388608) (h : e * 8388608 + (y + 2 * d) < 2147483648) :
    F32.mag (e * 8388608 + y) + F32.mag (e * 8388608 + (y + 2 * d)) = 2 * F32.mag (e * 8388608 + (y + d)) := by
  rcases Nat.eq_zero_or_pos e with rfl | he
  · rw [Nat.zero_mul, Nat.zero_add] at h
    rw [Nat.zero_mul, Nat.zero_add, Nat.zero_add, Nat.zero_add, F32.mag_small y (by omega),
      F32.mag_small (y + 2 * d) (by omega), F32.mag_small (y + d) (by omega)]
    omega
  · rw [F32.mag_binade e y he (by omega) (by omega), F32.mag_binade e _ he hy h,
      F32.mag_binade e (y + d) he (by omega) (by omega), ← Nat.add_mul, ← Nat.mul_assoc]
    congr 1
    omega

theorem F32.mag_step (a : Nat) (h : a + 1 < 2147483648) : F32.mag a < F32.mag (a + 1) := by
  by_cases h0 : a + 1 < 16777216
  · rw [F32.mag_small a (by omega), F32.mag_small _ h0]; omega
  · have hq := Nat.div_add_mod a 8388608
    have hm := Nat.mod_lt a (show 0 < 8388608 by omega)
    have he : 1 ≤ a / 8388608 := by omega
    generalize a / 8388608 = e at hq he
    generalize a % 8388608 = y at hq hm
    rw [← hq, Nat.mul_comm, Nat.add_assoc, F32.mag_binade e y he (by omega) (by omega),
      F32.mag_binade e (y + 1) he (by omega) (by omega)]
    exact Nat.mul_lt_mul_of_pos_right (by omega) (Nat.two_pow_pos _)

theorem F32.mag_strict (a b : Nat) (hab : a < b) (hb : b < 2147483648) : F32.mag a < F32.mag b := by
  induction b with
  | zero => omega
  | succ n ih =>
    by_cases h : a = n
    · subst h; exact F32.mag_step a hb
    · exact Nat.lt_trans (ih (by omega) (by omega)) (F32.mag_step n hb)

theorem F32.mag_mono (a b : Nat) (hab : a ≤ b) (hb : b < 2147483648) : F32.mag a ≤ F32.mag b := by
  by_cases h : a = b
  · subst h; exact Nat.le_refl _
  · exact Nat.le_of_lt (F32.mag_strict a b (by omega) hb)

theorem F32.mag_le_iff (a b : Nat) (ha : a < 2147483648) (hb : b < 2147483648) : F32.mag a ≤ F32.mag b ↔ a ≤ b :=
  ⟨fun h => Nat.le_of_not_lt fun c => Nat.not_lt_of_le h (F32.mag_strict b a c ha), fun h => F32.mag_mono a b h hb⟩

theorem F32.mag_inj (a b : Nat) (ha : a < 2147483648) (hb : b < 2147483648) (h : F32.mag a = F32.mag b) : a = b :=
  Nat.le_antisymm ((F32.mag_le_iff a b ha hb).1 (Nat.le_of_eq h)) ((F32.mag_le_iff b a hb ha).1 (Nat.le_of_eq h.symm))

theorem F32.mag_shift_exp (a c i j : Nat) (ha : 8388608 ≤ a) (hc : 8388608 ≤ c) (ha' : a < 2147483648)
    (hc' : c < 2147483648) (h : c + j * 8388608 = a + i * 8388608) : F32.mag c * 2 ^ j = F32.mag a * 2 ^ i := by
  rw [F32.mag_eq c hc', F32.mag_eq a ha', if_neg (by omega), if_neg (by omega), show c % 8388608 = a % 8388608 by omega,
    Nat.mul_assoc, Nat.mul_assoc, ← Nat.pow_add, ← Nat.pow_add]
  congr 2; omega

theorem F32.mag_add_exp (a k : Nat) (ha : 8388608 ≤ a) (h : a + k * 8388608 < 2147483648) :
    F32.mag (a + k * 8388608) = F32.mag a * 2 ^ k := by
  rw [← F32.mag_shift_exp a _ k 0 ha (by omega) (by omega) h (by omega), Nat.pow_zero, Nat.mul_one]

/-- `947912704 = 113 <<< 23` is the pattern of `2^-14`, the smallest normal half; `939524096 = 112 <<< 23`. -/
theorem F32.mag_unbias (a : Nat) (ha : 947912704 ≤ a) (ha' : a < 2147483648) :
    F32.mag a = F32.mag (a - 939524096) * 2 ^ 112 := by
  rw [← F32.mag_add_exp (a - 939524096) 112 (by omega) (by omega), show a - 939524096 + 112 * 8388608 = a by omega]

theorem F16.mag_scaled (p : Nat) (h : p < 32768) : F16.mag p = F32.mag (p * 8192) * 2 ^ 112 := by
  rw [F16.mag_eq p h, F32.mag_eq _ (by omega), show p * 8192 / 8388608 = p / 1024 by omega,
    show p * 8192 % 8388608 = p % 1024 * 8192 by omega, show (2 : Nat) ^ 125 = 8192 * 2 ^ 112 by decide,
    show 8388608 + p % 1024 * 8192 = (1024 + p % 1024) * 8192 by omega]
  split
  · rw [Nat.mul_assoc]
  · rw [Nat.mul_right_comm _ 8192, Nat.mul_assoc (_ * _)]

theorem F16.mag_small (p : Nat) (hp : p < 2048) : F16.mag p = p * 2 ^ 125 := by
  rw [F16.mag_scaled p (by omega), F32.mag_small _ (by omega), Nat.mul_assoc]

/-- `114688 = 112·1024`, the difference of the biases; the infinity pattern is covered too, under the `2^(emax+1)`
convention. -/
theorem embed (p : Nat) (h1 : 1024 ≤ p) (h2 : p < 32768) :
    F32.mag ((p + 114688) * 8192) = F16.mag p := by
  rw [show (p + 114688) * 8192 = p * 8192 + 112 * 8388608 by omega, F32.mag_add_exp _ 112 (by omega) (by omega),
    F16.mag_scaled p h2]

theorem F16.mag_strict (p q : Nat) (hpq : p < q) (hq : q < 32768) : F16.mag p < F16.mag q := by
  rw [F16.mag_scaled p (by omega), F16.mag_scaled q hq]
  exact Nat.mul_lt_mul_of_pos_right (F32.mag_strict _ _ (by omega) (by omega)) (Nat.two_pow_pos _)

theorem F16.mag_mono (p q : Nat) (hpq : p ≤ q) (hq : q < 32768) : F16.mag p ≤ F16.mag q := by
  by_cases h : p = q
  · subst h; exact Nat.le_refl _
  · exact Nat.le_of_lt (F16.mag_strict p q (by omega) hq)

/-- The overflow threshold `65520 = (65504 + 65536) / 2` as a binary32 pattern (`0x477FF000`). -/
theorem mag_threshold : F32.mag 1199566848 = 65520 * 2 ^ 149 := by decide

theorem lt_threshold_of_mag_lt (x : Nat) (hlt : F32.mag x < 65520 * 2 ^ 149) : x % 2147483648 < 1199566848 := by
  rw [F32.mag_mod x, ← mag_threshold] at hlt
  exact Nat.lt_of_not_le fun c => Nat.not_le_of_lt hlt (F32.mag_mono _ _ c (Nat.mod_lt _ (by omega)))

theorem F16.mag_lt_threshold (p : Nat) (hp : p < 31744) : F16.mag p < 65520 * 2 ^ 149 := by
  have hm : F16.mag 31743 < 65520 * 2 ^ 149 := by decide
  exact Nat.lt_of_le_of_lt (F16.mag_mono _ _ (by omega) (by omega)) hm

theorem F16.isNaN_iff (h : Nat) : F16.isNaN h = true ↔ 31744 < h % 32768 := by
  unfold F16.isNaN; rw [Nat.blt_eq]
theorem F16.isNaN_false_iff (h : Nat) : F16.isNaN h = false ↔ h % 32768 ≤ 31744 := by
  rw [← Bool.not_eq_true, F16.isNaN_iff, Nat.not_lt]
theorem F16.isInf_iff (h : Nat) : F16.isInf h = true ↔ h % 32768 = 31744 := by
  unfold F16.isInf; rw [Nat.beq_eq]
theorem F16.isInf_false_iff (h : Nat) : F16.isInf h = false ↔ h % 32768 ≠ 31744 := by
  rw [← Bool.not_eq_true, F16.isInf_iff]
theorem F16.isFinite_iff (h : Nat) : F16.isFinite h = true ↔ h % 32768 < 31744 := by
  unfold F16.isFinite; rw [Nat.blt_eq]
theorem F32.isNaN_iff (x : Nat) : F32.isNaN x = true ↔ 2139095040 < x % 2147483648 := by
  unfold F32.isNaN; rw [Nat.blt_eq]
theorem F32.isNaN_false_iff (x : Nat) : F32.isNaN x = false ↔ x % 2147483648 ≤ 2139095040 := by
  rw [← Bool.not_eq_true, F32.isNaN_iff, Nat.not_lt]
theorem F32.isInf_iff (x : Nat) : F32.isInf x = true ↔ x % 2147483648 = 2139095040 := by
  unfold F32.isInf; rw [Nat.beq_eq]
theorem F32.isInf_false_iff (x : Nat) : F32.isInf x = false ↔ x % 2147483648 ≠ 2139095040 := by
  rw [← Bool.not_eq_true, F32.isInf_iff]
theorem F32.isFinite_iff (x : Nat) : F32.isFinite x = true ↔ x % 2147483648 < 2139095040 := by
  unfold F32.isFinite; rw [Nat.blt_eq]

theorem F32.neg_iff (x : Nat) (hx : x < 4294967296) : F32.neg x = true ↔ 2147483648 ≤ x := by
  unfold F32.neg; rw [Nat.mod_eq_of_lt hx, Nat.ble_eq]
theorem F16.neg_iff (h : Nat) (hh : h < 65536) : F16.neg h = true ↔ 32768 ≤ h := by
  unfold F16.neg; rw [Nat.mod_eq_of_lt hh, Nat.ble_eq]

theorem F32.val_eq (x : Nat) (hx : x < 4294967296) :
    F32.val x = if 2147483648 ≤ x then -(F32.mag x : Int) else (F32.mag x : Int) := by
  simp only [F32.val, F32.neg, Nat.mod_eq_of_lt hx, cond_eq_ite, Nat.ble_eq]

theorem F16.val_eq (h : Nat) (hh : h < 65536) :
    F16.val h = if 32768 ≤ h then -(F16.mag h : Int) else (F16.mag h : Int) := by
  simp only [F16.val, F16.neg, Nat.mod_eq_of_lt hh, cond_eq_ite, Nat.ble_eq]

end NunavutVerif.Float16
