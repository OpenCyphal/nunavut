import NunavutVerif.Model.Bits
import NunavutVerif.Lemmas.Core
/-!
Helper lemmas for C14: a byte buffer read bit by bit (`bitAt`, `WF`, `fieldOf`, `objRepLE`, `leLoad`) — what the
primitives of all three targets are specified with.  All bit-level statements about writing go through one notion,
`Overwrites r b lo n bit` (`r` is `b` with `n` bits replaced), with the one-byte step `Overwrites.set_byte`, composition of
adjacent ranges `Overwrites.trans` and a spliced-in block `Overwrites.splice`; the C primitives are instances of these
(`Lemmas/BitsC.lean`), the Python ones reduce to them (`Lemmas/BitsPy.lean`).
-/
namespace NunavutVerif.Bits

theorem get?_ok {b : Buf} {i : Nat} (h : i < b.length) : get? b i = .ok b[i] := by
  simp [get?, h]

theorem get?_eq_ok {b : Buf} {i x : Nat} : get? b i = .ok x ↔ b[i]? = some x := by
  unfold get?; cases h : b[i]? <;> simp

theorem set?_ok {b : Buf} {i v : Nat} (h : i < b.length) : set? b i v = .ok (b.set i v) := by
  simp [set?, h]

theorem bitAt_of_lt {b : Buf} {i : Nat} (h : i / 8 < b.length) : bitAt b i = b[i / 8].testBit (i % 8) := by
  simp [bitAt, h]

theorem bitAt_of_ge {b : Buf} {i : Nat} (h : b.length ≤ i / 8) : bitAt b i = false := by
  simp [bitAt, h]

theorem bitAt_replicate_zero (n i : Nat) : bitAt (List.replicate n 0) i = false := by
  unfold bitAt
  by_cases h : i / 8 < n <;> simp [h]

theorem bitAt_set (b : Buf) (k v i : Nat) :
    bitAt (b.set k v) i = if i / 8 = k ∧ k < b.length then v.testBit (i % 8) else bitAt b i := by
  unfold bitAt
  by_cases h : i / 8 = k
  · subst h
    by_cases hl : i / 8 < b.length
    · simp [hl]
    · simp [hl]
  · have : ¬ k = i / 8 := fun e => h e.symm
    simp [h, this]

theorem exists_byte_bit (i : Nat) : ∃ k j, j < 8 ∧ i = 8 * k + j :=
  ⟨i / 8, i % 8, Nat.mod_lt _ (by decide), (Nat.div_add_mod i 8).symm⟩

theorem mul_add_div8 (k : Nat) {j : Nat} (hj : j < 8) : (8 * k + j) / 8 = k := by
  rw [Nat.mul_add_div (by decide), Nat.div_eq_of_lt hj, Nat.add_zero]

theorem mul_add_mod8 (k : Nat) {j : Nat} (hj : j < 8) : (8 * k + j) % 8 = j := by
  rw [Nat.mul_add_mod, Nat.mod_eq_of_lt hj]

theorem mul_div_aligned {off : Nat} (ha : off % 8 = 0) : 8 * (off / 8) = off :=
  Nat.mul_div_cancel' (Nat.dvd_of_mod_eq_zero ha)

theorem ceil_byte (e : Nat) (he : e ≠ 0) : ∃ q r, (e + 7) / 8 = q + 1 ∧ (if e % 8 = 0 then 8 else e % 8) = r ∧
    e = 8 * q + r ∧ 1 ≤ r ∧ r ≤ 8 := by
  by_cases h : e % 8 = 0
  · refine ⟨e / 8 - 1, 8, ?_⟩
    rw [if_pos h]
    omega
  · refine ⟨e / 8, e % 8, ?_⟩
    rw [if_neg h]
    omega

theorem bitAt_mul_add (b : Buf) (k : Nat) {j : Nat} (hj : j < 8) :
    bitAt b (8 * k + j) = match b[k]? with | some x => x.testBit j | none => false := by
  unfold bitAt
  rw [mul_add_div8 k hj, mul_add_mod8 k hj]
  rfl

theorem get?_of_lt {b : Buf} {i : Nat} (h : i < b.length) : ∃ x, get? b i = .ok x := ⟨_, get?_ok h⟩

theorem testBit_of_get? {b : Buf} {k x j : Nat} (h : get? b k = .ok x) (hj : j < 8) :
    x.testBit j = bitAt b (8 * k + j) := by
  rw [bitAt_mul_add b k hj, get?_eq_ok.mp h]

def Overwrites (r b : Buf) (lo n : Nat) (bit : Nat → Bool) : Prop :=
  ∀ i, bitAt r i = if lo ≤ i ∧ i < lo + n then bit (i - lo) else bitAt b i

theorem Overwrites.refl (b : Buf) (lo : Nat) (bit : Nat → Bool) : Overwrites b b lo 0 bit :=
  fun i => by rw [if_neg (by omega)]

theorem Overwrites.congr {r b : Buf} {lo n : Nat} {f g : Nat → Bool} (h : Overwrites r b lo n f)
    (hfg : ∀ j, j < n → f j = g j) : Overwrites r b lo n g := by
  intro i
  rw [h i]
  by_cases hA : lo ≤ i ∧ i < lo + n
  · rw [if_pos hA, if_pos hA, hfg _ (by omega)]
  · rw [if_neg hA, if_neg hA]

theorem Overwrites.trans {r₁ r₂ b : Buf} {lo n₁ n₂ : Nat} {bit bit₂ : Nat → Bool}
    (h₁ : Overwrites r₁ b lo n₁ bit) (h₂ : Overwrites r₂ r₁ (lo + n₁) n₂ bit₂)
    (hb : ∀ j, j < n₂ → bit₂ j = bit (n₁ + j)) : Overwrites r₂ b lo (n₁ + n₂) bit := by
  intro i
  rw [h₂ i, h₁ i]
  by_cases hA : lo + n₁ ≤ i ∧ i < lo + n₁ + n₂
  · rw [if_pos hA, if_pos (by omega), hb _ (by omega)]
    congr 1; omega
  · rw [if_neg hA]
    by_cases hB : lo ≤ i ∧ i < lo + n₁
    · rw [if_pos hB, if_pos (by omega)]
    · rw [if_neg hB, if_neg (by omega)]

theorem Overwrites.set_byte {b : Buf} {k m n v old : Nat} {bit : Nat → Bool} (hold : get? b k = .ok old)
    (hn : m + n ≤ 8)
    (hv : ∀ j, j < 8 → v.testBit j = if m ≤ j ∧ j < m + n then bit (j - m) else old.testBit j) :
    Overwrites (b.set k v) b (8 * k + m) n bit := by
  intro i
  obtain ⟨k', j, hj, rfl⟩ := exists_byte_bit i
  have hk : b[k]? = some old := get?_eq_ok.mp hold
  rw [bitAt_set, mul_add_div8 k' hj, mul_add_mod8 k' hj]
  by_cases hA : k' = k
  · subst hA
    rw [if_pos ⟨rfl, (List.getElem?_eq_some_iff.mp hk).1⟩, hv j hj]
    by_cases hB : m ≤ j ∧ j < m + n
    · rw [if_pos hB, if_pos (by omega), show 8 * k' + j - (8 * k' + m) = j - m by omega]
    · rw [if_neg hB, if_neg (by omega), bitAt_mul_add b k' hj, hk]
  · rw [if_neg (fun c => hA c.1), if_neg (by omega)]

theorem WF_set {b : Buf} {k v : Nat} (hb : WF b) (hv : v < 256) : WF (b.set k v) := by
  intro x hx
  rcases List.mem_or_eq_of_mem_set hx with h | h
  · exact hb x h
  · exact h ▸ hv

theorem WF_getElem {b : Buf} (hb : WF b) {i : Nat} (h : i < b.length) : b[i] < 256 :=
  hb _ (List.getElem_mem h)

theorem WF_of_get? {b : Buf} {k x : Nat} (hb : WF b) (h : get? b k = .ok x) : x < 256 :=
  hb x (List.mem_of_getElem? (get?_eq_ok.mp h))

theorem WF_replicate_of_lt (n v : Nat) (hv : v < 256) : WF (List.replicate n v) := by
  intro x hx
  rw [List.mem_replicate] at hx
  omega

theorem WF_replicate (n : Nat) : WF (List.replicate n 0) := WF_replicate_of_lt n 0 (by decide)

theorem WF_tail {x : Nat} {xs : Buf} (h : WF (x :: xs)) : WF xs := fun y hy => h y (List.mem_cons_of_mem _ hy)

theorem testBit_of_lt_two_pow {v n i : Nat} (hv : v < 2 ^ n) (hi : n ≤ i) : v.testBit i = false :=
  Nat.testBit_lt_two_pow (Nat.lt_of_lt_of_le hv (Nat.pow_le_pow_right (by decide) hi))

theorem testBit_ge_of_lt_256 {x j : Nat} (hx : x < 256) (hj : 8 ≤ j) : x.testBit j = false :=
  testBit_of_lt_two_pow (n := 8) hx hj

theorem testBit_mod_256 (v k : Nat) : (v % 256).testBit k = (decide (k < 8) && v.testBit k) := by
  rw [show 256 = 2 ^ 8 from rfl, Nat.testBit_mod_two_pow]

theorem testBit_and_255 (v k : Nat) : (v &&& 255).testBit k = (v.testBit k && decide (k < 8)) := by
  rw [show 255 = 2 ^ 8 - 1 from rfl, Nat.testBit_and, Nat.testBit_two_pow_sub_one]

theorem testBit_div_256 (v k : Nat) : (v / 256).testBit k = v.testBit (k + 8) := by
  rw [show 256 = 2 ^ 8 from rfl, Nat.testBit_div_two_pow]

theorem and_255_lt (y : Nat) : y &&& 255 < 256 := Nat.lt_of_le_of_lt Nat.and_le_right (by decide)

theorem eq_of_bitAt {a b : Buf} (hl : a.length = b.length) (ha : WF a) (hb : WF b)
    (h : ∀ i, bitAt a i = bitAt b i) : a = b := by
  apply List.ext_getElem hl
  intro k h1 h2
  apply Nat.eq_of_testBit_eq
  intro j
  by_cases hj : j < 8
  · have := h (8 * k + j)
    rwa [bitAt_mul_add a k hj, bitAt_mul_add b k hj, List.getElem?_eq_getElem h1, List.getElem?_eq_getElem h2] at this
  · rw [testBit_ge_of_lt_256 (WF_getElem ha h1) (by omega), testBit_ge_of_lt_256 (WF_getElem hb h2) (by omega)]

theorem bitAt_nil (k : Nat) : bitAt [] k = false := by simp [bitAt]

theorem bitAt_cons (x : Nat) (xs : Buf) (k : Nat) :
    bitAt (x :: xs) k = if k < 8 then x.testBit k else bitAt xs (k - 8) := by
  obtain ⟨q, j, hj, rfl⟩ := exists_byte_bit k
  rw [bitAt_mul_add _ q hj]
  cases q with
  | zero => rw [Nat.mul_zero, Nat.zero_add, if_pos hj]; rfl
  | succ q =>
    rw [if_neg (by omega), show 8 * (q + 1) + j - 8 = 8 * q + j by omega, bitAt_mul_add xs q hj, List.getElem?_cons_succ]

theorem bitAt_single (v i : Nat) : bitAt [v] i = (decide (i < 8) && v.testBit i) := by
  rw [bitAt_cons]; by_cases h : i < 8 <;> simp [h, bitAt_nil]

theorem bitAt_append (a b : Buf) (i : Nat) :
    bitAt (a ++ b) i = if i < 8 * a.length then bitAt a i else bitAt b (i - 8 * a.length) := by
  obtain ⟨q, j, hj, rfl⟩ := exists_byte_bit i
  rw [bitAt_mul_add _ q hj]
  by_cases h : q < a.length
  · rw [if_pos (by omega), List.getElem?_append_left h, bitAt_mul_add a q hj]
  · rw [if_neg (by omega), List.getElem?_append_right (by omega),
      show 8 * q + j - 8 * a.length = 8 * (q - a.length) + j by omega, bitAt_mul_add b _ hj]

theorem bitAt_append_zeros (a : Buf) (n i : Nat) : bitAt (a ++ List.replicate n 0) i = bitAt a i := by
  rw [bitAt_append, bitAt_replicate_zero]
  split
  · rfl
  · exact (bitAt_of_ge (by omega)).symm

theorem bitAt_take (buf : Buf) (k i : Nat) :
    bitAt (buf.take k) i = (decide (i / 8 < k) && bitAt buf i) := by
  unfold bitAt
  by_cases h : i / 8 < k
  · rw [List.getElem?_take_of_lt h]; simp [h]
  · rw [List.getElem?_take_eq_none (by omega)]; simp [h]

theorem bitAt_drop (buf : Buf) (k i : Nat) : bitAt (buf.drop k) i = bitAt buf (8 * k + i) := by
  unfold bitAt
  rw [List.getElem?_drop, Nat.mul_add_div (by decide), Nat.mul_add_mod]

theorem WF_take {b : Buf} (h : WF b) (k : Nat) : WF (b.take k) := fun x hx => h x (List.mem_of_mem_take hx)
theorem WF_drop {b : Buf} (h : WF b) (k : Nat) : WF (b.drop k) := fun x hx => h x (List.mem_of_mem_drop hx)
theorem WF_append {a b : Buf} (ha : WF a) (hb : WF b) : WF (a ++ b) := by
  intro x hx
  rcases List.mem_append.mp hx with h | h
  · exact ha x h
  · exact hb x h

theorem Overwrites.splice (buf bs : Buf) (a : Nat) (h : a + bs.length ≤ buf.length) :
    Overwrites (buf.take a ++ bs ++ buf.drop (a + bs.length)) buf (8 * a) (8 * bs.length) (bitAt bs) := by
  intro i
  have hl : (buf.take a ++ bs).length = a + bs.length := by rw [List.length_append, List.length_take]; omega
  rw [bitAt_append, bitAt_append, bitAt_take, bitAt_drop, hl, List.length_take, Nat.min_eq_left (by omega)]
  by_cases h1 : i < 8 * a
  · rw [if_pos (by omega), if_pos h1, if_neg (by omega), decide_eq_true (by omega), Bool.true_and]
  · by_cases h2 : i < 8 * a + 8 * bs.length
    · rw [if_pos (by omega), if_neg h1, if_pos ⟨by omega, h2⟩]
    · rw [if_neg (by omega), if_neg (by omega), show 8 * (a + bs.length) + (i - 8 * (a + bs.length)) = i by omega]

theorem window_length {data : Buf} {k nb : Nat} (hk : k + nb ≤ data.length) : ((data.drop k).take nb).length = nb := by
  rw [List.length_take, List.length_drop]
  exact Nat.min_eq_left (Nat.le_sub_of_add_le' hk)

/-- a window of the buffer, worked on apart (`sub`) and put back -/
theorem window_spec {data sub : Buf} {k nb : Nat} (hk : k + nb ≤ data.length)
    (hs : sub.length = ((data.drop k).take nb).length) (hw : WF ((data.drop k).take nb) → WF sub) :
    (data.take k ++ sub ++ data.drop (k + nb)).length = data.length ∧
    (WF data → WF (data.take k ++ sub ++ data.drop (k + nb))) ∧
    Overwrites (data.take k ++ sub ++ data.drop (k + nb)) data (8 * k) (8 * nb) (bitAt sub) := by
  rw [window_length hk] at hs
  subst hs
  refine ⟨?_, fun h => WF_append (WF_append (WF_take h k) (hw (WF_take (WF_drop h k) _))) (WF_drop h _),
    Overwrites.splice data sub k hk⟩
  rw [List.length_append, List.length_append, List.length_take_of_le (Nat.le_trans (Nat.le_add_right ..) hk),
    List.length_drop, Nat.add_sub_cancel' hk]

theorem bitAt_cons_step {x : Nat} {xs : Buf} {n : Nat} {f : Nat → Bool} (hx : ∀ j, j < 8 → x.testBit j = f j)
    (hxs : ∀ i, bitAt xs i = (decide (i < 8 * n) && f (8 + i))) (i : Nat) :
    bitAt (x :: xs) i = (decide (i < 8 * (n + 1)) && f i) := by
  rw [bitAt_cons]
  by_cases hi : i < 8
  · rw [if_pos hi, hx i hi, decide_eq_true (show i < 8 * (n + 1) by omega), Bool.true_and]
  · rw [if_neg hi, hxs, show 8 + (i - 8) = i by omega,
      decide_eq_decide.mpr (show i - 8 < 8 * n ↔ i < 8 * (n + 1) by omega)]

theorem bitAt_objRepLE (n : Nat) : ∀ (v k : Nat), bitAt (objRepLE v n) k = (decide (k < 8 * n) && v.testBit k) := by
  induction n with
  | zero => intro v k; simp [objRepLE, bitAt_nil]
  | succ n ih =>
    intro v k
    rw [objRepLE]
    exact bitAt_cons_step (fun j hj => by rw [testBit_mod_256, decide_eq_true hj, Bool.true_and])
      (fun i => by rw [ih, testBit_div_256, Nat.add_comm]) k

theorem objRepLE_eq_map (n : Nat) : ∀ v, objRepLE v n = (List.range n).map (fun q => (v >>> (8 * q)) &&& 255) := by
  induction n with
  | zero => intro v; rfl
  | succ n ih =>
    intro v
    rw [objRepLE, ih, List.range_succ_eq_map, List.map_cons, List.map_map]
    congr 1
    · rw [Nat.mul_zero, Nat.shiftRight_zero, show (255 : Nat) = 2 ^ 8 - 1 from rfl, Nat.and_two_pow_sub_one_eq_mod]
    · apply List.map_congr_left
      intro q _
      show ((v / 256) >>> (8 * q)) &&& 255 = (v >>> (8 * (q + 1))) &&& 255
      rw [show (256 : Nat) = 2 ^ 8 from rfl, ← Nat.shiftRight_eq_div_pow, ← Nat.shiftRight_add, Nat.mul_succ, Nat.add_comm]

theorem length_objRepLE (n v : Nat) : (objRepLE v n).length = n := by
  rw [objRepLE_eq_map, List.length_map, List.length_range]

theorem WF_objRepLE (n v : Nat) : WF (objRepLE v n) := by
  intro x hx
  rw [objRepLE_eq_map] at hx
  obtain ⟨q, _, rfl⟩ := List.mem_map.mp hx
  exact and_255_lt _

theorem objRepLE_zero (n : Nat) : objRepLE 0 n = List.replicate n 0 := by
  induction n with
  | zero => rfl
  | succ n ih => simp [objRepLE, ih, List.replicate_succ]

theorem testBit_objValLE (b : Buf) : ∀ (i : Nat), WF b → (objValLE b).testBit i = bitAt b i := by
  induction b with
  | nil => intro i _; simp [objValLE, bitAt_nil]
  | cons x xs ih =>
    intro i hw
    have hx : x < 2 ^ 8 := hw x (List.mem_cons_self)
    rw [objValLE, show 256 = 2 ^ 8 from rfl, Nat.add_comm, Nat.testBit_two_pow_mul_add _ hx, bitAt_cons]
    by_cases h : i < 8
    · simp [h]
    · simp [h, ih _ (WF_tail hw)]

theorem leLoadAux_eq (b : Buf) : WF b → ∀ k, leLoadAux b k = objValLE b <<< (8 * k) := by
  induction b with
  | nil => intro _ k; exact (Nat.zero_shiftLeft _).symm
  | cons x xs ih =>
    intro hw k
    have hx : x < 2 ^ 8 := hw x List.mem_cons_self
    rw [leLoadAux, ih (WF_tail hw), objValLE, show 256 = 2 ^ 8 from rfl, Nat.add_comm x, Nat.two_pow_add_eq_or_of_lt hx,
      Nat.shiftLeft_or_distrib, Nat.or_comm, Nat.mul_succ, Nat.add_comm (8 * k), Nat.shiftLeft_add, Nat.shiftLeft_eq _ 8,
      Nat.mul_comm _ (2 ^ 8)]

theorem leLoad_eq (b : Buf) (hw : WF b) : leLoad b = objValLE b := by
  rw [leLoad, leLoadAux_eq b hw, Nat.mul_zero, Nat.shiftLeft_zero]

theorem testBit_leLoad (b : Buf) (i : Nat) (hw : WF b) : (leLoad b).testBit i = bitAt b i := by
  rw [leLoad_eq b hw, testBit_objValLE b i hw]

theorem testBit_fieldOf (bit : Nat → Bool) (n : Nat) : ∀ i,
    (fieldOf bit n).testBit i = (decide (i < n) && bit i) := by
  induction n with
  | zero => intro i; simp [fieldOf]
  | succ n ih =>
    intro i
    have hnew : (if bit n then 1 <<< n else 0 : Nat).testBit i = (decide (n = i) && bit n) := by
      cases bit n <;> simp [Nat.one_shiftLeft, Nat.testBit_two_pow]
    rw [fieldOf, Nat.testBit_or, ih, hnew]
    by_cases h : n = i
    · subst h; simp
    · rw [decide_eq_false h, Bool.false_and, Bool.or_false, decide_eq_decide.mpr (show i < n ↔ i < n + 1 by omega)]

theorem fieldOf_lt (bit : Nat → Bool) (n : Nat) : fieldOf bit n < 2 ^ n := by
  apply Nat.lt_pow_two_of_testBit
  intro i hi
  rw [testBit_fieldOf]
  simp [show ¬ i < n by omega]

theorem eq_fieldOf {v n : Nat} {bit : Nat → Bool} (h : ∀ i, v.testBit i = (decide (i < n) && bit i)) :
    v = fieldOf bit n :=
  Nat.eq_of_testBit_eq fun i => by rw [h, testBit_fieldOf]

theorem fieldOf_eq_of_lt {v n : Nat} {bit : Nat → Bool} (hv : v < 2 ^ n) (h : ∀ i, i < n → bit i = v.testBit i) :
    fieldOf bit n = v := by
  refine (eq_fieldOf fun i => ?_).symm
  by_cases hi : i < n
  · rw [decide_eq_true hi, Bool.true_and, h i hi]
  · rw [decide_eq_false hi, Bool.false_and, testBit_of_lt_two_pow hv (Nat.le_of_not_lt hi)]

theorem fieldOf_congr {f g : Nat → Bool} {n : Nat} (h : ∀ i, i < n → f i = g i) : fieldOf f n = fieldOf g n := by
  refine eq_fieldOf fun i => ?_
  rw [testBit_fieldOf]
  by_cases hi : i < n
  · rw [h i hi]
  · rw [decide_eq_false hi, Bool.false_and, Bool.false_and]

theorem fieldOf_false (n : Nat) : fieldOf (fun _ => false) n = 0 := by
  induction n with
  | zero => rfl
  | succ n ih => simp [fieldOf, ih]

theorem fieldOf_add (f : Nat → Bool) (m n : Nat) :
    fieldOf f (m + n) = fieldOf f m ||| (fieldOf (fun j => f (m + j)) n <<< m) := by
  refine (eq_fieldOf fun i => ?_).symm
  rw [Nat.testBit_or, Nat.testBit_shiftLeft, testBit_fieldOf, testBit_fieldOf]
  by_cases h : i < m
  · rw [decide_eq_true h, decide_eq_false (Nat.not_le.mpr h), decide_eq_true (show i < m + n by omega), Bool.false_and,
      Bool.or_false]
  · rw [decide_eq_false h, Bool.false_and, Bool.false_or, decide_eq_true (Nat.le_of_not_lt h), Bool.true_and,
      show m + (i - m) = i by omega, decide_eq_decide.mpr (show i - m < n ↔ i < m + n by omega)]

theorem and_two_pow (x j : Nat) : x &&& 2 ^ j = if x.testBit j then 2 ^ j else 0 := by
  apply Nat.eq_of_testBit_eq
  intro i
  rw [Nat.testBit_and, Nat.testBit_two_pow]
  by_cases e : j = i
  · subst e; cases x.testBit j <;> simp
  · cases x.testBit j <;> simp [e]

theorem and_two_pow_ne_zero (u k : Nat) : ((u &&& (1 <<< k)) != 0) = u.testBit k := by
  rw [Nat.one_shiftLeft, and_two_pow]
  cases u.testBit k <;> simp

theorem lt_two_pow_pred {u n : Nat} (hu : u < 2 ^ n) (hb : u.testBit (n - 1) = false) : u < 2 ^ (n - 1) := by
  apply Nat.lt_pow_two_of_testBit
  intro i hi
  by_cases e : i = n - 1
  · rw [e]; exact hb
  · exact testBit_of_lt_two_pow hu (by omega)

theorem testBit_top {u n : Nat} (hu : u < 2 ^ n) : u.testBit (n - 1) = decide (2 ^ (n - 1) ≤ u) := by
  by_cases h : 2 ^ (n - 1) ≤ u
  · rw [decide_eq_true h]
    cases hb : u.testBit (n - 1) with
    | true => rfl
    | false => exact absurd (lt_two_pow_pred hu hb) (Nat.not_lt.mpr h)
  · rw [decide_eq_false h]
    exact Nat.testBit_lt_two_pow (Nat.lt_of_not_le h)

end NunavutVerif.Bits
