import NunavutVerif.Model.GenPy
import NunavutVerif.Lemmas.GenPyDefs
import NunavutVerif.Lemmas.DsdlBits
/-!
What the serializer side and the deserializer side of the Python refinement share, none of it about either direction:
the induction over the types PyDSDL can produce (`pyTy_ind`), and how the template's offset claims stay true along a run
(`Sound.*`, `ElemClaims`).
-/
namespace NunavutVerif.GenPy
open NunavutVerif.Dsdl
open NunavutVerif.Bits (Buf Err bitAt WF)
open NunavutVerif.Bits.Py

theorem padBits_eq_padLen (a off : Nat) : padBits off a = padLen a off := rfl

theorem isStd_cases {n : Nat} (h : isStd n = true) : n = 8 ∨ n = 16 ∨ n = 32 ∨ n = 64 := by
  simpa only [isStd, Bool.or_eq_true, beq_iff_eq, or_assoc] using h

theorem stdPrim_facts {t : Ty} (h : isStdPrim t = true) (hw : wf t = true) :
    maxBits t = primBits t ∧ 8 * (primBits t / 8) = primBits t ∧ 8 ≤ primBits t := by
  cases t with
  | uint n m | sint n m =>
    have := isStd_cases (show isStd n = true from h)
    refine ⟨rfl, ?_⟩; simp only [primBits]; omega
  | float n m =>
    simp only [wf, decide_eq_true_eq] at hw
    refine ⟨rfl, ?_⟩; simp only [primBits]; omega
  | _ => simp [isStdPrim] at h

theorem storageBits_ge (n : Nat) (h : n ≤ 64) : n ≤ storageBits n := by
  unfold storageBits; repeat' split
  all_goals omega

theorem pow_storage_le (n : Nat) (hn : n ≤ 64) : (2 : Int) ^ n ≤ (2 : Int) ^ storageBits n :=
  two_pow_le_int (storageBits_ge n hn)

theorem intPath_cases (al : Bool) (n : Nat) :
    (intPath al n = .alignedStd ∧ isStd n = true ∧ al = true) ∨ (intPath al n = .aligned ∧ al = true) ∨
      intPath al n = .unaligned := by
  unfold intPath
  cases al <;> cases isStd n <;> simp

theorem Sound.aligned {o : AOff} {off : Nat} (h : Sound o off) (ha : o.isAligned = true) : off % 8 = 0 := by
  cases o with
  | none => simp [AOff.isAligned] at ha
  | some r =>
    simp only [AOff.isAligned, beq_iff_eq] at ha
    rw [h r rfl, ha]

theorem Sound.pad {o : AOff} {off a : Nat} (ha : a = 1 ∨ a = 8) (h : Sound o off) :
    Sound (o.pad a) (off + padLen a off) := by
  rcases ha with rfl | rfl
  · simpa [AOff.pad] using h
  · intro r hr
    simp only [AOff.pad, if_true, Option.some.injEq] at hr
    subst hr
    exact padTo_mod (Or.inr rfl) off

theorem Sound.add {o l : AOff} {off len : Nat} (h : Sound o off) (hl : ∀ r, l = some r → len % 8 = r % 8) :
    Sound (o.add l) (off + len) := by
  intro r hr
  cases o with
  | none => simp [AOff.add] at hr
  | some a =>
    cases l with
    | none => simp [AOff.add] at hr
    | some b =>
      simp only [AOff.add, Option.some.injEq] at hr
      rw [← hr, Nat.mod_mod, Nat.add_mod, h a rfl, hl b rfl, ← Nat.add_mod]

theorem Sound.add_some {o : AOff} {off : Nat} (h : Sound o off) (n : Nat) : Sound (o.add (some n)) (off + n) :=
  h.add fun r hr => by cases hr; rfl

theorem Sound.add_rep {o : AOff} {off : Nat} (h : Sound o off) (r : AOff) (k : Nat) :
    Sound (o.add (r.rep k)) off := by
  have := h.add (l := r.rep k) (len := 0) fun x hx => by
    unfold AOff.rep at hx
    repeat' split at hx
    all_goals cases hx
    all_goals rfl
  simpa using this

theorem Sound.some_zero {off : Nat} (h : off % 8 = 0) : Sound (some 0) off := by
  intro r hr; cases hr; omega

theorem Sound.step {o : AOff} {off n : Nat} (h : Sound o off) (hn : o ≠ none → n % 8 = 0) : Sound o (off + n) := by
  intro r hr
  rw [Nat.add_mod, hn (by simp [hr]), Nat.add_zero, Nat.mod_mod]
  exact h r hr

/-- what keeps an offset claim true along an array -/
def ByteLen (t : Ty) : Prop :=
  (∀ v bs, serBits t v = .ok bs → bs.length % 8 = 0) ∧ (∀ bs v n, deBits t bs = .ok (v, n) → n % 8 = 0)

theorem add_ne_none {o l : AOff} (h : o.add l ≠ none) : l ≠ none := by
  intro hl; apply h; rw [hl]; cases o <;> rfl

theorem byteLen_of_rep {lr : Ty → AOff} (hlr : LrSound lr) {t : Ty} (hw : wf t = true) {k : Nat} (hk : k ≠ 0)
    (hne : (lr t).rep k ≠ none) : ByteLen t := by
  simp only [AOff.rep, hk, if_false] at hne
  cases hl : lr t with
  | none => rw [hl] at hne; exact absurd rfl hne
  | some x =>
    rw [hl] at hne
    by_cases hx : x % 8 = 0
    · obtain ⟨h1, h2⟩ := hlr t x hw hl
      exact ⟨fun v bs h => by have := h1 v bs h; omega, fun bs v n h => by have := h2 bs v n h; omega⟩
    · simp only [hx, if_false] at hne; exact absurd rfl hne

/-- from the oracle's claim about the array type: the empty array gives the residue 0, the one-element arrays give
elements of whole bytes -/
theorem byteLen_of_varr {lr : Ty → AOff} (hlr : LrSound lr) {t : Ty} {cap : Nat} (hw : wf (.varr t cap) = true)
    {r : Nat} (hr : lr (.varr t cap) = some r) : r % 8 = 0 ∧ (1 ≤ cap → ByteLen t) := by
  obtain ⟨hs, hd⟩ := hlr (.varr t cap) r hw hr
  have hp8 : prefixBits cap % 8 = 0 := stdWidth_mod8 cap
  have e0 := hs (.arr []) (natToBits (prefixBits cap) 0) (by simp [serBits, serAllWith, Except.map])
  simp only [natToBits_length] at e0
  refine ⟨by omega, fun hc => ⟨fun v bs hsv => ?_, fun bs v n hdv => ?_⟩⟩
  · have e1 := hs (.arr [v]) (natToBits (prefixBits cap) 1 ++ bs) (by
      simp [serBits, serAllWith, hsv, Except.map, show ¬ 1 > cap by omega])
    simp only [List.length_append, natToBits_length] at e1
    omega
  · have e1 := hd (natToBits (prefixBits cap) 1 ++ bs) (.arr [v]) (prefixBits cap + n) (by
      have h1 : readNat (prefixBits cap) (natToBits (prefixBits cap) 1 ++ bs) = 1 :=
        readNat_of_lt (Nat.one_lt_two_pow (by unfold prefixBits; have := stdWidth_cases cap; omega)) bs
      have h2 : (natToBits (prefixBits cap) 1 ++ bs).drop (prefixBits cap) = bs :=
        List.drop_left' (natToBits_length _ _)
      simp [deBits, h1, h2, deAllWith, hdv, show ¬ 1 > cap by omega])
    omega

/-- What an element loop over `c` elements of type `t`, the first at `off`, knows of its offset claim `oe`: it is true
of the first element, and if it is still a claim at the second one the elements are whole bytes (so it stays true). -/
def ElemClaims (t : Ty) (oe : AOff) (off c : Nat) : Prop :=
  (c ≠ 0 → Sound oe off) ∧ (2 ≤ c → oe ≠ none → ByteLen t)

theorem ElemClaims.step {t : Ty} {oe : AOff} {off c n : Nat} (h : ElemClaims t oe off (c + 1))
    (hn : ByteLen t → n % 8 = 0) : ElemClaims t oe (off + n) c :=
  ⟨fun hc => (h.1 (Nat.succ_ne_zero c)).step fun ho => hn (h.2 (by omega) ho), fun h2 => h.2 (by omega)⟩

/-- fixed array: the template's element claim is `offset + element.bit_length_set.repeat_range(n - 1)` -/
theorem ElemClaims.arr {lr : Ty → AOff} (hlr : LrSound lr) {t : Ty} (hw : wf t = true) {o : AOff} {off : Nat}
    (h : Sound o off) (n : Nat) : ElemClaims t (o.add ((lr t).rep (n - 1))) off n :=
  ⟨fun _ => h.add_rep _ _, fun h2 hne => byteLen_of_rep hlr hw (by omega) (add_ne_none hne)⟩

/-- variable array behind its length prefix: the template's element claim is `offset + t.bit_length_set`, where the
template's `t` is the array type (here `.varr t cap`), not the element type -/
theorem ElemClaims.varr {lr : Ty → AOff} (hlr : LrSound lr) {t : Ty} {cap : Nat} (hw : wf (.varr t cap) = true)
    {o : AOff} {off : Nat} (h : Sound o off) {c : Nat} (hc : c ≤ cap) :
    ElemClaims t (o.add (lr (.varr t cap))) (off + prefixBits cap) c := by
  have hp8 : prefixBits cap % 8 = 0 := stdWidth_mod8 cap
  refine ⟨fun _ => h.add fun r hr => ?_, fun h2 hne => ?_⟩
  · have := (byteLen_of_varr hlr hw hr).1; omega
  · cases hl : lr (.varr t cap) with
    | none => exact absurd hl (add_ne_none hne)
    | some r => exact (byteLen_of_varr hlr hw hl).2 (by omega)

theorem assertThat_beq {a b : Nat} (h : a = b) : assertThat (a == b) = .ok () := by rw [beq_iff_eq.2 h]; rfl

theorem assertThat_decide {p : Prop} [Decidable p] (h : p) : assertThat (decide p) = .ok () := by
  rw [decide_eq_true h]; rfl

theorem isBoolTy_eq {t : Ty} (h : isBoolTy t = true) : t = .bool := by
  cases t <;> first | rfl | cases h

theorem pyWfAll_mem {fs : List Ty} (h : pyWfAll fs = true) : ∀ f ∈ fs, pyWf f = true := by
  induction fs with
  | nil => intro f hf; cases hf
  | cons g gs ih =>
    simp only [pyWfAll, Bool.and_eq_true] at h
    intro f hf
    cases hf with
    | head => exact h.1
    | tail _ h' => exact ih h.2 f h'

/-- The induction both refinements run: a claim `R` for a type in field position and a claim `O` for the class of a
composite; a sealed (`nested`) or delimited (`delim`) composite in field position rests on the claim for its class. -/
theorem pyTy_ind {R O : Ty → Prop}
    (uint : ∀ n m, wf (.uint n m) = true → R (.uint n m))
    (sint : ∀ n, wf (.sint n .sat) = true → 2 ≤ n → R (.sint n .sat))
    (float : ∀ n m, wf (.float n m) = true → R (.float n m))
    (bool : R .bool) (void : ∀ n, R (.void n))
    (arr : ∀ t n, wf t = true → R t → R (.arr t n))
    (varr : ∀ t cap, wf (.varr t cap) = true → R t → R (.varr t cap))
    (struct : ∀ fs, wf (.struct fs) = true → (∀ f ∈ fs, R f) → O (.struct fs))
    (union : ∀ fs, wf (.union fs) = true → (∀ f ∈ fs, R f) → O (.union fs))
    (nested : ∀ t, isComposite t = true → wf t = true → O t → R t)
    (delim : ∀ e t, wf (.delim e t) = true → O t → R (.delim e t)) (t : Ty) :
    wf t = true → pyWf t = true → R t ∧ (isComposite t = true → O t) := by
  intro hw hpw
  have h := Ty.ind_fn (A := fun t => wf t = true → pyWf t = true → R t)
    (F := fun t => wf t = true → pyWf t = true → isComposite t = true → O t)
    (fun t h _ _ hc => by rw [h] at hc; cases hc)
    (fun n m hw _ => uint n m hw)
    (fun n m hw hpw => by
      cases m with
      | trunc => simp [pyWf] at hpw
      | sat => exact sint n hw (by simpa [pyWf] using hpw))
    (fun n m hw _ => float n m hw) (fun _ _ => bool) (fun n _ _ => void n)
    (fun t n ih hw hpw => arr t n hw (ih hw hpw))
    (fun t cap ih hw hpw => varr t cap hw (ih (wf_varr hw).2 hpw))
    (fun fs ih hw hpw _ => struct fs hw fun f hf => ih f hf (wfAll_mem hw f hf) (pyWfAll_mem hpw f hf))
    (fun fs ih hw hpw _ => union fs hw fun f hf => ih f hf (wfAll_mem (wf_union hw).2 f hf) (pyWfAll_mem hpw f hf))
    (fun t hc hf hw hpw => nested t hc hw (hf hw hpw hc))
    (fun e t ih hw hpw => delim e t hw (ih (wf_delim hw).2 hpw (wf_delim hw).1.1)) t
  exact ⟨h.1 hw hpw, h.2 hw hpw⟩

end NunavutVerif.GenPy
