import NunavutVerif.Lemmas.GenPySerDelim
import NunavutVerif.Lemmas.GenPyDeAll
/-!
What `nunavut_support.serialize` / `deserialize` add around the methods of the class: the serializer of
`Serializer.new` satisfies the invariant (`new_inv`), the slice of its buffer that is returned is `packBytes` of the
appended bits (`buffer_eq_packBytes`), the deserializer starts at bit 0 of the whole byte string (`deObj_top_spec`).
-/
namespace NunavutVerif.GenPy
open NunavutVerif.Dsdl
open NunavutVerif.Bits (Buf Err bitAt WF)
open NunavutVerif.Bits.Py

/-- a top-level type: a structure or union, sealed or delimited (what a generated class is) -/
def topLevel (t : Ty) : Bool := isComposite (topInner t)

theorem pyWf_topInner {t : Ty} (h : pyWf t = true) : pyWf (topInner t) = true := by
  cases t with
  | delim e inner => simpa only [topInner, pyWf] using h
  | _ => exact h

theorem inDom_topInner {b : Bool} {t : Ty} {v : Val} (h : inDom b t v = true) : inDom b (topInner t) v = true := by
  cases t with
  | delim e inner => simpa only [topInner, inDom] using h
  | _ => exact h

theorem new_inv (n : Nat) : (⟨List.replicate (n + 1) 0, 0⟩ : Ser).Inv :=
  ⟨Bits.WF_replicate _, fun i _ => Bits.bitAt_replicate_zero _ i⟩

theorem buffer_eq_packBytes {n : Nat} {s : Ser} {bits : List Bool}
    (h : AppL ⟨List.replicate (n + 1) 0, 0⟩ s bits) (hroom : bits.length ≤ 8 * n) :
    s.buf.take ((s.off + 7) / 8) = packBytes bits := by
  have hoff : s.off = bits.length := by simpa using h.off
  have hlen : s.buf.length = n + 1 := by simpa using h.len
  have hbits : ∀ i, bitAt s.buf i = (decide (i < bits.length) && bitOf bits i) := by
    intro i
    have := h.2.2.2 i
    simpa [Bits.bitAt_replicate_zero] using this
  refine take_eq_packBytes h.inv.1 (by omega) (by rw [hoff]) fun i _ => ?_
  rw [hbits]
  by_cases h2 : i < bits.length
  · rw [decide_eq_true h2, Bool.true_and]
  · rw [decide_eq_false h2, Bool.false_and, bitOf_ge bits i (Nat.le_of_not_lt h2)]

theorem deObj_top_spec (env : Env) (hs : EnvSound env) (t : Ty) (bytes : Buf) (hw : wf t = true)
    (hpw : pyWf t = true) (hc : topLevel t = true) (hwf : WF bytes) :
    deObj env (topInner t) ⟨bytes, 0⟩ = match deBits (topInner t) (unpackBytes bytes) with
      | .ok (v, n) => .ok (v, ⟨bytes, n⟩)
      | .error e => .error (.format e) := by
  have h := (deRef_all env hs (topInner t) (wf_topInner hw) (pyWf_topInner hpw)).2 hc ⟨bytes, 0⟩ hwf (by simp)
  rw [h, List.drop_zero]
  rcases deBits (topInner t) (unpackBytes bytes) with e | ⟨v, n⟩
  · rfl
  · simp only [deOut, id, Nat.zero_add]

end NunavutVerif.GenPy
