/-!
What Lean's library lacks and several clusters use.  No statement here mentions a definition of the project; being directly
in `namespace NunavutVerif`, the lemmas are visible unqualified in every module.
-/
namespace NunavutVerif

theorem map_eq_ok {ε α β : Type} {f : α → β} {x : Except ε α} {y : β} :
    x.map f = .ok y ↔ ∃ a, x = .ok a ∧ f a = y := by
  cases x <;> simp [Except.map]

theorem map_eq_error {ε α β : Type} {f : α → β} {x : Except ε α} {e : ε} :
    x.map f = .error e ↔ x = .error e := by
  cases x <;> simp [Except.map]

theorem mapError_eq_ok {ε ε' α : Type} {f : ε → ε'} {run : Except ε' α} {x : Except ε α} {r : α}
    (he : run = x.mapError f) (h : run = .ok r) : x = .ok r := by
  cases x <;> cases he.symm.trans h
  rfl

theorem mapError_eq_error {ε ε' α : Type} {f : ε → ε'} {run : Except ε' α} {x : Except ε α} {y : ε'}
    (he : run = x.mapError f) (h : run = .error y) : ∃ e, x = .error e ∧ y = f e := by
  cases x <;> cases he.symm.trans h
  exact ⟨_, rfl, rfl⟩

theorem bind_eq_ok {ε α β : Type} {x : Except ε α} {f : α → Except ε β} {b : β} :
    x >>= f = .ok b ↔ ∃ a, x = .ok a ∧ f a = .ok b := by
  cases x <;> simp [bind, Except.bind]

theorem ok_bind {ε α β : Type} (a : α) (f : α → Except ε β) : (Except.ok a >>= f) = f a := rfl

theorem two_pow_pos_int (n : Nat) : (0 : Int) < (2 : Int) ^ n := Int.pow_pos (by decide)

theorem two_pow_cast (n : Nat) : ((2 ^ n : Nat) : Int) = (2 : Int) ^ n := by simp

theorem two_pow_le_int {a b : Nat} (h : a ≤ b) : (2 : Int) ^ a ≤ (2 : Int) ^ b := by
  have := Nat.pow_le_pow_right (show 0 < 2 by decide) h
  exact_mod_cast this

theorem two_pow_pred (n : Nat) (hn : 0 < n) : 2 ^ n = 2 * 2 ^ (n - 1) :=
  (Nat.two_pow_pred_mul_two hn).symm.trans (Nat.mul_comm ..)

theorem two_pow_pred_int (n : Nat) (hn : 0 < n) : (2 : Int) ^ n = 2 * 2 ^ (n - 1) := by
  exact_mod_cast two_pow_pred n hn

theorem lookup_cons_if {α β} [DecidableEq α] {k a : α} {b : β} {r : List (α × β)} :
    List.lookup k ((a, b) :: r) = if k = a then some b else r.lookup k := by
  rw [List.lookup_cons]
  by_cases h : k = a
  · rw [h, beq_self_eq_true, if_pos rfl]
  · rw [beq_false_of_ne h, if_neg h]

theorem lookup_of_nodup_keys {α κ β : Type} [DecidableEq κ] (f : α → κ) (g : α → β) :
    ∀ (l : List α), (l.map f).Nodup → ∀ a ∈ l, (l.map fun x => (f x, g x)).lookup (f a) = some (g a) := by
  intro l
  induction l with
  | nil => exact fun _ _ h => nomatch h
  | cons x r ih =>
    intro hn a ha
    rw [List.map_cons, List.nodup_cons] at hn
    rw [List.map_cons, lookup_cons_if]
    rcases List.mem_cons.1 ha with rfl | ha'
    · exact if_pos rfl
    · rw [if_neg fun e : f a = f x => hn.1 (e ▸ List.mem_map_of_mem ha'), ih hn.2 a ha']

theorem eq_of_nodup_map {α κ : Type} [DecidableEq κ] {f : α → κ} {l : List α} (h : (l.map f).Nodup) {a b : α}
    (ha : a ∈ l) (hb : b ∈ l) (e : f a = f b) : a = b :=
  Option.some.inj ((lookup_of_nodup_keys f id l h a ha).symm.trans (e ▸ lookup_of_nodup_keys f id l h b hb))

theorem flatMap_congr_left {α β} {l : List α} {f g : α → List β} (h : ∀ a ∈ l, f a = g a) :
    l.flatMap f = l.flatMap g := by
  rw [List.flatMap_def, List.flatMap_def, List.map_congr_left h]

theorem split_first (ch : Char) {a b x y : List Char} (ha : ch ∉ a) (hb : ch ∉ b) (h : a ++ ch :: x = b ++ ch :: y) :
    a = b ∧ x = y := by
  induction a generalizing b with
  | nil =>
    cases b with
    | nil => simpa using h
    | cons c r => simp at h; exact absurd (h.1 ▸ (by simp : c ∈ c :: r)) hb
  | cons c r ih =>
    cases b with
    | nil => simp at h; exact absurd (h.1 ▸ (by simp : c ∈ c :: r)) ha
    | cons d s =>
      simp at h
      obtain ⟨h1, h2⟩ := ih (b := s) (fun e => ha (by simp [e])) (fun e => hb (by simp [e])) h.2
      exact ⟨by rw [h.1, h1], h2⟩

theorem split_last {ch : Char} {a b x y : List Char} (hx : ch ∉ x) (hy : ch ∉ y) (h : a ++ ch :: x = b ++ ch :: y) :
    a = b ∧ x = y := by
  have h' := congrArg List.reverse h
  simp only [List.reverse_append, List.reverse_cons, List.append_assoc, List.singleton_append] at h'
  obtain ⟨h1, h2⟩ := split_first ch (by simpa using hx) (by simpa using hy) h'
  exact ⟨List.reverse_inj.1 h2, List.reverse_inj.1 h1⟩

end NunavutVerif
