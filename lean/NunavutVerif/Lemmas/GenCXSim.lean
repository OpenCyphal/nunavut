import NunavutVerif.Model.GenCX
import NunavutVerif.Lemmas.GenCXBits
/-!
The simulation between the address- and override-aware transcription (`Model/GenCX.lean`) and `Model/GenC.lean`, here
for the primitives.  `Sim B rX r`: the extended function returns what the plain one returns, or (only if `B`: some user
capacity is really smaller) `-BAD_ARRAY_LENGTH`, or the plain one fails in a primitive (which
`C04_genC_*_memory_safe` excludes).  It needs no typing hypotheses; the address assertions are discharged by
`copyBits_ok_inv`: a copy that succeeds in the plain model stays inside its two objects, which are disjoint intervals
(`Placed`).
-/
namespace NunavutVerif.GenC
open NunavutVerif.Dsdl NunavutVerif.Bits

def Sim {α : Type} (B : Prop) (rX r : Except Err α) : Prop :=
  rX = r ∨ (B ∧ rX = .error eBadArrayLength) ∨ ∃ e, r = .error (.prim e)

/-- user capacities never exceed the DSDL capacity (`#error` in the generated header otherwise) -/
def Reduced (X : Ext) : Prop := ∀ t c, X.ucap t c ≤ c

theorem effCap_le {X : Ext} (h : Reduced X) (t : Ty) (c : Nat) : effCap X t c ≤ c := by
  unfold effCap
  split
  · exact h t c
  · exact Nat.le_refl _

theorem effCap_bool (X : Ext) (c : Nat) : effCap X .bool c = c := by
  simp [effCap, isBoolTy]

theorem effCap_eq {X : Ext} (h : X.ovr = false ∨ ∀ t c, X.ucap t c = c) (t : Ty) (c : Nat) : effCap X t c = c := by
  unfold effCap
  rcases h with h | h
  · simp [h]
  · split
    · exact h t c
    · rfl

theorem liftP_ok {α : Type} {r : Except Bits.Err α} {a : α} (h : liftP r = .ok a) : r = .ok a := by
  unfold liftP at h
  cases r with
  | error e => simp at h
  | ok p => simp only [Except.ok.injEq] at h; rw [h]

theorem liftP_cases {α : Type} {r : Except Bits.Err α} {C : Prop} (h : ∀ a, r = .ok a → C) :
    (∃ e, liftP r = .error (.prim e)) ∨ C := by
  cases r with
  | error e => exact .inl ⟨e, rfl⟩
  | ok a => exact .inr (h a rfl)

theorem Sim.refl {α : Type} {B : Prop} {r : Except Err α} : Sim B r r := Or.inl rfl

theorem Sim.bad {α : Type} {B : Prop} {r : Except Err α} (h : B) : Sim B (.error eBadArrayLength) r :=
  Or.inr (Or.inl ⟨h, rfl⟩)

theorem Sim.prim {α : Type} {B : Prop} {rX : Except Err α} (e : Bits.Err) : Sim B rX (.error (.prim e)) :=
  Or.inr (Or.inr ⟨e, rfl⟩)

/-- The bind rule of `Sim`, for a goal `Sim B (match fX with ..) (match f with ..)`: the motive is found by abstracting
`fX` and `f` from the goal, so the model's own matchers are no obstacle.  Besides the continuations on a common
value there are the three ways in which both sides stop; for error-propagating matches these are `.refl`, `.bad`, `.prim`. -/
@[elab_as_elim]
theorem Sim.bind {α : Type} {B : Prop} {motive : Except Err α → Except Err α → Prop} {fX f : Except Err α}
    (h : Sim B fX f) (ok : ∀ a, motive (.ok a) (.ok a)) (err : ∀ e, motive (.error e) (.error e))
    (bad : B → motive (.error eBadArrayLength) f) (prim : ∀ e, motive fX (.error (.prim e))) : motive fX f := by
  rcases h with rfl | ⟨hB, rfl⟩ | ⟨e, rfl⟩
  · cases fX with
    | error e => exact err e
    | ok a => exact ok a
  · exact bad hB
  · exact prim e

theorem Sim.guard {α : Type} {B : Prop} {kX k : Except Err α} {n c' c : Nat} (hle : c' ≤ c) (hB : c' < c → B)
    (h : ¬ n > c' → Sim B kX k) :
    Sim B (if n > c' then .error eBadArrayLength else kX) (if n > c then .error eBadArrayLength else k) := by
  by_cases hp : n > c'
  · rw [if_pos hp]
    by_cases hq : n > c
    · rw [if_pos hq]; exact .refl
    · exact .bad (hB (Nat.lt_of_lt_of_le hp (Nat.le_of_not_lt hq)))
  · rw [if_neg hp, if_neg (fun hq => hp (Nat.lt_of_le_of_lt hle hq))]
    exact h hp

/-- the buffer pointer `pb` of the current function lies inside the user's buffer `[b0, b0+L0)`, as do the `cap`
bytes it was told about; needed only when the address assertions are evaluated -/
def InvS (o : Opts) (X : Ext) (b0 L0 pb : Nat) (len cap : Nat) : Prop :=
  o.asserts = true → X.addrs = true → b0 ≤ pb ∧ pb + len ≤ b0 + L0 ∧ cap ≤ len ∧ 0 < cap

theorem ne_of_inside {a sz b0 L0 pb : Nat} (hd : Disj a sz b0 L0) (h0 : b0 ≤ pb) (h1 : pb < b0 + L0) : a ≠ pb := by
  unfold Disj at hd
  omega

theorem ovlOK_of_apart {pd dOff len ps sOff : Nat}
    (h : 0 < len → ps + (sOff + len + 7) / 8 ≤ pd ∨ pd + (dOff + len + 7) / 8 ≤ ps) :
    ovlOK true pd dOff len ps sOff = true := by
  unfold ovlOK
  by_cases hl : 0 < len
  · rcases h hl with h | h
    · have h2 : ¬ ps > pd := by omega
      simp [hl, h, h2]
    · have h2 : ¬ ps < pd := by omega
      simp [hl, h, h2]
  · simp [hl]

theorem copyAsserts_ok (X : Ext) (hfx : X.fixed = true) (pb a off len szA b0 L0 : Nat)
    (hd : Disj a szA b0 L0) (h0 : b0 ≤ pb)
    (hin : 0 < len → pb + (off + len + 7) / 8 ≤ b0 + L0 ∧ (len + 7) / 8 ≤ szA)
    (hne : a ≠ pb ∨ (X.headGuarded = true ∧ len = 0)) :
    copyAsserts X pb off len a 0 = true ∧ copyAsserts X a 0 len pb off = true := by
  have hne' : (X.headGuarded && len == 0 || a != pb) = true ∧ (X.headGuarded && len == 0 || pb != a) = true := by
    rcases hne with h | ⟨h1, h2⟩
    · have : pb ≠ a := fun e => h e.symm
      simp [h, this]
    · simp [h1, h2]
  -- the two byte ranges are apart: the object lies below or above the user's buffer, the copy inside it
  have hap : 0 < len → a + (0 + len + 7) / 8 ≤ pb ∨ pb + (off + len + 7) / 8 ≤ a := by
    intro hl
    have := hin hl
    unfold Disj at hd
    omega
  unfold copyAsserts
  rw [hfx, hne'.1, hne'.2, ovlOK_of_apart hap, ovlOK_of_apart (fun hl => (hap hl).symm)]
  simp only [Bool.or_true, Bool.and_true, and_self]

section
variable {o : Opts} {X : Ext} {b0 L0 : Nat} {B : Prop}

theorem cpGuard_inactive {α : Type} (h : ¬ (o.asserts = true ∧ X.addrs = true)) (pd dOff len ps sOff : Nat)
    (k : Except Err α) : cpGuard o X pd dOff len ps sOff k = k := by
  unfold cpGuard
  have : ¬ (o.asserts = true ∧ X.addrs = true ∧ copyAsserts X pd dOff len ps sOff = false) := fun h' => h ⟨h'.1, h'.2.1⟩
  simp [this]

theorem cpGuard_pass {α : Type} {pd dOff len ps sOff : Nat} (h : copyAsserts X pd dOff len ps sOff = true)
    (k : Except Err α) : cpGuard o X pd dOff len ps sOff k = k := by
  unfold cpGuard
  simp [h]

theorem cpGuard_sim {α : Type} {pd dOff len ps sOff : Nat} {k : Except Err α}
    (h : o.asserts = true → X.addrs = true →
      (∃ e, k = .error (.prim e)) ∨ copyAsserts X pd dOff len ps sOff = true) :
    Sim B (cpGuard o X pd dOff len ps sOff k) k := by
  by_cases hact : o.asserts = true ∧ X.addrs = true
  · rcases h hact.1 hact.2 with ⟨e, rfl⟩ | hc
    · exact .prim e
    · rw [cpGuard_pass hc]
      exact .refl
  · rw [cpGuard_inactive hact]
    exact .refl

theorem cpGuard_ser_sim {α : Type} (hfx : X.fixed = true) (hp : Placed X b0 L0) (kind : Other) (pb : Nat) (buf : Buf)
    (off len : Nat) (src : Buf) {sz cap L : Nat} (hsz : src.length = sz) (hl : buf.length = L)
    (hi : InvS o X b0 L0 pb L cap) {k : Except Err α}
    (hk : (∃ e, k = .error (.prim e)) ∨ ∃ r, copyBits buf off len src 0 = .ok r) :
    Sim B (cpGuard o X pb off len (X.adr kind pb off sz) 0 k) k := by
  refine cpGuard_sim fun ha hx => hk.imp id fun ⟨r, hc⟩ => ?_
  obtain ⟨h0, h1, h2, h3⟩ := hi ha hx
  have hinv := (copyBits_ok_inv hc).2
  rw [hsz, hl, Nat.zero_add] at hinv
  have hd := hp kind pb off sz
  exact (copyAsserts_ok X hfx pb _ off len sz b0 L0 hd h0
    (fun h => ⟨Nat.le_trans (Nat.add_le_add_left (hinv h).2 pb) h1, (hinv h).1⟩)
    (Or.inl (ne_of_inside hd h0 (Nat.lt_of_lt_of_le (Nat.lt_add_of_pos_right (Nat.lt_of_lt_of_le h3 h2)) h1)))).1

theorem setUxxX_sim (hfx : X.fixed = true) (hp : Placed X b0 L0) (pb : Nat) (buf : Buf) (cap off value len : Nat)
    {L : Nat} (hl : buf.length = L) (hi : InvS o X b0 L0 pb L cap) :
    Sim B (setUxxX o X pb buf cap off value len) (chk (setUxx o.little buf cap off value len)) := by
  unfold setUxxX
  split
  · exact .refl
  · rename_i hroom
    refine cpGuard_ser_sim hfx hp .setTmp pb buf off _
      (if o.little = true then objRepLE (value % 2 ^ 64) 8 else u64Tmp value) ?_ hl hi ?_
    · split
      · exact length_objRepLE 8 _
      · rfl
    · unfold setUxx
      rw [if_neg hroom]
      dsimp only
      generalize copyBits buf off _ _ 0 = c
      cases c with
      | error e => exact Or.inl ⟨e, rfl⟩
      | ok r => exact Or.inr ⟨r, rfl⟩

theorem copyInX_sim (hfx : X.fixed = true) (hp : Placed X b0 L0) (pb : Nat) (buf : Buf) (off len : Nat) (src : Buf)
    {cap L : Nat} (hl : buf.length = L) (hi : InvS o X b0 L0 pb L cap) :
    Sim B (copyInX o X pb buf off len src) (liftP (copyBits buf off len src 0)) :=
  cpGuard_ser_sim hfx hp .memSrc pb buf off len src rfl hl hi (liftP_cases fun r h => ⟨r, h⟩)

/-- decode side: the buffer pointer is not below the user's buffer, and if anything is left of the buffer behind it,
that ends inside the user's buffer; with nothing left the pointer may lie at or behind its end (`HeadOK`) -/
def InvD (o : Opts) (X : Ext) (b0 L0 pb : Nat) (buf : Buf) : Prop :=
  o.asserts = true → X.addrs = true → b0 ≤ pb ∧ (buf ≠ [] → pb + buf.length ≤ b0 + L0)

/-- `src != dst` for a copy of zero bits: either the assertion is guarded, or no object starts at a pointer at /
behind the end of the buffer -/
def HeadOK (X : Ext) (b0 L0 : Nat) : Prop := X.headGuarded = true ∨ NoAliasPastEnd X b0 L0

theorem cpGuard_de_sim {α : Type} (hfx : X.fixed = true) (hp : Placed X b0 L0) (hh : HeadOK X b0 L0) (kind : Other)
    (pb : Nat) (buf : Buf) (off : Nat) {bits sz : Nat} (hi : InvD o X b0 L0 pb buf) {k : Except Err α}
    (hk : (∃ e, k = .error (.prim e)) ∨ ∃ dst r, dst.length = sz ∧ copyBits dst 0 bits buf off = .ok r) :
    Sim B (cpGuard o X (X.adr kind pb off sz) 0 bits pb off k) k := by
  refine cpGuard_sim fun ha hx => hk.imp id fun ⟨dst, r, hl, hc⟩ => ?_
  obtain ⟨h0, h1⟩ := hi ha hx
  have hinv := (copyBits_ok_inv hc).2
  have hd := hp kind pb off sz
  -- a copy of ≥ 1 bit touched a byte of the buffer, so the buffer is not empty and `pb` points into it
  have hin : 0 < bits → pb + (off + bits + 7) / 8 ≤ b0 + L0 ∧ (bits + 7) / 8 ≤ sz ∧ pb < b0 + L0 := by
    intro hb
    obtain ⟨hbuf, hs⟩ := hinv hb
    rw [Nat.zero_add, hl] at hs
    have hpos : 0 < (off + bits + 7) / 8 := Nat.div_pos (by omega) (by decide)
    have h2 := h1 (List.ne_nil_of_length_pos (Nat.lt_of_lt_of_le hpos hbuf))
    exact ⟨Nat.le_trans (Nat.add_le_add_left hbuf pb) h2, hs, by omega⟩
  have hne : X.adr kind pb off sz ≠ pb ∨ (X.headGuarded = true ∧ bits = 0) := by
    by_cases hb : 0 < bits
    · exact Or.inl (ne_of_inside hd h0 (hin hb).2.2)
    · rcases hh with hg | hna
      · exact Or.inr ⟨hg, Nat.eq_zero_of_not_pos hb⟩
      · by_cases hpe : pb < b0 + L0
        · exact Or.inl (ne_of_inside hd h0 hpe)
        · exact Or.inl (hna kind pb off sz (Nat.le_of_not_lt hpe))
  exact (copyAsserts_ok X hfx pb (X.adr kind pb off sz) off bits sz b0 L0 hd h0
    (fun hb => ⟨(hin hb).1, (hin hb).2.1⟩) hne).2

theorem getUX_sim (hfx : X.fixed = true) (hp : Placed X b0 L0) (hh : HeadOK X b0 L0) (pb W : Nat) (buf : Buf)
    (size off len : Nat) (hi : InvD o X b0 L0 pb buf) :
    Sim B (getUX o X pb W buf size off len) (liftP (getU o.little W buf size off len)) :=
  cpGuard_de_sim hfx hp hh .getTmp pb buf off hi (liftP_cases fun _ => getU_ok_inv)

theorem getIX_sim (hfx : X.fixed = true) (hp : Placed X b0 L0) (hh : HeadOK X b0 L0) (pb W : Nat) (buf : Buf)
    (size off len : Nat) (hi : InvD o X b0 L0 pb buf) :
    Sim B (getIX o X pb W buf size off len) (liftP (getI o.little W buf size off len)) :=
  cpGuard_de_sim hfx hp hh .getTmp pb buf off hi <| liftP_cases fun _ h =>
    have ⟨_, hv, _⟩ := bind_eq_ok.mp h
    getU_ok_inv hv

theorem getBitsX_sim (hfx : X.fixed = true) (hp : Placed X b0 L0) (hh : HeadOK X b0 L0) (pb : Nat) (out buf : Buf)
    (size off len : Nat) (hi : InvD o X b0 L0 pb buf) :
    Sim B (getBitsX o X pb out buf size off len) (liftP (getBits out buf size off len)) :=
  cpGuard_de_sim hfx hp hh .memDst pb buf off hi <| liftP_cases fun _ h =>
    have ⟨_, _, h⟩ := bind_eq_ok.mp h
    have ⟨out1, hm, hc⟩ := bind_eq_ok.mp h
    ⟨out1, _, memset0_ok_len hm, hc⟩

end

end NunavutVerif.GenC
