import NunavutVerif.Lemmas.BitOf
import NunavutVerif.Lemmas.Bits
/-!
Helper lemmas for C14 (Python `Serializer`; the `Deserializer` is in `Lemmas/BitsPyDe.lean`).  Under the invariant `Ser.Inv`
appending is overwriting at the cursor (`Appends.of_overwrites`), so each `add_*` reduces to an `Overwrites` fact of
`Lemmas/Bits.lean`.  `add_unaligned_bit` is a single `Overwrites.set_byte`; every other method first makes bytes that hold
its `n` bits followed by zeros (`∀ i, bitAt bs i = (decide (i < n) && g i)`, the form in which `_unsigned_to_bytes`,
`packbits`, … are specified) and then appends them whole; that appends the `n` bits (`Appends.window`).  The unaligned
methods do it by the byte loop and move the cursor back (`addBytes_backtrack`); the aligned ones store the block at the
cursor (`writeAll`, a splice: true of any buffer), which is an append on an invariant state (`addAlignedCore`).
-/
namespace NunavutVerif.Bits.Py
open NunavutVerif.Bits

theorem Inv_bit {s : Ser} (h : s.Inv) {i : Nat} (hi : s.off ≤ i) : bitAt s.buf i = false := h.2 i hi

theorem Appends.of_bitAt {s : Ser} {buf : Buf} {n : Nat} {bit : Nat → Bool} (hw : WF buf)
    (hlen : buf.length = s.buf.length)
    (h : ∀ i, bitAt buf i = if i < s.off then bitAt s.buf i else (decide (i < s.off + n) && bit (i - s.off))) :
    Appends s ⟨buf, s.off + n⟩ n bit := by
  refine ⟨rfl, hlen, ⟨hw, fun i hi => ?_⟩, h⟩
  have hi' : s.off + n ≤ i := hi
  show bitAt buf i = false
  rw [h i, if_neg (by omega), decide_eq_false (by omega), Bool.false_and]

theorem Appends.of_overwrites {s : Ser} {buf : Buf} {n : Nat} {bit : Nat → Bool} (hinv : s.Inv) (hw : WF buf)
    (hlen : buf.length = s.buf.length) (h : Overwrites buf s.buf s.off n bit) :
    Appends s ⟨buf, s.off + n⟩ n bit := by
  refine .of_bitAt hw hlen fun i => ?_
  rw [h i]
  by_cases h1 : i < s.off
  · rw [if_neg (by omega), if_pos h1]
  · rw [if_neg h1]
    by_cases h2 : i < s.off + n
    · rw [if_pos ⟨Nat.le_of_not_lt h1, h2⟩, decide_eq_true h2, Bool.true_and]
    · rw [if_neg (fun c => h2 c.2), decide_eq_false h2, Bool.false_and]
      exact hinv.2 i (by omega)

theorem Appends.refl {s : Ser} (hinv : s.Inv) (f : Nat → Bool) : Appends s s 0 f :=
  .of_overwrites hinv hinv.1 rfl (.refl _ _ _)

/-- where in the zeros that follow the appended bits the cursor stands does not matter (the `backtrack` of the unaligned
methods, the unused bits of the last byte of the aligned ones, a fork that skipped beyond its buffer) -/
theorem Appends.recount {s s1 : Ser} {N n : Nat} {f : Nat → Bool} (h : Appends s s1 N f)
    (hN : ∀ j, N ≤ j → f j = false) (hn : ∀ j, n ≤ j → f j = false) : Appends s ⟨s1.buf, s.off + n⟩ n f := by
  obtain ⟨_, h2, h3, h4⟩ := h
  refine .of_bitAt h3.1 h2 fun i => ?_
  rw [h4 i]
  by_cases h1 : i < s.off
  · rw [if_pos h1, if_pos h1]
  · rw [if_neg h1, if_neg h1]
    by_cases hA : n ≤ i - s.off
    · rw [hn _ hA, Bool.and_false, Bool.and_false]
    · by_cases hB : N ≤ i - s.off
      · rw [hN _ hB, Bool.and_false, Bool.and_false]
      · rw [decide_eq_true (show i < s.off + N by omega), decide_eq_true (show i < s.off + n by omega)]

theorem Appends.deField_eq {s s' : Ser} {n v : Nat} (h : Appends s s' n v.testBit) (hv : v < 2 ^ n) :
    deField ⟨s'.buf, s.off⟩ n = v :=
  fieldOf_eq_of_lt hv fun i hi => by
    show bitAt s'.buf (s.off + i) = _
    rw [h.2.2.2, if_neg (by omega), Nat.add_sub_cancel_left, decide_eq_true (by omega), Bool.true_and]

theorem Appends.congr {s s' : Ser} {n : Nat} {f g : Nat → Bool} (ha : Appends s s' n f)
    (h : ∀ i, i < n → f i = g i) : Appends s s' n g := by
  obtain ⟨h1, h2, h3, h4⟩ := ha
  refine ⟨h1, h2, h3, fun i => ?_⟩
  rw [h4]
  by_cases hi : i < s.off
  · rw [if_pos hi, if_pos hi]
  · rw [if_neg hi, if_neg hi]
    by_cases h2 : i < s.off + n
    · rw [h (i - s.off) (by omega)]
    · rw [decide_eq_false h2, Bool.false_and, Bool.false_and]

theorem Appends.window {s s1 : Ser} {bs : Buf} {n : Nat} {g : Nat → Bool} (h : Appends s s1 (8 * bs.length) (bitAt bs))
    (hb : ∀ i, bitAt bs i = (decide (i < n) && g i)) : Appends s ⟨s1.buf, s.off + n⟩ n g :=
  Appends.congr
    (h.recount (fun j hj => bitAt_of_ge (by omega)) fun j hj => by rw [hb, decide_eq_false (by omega), Bool.false_and])
    fun i hi => by rw [hb, decide_eq_true hi, Bool.true_and]

theorem Appends.trans {s s1 s2 : Ser} {n1 n2 : Nat} {f g : Nat → Bool}
    (ha : Appends s s1 n1 f) (hb : Appends s1 s2 n2 g) :
    Appends s s2 (n1 + n2) (fun i => if i < n1 then f i else g (i - n1)) := by
  obtain ⟨a1, a2, a3, a4⟩ := ha
  obtain ⟨b1, b2, b3, b4⟩ := hb
  refine ⟨by rw [b1, a1, Nat.add_assoc], b2.trans a2, b3, fun i => ?_⟩
  rw [b4, a1]
  dsimp only
  by_cases h1 : i < s.off
  · rw [if_pos (Nat.lt_add_right n1 h1), a4, if_pos h1, if_pos h1]
  · rw [if_neg h1]
    by_cases h2 : i < s.off + n1
    · rw [if_pos h2, a4, if_neg h1, if_pos (show i - s.off < n1 by omega), decide_eq_true h2,
        decide_eq_true (show i < s.off + (n1 + n2) by omega)]
    · rw [if_neg h2, if_neg (show ¬ i - s.off < n1 by omega), Nat.sub_add_eq, Nat.add_assoc]

/-- one iteration of the `add_unaligned_bytes` loop: the low `8 - m` bits of `b` go to the free upper part of the
current byte, the other `m` to the (still zero) next one -/
theorem addStep_overwrites (buf : Buf) (k m b : Nat) (hm : m < 8) (hinv : Ser.Inv ⟨buf, 8 * k + m⟩) (hb : b < 256)
    (hroom : k + 1 < buf.length) :
    ∃ cur, get? buf k = .ok cur ∧
      Overwrites ((buf.set k (cur ||| ((b <<< m) &&& 255))).set (k + 1) (b >>> (8 - m))) buf (8 * k + m) 8
        b.testBit := by
  obtain ⟨cur, hcur⟩ := get?_of_lt (show k < buf.length by omega)
  refine ⟨cur, hcur, ?_⟩
  generalize hv1 : cur ||| ((b <<< m) &&& 255) = v1
  have h1 : Overwrites (buf.set k v1) buf (8 * k + m) (8 - m) b.testBit := by
    refine .set_byte hcur (by omega) fun j hj => ?_
    rw [← hv1, Nat.testBit_or, testBit_and_255, Nat.testBit_shiftLeft, decide_eq_true hj, Bool.and_true]
    by_cases hmj : m ≤ j
    · rw [if_pos ⟨hmj, by omega⟩, testBit_of_get? hcur hj, hinv.2 _ (show 8 * k + m ≤ 8 * k + j by omega),
        Bool.false_or, decide_eq_true hmj, Bool.true_and]
    · rw [if_neg (fun c => hmj c.1), decide_eq_false hmj, Bool.false_and, Bool.or_false]
  obtain ⟨nxt, hnxt⟩ := get?_of_lt (show k + 1 < (buf.set k v1).length by rw [List.length_set]; exact hroom)
  have h2 : Overwrites ((buf.set k v1).set (k + 1) (b >>> (8 - m))) (buf.set k v1) (8 * (k + 1) + 0) m
      (fun j => b.testBit (8 - m + j)) := by
    refine .set_byte hnxt (by omega) fun j hj => ?_
    rw [Nat.testBit_shiftRight]
    by_cases hjm : j < m
    · rw [if_pos ⟨Nat.zero_le _, by omega⟩, Nat.sub_zero]
    · rw [if_neg (by omega), testBit_ge_of_lt_256 hb (by omega), testBit_of_get? hnxt hj, h1, if_neg (by omega)]
      exact (hinv.2 _ (show 8 * k + m ≤ 8 * (k + 1) + j by omega)).symm
  rw [show 8 * (k + 1) + 0 = 8 * k + m + (8 - m) by omega] at h2
  have := h1.trans h2 fun j _ => rfl
  rwa [show 8 - m + m = 8 by omega] at this

theorem addUnalignedBytesLoop_spec (value : Buf) : ∀ (s : Ser), s.Inv → WF value →
    s.off / 8 + value.length < s.buf.length →
    ∃ s', addUnalignedBytesLoop (s.off % 8) (8 - s.off % 8) s value = .ok s' ∧
      Appends s s' (8 * value.length) (bitAt value) := by
  induction value with
  | nil =>
    intro s hinv _ _
    exact ⟨s, rfl, .refl hinv _⟩
  | cons b bs ih =>
    intro s hinv hwv hroom
    obtain ⟨buf, off⟩ := s
    obtain ⟨k, m, hm, rfl⟩ := exists_byte_bit off
    simp only [List.length_cons, mul_add_div8 k hm, mul_add_mod8 k hm] at hroom ⊢
    obtain ⟨cur, hcur, hstep⟩ := addStep_overwrites buf k m b hm hinv (hwv b List.mem_cons_self) (by omega)
    generalize hbuf2 : (buf.set k (cur ||| ((b <<< m) &&& 255))).set (k + 1) (b >>> (8 - m)) = buf2 at hstep
    have hlen2 : buf2.length = buf.length := by rw [← hbuf2, List.length_set, List.length_set]
    have hwf2 : WF buf2 := by
      rw [← hbuf2]
      refine WF_set (WF_set hinv.1 ?_) (Nat.lt_of_le_of_lt (Nat.shiftRight_le _ _) (hwv b List.mem_cons_self))
      exact Nat.or_lt_two_pow (n := 8) (WF_of_get? hinv.1 hcur) (and_255_lt _)
    have a1 := Appends.of_overwrites hinv hwf2 hlen2 hstep
    obtain ⟨s', hs', a2⟩ := ih ⟨buf2, 8 * k + m + 8⟩ a1.2.2.1 (WF_tail hwv) (by
      show (8 * k + m + 8) / 8 + bs.length < buf2.length
      rw [hlen2]; omega)
    rw [show (8 * k + m + 8) % 8 = m by omega] at hs'
    refine ⟨s', ?_, ?_⟩
    · rw [addUnalignedBytesLoop]
      simp only [mul_add_div8 k hm, hcur, set?_ok (show k < buf.length by omega), bind, Except.bind,
        show (8 * k + m + 8) / 8 = k + 1 by omega,
        set?_ok (show k + 1 < (buf.set k (cur ||| ((b <<< m) &&& 255))).length by rw [List.length_set]; omega), hbuf2, hs']
    · rw [show 8 * (bs.length + 1) = 8 + 8 * bs.length by omega]
      exact Appends.congr (Appends.trans a1 a2) fun i _ => (bitAt_cons b bs i).symm

theorem addUnalignedBytes_spec (s : Ser) (value : Buf) (hinv : s.Inv) (hwv : WF value)
    (hroom : s.off / 8 + value.length < s.buf.length) :
    ∃ s', addUnalignedBytes s value = .ok s' ∧ Appends s s' (8 * value.length) (bitAt value) :=
  addUnalignedBytesLoop_spec value s hinv hwv hroom

theorem bytesLoop_eq_objRepLE (n : Nat) : ∀ v, bytesLoop v n = objRepLE v n := by
  induction n with
  | zero => intro v; rfl
  | succ n ih =>
    intro v
    rw [bytesLoop, objRepLE, ih, Nat.shiftRight_eq_div_pow, show (255 : Nat) = 2 ^ 8 - 1 from rfl,
      Nat.and_two_pow_sub_one_eq_mod]

theorem bytesLoop_spec (n : Nat) : ∀ v : Nat,
    (bytesLoop v n).length = n ∧ WF (bytesLoop v n) ∧
    ∀ i, bitAt (bytesLoop v n) i = (decide (i < 8 * n) && v.testBit i) := fun v =>
  bytesLoop_eq_objRepLE n v ▸ ⟨length_objRepLE n v, WF_objRepLE n v, bitAt_objRepLE n v⟩

theorem unsignedToBytes_spec (v bl : Nat) (hbl : 1 ≤ bl) :
    ∃ bs, unsignedToBytes v bl = .ok bs ∧ bs.length = (bl + 7) / 8 ∧ WF bs ∧
      ∀ i, bitAt bs i = (decide (i < bl) && v.testBit i) := by
  unfold unsignedToBytes
  rw [if_neg (by omega)]
  obtain ⟨h1, h2, h3⟩ := bytesLoop_spec ((bl + 7) / 8) (v &&& (2 ^ bl - 1))
  refine ⟨_, rfl, h1, h2, fun i => ?_⟩
  rw [h3, Nat.testBit_and, Nat.testBit_two_pow_sub_one]
  by_cases h : i < bl
  · simp [h, show i < 8 * ((bl + 7) / 8) by omega]
  · simp [h]

theorem addBytes_backtrack (s : Ser) (bs : Buf) (n : Nat) {g : Nat → Bool} (hinv : s.Inv) (hwf : WF bs)
    (hn : n ≤ bs.length * 8) (hb : ∀ i, bitAt bs i = (decide (i < n) && g i))
    (hroom : s.off / 8 + bs.length < s.buf.length) :
    ∃ s', (do
        let backtrack ← sub? (bs.length * 8) n
        let s1 ← addUnalignedBytes s bs
        let off ← sub? s1.off backtrack
        Except.ok (⟨s1.buf, off⟩ : Ser)) = .ok s' ∧ Appends s s' n g := by
  obtain ⟨s1, hs1, a1⟩ := addUnalignedBytes_spec s bs hinv hwf hroom
  refine ⟨⟨s1.buf, s.off + n⟩, ?_, a1.window hb⟩
  have ho : s1.off = s.off + 8 * bs.length := a1.1
  simp only [sub?, hn, if_true, hs1, bind, Except.bind, show bs.length * 8 - n ≤ s1.off by omega]
  rw [show s1.off - (bs.length * 8 - n) = s.off + n by omega]

theorem addUnalignedUnsigned_spec (s : Ser) (value : Int) (bl : Nat) (hinv : s.Inv) (hv : 0 ≤ value)
    (hbl : 1 ≤ bl) (hroom : s.off / 8 + (bl + 7) / 8 < s.buf.length) :
    ∃ s', addUnalignedUnsigned s value bl = .ok s' ∧ Appends s s' bl value.toNat.testBit := by
  unfold addUnalignedUnsigned
  obtain ⟨bs, hbs, hlen, hwf, hbits⟩ := unsignedToBytes_spec value.toNat bl hbl
  obtain ⟨s', hs', a⟩ := addBytes_backtrack s bs bl hinv hwf (by omega) hbits (by omega)
  refine ⟨s', ?_, a⟩
  simpa only [ensureNotNegative_ok hv, hbs, bind, Except.bind] using hs'

theorem addUnalignedSigned_spec (s : Ser) (value : Int) (bl : Nat) (hinv : s.Inv) (hbl : 2 ≤ bl)
    (hlo : -(2 ^ bl) ≤ value) (hroom : s.off / 8 + (bl + 7) / 8 < s.buf.length) :
    ∃ s', addUnalignedSigned s value bl = .ok s' ∧
      Appends s s' bl (if value < 0 then 2 ^ bl + value else value).toNat.testBit := by
  unfold addUnalignedSigned
  rw [if_neg (by omega)]
  have hp : (0 : Int) < 2 ^ bl := Int.pow_pos (by decide)
  exact addUnalignedUnsigned_spec s _ bl hinv (by split <;> omega) (by omega) hroom

theorem oneBit_testBit (b : Bool) (j : Nat) : (if b then 1 else 0 : Nat).testBit j = (decide (j = 0) && b) := by
  cases b
  · simp
  · simp only [if_true, Bool.and_true]
    rw [show (1 : Nat) = 2 ^ 0 from rfl, Nat.testBit_two_pow]
    by_cases h : j = 0 <;> simp [h] <;> omega

theorem oneBit_shiftLeft_lt (b : Bool) {k n : Nat} (h : k < n) : (if b then 1 else 0) <<< k < 2 ^ n := by
  cases b
  · exact Nat.lt_of_le_of_lt (Nat.le_of_eq (Nat.zero_shiftLeft k)) (Nat.two_pow_pos n)
  · rw [if_pos rfl, Nat.one_shiftLeft]
    exact Nat.pow_lt_pow_right (by decide) h

theorem addUnalignedBit_spec (s : Ser) (x : Bool) (hinv : s.Inv) (hroom : s.off / 8 < s.buf.length) :
    ∃ s', addUnalignedBit s x = .ok s' ∧ Appends s s' 1 (fun _ => x) := by
  unfold addUnalignedBit
  obtain ⟨buf, off⟩ := s
  obtain ⟨k, m, hm, rfl⟩ := exists_byte_bit off
  simp only [mul_add_div8 k hm, mul_add_mod8 k hm] at hroom ⊢
  obtain ⟨cur, hcur⟩ := get?_of_lt hroom
  generalize hv : cur ||| ((if x then 1 else 0) <<< m) = v
  have hbit : Overwrites (buf.set k v) buf (8 * k + m) 1 (fun _ => x) := by
    refine .set_byte hcur (by omega) fun j hj => ?_
    rw [← hv, Nat.testBit_or, Nat.testBit_shiftLeft, oneBit_testBit]
    by_cases hjm : j = m
    · subst hjm
      rw [if_pos ⟨Nat.le_refl _, Nat.lt_succ_self _⟩, testBit_of_get? hcur hj, hinv.2 _ (Nat.le_refl _),
        Bool.false_or, decide_eq_true (Nat.le_refl _), Nat.sub_self, decide_eq_true rfl, Bool.true_and, Bool.true_and]
    · rw [if_neg (by omega)]
      by_cases hmj : m ≤ j
      · rw [decide_eq_false (show ¬ j - m = 0 by omega), Bool.false_and, Bool.and_false, Bool.or_false]
      · rw [decide_eq_false hmj, Bool.false_and, Bool.or_false]
  have hwf : WF (buf.set k v) := by
    refine WF_set hinv.1 ?_
    rw [← hv]
    exact Nat.or_lt_two_pow (n := 8) (WF_of_get? hinv.1 hcur) (oneBit_shiftLeft_lt x hm)
  refine ⟨⟨buf.set k v, 8 * k + m + 1⟩, ?_, .of_overwrites hinv hwf (List.length_set ..) hbit⟩
  simp only [hcur, set?_ok hroom, bind, Except.bind, hv]

theorem writeAll_length (bs : Buf) : ∀ (buf : Buf) (a : Nat), (writeAll buf a bs).length = buf.length := by
  induction bs with
  | nil => intro buf a; rfl
  | cons b bs ih => intro buf a; rw [writeAll, ih, List.length_set]

theorem writeAll_eq_splice (bs : Buf) : ∀ (buf : Buf) (a : Nat), a + bs.length ≤ buf.length →
    writeAll buf a bs = buf.take a ++ bs ++ buf.drop (a + bs.length) := by
  induction bs with
  | nil => intro buf a _; simp [writeAll]
  | cons b bs ih =>
    intro buf a h
    rw [List.length_cons] at h
    rw [writeAll, ih _ _ (by rw [List.length_set]; omega), List.take_set, List.drop_set,
      List.take_succ_eq_append_getElem (by omega), if_pos (by omega),
      List.set_append_right _ _ (by rw [List.length_take]; omega), List.length_take, Nat.min_eq_left (by omega),
      Nat.sub_self, List.set_cons_zero, List.length_cons, show a + 1 + bs.length = a + (bs.length + 1) by omega]
    simp only [List.append_assoc, List.cons_append, List.nil_append]

theorem writeAll_overwrites (bs buf : Buf) (a : Nat) (h : a + bs.length ≤ buf.length) :
    Overwrites (writeAll buf a bs) buf (8 * a) (8 * bs.length) (bitAt bs) :=
  writeAll_eq_splice bs buf a h ▸ .splice buf bs a h

theorem writeAll_WF (bs : Buf) : ∀ (buf : Buf) (a : Nat), WF buf → WF bs → WF (writeAll buf a bs) := by
  induction bs with
  | nil => intro buf a h _; exact h
  | cons b bs ih =>
    intro buf a h hb
    rw [writeAll]
    exact ih _ _ (WF_set h (hb b List.mem_cons_self)) (WF_tail hb)

theorem setSlice_ok (buf : Buf) (a : Nat) (bs : Buf) (h : a + bs.length ≤ buf.length) :
    setSlice buf a bs = .ok (writeAll buf a bs) := by
  unfold setSlice
  simp only []
  rw [if_pos (by omega)]

theorem addAlignedCore (s : Ser) (bs : Buf) (n : Nat) {g : Nat → Bool} (hinv : s.Inv) (ha : s.off % 8 = 0) (hw : WF bs)
    (hb : ∀ i, bitAt bs i = (decide (i < n) && g i)) (hroom : s.off / 8 + bs.length ≤ s.buf.length) :
    Appends s ⟨writeAll s.buf (s.off / 8) bs, s.off + n⟩ n g := by
  have h := writeAll_overwrites bs s.buf (s.off / 8) hroom
  rw [mul_div_aligned ha] at h
  exact (Appends.of_overwrites hinv (writeAll_WF bs _ _ hinv.1 hw) (writeAll_length ..) h).window hb

theorem addAlignedBytes_spec (s : Ser) (x : Buf) (hinv : s.Inv) (ha : s.off % 8 = 0) (hw : WF x)
    (hroom : s.off / 8 + x.length ≤ s.buf.length) :
    ∃ s', addAlignedBytes s x = .ok s' ∧ Appends s s' (8 * x.length) (bitAt x) := by
  refine ⟨⟨writeAll s.buf (s.off / 8) x, s.off + 8 * x.length⟩, ?_, ?_⟩
  · simp only [addAlignedBytes, assertAligned_ok ha, setSlice_ok _ _ _ hroom, bind, Except.bind]
    rw [show x.length * 8 = 8 * x.length by omega]
  · refine addAlignedCore s x _ hinv ha hw (fun i => ?_) hroom
    by_cases h : i < 8 * x.length
    · rw [decide_eq_true h, Bool.true_and]
    · rw [bitAt_of_ge (by omega), Bool.and_false]

theorem addAlignedUnsigned_spec (s : Ser) (value : Int) (bl : Nat) (hinv : s.Inv) (ha : s.off % 8 = 0)
    (hv : 0 ≤ value) (hbl : 1 ≤ bl) (hroom : s.off / 8 + (bl + 7) / 8 ≤ s.buf.length) :
    ∃ s', addAlignedUnsigned s value bl = .ok s' ∧ Appends s s' bl value.toNat.testBit := by
  obtain ⟨bs, hbs, hlen, hwf, hbits⟩ := unsignedToBytes_spec value.toNat bl hbl
  refine ⟨_, ?_, addAlignedCore s bs bl hinv ha hwf hbits (by omega)⟩
  simp only [addAlignedUnsigned, assertAligned_ok ha, ensureNotNegative_ok hv,
    hbs, setSlice_ok _ _ _ (show s.off / 8 + bs.length ≤ s.buf.length by omega), bind, Except.bind]

theorem addAlignedSigned_spec (s : Ser) (value : Int) (bl : Nat) (hinv : s.Inv) (ha : s.off % 8 = 0)
    (hbl : 2 ≤ bl) (hlo : -(2 ^ bl) ≤ value) (hroom : s.off / 8 + (bl + 7) / 8 ≤ s.buf.length) :
    ∃ s', addAlignedSigned s value bl = .ok s' ∧
      Appends s s' bl (if value < 0 then 2 ^ bl + value else value).toNat.testBit := by
  unfold addAlignedSigned
  rw [if_neg (by omega)]
  have hp : (0 : Int) < 2 ^ bl := Int.pow_pos (by decide)
  exact addAlignedUnsigned_spec s _ bl hinv ha (by split <;> omega) (by omega) hroom

theorem writeAll_append (xs ys : Buf) : ∀ (buf : Buf) (a : Nat),
    writeAll buf a (xs ++ ys) = writeAll (writeAll buf a xs) (a + xs.length) ys := by
  induction xs with
  | nil => intro buf a; rfl
  | cons x xs ih =>
    intro buf a
    rw [List.cons_append, writeAll, ih, writeAll, List.length_cons, Nat.add_right_comm, Nat.add_assoc]

theorem bytesLoop_add (m n : Nat) : ∀ v, bytesLoop v (m + n) = bytesLoop v m ++ bytesLoop (v >>> (8 * m)) n := by
  induction m with
  | zero => intro v; rw [Nat.zero_add]; rfl
  | succ m ih =>
    intro v
    rw [Nat.succ_add, bytesLoop, ih, bytesLoop, ← Nat.shiftRight_add, Nat.mul_succ, Nat.add_comm 8]
    rfl

/-- `f` stores the `n` little-endian bytes of its argument at the byte-aligned cursor, whatever the buffer holds
(no `Ser.Inv`: `add_aligned_u32` also back-patches a delimiter header in front of data already written) -/
def WritesLE (f : Ser → Int → Except Err Ser) (n : Nat) : Prop :=
  ∀ (s : Ser) (v : Nat), s.off % 8 = 0 → s.off / 8 + n ≤ s.buf.length →
    f s v = .ok ⟨writeAll s.buf (s.off / 8) (bytesLoop v n), s.off + 8 * n⟩

theorem addAlignedU8_raw (s : Ser) (v : Nat) (ha : s.off % 8 = 0) (hv : v < 256) (hroom : s.off / 8 < s.buf.length) :
    addAlignedU8 s (v : Int) = .ok ⟨s.buf.set (s.off / 8) v, s.off + 8⟩ := by
  simp only [addAlignedU8, assertAligned_ok ha, ensureNotNegative_ok (Int.natCast_nonneg v), Int.toNat_natCast,
    if_neg (Nat.not_le.mpr hv), set?_ok hroom, bind, Except.bind]

theorem addAlignedU16_raw : WritesLE addAlignedU16 2 := by
  intro s v ha hroom
  have e1 := addAlignedU8_raw s (v &&& 255) ha (and_255_lt v) (by omega)
  have e2 := addAlignedU8_raw ⟨s.buf.set (s.off / 8) (v &&& 255), s.off + 8⟩ ((v >>> 8) &&& 255)
    (show (s.off + 8) % 8 = 0 by omega) (and_255_lt _) (by rw [List.length_set]; show (s.off + 8) / 8 < _; omega)
  simp only [addAlignedU16, ensureNotNegative_ok (Int.natCast_nonneg v), Int.toNat_natCast, bind, Except.bind, e1, e2]
  rw [show (s.off + 8) / 8 = s.off / 8 + 1 by omega]
  rfl

theorem WritesLE.double {f : Ser → Int → Except Err Ser} {n : Nat} (h : WritesLE f n) :
    WritesLE (fun s x => do let s1 ← f s x; f s1 (x >>> (8 * n))) (n + n) := by
  intro s v ha hroom
  have hl := (bytesLoop_spec n v).1
  simp only [h s v ha (by omega), bind, Except.bind]
  rw [← Int.natCast_shiftRight, h _ _ (show (s.off + 8 * n) % 8 = 0 by omega)
      (by rw [writeAll_length]; show (s.off + 8 * n) / 8 + n ≤ _; omega),
    bytesLoop_add, writeAll_append, hl, show (s.off + 8 * n) / 8 = s.off / 8 + n by omega, Nat.mul_add, Nat.add_assoc]

theorem addAlignedU32_raw : WritesLE addAlignedU32 4 := addAlignedU16_raw.double

theorem addAlignedU64_raw : WritesLE addAlignedU64 8 := addAlignedU32_raw.double

theorem WritesLE.appends {f : Ser → Int → Except Err Ser} {n : Nat} (h : WritesLE f n) (s : Ser) (x : Int)
    (hinv : s.Inv) (ha : s.off % 8 = 0) (hx : 0 ≤ x) (hroom : s.off / 8 + n ≤ s.buf.length) :
    ∃ s', f s x = .ok s' ∧ Appends s s' (8 * n) x.toNat.testBit := by
  obtain ⟨v, rfl⟩ := Int.eq_ofNat_of_zero_le hx
  obtain ⟨hl, hw, hb⟩ := bytesLoop_spec n v
  exact ⟨_, h s v ha hroom, addAlignedCore s _ (8 * n) hinv ha hw hb (by rw [hl]; exact hroom)⟩

theorem addAlignedU8_spec (s : Ser) (x : Int) (hinv : s.Inv) (ha : s.off % 8 = 0) (hx : 0 ≤ x) (hx2 : x < 256)
    (hroom : s.off / 8 + 1 ≤ s.buf.length) :
    ∃ s', addAlignedU8 s x = .ok s' ∧ Appends s s' 8 x.toNat.testBit := by
  obtain ⟨v, rfl⟩ := Int.eq_ofNat_of_zero_le hx
  have hv : v < 256 := by omega
  exact ⟨_, addAlignedU8_raw s v ha hv hroom,
    addAlignedCore s [v] 8 hinv ha (fun y hy => by simp at hy; omega) (bitAt_single v) (by simpa using hroom)⟩

theorem addAlignedU16_spec (s : Ser) (x : Int) (hinv : s.Inv) (ha : s.off % 8 = 0) (hx : 0 ≤ x)
    (hroom : s.off / 8 + 2 ≤ s.buf.length) :
    ∃ s', addAlignedU16 s x = .ok s' ∧ Appends s s' 16 x.toNat.testBit :=
  addAlignedU16_raw.appends s x hinv ha hx hroom

theorem addAlignedU32_spec (s : Ser) (x : Int) (hinv : s.Inv) (ha : s.off % 8 = 0) (hx : 0 ≤ x)
    (hroom : s.off / 8 + 4 ≤ s.buf.length) :
    ∃ s', addAlignedU32 s x = .ok s' ∧ Appends s s' 32 x.toNat.testBit :=
  addAlignedU32_raw.appends s x hinv ha hx hroom

theorem addAlignedU64_spec (s : Ser) (x : Int) (hinv : s.Inv) (ha : s.off % 8 = 0) (hx : 0 ≤ x)
    (hroom : s.off / 8 + 8 ≤ s.buf.length) :
    ∃ s', addAlignedU64 s x = .ok s' ∧ Appends s s' 64 x.toNat.testBit :=
  addAlignedU64_raw.appends s x hinv ha hx hroom

theorem addAlignedU_spec (W : Nat) (s : Ser) (x : Int) (hW : W = 8 ∨ W = 16 ∨ W = 32 ∨ W = 64) (hinv : s.Inv)
    (ha : s.off % 8 = 0) (hx : 0 ≤ x) (h8 : W = 8 → x < 256) (hroom : s.off / 8 + W / 8 ≤ s.buf.length) :
    ∃ s', (if W = 8 then addAlignedU8 s x else if W = 16 then addAlignedU16 s x
        else if W = 32 then addAlignedU32 s x else if W = 64 then addAlignedU64 s x else .error .usage) = .ok s' ∧
      Appends s s' W x.toNat.testBit := by
  rcases hW with rfl | rfl | rfl | rfl
  · exact addAlignedU8_spec s x hinv ha hx (h8 rfl) hroom
  · exact addAlignedU16_spec s x hinv ha hx hroom
  · exact addAlignedU32_spec s x hinv ha hx hroom
  · exact addAlignedU64_spec s x hinv ha hx hroom

theorem addAlignedI_spec (W : Nat) (s : Ser) (x : Int) (hW : W = 8 ∨ W = 16 ∨ W = 32 ∨ W = 64) (hinv : s.Inv)
    (ha : s.off % 8 = 0) (hlo : -(2 ^ (W - 1)) ≤ x) (hhi : x < 2 ^ (W - 1))
    (hroom : s.off / 8 + W / 8 ≤ s.buf.length) :
    ∃ s', addAlignedI W s x = .ok s' ∧ Appends s s' W (if x < 0 then 2 ^ W + x else x).toNat.testBit := by
  have hp := two_pow_pred_int W (by omega)
  have hpp : (0 : Int) < 2 ^ (W - 1) := Int.pow_pos (by decide)
  exact addAlignedU_spec W s _ hW hinv ha (by split <;> omega)
    (fun h8 => by rw [h8] at hp hhi hlo ⊢; split <;> omega) hroom

theorem packStep (cur k : Nat) (b : Bool) (bs : List Bool) (hc : cur < 2 ^ k) (i : Nat) :
    (if i < k + 1 then (cur ||| ((if b then 1 else 0) <<< k)).testBit i else bitOf bs (i - (k + 1))) =
      if i < k then cur.testBit i else bitOf (b :: bs) (i - k) := by
  by_cases hi : i < k
  · rw [if_pos (by omega), if_pos hi, Nat.testBit_or, Nat.testBit_shiftLeft, decide_eq_false (by omega),
      Bool.false_and, Bool.or_false]
  · rw [if_neg hi]
    by_cases he : i = k
    · subst he
      rw [if_pos (by omega), Nat.testBit_or, Nat.testBit_lt_two_pow hc, Nat.testBit_shiftLeft, Nat.sub_self,
        oneBit_testBit]
      simp [bitOf]
    · rw [if_neg (by omega), show i - k = (i - (k + 1)) + 1 by omega]
      simp [bitOf]

theorem packBitsAux_spec (x : List Bool) : ∀ (k cur : Nat), k < 8 → cur < 2 ^ k →
    (packBitsAux x k cur).length = (k + x.length + 7) / 8 ∧ WF (packBitsAux x k cur) ∧
    ∀ i, bitAt (packBitsAux x k cur) i = if i < k then cur.testBit i else bitOf x (i - k) := by
  induction x with
  | nil =>
    intro k cur hk hc
    rw [packBitsAux]
    split
    · subst k
      refine ⟨rfl, fun _ h => (nomatch h), fun i => by rw [if_neg (Nat.not_lt_zero i), bitAt_nil]; rfl⟩
    · have hp : 2 ^ k ≤ 2 ^ 8 := Nat.pow_le_pow_right (by decide) (by omega)
      refine ⟨by simp; omega, fun y hy => by simp at hy; omega, fun i => ?_⟩
      rw [bitAt_single]
      by_cases hi : i < k
      · rw [if_pos hi, decide_eq_true (show i < 8 by omega), Bool.true_and]
      · rw [if_neg hi, testBit_of_lt_two_pow hc (Nat.le_of_not_lt hi), Bool.and_false]
        rfl
  | cons b bs ih =>
    intro k cur hk hc
    have hstep := packStep cur k b bs hc
    have hlt : cur ||| ((if b then 1 else 0) <<< k) < 2 ^ (k + 1) :=
      Nat.or_lt_two_pow (Nat.lt_of_lt_of_le hc (Nat.pow_le_pow_right (by decide) (Nat.le_succ k)))
        (oneBit_shiftLeft_lt b (Nat.lt_succ_self k))
    rw [packBitsAux]
    generalize cur ||| ((if b then 1 else 0) <<< k) = cur' at hstep hlt ⊢
    split
    · subst k
      obtain ⟨l1, w1, b1⟩ := ih 0 0 (by decide) (by decide)
      refine ⟨by rw [List.length_cons, l1, List.length_cons]; omega, fun y hy => ?_, fun i => ?_⟩
      · rcases List.mem_cons.mp hy with e | e
        · exact e ▸ hlt
        · exact w1 y e
      · rw [← hstep i, bitAt_cons]
        by_cases hi : i < 8
        · rw [if_pos hi, if_pos hi]
        · rw [if_neg hi, if_neg hi, b1, if_neg (Nat.not_lt_zero _), Nat.sub_zero]
    · obtain ⟨l1, w1, b1⟩ := ih (k + 1) cur' (by omega) hlt
      exact ⟨by rw [l1, List.length_cons]; omega, w1, fun i => by rw [b1, hstep]⟩

theorem packBits_spec (x : List Bool) :
    (packBits x).length = (x.length + 7) / 8 ∧ WF (packBits x) ∧
    ∀ i, bitAt (packBits x) i = (decide (i < x.length) && bitOf x i) := by
  unfold packBits
  obtain ⟨h1, h2, h3⟩ := packBitsAux_spec x 0 0 (by omega) (by simp)
  refine ⟨by simpa using h1, h2, fun i => ?_⟩
  rw [h3, if_neg (Nat.not_lt_zero i), Nat.sub_zero]
  by_cases h : i < x.length
  · rw [decide_eq_true h, Bool.true_and]
  · rw [bitOf_ge x i (Nat.le_of_not_lt h), Bool.and_false]

theorem addUnalignedArrayOfBits_spec (s : Ser) (x : List Bool) (hinv : s.Inv)
    (hroom : s.off / 8 + (x.length + 7) / 8 < s.buf.length) :
    ∃ s', addUnalignedArrayOfBits s x = .ok s' ∧ Appends s s' x.length (bitOf x) := by
  obtain ⟨hlen, hwf, hbits⟩ := packBits_spec x
  exact addBytes_backtrack s (packBits x) x.length hinv hwf (by omega) hbits (by omega)

theorem addAlignedArrayOfBits_spec (s : Ser) (x : List Bool) (hinv : s.Inv) (ha : s.off % 8 = 0)
    (hroom : s.off / 8 + (x.length + 7) / 8 ≤ s.buf.length) :
    ∃ s', addAlignedArrayOfBits s x = .ok s' ∧ Appends s s' x.length (bitOf x) := by
  obtain ⟨hlen, hwf, hbits⟩ := packBits_spec x
  refine ⟨_, ?_, addAlignedCore s (packBits x) x.length hinv ha hwf hbits (by omega)⟩
  simp only [addAlignedArrayOfBits, assertAligned_ok ha, show ¬ (packBits x).length * 8 < x.length by omega,
    if_false, setSlice_ok _ _ _ (show s.off / 8 + (packBits x).length ≤ s.buf.length by omega), bind, Except.bind]

theorem skipBits_appends (s : Ser) (n : Nat) (hinv : s.Inv) :
    Appends s ⟨s.buf, s.off + n⟩ n (fun _ => false) :=
  (Appends.refl hinv _).recount (fun _ _ => rfl) fun _ _ => rfl

theorem addUnalignedBit_false (s : Ser) (hroom : s.off / 8 < s.buf.length) :
    addUnalignedBit s false = .ok ⟨s.buf, s.off + 1⟩ := by
  simp only [addUnalignedBit, get?_ok hroom, set?_ok hroom, bind, Except.bind, Bool.false_eq_true, if_false,
    Nat.zero_shiftLeft, Nat.or_zero, List.set_getElem_self]

theorem padLoop_spec (n : Nat) (hn : 0 < n) (buf : Buf) (fuel : Nat) : ∀ off, padBits off n ≤ fuel →
    (padBits off n ≠ 0 → (off + padBits off n - 1) / 8 < buf.length) →
    padLoop n fuel ⟨buf, off⟩ = .ok ⟨buf, off + padBits off n⟩ := by
  induction fuel with
  | zero =>
    intro off h _
    have h0 := Nat.le_zero.mp h
    simp [padLoop, padBits_eq_zero hn h0, h0]
  | succ fuel ih =>
    intro off h hroom
    rw [padLoop]
    by_cases c : off % n ≠ 0
    · have hs := padBits_succ off n hn c
      have hr := hroom (by omega)
      rw [if_pos c, addUnalignedBit_false ⟨buf, off⟩ (show off / 8 < buf.length by omega)]
      simp only [bind, Except.bind]
      rw [ih (off + 1) (by omega) (fun _ => by omega)]
      congr 2; omega
    · have c' : off % n = 0 := by omega
      rw [if_neg c, padBits_zero off n c']; rfl

theorem padToAlignment_spec (s : Ser) (n : Nat) (hn : 0 < n) (hinv : s.Inv)
    (hroom : padBits s.off n ≠ 0 → (s.off + padBits s.off n - 1) / 8 < s.buf.length) :
    ∃ s', padToAlignment s n = .ok s' ∧ Appends s s' (padBits s.off n) (fun _ => false) ∧ s'.off % n = 0 := by
  unfold padToAlignment
  rw [if_neg (by omega), padLoop_spec n hn s.buf n s.off (Nat.le_of_lt (padBits_lt _ _ hn)) hroom]
  exact ⟨_, rfl, skipBits_appends s _ hinv, padBits_aligned _ _ hn⟩

end NunavutVerif.Bits.Py
