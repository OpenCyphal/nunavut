import NunavutVerif.Lemmas.GenCSerA
import NunavutVerif.Lemmas.DsdlRepr
/-!
The generated C serializer refines `serBits`: the array paths, and the induction along the four mutually recursive
functions of the model (`serAny`, `serFn`, `serNth`, `serFields`).
-/
namespace NunavutVerif.GenC
open NunavutVerif.Dsdl NunavutVerif.Bits
open AOff

def SerOKC (o : Opts) (t : Ty) (v : Val) : Prop :=
  wf t = true → wfC t = true → hasTy t v = true → storageOK t v = true → ∀ cap d buf off,
    Fits buf cap (off + maxBits t) → Adm d off → off % align t = 0 →
    SerRefines (serAny o t v cap d buf off) (serBits t v) buf off

def FnOKC (o : Opts) (t : Ty) (v : Val) : Prop :=
  wf t = true → wfC t = true → isComposite t = true → hasTy t v = true → storageOK t v = true →
    FnOK (serFn o t v) (serBits t v) (maxBits t)

def NthOKC (o : Opts) (fs : List Ty) (k : Nat) (v : Val) : Prop :=
  wfAll fs = true → wfCAll fs = true → hasTyNth fs k v = true → storageOKNth fs k v = true → ∀ cap d buf off,
    Fits buf cap (off + maxOpts fs) → Adm d off → off % 8 = 0 →
    SerRefines (GenC.serNth o fs k v cap d buf off) (Dsdl.serNth fs k v) buf off

def FieldsOKC (o : Opts) (fs : List Ty) (vs : List Val) : Prop :=
  wfAll fs = true → wfCAll fs = true → hasTyFields fs vs = true → storageOKFields fs vs = true →
    ∀ first cap d buf off, Fits buf cap (maxFields fs off) → Adm d off → (first = true → off = 0) →
    SerRefines (GenC.serFields o fs vs first cap d buf off) (Dsdl.serFields fs vs off) buf off

def TrivOK (t : Ty) : Prop :=
  wf t = true → wfC t = true → maxBits t = 0 → ∀ v, hasTy t v = true → serBits t v = .ok []

theorem serFields_triv : ∀ fs : List Ty, (∀ f ∈ fs, TrivOK f) → wfAll fs = true → wfCAll fs = true →
    ∀ vs off, hasTyFields fs vs = true → maxFields fs off = off → Dsdl.serFields fs vs off = .ok [] := by
  intro fs
  induction fs with
  | nil =>
    intro _ _ _ vs off ht _
    cases vs with
    | nil => rfl
    | cons v vs => cases ht
  | cons f fs ih =>
    intro hT hw hwC vs off ht hm
    cases vs with
    | nil => cases ht
    | cons v vs =>
      simp only [hasTyFields, Bool.and_eq_true] at ht
      simp only [wfAll, Bool.and_eq_true] at hw
      simp only [wfCAll, Bool.and_eq_true] at hwC
      obtain ⟨hpad, hmax, hm'⟩ := maxFields_cons_fix hm
      have hf := hT f (by simp) hw.1 hwC.1 hmax v ht.1
      have hpl : padLen (align f) off = 0 := by simp only [padTo] at hpad; omega
      have hrest := ih (fun g hg => hT g (List.mem_cons_of_mem _ hg)) hw.2 hwC.2 vs off ht.2 hm'
      simp only [Dsdl.serFields, hf, hpad, List.length_nil, Nat.add_zero, hrest, hpl, zeros, List.replicate_zero,
        List.append_nil]

theorem trivOK (t : Ty) : TrivOK t := by
  refine ind_triv (P := fun t => ∀ v, hasTy t v = true → serBits t v = .ok []) ?_ ?_ t
  · intro t n hw hwC ih v ht
    cases v with
    | arr vs =>
      simp only [hasTy, Bool.and_eq_true, beq_iff_eq] at ht
      simp only [serBits, ht.1, if_true]
      by_cases hn : n = 0
      · rw [List.eq_nil_of_length_eq_zero (ht.1.trans hn)]; rfl
      · exact serAll_triv (ih hn).2 vs ht.2
    | _ => cases ht
  · intro fs hw hwC hm ih v ht
    cases v with
    | struct vs =>
      simp only [hasTy] at ht
      simp [serBits, serFields_triv fs ih hw hwC vs 0 ht hm, map_ok', padLen, zeros]
    | _ => cases ht

theorem fixedLen_len {t : Ty} (hw : wf t = true) (hf : fixedLen t = true) {v : Val} {bits : List Bool}
    (h : serBits t v = .ok bits) : bits.length = maxBits t := by
  have := lenOK t hw v bits h
  simp only [fixedLen, beq_iff_eq] at hf
  omega

theorem serElems_nonbool (o : Opts) (t : Ty) (ht : t ≠ .bool) (elem : Val → Buf → Nat → Except Err W)
    (vs : List Val) (storN : Nat) (post : Option (Nat × Nat)) (buf : Buf) (off : Nat) :
    serElems o t elem vs storN post buf off =
      if zeroCost o t then
        match liftP (copyBits buf off (vs.length * primBits t) (arrRep t vs storN) 0) with
        | .error e => .error e
        | .ok b => .ok (b, off + vs.length * primBits t)
      else
        match serLoop elem vs buf off with
        | .error e => .error e
        | .ok (b, off') => assertC o (inRange (off' - off) post = true) (.ok (b, off')) := by
  cases t <;> first | exact absurd rfl ht | rfl

/-- `elem` stands for `_serialize_any` behind its assertions, in the C and in the C++ rendering (where `cap` is no
argument of the code), under the descriptor the templates give an element site of an array that holds at most `K + 1`
elements. -/
theorem serLoop_refines (t : Ty) (hw : wf t = true) (elem : Val → Buf → Nat → Except Err W) (cap : Nat)
    (d0 : AOff) (K : Nat)
    (hE : ∀ v buf off, hasTy t v = true ∧ storageOK t v = true → Fits buf cap (off + maxBits t) →
      Adm (d0.add (AOff.rangeRep (resBits t) K AOff.zero)) off → off % align t = 0 →
      SerRefines (elem v buf off) (serBits t v) buf off)
    (off0 : Nat) (hd0 : Adm d0 off0) :
    ∀ (vs : List Val) (buf : Buf) (off j x : Nat), (∀ v ∈ vs, hasTy t v = true ∧ storageOK t v = true) →
      Fits buf cap (off + vs.length * maxBits t) → off % align t = 0 → off = off0 + x →
      Sums (resBits t) j x → j + vs.length ≤ K + 1 →
      SerRefines (serLoop elem vs buf off) (serAllWith (serBits t) vs) buf off := by
  intro vs
  induction vs with
  | nil =>
    intro buf off j x _ _ _ _ _ _
    exact ⟨buf, rfl, Wrote.refl buf off⟩
  | cons v vs ih =>
    intro buf off j x hall hf hal hoff hsum hjk
    rw [List.length_cons] at hjk
    rw [List.length_cons, Nat.succ_mul] at hf
    obtain ⟨hv, hvs⟩ := List.forall_mem_cons.1 hall
    have hadm : Adm (d0.add (AOff.rangeRep (resBits t) K AOff.zero)) off := by
      rw [hoff]; exact adm_add hd0 (adm_rangeRep_zero (sums_mono hsum (by omega)))
    refine SerRefines.seq (hE v buf off hv (hf.mono (by omega)) hadm hal) (fun a b1 ha hw1 => ?_)
    have hlen := lenOK t hw v a ha
    exact ih b1 (off + a.length) (j + 1) (x + a.length) hvs ((hf.after hw1).mono (by omega))
      (add_mod_zero hal hlen.2.2) (by omega) (sums_step hsum (resOK t hw v a ha)) (by omega)

section
variable (o : Opts) (hs : o.Sound)
include hs

theorem SerOKC.guarded {t : Ty} {v : Val} (hT : SerOKC o t v) (hw : wf t = true) (hwC : wfC t = true) (cap : Nat)
    (d : AOff) (buf : Buf) (off : Nat) (hv : hasTy t v = true ∧ storageOK t v = true)
    (hf : Fits buf cap (off + maxBits t)) (hd : Adm d off) (hal : off % align t = 0) :
    SerRefines (anyGuard o t (some (cap * 8)) d off (serAny o t v cap d buf off)) (serBits t v) buf off := by
  rw [anyGuard_ser_ok o hs t _ _ _ _ hal hd hf.room]
  exact hT hw hwC hv.1 hv.2 cap d buf off hf hd hal

theorem serElems_refines (t : Ty) (hT : ∀ v, SerOKC o t v) (hw : wf t = true) (hwC : wfC t = true) (cap : Nat)
    (d0 : AOff) (K : Nat)
    (vs : List Val) (storN : Nat) (post : Option (Nat × Nat)) (buf : Buf) (off : Nat) (hd0 : Adm d0 off)
    (hall : ∀ v ∈ vs, hasTy t v = true ∧ storageOK t v = true)
    (hf : Fits buf cap (off + vs.length * maxBits t)) (hal : off % align t = 0)
    (hk : vs.length ≤ K + 1)
    (hpost : ∀ bits, serAllWith (serBits t) vs = .ok bits → inRange bits.length post = true) :
    SerRefines (serElems o t (fun v b f => anyGuard o t (some (cap * 8)) (d0.add (AOff.rangeRep (resBits t) K AOff.zero)) f
        (serAny o t v cap (d0.add (AOff.rangeRep (resBits t) K AOff.zero)) b f)) vs storN post buf off)
      (serAllWith (serBits t) vs) buf off := by
  by_cases hb : t = .bool
  · subst hb
    -- packed bit array
    rw [serAll_bool vs (fun v hv => (hall v hv).1)]
    simp only [maxBits, Nat.mul_one] at hf
    have hlen : (vs.map asBool).length = vs.length := List.length_map _
    exact .of_wrote hlen (copyMember_wrote buf (packBytes (vs.map asBool)) ((storN + 7) / 8) off vs.length cap
      (vs.map asBool) (WF_packBytes _) (by rw [packBytes_length, hlen]; omega) hf hlen
      (fun i _ => bitAt_packBytes _ i))
  · rw [serElems_nonbool o t hb]
    by_cases hz : zeroCost o t = true
    · -- member array copied as it is
      obtain ⟨bits, hbits, hbl, hwfr, hv⟩ := serAll_zeroCost o t hz hw vs hall
      rw [zeroCost_maxBits hz] at hf
      have hbytes : 8 * (vs.length * (primBits t / 8)) = vs.length * primBits t := by
        rw [Nat.mul_left_comm, mul_div_aligned (zeroCost_mod8 hz)]
      rw [if_pos hz, hbits]
      exact .of_wrote hbl (copyMember_wrote buf (vs.flatMap (elemRep t)) (storN * (primBits t / 8)) off
        (vs.length * primBits t) cap bits hwfr (by rw [flatMap_elemRep_length, hbytes]; exact Nat.le_refl _) hf hbl hv)
    · simp only [hz, Bool.false_eq_true, if_false]
      refine SerRefines.step (serLoop_refines t hw _ cap d0 K (fun v => (hT v).guarded o hs hw hwC cap _) off hd0
        vs buf off 0 0 hall hf hal rfl (sums_zero _ _) (by omega)) (fun e => rfl) fun bits b1 hsa hw1 => ?_
      -- the bounds a fixed-length array asserts behind its loop
      dsimp only
      rw [assertC_ok o (by rw [Nat.add_sub_cancel_left]; exact hpost bits hsa)]
      exact ⟨b1, rfl, hw1⟩

theorem nestedFn_refines {T : Ty} (hw : wf T = true) (hc : isComposite T = true) {v : Val}
    (hfn : FnOK (serFn o T v) (serBits T v) (maxBits T)) (isDelim : Bool) (cap : Nat) (d : AOff) (buf : Buf) (off : Nat)
    (hf : Fits buf cap (off + (if isDelim then 32 else 0) + maxBits T)) (hal : off % 8 = 0) (hd : Adm d off) :
    SerRefines (nestedSer o (serFn o T v) isDelim (fixedLen T) (minBits T) (maxBits T) cap d buf off)
      (if isDelim then (serBits T v).map (fun bs => natToBits 32 (bs.length / 8) ++ bs) else serBits T v) buf off :=
  nestedSer_refines o hs _ _ isDelim _ _ _ hfn (maxBits_composite_mod8 hc) (fun hfx _ hb => fixedLen_len hw hfx hb)
    (fun _ hb => lenOK_bounds hw hb) cap d buf off hf hal hd

theorem SerOKC.of_fn {t : Ty} {v : Val} (hc : isComposite t = true) (hfn : FnOKC o t v)
    (he : ∀ cap d buf off, serAny o t v cap d buf off =
      nestedSer o (serFn o t v) false (fixedLen t) (minBits t) (maxBits t) cap d buf off) : SerOKC o t v := by
  intro hw hwC ht hst cap d buf off hf hd hal
  rw [he]
  rw [align_of_isComposite hc] at hal
  exact nestedFn_refines o hs hw hc (hfn hw hwC hc ht hst) false cap d buf off hf hal hd

omit hs in
theorem struct_fnOK (fs : List Ty) (vs : List Val) (ih : FieldsOKC o fs vs) : FnOKC o (.struct fs) (.struct vs) := by
  intro hw hwC _ ht hst
  have hlen := fun bits => lenOK_bounds hw (v := .struct vs) (bits := bits)
  simp only [wf, wfC, hasTy, storageOK] at hw hwC ht hst
  simp only [serBits] at hlen ⊢
  have hpg := padTo_ge 8 (maxFields fs 0)
  rw [serFn]
  apply topSer_fnOK
  · intro sub capS hf
    rw [maxBits] at hf
    exact ih hw hwC ht hst true capS AOff.zero sub 0 (hf.mono hpg) (adm_zero rfl) (fun _ => rfl)
  · exact hlen
  · intro h0
    rw [maxBits] at h0
    exact serFields_triv fs (fun f _ => trivOK f) hw hwC vs 0 ht (Nat.le_zero.1 (Nat.le_trans hpg (Nat.le_of_eq h0)))

theorem union_fnOK (fs : List Ty) (k : Nat) (v : Val) (ih : NthOKC o fs k v) : FnOKC o (.union fs) (.union k v) := by
  intro hw hwC _ ht hst
  have hlen := fun bits => lenOK_bounds hw (v := .union k v) (bits := bits)
  simp only [wf, wfC, hasTy, storageOK, Bool.and_eq_true, decide_eq_true_eq] at hw hwC ht hst
  rw [serBits_union_nth] at hlen ⊢
  have htb : 8 ≤ tagBits fs.length ∧ tagBits fs.length ≤ 64 ∧ tagBits fs.length % 8 = 0 := stdWidth_bounds _
  have hpg := padTo_ge 8 (tagBits fs.length + maxOpts fs)
  rw [serFn]
  apply topSer_fnOK
  · intro sub capS hf
    rw [maxBits] at hf
    have hfit : Fits sub capS (tagBits fs.length + maxOpts fs) := hf.mono hpg
    refine SerRefines.prefixed (serInt_nat_wrote o hs (tagBits fs.length) (tagBits fs.length) k capS AOff.zero sub 0
      (Nat.le_trans (by decide) htb.1) (Nat.le_refl _) htb.2.2 htb.2.1
      (hfit.mono (by rw [Nat.zero_add]; exact Nat.le_add_right _ _)) (adm_zero rfl)) (fun b1 hw1 => ?_)
    rw [natToBits_length, Nat.zero_add]
    exact ih hw.2 hwC ht hst capS _ b1 _ (hfit.after hw1) (adm_single _) htb.2.2
  · exact hlen
  · intro h0
    rw [maxBits] at h0
    exact absurd (Nat.le_trans (Nat.le_add_right _ _) (Nat.le_trans hpg (Nat.le_of_eq h0)))
      (Nat.not_le.2 (Nat.lt_of_lt_of_le (by decide) htb.1))

/-- By induction along the program: one case per equation of `serAny`, `serFn`, `serNth`, `serFields`. -/
theorem serP : (∀ t v, SerOKC o t v) ∧ (∀ t v, FnOKC o t v) ∧ (∀ fs k v, NthOKC o fs k v) ∧
    ∀ fs vs, FieldsOKC o fs vs := by
  apply serAny.mutual_induct
  · -- uint
    intro n m i hw _ _ hst cap d buf off hf hd _
    simp only [wf, storageOK, decide_eq_true_eq] at hw hst
    simp only [serAny, serBits, SerRefines]
    rw [castU_eq_lowBits n m i hst.1 hst.2]
    exact serInt_wrote o hs false n (storW n) (m == .sat) i cap d buf off hw.1 (storW_ge n hw.2) (storW_mod8 n)
      (storW_le n) hf hd
  · -- sint
    intro n m i hw _ _ hst cap d buf off hf hd _
    simp only [wf, storageOK, decide_eq_true_eq] at hw hst
    simp only [serAny, serBits, SerRefines]
    rw [castS_eq_lowBits n m i hst.1 hst.2]
    exact serInt_wrote o hs true n (storW n) (m == .sat) i cap d buf off hw.1 (storW_ge n hw.2) (storW_mod8 n)
      (storW_le n) hf hd
  · -- float
    intro n m x hw _ ht hst cap d buf off hf hd _
    simp only [wf, hasTy, storageOK, decide_eq_true_eq] at hw ht hst
    simp only [serAny, serBits, SerRefines]
    rw [← floatBits_eq_narrow hw m x ht hst]
    exact serFloat_wrote o hs n m x cap d buf off hw hf hd
  · -- bool
    exact fun b _ _ _ _ cap d buf off hf hd _ => serBool_wrote o hs b cap d buf off hf hd
  · -- void
    intro n _ hwC _ _ cap d buf off hf hd _
    simp only [wfC, decide_eq_true_eq] at hwC
    exact serVoid_wrote o hs n cap d buf off hwC.1 hwC.2 hf hd
  · -- fixed array
    intro t n vs ih hw hwC ht hst cap d buf off hf hd hal
    simp only [wf, wfC, Bool.and_eq_true] at hw hwC
    simp only [hasTy, storageOK, maxBits, align, Bool.and_eq_true, beq_iff_eq, List.all_eq_true] at ht hst hf hal
    rw [← ht.1] at hf
    simp only [serAny, serBits, ht.1, if_true]
    exact serElems_refines o hs t ih hw hwC.2 cap d (n - 1) vs n _ buf off hd (fun v hv => ⟨ht.2 v hv, hst v hv⟩) hf
      hal (by omega)
      (by
        intro bits hb
        have := serAll_len (fun v bs h => lenOK t hw v bs h) vs bits hb
        simp only [inRange, decide_eq_true_eq]
        rw [← ht.1]; exact ⟨this.1, this.2.1⟩)
  · -- variable array
    intro t c vs ih hw hwC ht hst cap d buf off hf hd hal
    simp only [wf, wfC, Bool.and_eq_true, decide_eq_true_eq] at hw hwC
    simp only [hasTy, storageOK, maxBits, align, List.all_eq_true, Bool.and_eq_true,
      decide_eq_true_eq] at ht hst hf hal
    simp only [serAny, serBits]
    by_cases hlen : vs.length > c
    · simp [hlen, SerRefines, embedS]
    · simp only [hlen, if_false]
      have hp : 8 ≤ prefixBits c ∧ prefixBits c ≤ 64 ∧ prefixBits c % 8 = 0 := stdWidth_bounds c
      have hmul : vs.length * maxBits t ≤ c * maxBits t := Nat.mul_le_mul_right _ (by omega)
      refine SerRefines.prefixed (serInt_nat_wrote o hs (prefixBits c) 64 vs.length cap d buf off
        (Nat.le_trans (by decide) hp.1) hp.2.1 (by decide) (by decide) (hf.mono (by omega)) hd) (fun b1 hw1 => ?_)
      rw [natToBits_length, assertC_ok o (fun ho => hs.aligned (adm_add hd (adm_single (prefixBits c))) ho)]
      exact serElems_refines o hs t ih hw.2 hwC cap d c vs c none b1 (off + prefixBits c)
        (adm_add_bytes hp.2.2 hd) (fun v hv => ⟨ht v hv, hst.2 v hv⟩) ((hf.after hw1).mono (by omega))
        (add_mod_zero hal (align_mod_of_mod8 t (stdWidth_mod8 c))) (by omega) (fun _ _ => rfl)
  · -- struct, union as members: calls of the function
    exact fun fs vs ih => .of_fn o hs rfl (struct_fnOK o fs vs ih) fun _ _ _ _ => by simp only [serAny, serFn]
  · exact fun fs k v ih => .of_fn o hs rfl (union_fnOK o hs fs k v ih) fun _ _ _ _ => by simp only [serAny, serFn]
  · -- delimited: the inner type's function behind the header
    intro ext inner v ih hw hwC ht hst cap d buf off hf hd hal
    simp only [wf, wfC, hasTy, storageOK, align, maxBits, headerBits, Bool.and_eq_true,
      decide_eq_true_eq] at hw hwC ht hst hal hf
    obtain ⟨⟨hcomp, hext⟩, hwi⟩ := hw
    rw [serAny, serBits]
    -- the extent bounds the longest representation of the inner type
    exact nestedFn_refines o hs hwi hcomp (ih hwi hwC hcomp ht hst) true cap d buf off
      (hf.mono (Nat.add_assoc off 32 ext ▸ Nat.add_le_add_left hext.2.1 (off + 32))) hal hd
  · -- an object of another shape: the specification has the same catch-all
    intro t v h1 h2 h3 h4 h5 h6 h7 h8 h9 h10 _ _ _ _ cap d buf off _ _ _
    rw [serAny.eq_11 o t v h10 h1 h2 h3 h4 h5 h6 h7 h8 h9, serBits.eq_11 t v h10 h1 h2 h3 h4 h5 h6 h7 h8 h9]
    rfl
  · -- the generated functions
    exact struct_fnOK o
  · exact union_fnOK o hs
  · intro ext inner v ih hw hwC hc
    cases hc
  · intro t x h1 h2 _ _ _ hc ht
    rcases hasTy_composite hc ht with ⟨fs, vs, rfl, rfl⟩ | ⟨fs, k, v, rfl, rfl⟩
    · exact (h1 fs vs rfl rfl).elim
    · exact (h2 fs k v rfl rfl).elim
  · -- union options: the chain runs off its end as the specification does
    exact fun k v _ _ _ _ cap d buf off _ _ _ => rfl
  · intro f fs v ih hw hwC ht hst cap d buf off hf hd hal
    simp only [wfAll, wfCAll, maxOpts, Bool.and_eq_true] at hw hwC hf
    exact ih.guarded o hs hw.1 hwC.1 cap d buf off ⟨ht, hst⟩
      (hf.mono (Nat.add_le_add_left (Nat.le_max_left _ _) off)) hd (align_mod_of_mod8 f hal)
  · intro f fs k v ih hw hwC ht hst cap d buf off hf hd hal
    simp only [wfAll, wfCAll, maxOpts, Bool.and_eq_true] at hw hwC hf
    exact ih hw.2 hwC.2 ht hst cap d buf off (hf.mono (Nat.add_le_add_left (Nat.le_max_right _ _) off)) hd hal
  · -- fields
    intro _ _ _ _ first cap d buf off _ _ _
    exact ⟨buf, rfl, Wrote.refl buf off⟩
  · intro f fs v vs ihv ih hw hwC ht hst first cap d buf off hf hd hfirst
    simp only [hasTyFields, storageOKFields, wfAll, wfCAll, maxFields, Bool.and_eq_true] at ht hst hw hwC hf
    have hge := maxFields_ge fs (padTo (align f) off + maxBits f)
    have hac := align_cases f
    have hadm := adm_pad hac hd
    have hal := padTo_mod hac off
    rw [serFields_cons]
    simp only [GenC.serFields, padSer_first o _ cap buf hfirst]
    refine SerRefines.prefixed (padSer_wrote o (align f) cap buf off hac (hf.mono (by omega))) fun b0 hw0 => ?_
    rw [zeros_length]
    refine SerRefines.seq ?_ (fun a b1 ha hw1 => ?_)
    · exact ihv.guarded o hs hw.1 hwC.1 cap _ b0 _ ⟨ht.1, hst.1⟩ ((hf.after hw0).mono hge) hadm hal
    · have hlen := lenOK f hw.1 v a ha
      exact ih hw.2 hwC.2 ht.2 hst.2 false cap _ b1 (padTo (align f) off + a.length)
        (((hf.after hw0).after hw1).mono (maxFields_mono fs (Nat.add_le_add_left hlen.2.1 _)))
        (adm_add hadm (resOK f hw.1 v a ha)) (fun h => by cases h)
  · intro fs vs h1 h2 _ _ _ _ first cap d buf off _ _ _
    rw [GenC.serFields.eq_3 o fs vs h1 h2, Dsdl.serFields.eq_3 fs vs off h1 h2]
    rfl

omit hs in
theorem serializeC_eq (t : Ty) (v : Val) (buf : Buf) (cap : Nat) :
    serializeC o t v buf cap = serFn o (topInner t) v buf cap := by
  unfold serializeC
  cases t <;> rfl

omit hs in
theorem serFn_tooSmall (T : Ty) (hc : isComposite T = true) (v : Val) (ht : hasTy T v = true) (buf : Buf)
    (cap : Nat) (h : 8 * cap < maxBits T) : serFn o T v buf cap = .error eTooSmall := by
  have hne : maxBits T ≠ 0 := Nat.ne_of_gt (Nat.lt_of_le_of_lt (Nat.zero_le _) h)
  rcases hasTy_composite hc ht with ⟨fs, vs, rfl, rfl⟩ | ⟨fs, k, x, rfl, rfl⟩ <;> exact (if_neg hne).trans (if_pos h)

-- soundness of the oracle plays no part here; the hypothesis is that of `C01_genC_buffer_too_small`
set_option linter.unusedSectionVars false in
theorem serializeC_tooSmall (t : Ty) (hc : isComposite (topInner t) = true) (v : Val) (ht : hasTy t v = true)
    (buf : Buf) (cap : Nat) (h : 8 * cap < maxBits (topInner t)) :
    serializeC o t v buf cap = .error eTooSmall := by
  rw [serializeC_eq o]
  exact serFn_tooSmall o _ hc v ((hasTy_topInner t v).trans ht) buf cap h

end

/-! The contract of a generated function (`FnOK`, and its C++ twin) ends in one `match` on the specification's result;
the theorems about the top level are read off that match, whatever the rendering. -/

/-- Every outcome of one call `run` of a generated serializer on `buf` with capacity `cap`: (b) a buffer that cannot
hold the longest representation is refused; (c) otherwise `run` gives exactly the specified error, or exactly the
specified bytes. -/
def SerTop (run : Except Err (Buf × Nat)) (t : Ty) (v : Val) (buf : Buf) (cap : Nat) : Prop :=
  (8 * cap < maxBits (topInner t) ∧ run = .error eTooSmall) ∨
  (maxBits (topInner t) ≤ 8 * cap ∧
    ((∃ e, serBytes t v = .error e ∧ run = .error (embedS e)) ∨
      ∃ bytes buf', serBytes t v = .ok bytes ∧ run = .ok (buf', bytes.length) ∧ buf'.take bytes.length = bytes ∧
        buf'.length = buf.length ∧ WF buf'))

theorem SerTop.of_fn {run : Except Err (Buf × Nat)} {t : Ty} {v : Val} {buf : Buf} {cap : Nat} (hw : wf t = true)
    (hwf : WF buf) (hcap : cap ≤ buf.length) (hts : 8 * cap < maxBits (topInner t) → run = .error eTooSmall)
    (hfn : maxBits (topInner t) ≤ 8 * cap →
      match serBits (topInner t) v with
      | .ok bits => bits.length % 8 = 0 ∧ ∃ sub', run = .ok (sub', bits.length / 8) ∧ Wrote buf sub' 0 bits
      | .error e => run = .error (embedS e)) : SerTop run t v buf cap := by
  by_cases hroom : 8 * cap < maxBits (topInner t)
  · exact Or.inl ⟨hroom, hts hroom⟩
  have hf := hfn (Nat.le_of_not_lt hroom)
  refine Or.inr ⟨Nat.le_of_not_lt hroom, ?_⟩
  simp only [serBytes, serTop]
  cases hsb : serBits (topInner t) v with
  | error e =>
    rw [hsb] at hf
    exact Or.inl ⟨e, rfl, hf⟩
  | ok bits =>
    rw [hsb] at hf
    obtain ⟨h8, sub', hin, hwr⟩ := hf
    have hlen := lenOK (topInner t) (wf_topInner hw) v bits hsb
    have hbl : (packBytes bits).length = bits.length / 8 := by rw [packBytes_length]; omega
    refine Or.inr ⟨_, sub', rfl, by rw [hin, hbl], ?_, hwr.len, hwr.wf hwf⟩
    rw [hbl]
    apply take_eq_packBytes (hwr.wf hwf) (by rw [hwr.len]; omega) ((packBytes_length bits).symm.trans hbl)
    intro i hi
    simpa using hwr.new i (mul_div_aligned h8 ▸ hi)

section
variable {run : Except Err (Buf × Nat)} {t : Ty} {v : Val} {buf : Buf} {cap : Nat} (h : SerTop run t v buf cap)
include h

theorem SerTop.refines (hroom : maxBits (topInner t) ≤ 8 * cap) :
    match serBytes t v with
    | .ok bytes => ∃ buf', run = .ok (buf', bytes.length) ∧ buf'.take bytes.length = bytes ∧
        buf'.length = buf.length ∧ WF buf'
    | .error e => run = .error (embedS e) := by
  rcases h with ⟨hlt, _⟩ | ⟨_, ⟨e, hb, hr⟩ | ⟨bytes, buf', hb, hr⟩⟩
  · exact absurd hroom (Nat.not_le_of_lt hlt)
  · rw [hb]; exact hr
  · rw [hb]; exact ⟨buf', hr⟩

theorem SerTop.ok {buf' : Buf} {n : Nat} (hr : run = .ok (buf', n)) :
    maxBits (topInner t) ≤ 8 * cap ∧ serBytes t v = .ok (buf'.take n) ∧ (buf'.take n).length = n ∧
      buf'.length = buf.length ∧ WF buf' := by
  rcases h with ⟨_, h1⟩ | ⟨hroom, ⟨e, _, h1⟩ | ⟨bytes, b2, hb, h1, h2, h3, h4⟩⟩ <;> rw [h1] at hr <;> cases hr
  exact ⟨hroom, by rw [h2]; exact hb, by rw [h2], h3, h4⟩

theorem SerTop.error {x : Err} (hr : run = .error x) : ∃ e, serBuf t v cap = .error e ∧ x = embedS e := by
  unfold serBuf
  rcases h with ⟨hlt, h1⟩ | ⟨hroom, ⟨e, hb, h1⟩ | ⟨bytes, buf', _, h1, _⟩⟩ <;> rw [h1] at hr <;> cases hr
  · exact ⟨.bufferTooSmall, if_pos (by omega), rfl⟩
  · exact ⟨e, by rw [if_neg (by omega), hb], rfl⟩

theorem SerTop.exits (ht : hasTy t v = true) :
    (∃ r, run = .ok r ∧ maxBits (topInner t) ≤ 8 * cap) ∨ (run = .error eTooSmall ∧ 8 * cap < maxBits (topInner t)) ∨
      run = .error eBadArrayLength ∨ run = .error eBadUnionTag := by
  rcases h with ⟨hlt, hr⟩ | ⟨hroom, ⟨e, hb, hr⟩ | ⟨bytes, buf', _, hr, _⟩⟩
  · exact Or.inr (Or.inl ⟨hr, hlt⟩)
  · simp only [serBytes, serTop] at hb
    rw [map_eq_error] at hb
    rcases isReject_of_error ((hasTy_topInner t v).trans ht) hb with rfl | rfl
    · exact Or.inr (Or.inr (Or.inl hr))
    · exact Or.inr (Or.inr (Or.inr hr))
  · exact Or.inl ⟨_, hr, hroom⟩

theorem SerTop.eq_serBuf : run.map (fun r => r.1.take r.2) = (serBuf t v cap).mapError embedS := by
  unfold serBuf
  rcases h with ⟨hlt, h1⟩ | ⟨hroom, ⟨e, hb, h1⟩ | ⟨bytes, buf', hb, h1, h2, _⟩⟩ <;> rw [h1]
  · rw [if_pos (by omega)]
    rfl
  · rw [if_neg (by omega), hb]
    rfl
  · rw [if_neg (by omega), hb]
    simp [Except.map, Except.mapError, h2]

end

theorem serializeC_top (o : Opts) (hs : o.Sound) (t : Ty) (hw : wf t = true) (hwC : wfC t = true)
    (hc : isComposite (topInner t) = true) (v : Val) (ht : hasTy t v = true) (hst : storageOK t v = true) (buf : Buf)
    (cap : Nat) (hwf : WF buf) (hcap : cap ≤ buf.length) : SerTop (serializeC o t v buf cap) t v buf cap :=
  .of_fn hw hwf hcap (serializeC_tooSmall o hs t hc v ht buf cap) fun hroom => by
    rw [serializeC_eq o]
    exact (serP o hs).2.1 (topInner t) v (wf_topInner hw) (wfC_topInner hwC) hc ((hasTy_topInner t v).trans ht)
      (storageOK_topInner hst) buf cap ⟨hwf, hroom, hcap⟩

end NunavutVerif.GenC
