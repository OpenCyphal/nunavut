import NunavutVerif.Lemmas.GenCDeA
/-!
The generated C deserializer refines `deBits`: the array paths, and the induction along the four mutually recursive
functions of the model (`deAny`, `deFn`, `deNth`, `deFields`).
-/
namespace NunavutVerif.GenC
open NunavutVerif.Dsdl NunavutVerif.Bits
open AOff

def DeOKC (o : Opts) (t : Ty) : Prop :=
  wf t = true → wfC t = true → ∀ d buf cap off, WF buf → cap ≤ buf.length → Adm d off → off % align t = 0 →
    DeRefines (deAny o t d buf cap off) (deBits t ((bitsOf buf cap).drop off)) cap off

def DeFnOKC (o : Opts) (t : Ty) : Prop :=
  wf t = true → wfC t = true → isComposite t = true → DeFnOK (deFn o t) t

def DeNthOKC (o : Opts) (fs : List Ty) (k : Nat) : Prop :=
  wfAll fs = true → wfCAll fs = true → ∀ d buf cap off, WF buf → cap ≤ buf.length → Adm d off → off % 8 = 0 →
    DeRefines (GenC.deNth o fs k d buf cap off) (Dsdl.deNth fs k ((bitsOf buf cap).drop off)) cap off

/-- the code's offset may lag behind the specification's (`Rel`); both count from the start of the structure -/
def DeFieldsOKC (o : Opts) (fs : List Ty) : Prop :=
  wfAll fs = true → wfCAll fs = true → ∀ first d buf cap offC offS, WF buf → cap ≤ buf.length → Rel cap offC offS →
    Adm d offS → (first = true → offC = 0) →
    DeRefines (GenC.deFields o fs first d buf cap offC) (Dsdl.deFields fs (bitsOf buf cap) offS) cap 0

theorem mod_align_of_rel {t : Ty} {cap c s : Nat} (h : Rel cap c s) (hs : s % align t = 0) : c % align t = 0 := by
  rcases align_cases t with e | e <;> rw [e] at hs ⊢
  · exact Nat.mod_one c
  · rw [h.2.1, hs]

/-- `elem` stands for `_deserialize_any` behind its assertions, in the C rendering and in the `push_back` loop of the
C++ one, under the descriptor the templates give an element site of an array that holds at most `K + 1` elements. -/
theorem deLoop_refines (t : Ty) (hw : wf t = true) (elem : Nat → Except Err (Val × Nat)) (buf : Buf) (cap : Nat)
    (d0 : AOff) (K : Nat)
    (hE : ∀ offC offS, Rel cap offC offS → Adm (d0.add (AOff.rangeRep (resBits t) K AOff.zero)) offS →
      offS % align t = 0 → DeRefines (elem offC) (deBits t ((bitsOf buf cap).drop offS)) cap offS)
    (off0 : Nat) (hd0 : Adm d0 off0) :
    ∀ (k offC offS j x : Nat), Rel cap offC offS → offS = off0 + x → Sums (resBits t) j x → j + k ≤ K + 1 →
      offS % align t = 0 →
      DeRefines (deLoop elem k offC) (deAllWith (deBits t) k ((bitsOf buf cap).drop offS)) cap offS := by
  intro k
  induction k with
  | zero =>
    intro offC offS j x hrel _ _ _ _
    exact ⟨offC, rfl, hrel⟩
  | succ k ih =>
    intro offC offS j x hrel hoff hsum hjk hal
    have hadm : Adm (d0.add (AOff.rangeRep (resBits t) K AOff.zero)) offS := by
      rw [hoff]; exact adm_add hd0 (adm_rangeRep_zero (sums_mono hsum (by omega)))
    rw [deLoop, deAllWith]
    refine DeRefines.step (hE offC offS hrel hadm hal) (fun e => rfl) fun v n off1 hsp hrel1 => ?_
    dsimp only
    rw [List.drop_drop]
    refine DeRefines.step (ih off1 (offS + n) (j + 1) (x + n) hrel1 (by rw [hoff, Nat.add_assoc])
      (sums_step hsum (resOKD t hw _ v n hsp)) (by omega) (add_mod_zero hal (deLen t _ v n hsp).2))
      (fun e => rfl) fun vs m off2 _ hrel2 => ?_
    exact ⟨off2, rfl, Nat.add_assoc _ _ _ ▸ hrel2⟩

section
variable (o : Opts) (hs : o.Sound)
include hs

theorem DeOKC.guarded {t : Ty} (hT : DeOKC o t) (hw : wf t = true) (hwC : wfC t = true) (d : AOff) (buf : Buf)
    (cap offC offS : Nat) (hwf : WF buf) (hcap : cap ≤ buf.length) (hrel : Rel cap offC offS) (hd : Adm d offS)
    (hal : offS % align t = 0) :
    DeRefines (anyGuard o t none d offC (deAny o t d buf cap offC)) (deBits t ((bitsOf buf cap).drop offS)) cap offS := by
  have hadm : Adm d offC := adm_congr hrel.2.1.symm hd
  have halC := mod_align_of_rel hrel hal
  rw [anyGuard_ok o hs t none _ _ _ halC hadm rfl, ← Rel.drop hcap hrel]
  exact (hT hw hwC d buf cap offC hwf hcap hadm halC).rel hrel

theorem deElems_refines (t : Ty) (hT : DeOKC o t) (hw : wf t = true) (hwC : wfC t = true) (buf : Buf) (cap : Nat)
    (hwf : WF buf) (hcap : cap ≤ buf.length) (d0 : AOff) (K : Nat) (count storN off : Nat) (hd0 : Adm d0 off)
    (hc : count ≤ storN) (hk : count ≤ K + 1) (hal : off % align t = 0) :
    DeRefines (deElems o t (fun f => anyGuard o t none (d0.add (AOff.rangeRep (resBits t) K AOff.zero)) f
        (deAny o t (d0.add (AOff.rangeRep (resBits t) K AOff.zero)) buf cap f)) count storN buf cap off)
      (deAllWith (deBits t) count ((bitsOf buf cap).drop off)) cap off := by
  by_cases hb : t = .bool
  · subst hb
    exact deElems_bool o _ count storN buf cap off hcap hc
  · by_cases hz : zeroCost o t = true
    · exact deElems_zeroCost o t hz _ count storN buf cap off hwf hcap hc
    · rw [deElems_nonbool o t hb, if_neg hz]
      exact deLoop_refines t hw _ buf cap d0 K (fun offC offS => hT.guarded o hs hw hwC _ buf cap offC offS hwf hcap)
        off hd0 count off off 0 0 (Rel.refl _ _) rfl (sums_zero _ _) (by omega) hal

omit hs in
theorem DeOKC.of_fn {t : Ty} (hc : isComposite t = true) (hfn : DeFnOKC o t)
    (he : ∀ d buf cap off, deAny o t d buf cap off = nestedDe o (deFn o t) false d buf cap off) : DeOKC o t := by
  intro hw hwC d buf cap off hwf hcap hd hal
  rw [he]
  rw [align_of_isComposite hc] at hal
  exact nestedDe_sealed o _ t (hfn hw hwC hc) (align_of_isComposite hc) d buf cap off hwf hcap hal

omit hs in
theorem struct_deFnOK (fs : List Ty) (ih : DeFieldsOKC o fs) : DeFnOKC o (.struct fs) := by
  intro hw hwC _
  rw [deFn]
  apply topDe_fnOK o _ _ _ (.struct fs) _ (deBits_struct_body fs)
  · intro sub size hwf hsz
    simp only [wf, wfC] at hw hwC
    exact DeRefines.step (ih hw hwC true AOff.zero sub size 0 0 hwf hsz (Rel.refl _ _) (adm_zero rfl) (fun _ => rfl))
      (fun e => rfl) fun vs e off' _ hrel => .ok hrel
  · exact fun h0 bs => deTrivOK (.struct fs) hw hwC h0 bs

theorem union_deFnOK (fs : List Ty) (ih : ∀ k, DeNthOKC o fs k) : DeFnOKC o (.union fs) := by
  intro hw hwC _
  rw [deFn]
  simp only [wf, wfC, Bool.and_eq_true, decide_eq_true_eq] at hw hwC
  have htb : 8 ≤ tagBits fs.length ∧ tagBits fs.length ≤ 64 ∧ tagBits fs.length % 8 = 0 := stdWidth_bounds _
  apply topDe_fnOK o _ _ _ (.union fs) _ (deBits_union_nth fs)
  · intro sub size hwf hsz
    rw [deUint_spec o hs (tagBits fs.length) AOff.zero sub size 0 (Nat.le_trans (by decide) htb.1) htb.2.1 hwf hsz
      (adm_zero rfl), List.drop_zero]
    dsimp only
    exact DeRefines.step (ih _ hw.2 hwC (AOff.single (tagBits fs.length)) sub size (tagBits fs.length) hwf hsz
      (adm_single _) htb.2.2) (fun e => rfl) fun v used off' _ hrel => .ok ((Nat.zero_add _).symm ▸ hrel)
  · intro h0
    rw [maxBits] at h0
    have := padTo_ge 8 (tagBits fs.length + maxOpts fs)
    omega

/-- By induction along the program: one case per equation of `deAny`, `deFn`, `deNth`, `deFields`. -/
theorem deP : (∀ t, DeOKC o t) ∧ (∀ t, DeFnOKC o t) ∧ (∀ fs k, DeNthOKC o fs k) ∧ ∀ fs, DeFieldsOKC o fs := by
  apply deAny.mutual_induct
  · -- uint
    intro n m hw _ d buf cap off hwf hcap hd _
    simp only [wf, decide_eq_true_eq] at hw
    simp only [deAny, deBits, deUint_spec o hs n d buf cap off hw.1 hw.2 hwf hcap hd]
    exact .ok (Rel.refl _ _)
  · -- sint
    intro n m hw _ d buf cap off hwf hcap _ _
    simp only [wf, decide_eq_true_eq] at hw
    simp only [deAny, deBits, deSint_spec o n buf cap off hw.1 hw.2 hwf hcap]
    exact .ok (Rel.refl _ _)
  · -- float
    intro n m hw _ d buf cap off hwf hcap _ _
    simp only [wf, decide_eq_true_eq] at hw
    simp only [deAny, deBits, deFloat_spec o n buf cap off hw hwf hcap]
    exact .ok (Rel.refl _ _)
  · -- bool
    intro _ _ d buf cap off _ hcap hd _
    simp only [deAny, deBits, deBool_spec o hs d buf cap off hcap hd]
    exact .ok (Rel.refl _ _)
  · -- void
    exact fun n _ _ d buf cap off _ _ _ _ => .ok (Rel.refl _ _)
  · -- fixed array
    intro t n ih hw hwC d buf cap off hwf hcap hd hal
    simp only [wf, wfC, align, Bool.and_eq_true] at hw hwC hal
    simp only [deAny, deBits]
    exact DeRefines.step (deElems_refines o hs t ih hw hwC.2 buf cap hwf hcap d (n - 1) n n off hd (Nat.le_refl _)
      (by omega) hal) (fun e => rfl) fun vs used off' _ hrel => .ok hrel
  · -- variable array
    intro t c ih hw hwC d buf cap off hwf hcap hd hal
    simp only [wf, wfC, align, Bool.and_eq_true, decide_eq_true_eq] at hw hwC hal
    have hp : 8 ≤ prefixBits c ∧ prefixBits c ≤ 64 ∧ prefixBits c % 8 = 0 := stdWidth_bounds c
    simp only [deAny, deBits,
      deUint_spec o hs (prefixBits c) d buf cap off (Nat.le_trans (by decide) hp.1) hp.2.1 hwf hcap hd,
      List.drop_drop]
    generalize readNat (prefixBits c) ((bitsOf buf cap).drop off) = k
    by_cases hk : k > c
    · rw [if_pos hk, if_pos hk]; rfl
    · rw [if_neg hk, if_neg hk, assertC_ok o (fun ho => hs.aligned (adm_add hd (adm_single (prefixBits c))) ho)]
      exact DeRefines.step (deElems_refines o hs t ih hw.2 hwC buf cap hwf hcap d c k c (off + prefixBits c)
        (adm_add_bytes hp.2.2 hd) (by omega) (by omega)
        (add_mod_zero hal (align_mod_of_mod8 t hp.2.2))) (fun e => rfl)
        fun vs used off' _ hrel => .ok (Nat.add_assoc _ _ _ ▸ hrel)
  · -- struct, union as members: calls of the function
    exact fun fs ih => .of_fn o rfl (struct_deFnOK o fs ih) fun _ _ _ _ => rfl
  · exact fun fs ih => .of_fn o rfl (union_deFnOK o hs fs ih) fun _ _ _ _ => rfl
  · -- delimited: the inner type's function on the bytes the header announces
    intro ext inner ih hw hwC d buf cap off hwf hcap hd hal
    simp only [wf, wfC, align, Bool.and_eq_true, decide_eq_true_eq] at hw hwC hal
    rw [deAny]
    exact nestedDe_delim o hs _ inner (ih hw.2 hwC hw.1.1) ext d buf cap off hwf hcap hal hd
  · -- the generated functions
    exact struct_deFnOK o
  · exact union_deFnOK o hs
  · intro ext inner _ _ _ hc
    cases hc
  · intro t h1 h2 _ _ _ hc
    cases t with
    | struct fs => exact (h1 fs rfl).elim
    | union fs => exact (h2 fs rfl).elim
    | _ => cases hc
  · -- union options: the chain runs off its end as the specification does
    exact fun k _ _ d buf cap off _ _ _ _ => rfl
  · intro f fs ih hw hwC d buf cap off hwf hcap hd hal
    simp only [wfAll, wfCAll, Bool.and_eq_true] at hw hwC
    exact ih.guarded o hs hw.1 hwC.1 d buf cap off off hwf hcap (Rel.refl _ _) hd (align_mod_of_mod8 f hal)
  · intro f fs k ih hw hwC
    simp only [wfAll, wfCAll, Bool.and_eq_true] at hw hwC
    exact ih hw.2 hwC.2
  · -- fields
    exact fun _ _ first d buf cap offC offS _ _ hrel _ _ => ⟨offC, rfl, by rw [Nat.zero_add]; exact hrel⟩
  · intro f fs ihf ih hw hwC first d buf cap offC offS hwf hcap hrel hd hfirst
    simp only [wfAll, wfCAll, Bool.and_eq_true] at hw hwC
    have ha := align_cases f
    have hadm := adm_pad ha hd
    simp only [Dsdl.deFields, GenC.deFields]
    rw [padDe_first _ hfirst, padDe_eq _ _ ha]
    refine DeRefines.step (ihf.guarded o hs hw.1 hwC.1 _ buf cap _ _ hwf hcap (Rel.pad ha hrel) hadm (padTo_mod ha offS))
      (fun e => rfl) fun v n off1 hsp hr1 => ?_
    dsimp only
    exact DeRefines.step (ih hw.2 hwC.2 false ((d.pad (align f)).add (resBits f)) buf cap off1
      (padTo (align f) offS + n) hwf hcap hr1 (adm_add hadm (resOKD f hw.1 _ v n hsp)) (fun h => by cases h))
      (fun e => rfl) fun vs m off2 _ hrel2 => ⟨off2, rfl, hrel2⟩

omit hs in
theorem deserializeC_eq (t : Ty) (buf : Buf) (cap : Nat) :
    deserializeC o t buf cap = deFn o (topInner t) buf cap := by
  unfold deserializeC
  cases t <;> rfl

omit hs in
/-- what the contract of a generated deserializer function (`DeFnOK`, and its C++ twin) says of a call on all of
`bytes` is `deBytes` -/
theorem deFnOut_eq_deBytes {t : Ty} (hc : isComposite (topInner t) = true) (bytes : Buf) :
    (match deBits (topInner t) (unpackBytes bytes) with
      | .ok (v, used) => .ok (v, min used (8 * bytes.length) / 8)
      | .error e => .error (embedD e) : Except Err (Val × Nat)) = (deBytes t bytes).mapError embedD := by
  simp only [deBytes, deTop, unpackBytes_length bytes]
  cases hsp : deBits (topInner t) (unpackBytes bytes) with
  | error e => rfl
  | ok r =>
    -- a composite ends on a byte boundary: `min(used, 8 * n) / 8` is the specification's rounded-up count
    obtain ⟨u, hu⟩ := Nat.dvd_of_mod_eq_zero (align_of_isComposite hc ▸ (deLen _ _ r.1 r.2 hsp).2)
    simp only [Except.mapError]
    rw [hu, Nat.mul_min_mul_left, Nat.mul_div_cancel_left _ (by decide), Nat.mul_add_div (by decide)]
    rfl

theorem deserializeC_refines (t : Ty) (hw : wf t = true) (hwC : wfC t = true) (hc : isComposite (topInner t) = true)
    (buf : Buf) (cap : Nat) (hwf : WF buf) (hcap : cap ≤ buf.length) :
    deserializeC o t buf cap = (deBytes t (buf.take cap)).mapError embedD := by
  rw [deserializeC_eq o, (deP o hs).2.1 (topInner t) (wf_topInner hw) (wfC_topInner hwC) hc buf cap hwf hcap,
    ← deFnOut_eq_deBytes hc, List.length_take_of_le hcap]
  rfl

end

theorem mapError_embedD_exits {α : Type} (x : Except DeErr α) :
    (∃ r, x.mapError embedD = .ok r) ∨ x.mapError embedD = .error eBadArrayLength ∨
      x.mapError embedD = .error eBadUnionTag ∨ x.mapError embedD = .error eBadDelimiterHeader := by
  cases x with
  | ok r => exact Or.inl ⟨r, rfl⟩
  | error e =>
    cases e
    · exact Or.inr (Or.inl rfl)
    · exact Or.inr (Or.inr (Or.inl rfl))
    · exact Or.inr (Or.inr (Or.inr rfl))

end NunavutVerif.GenC
