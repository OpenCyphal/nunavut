import NunavutVerif.Lemmas.Float16Mul
import NunavutVerif.Lemmas.Float16Law
/-!
The shipped packer `pack`.  Arithmetic form: the bit operations of the C code as `/`, `%`, `+`; `pack` factors
through the sign and, for finite magnitudes, through the key `t = a / 4096` (the 19 bits above the 12 discarded
mantissa bits; `t / 2048` is the binary32 exponent field).  It rounds to nearest: the bracket in the three regions
of the key — the product with `2^-112` is a normal number (exponent field ≥ 113, keys from `231424 = 113·2048`),
it is subnormal but exact (exponent field 101..112), it collapses to zero (exponent field ≤ 100, `|x| < 2^-26`, keys
below `206848 = 101·2048`) — then the overflow boundary, and `MagLaw packMag`.
-/
namespace NunavutVerif.Float16

theorem and_mul_two_pow (x m n : Nat) : x &&& m * 2 ^ n = (x / 2 ^ n &&& m) * 2 ^ n := by
  have h := Nat.div_add_mod' (x &&& m * 2 ^ n) (2 ^ n)
  rw [Nat.and_div_two_pow, Nat.and_mod_two_pow, Nat.mul_div_cancel _ (Nat.two_pow_pos n), Nat.mul_mod_left,
    Nat.and_zero] at h
  exact h.symm

theorem and_mask12 (a : Nat) (ha : a < 4294967296) : a &&& 0xFFFFF000 = a / 4096 * 4096 := by
  rw [show (0xFFFFF000 : Nat) = (2 ^ 20 - 1) * 2 ^ 12 by decide, and_mul_two_pow,
    Nat.and_two_pow_sub_one_of_lt_two_pow (by omega)]

theorem and_top_bit (x n : Nat) (hx : x < 2 ^ (n + 1)) : x &&& 2 ^ n = x / 2 ^ n * 2 ^ n := by
  have : x / 2 ^ n < 2 := Nat.div_lt_of_lt_mul (by rwa [Nat.pow_succ] at hx)
  rw [← Nat.one_mul (2 ^ n), and_mul_two_pow, Nat.and_one_is_mod, Nat.mod_eq_of_lt this, Nat.one_mul]

theorem and_sign (x : Nat) (hx : x < 4294967296) : x &&& 0x80000000 = x / 2147483648 * 2147483648 :=
  and_top_bit x 31 hx

theorem xor_sign (x : Nat) : x ^^^ (x / 2147483648 * 2147483648) = x % 2147483648 := by
  have h := Nat.div_add_mod' (x ^^^ (x / 2 ^ 31 * 2 ^ 31)) (2 ^ 31)
  rw [Nat.xor_div_two_pow, Nat.xor_mod_two_pow, Nat.mul_div_cancel _ (Nat.two_pow_pos 31), Nat.mul_mod_left,
    Nat.xor_self, Nat.xor_zero, Nat.zero_mul, Nat.zero_add] at h
  exact h.symm

theorem sign_shift (x : Nat) (hx : x < 4294967296) :
    x / 2147483648 * 2147483648 / 2 ^ 16 % 65536 = x / 2147483648 * 32768 := by
  have hs : x / 2147483648 < 2 := Nat.div_lt_of_lt_mul hx
  rw [show (2147483648 : Nat) = 32768 * 2 ^ 16 by decide, ← Nat.mul_assoc, Nat.mul_div_cancel _ (Nat.two_pow_pos 16)]
  exact Nat.mod_eq_of_lt (by omega)

theorem or_high (o s n : Nat) (ho : o < 2 ^ n) : o ||| s * 2 ^ n = o + s * 2 ^ n := by
  rw [Nat.or_comm, Nat.mul_comm, ← Nat.two_pow_add_eq_or_of_lt ho, Nat.add_comm]

/-- `pack` of a finite magnitude as a function of the key `t = a / 4096`. -/
def packKey (t : Nat) : Nat := min (f32mul (t * 4096) 0x07800000 + 4096) 0x0F800000 / 8192

/-- `pack` on the magnitude `a = x % 2^31`. -/
def packMag (a : Nat) : Nat :=
  if 0x7F800000 ≤ a then (if a % 8388608 = 0 then 0x7C00 else 0x7E00) else packKey (a / 4096)

theorem packKey_le (t : Nat) : packKey t ≤ 0x7C00 := by
  unfold packKey; omega

theorem packMag_lt (a : Nat) : packMag a < 32768 := by
  unfold packMag
  have := packKey_le (a / 4096)
  split
  · split <;> omega
  · omega

theorem pack_eq (x : Nat) (hx : x < 4294967296) :
    pack x = packMag (x % 2147483648) + x / 2147483648 * 32768 := by
  have ha : x % 2147483648 < 2147483648 := Nat.mod_lt _ (by omega)
  have hc := f32mul_le (x % 2147483648 / 4096 * 4096) 0x07800000
  rw [← or_high _ _ 15 (packMag_lt _)]
  simp only [pack, packMag, packKey, and_sign x hx, xor_sign x, sign_shift x hx,
    and_mask12 _ (Nat.lt_trans ha (by omega)), Nat.and_two_pow_sub_one_eq_mod _ 23, cond_eq_ite, Nat.ble_eq,
    Nat.beq_eq, Nat.blt_eq, Nat.shiftRight_eq_div_pow]
  generalize x % 2147483648 = a at ha hc ⊢
  generalize f32mul _ _ = c at hc ⊢
  congr 1
  split
  · -- infinity and NaNs: a zero mantissa means infinity, so `0x7FFF` is never produced
    split
    · exact if_neg (by omega)
    · rfl
  · -- finite: subtracting the mask `0xFFFFF000` modulo `2^32` is adding `4096`, which does not overflow
    rw [show (c + 4294967296 - 4294963200) % 4294967296 = c + 4096 by omega]
    split <;> omega

theorem f32mul_magic_exact (a c : Nat) (ha : a < 2139095040) (hc : c < 2147483648)
    (h : F32.mag a = F32.mag c * 2 ^ 112) : f32mul a 0x07800000 = c := by
  rw [show (0x07800000 : Nat) = 15 * 8388608 by decide]
  exact f32mul_pow2_eq a 15 c (by omega) (by omega) (by omega) (by omega) hc (by rw [h, two_pow_merge _ 112 15 127 rfl])

/-- What a region of keys has to supply: the pattern `c` with `|key| = 2^112·|c|` (`ec`), the same for the next key
(`ec'`), and that the latter does not pass the midpoint above the result (`h2`); the rest is the same for all of
them. -/
theorem packKey_scaled (t j c c' : Nat) (ht : t < 522239) (hj : j < 4096) (hc' : c' < 2147483648)
    (ec : F32.mag (t * 4096) = F32.mag c * 2 ^ 112) (ec' : F32.mag ((t + 1) * 4096) = F32.mag c' * 2 ^ 112)
    (hr : (c + 4096) / 8192 < 31744) (h2 : c' ≤ (c + 4096) / 8192 * 8192 + 4096) :
    packKey t < 31744 ∧ Bracket (t * 4096 + j) (packKey t) := by
  have lo := F32.mag_mono (t * 4096) (t * 4096 + j) (by omega) (by omega)
  have hi := F32.mag_mono (t * 4096 + j) ((t + 1) * 4096) (by omega) (by omega)
  -- `clear`: with a fact that mentions `2 ^ 112` in the context the kernel rejects omega's proof (deep recursion)
  have hc : c < 2147483648 ∧ min (c + 4096) 0x0F800000 / 8192 = (c + 4096) / 8192 ∧
      (c + 4096) / 8192 * 8192 ≤ c + 4096 := by clear ec ec'; omega
  rw [packKey, f32mul_magic_exact _ c (by clear ec ec'; omega) hc.1 ec, hc.2.1]
  rw [ec] at lo
  rw [ec'] at hi
  exact ⟨hr, (bracket_scaled _ c c' _ hr hc.1 hc' lo hi hc.2.2 h2).1⟩

theorem bracket_affine (t j : Nat) (h1 : 231424 ≤ t) (h2 : t < 292863) (hj : j < 4096) :
    packKey t < 31744 ∧ Bracket (t * 4096 + j) (packKey t) :=
  packKey_scaled t j (t * 4096 - 939524096) ((t + 1) * 4096 - 939524096) (by omega) hj (by omega)
    (F32.mag_unbias _ (by omega) (by omega)) (F32.mag_unbias _ (by omega) (by omega)) (by omega) (by omega)

/-- `292863 = 0x477FF` is the key of `65520`, `522240 = 0x7F800` that of infinity. -/
theorem packKey_overflow (t : Nat) (h1 : 292863 ≤ t) (h2 : t < 522240) : packKey t = 31744 := by
  unfold packKey
  rw [f32mul_magic_exact _ (t * 4096 - 939524096) (by omega) (by omega) (F32.mag_unbias _ (by omega) (by omega))]
  omega

theorem f32mul_magic_small (b : Nat) (h : b < 101 * 8388608) : f32mul b 0x07800000 < 4096 := by
  have hs := F32.sig_lt b
  have he := (F32.exp_bounds b 100 (by omega) h).2
  rw [show (0x07800000 : Nat) = 15 * 8388608 by decide, f32mul_pow2 b 15 (by omega)]
  exact f32round_small _ _ (by omega) (by omega)

theorem packKey_zero (t : Nat) (h : t < 206848) : packKey t = 0 := by
  unfold packKey
  have := f32mul_magic_small (t * 4096) (by omega)
  omega

/-- A key with exponent field `e` in 101..112 and 12-bit significand `n` (`n = 4096`: the first key of the next
binade) is `2^112` times `n` shifted by `e - 101`: the 12 mantissa bits masked off beforehand are exactly those
that the multiplication would shift out. -/
theorem key_scaled (e n : Nat) (he1 : 101 ≤ e) (he2 : e ≤ 112) (hn1 : 2048 ≤ n) (hn2 : n ≤ 4096) :
    F32.mag (((e - 1) * 2048 + n) * 4096) = F32.mag (n * 2 ^ (e - 101)) * 2 ^ 112 := by
  have hc : n * 2 ^ (e - 101) ≤ 4096 * 2 ^ 11 := Nat.mul_le_mul hn2 (Nat.pow_le_pow_right (by omega) (by omega))
  rw [F32.mag_small (n * 2 ^ (e - 101)) (by omega),
    show ((e - 1) * 2048 + n) * 4096 = (e - 1) * 8388608 + n * 4096 by omega,
    F32.mag_normal (e - 1) _ (by omega) (by omega) (by omega), show (4096 : Nat) = 2 ^ 12 from rfl]
  exact two_pow_regroup _ _ _ _ _ (by omega)

theorem key_next (n D D' r : Nat) (hD : D' * D = 4096) (hr : (n * D + 4096) / 8192 = r) :
    r * 8192 ≤ n * D + 4096 ∧ (n + 1) * D ≤ r * 8192 + 4096 := by
  have h : n * D < (2 * r + 1) * D' * D := by rw [Nat.mul_assoc, hD]; omega
  have h' := Nat.mul_le_mul_right D (Nat.succ_le_of_lt (Nat.lt_of_mul_lt_mul_right h))
  rw [Nat.mul_assoc, hD] at h'
  exact ⟨by omega, Nat.le_trans h' (by omega)⟩

theorem bracket_key (e n j : Nat) (he1 : 101 ≤ e) (he2 : e ≤ 112) (hn1 : 2048 ≤ n) (hn2 : n < 4096) (hj : j < 4096) :
    packKey ((e - 1) * 2048 + n) < 31744 ∧
    Bracket (((e - 1) * 2048 + n) * 4096 + j) (packKey ((e - 1) * 2048 + n)) := by
  have hc : n * 2 ^ (e - 101) < 4096 * 2 ^ 11 :=
    Nat.mul_lt_mul_of_lt_of_le hn2 (Nat.pow_le_pow_right (by omega) (by omega)) (Nat.two_pow_pos _)
  -- the next key's product is the next multiple of `2^(e-101)`
  obtain ⟨h1, h2⟩ := key_next n (2 ^ (e - 101)) (2 ^ (12 - (e - 101))) _
    (by rw [← Nat.pow_add, show 12 - (e - 101) + (e - 101) = 12 by omega]) rfl
  have ec' := key_scaled e (n + 1) he1 he2 (by omega) (by omega)
  rw [← Nat.add_assoc] at ec'
  exact packKey_scaled _ j _ _ (by omega) hj (by omega) (key_scaled e n he1 he2 hn1 (by omega)) ec' (by omega) h2

theorem packKey_bracket (t j : Nat) (ht : t < 292863) (hj : j < 4096) :
    packKey t < 31744 ∧ Bracket (t * 4096 + j) (packKey t) := by
  by_cases h1 : t < 206848
  · rw [packKey_zero t h1]
    exact ⟨by omega, bracket_zero _ (by omega)⟩
  · by_cases h2 : t < 231424
    · have := bracket_key (t / 2048) (t % 2048 + 2048) j (by omega) (by omega) (by omega) (by omega) hj
      rwa [show (t / 2048 - 1) * 2048 + (t % 2048 + 2048) = t by omega] at this
    · exact bracket_affine t j (by omega) ht hj

theorem packMag_fin (a : Nat) (h : a < 2139095040) : packMag a = packKey (a / 4096) := by
  unfold packMag; rw [if_neg (by omega)]

theorem packMag_bracket (a : Nat) (ha : a < 1199566848) : packMag a < 31744 ∧ Bracket a (packMag a) := by
  have := packKey_bracket (a / 4096) (a % 4096) (by omega) (Nat.mod_lt _ (by omega))
  rw [Nat.div_add_mod' a 4096, ← packMag_fin a (by omega)] at this
  exact this

theorem packMag_top (a : Nat) (h1 : 1199566848 ≤ a) (h2 : a ≤ 2139095040) : packMag a = 31744 := by
  by_cases h : a = 2139095040
  · rw [h]; decide
  · rw [packMag_fin a (by omega)]; exact packKey_overflow _ (by omega) (by omega)

theorem packMag_nan (a : Nat) (h1 : 2139095040 < a) (h2 : a < 2147483648) : 31744 < packMag a := by
  unfold packMag
  rw [if_pos (by omega), if_neg (by omega)]
  decide

theorem magLaw_pack : MagLaw packMag :=
  .of_bracket packMag_lt packMag_bracket packMag_top packMag_nan

theorem packs_pack : Packs pack packMag := pack_eq

theorem F16.neg_pack (x : Nat) (hx : x < 4294967296) : F16.neg (pack x) = F32.neg x :=
  gen_neg packs_pack magLaw_pack x hx

theorem F16.mag_pack (x : Nat) (hx : x < 4294967296) : F16.mag (pack x) = F16.mag (packMag (x % 2147483648)) :=
  gen_mag packs_pack magLaw_pack x hx

end NunavutVerif.Float16
