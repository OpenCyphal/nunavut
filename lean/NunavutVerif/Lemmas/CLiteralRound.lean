import NunavutVerif.Model.CLiteral
/-!
Binary rounding as integer arithmetic: `roundNat p N D` is round-to-nearest-even of the fraction `N / D` to `p` bits.
All bounds and distances are scaled by the denominator, so that everything stays in `Nat`; the last result bounds the
error of rounding twice.
-/
namespace NunavutVerif.CLiteral

theorem pow2_le {a b : Nat} (h : a ≤ b) : 2 ^ a ≤ 2 ^ b := Nat.pow_le_pow_right (by decide) h
theorem pow2_lt_iff {a b : Nat} : 2 ^ a < 2 ^ b ↔ a < b := Nat.pow_lt_pow_iff_right (by decide)

theorem flog2Q_spec {N D : Nat} (hD : 0 < D) (h : D ≤ N) :
    D * 2 ^ (flog2Q N D) ≤ N ∧ N < D * 2 ^ (flog2Q N D + 1) := by
  have a1 : 2 ^ N.log2 ≤ N := Nat.log2_self_le (by omega)
  have a2 : N < 2 ^ (N.log2 + 1) := Nat.lt_log2_self
  have b1 : 2 ^ D.log2 ≤ D := Nat.log2_self_le (by omega)
  have b2 : D < 2 ^ (D.log2 + 1) := Nat.lt_log2_self
  have hab : D.log2 ≤ N.log2 := (Nat.le_log2 (by omega)).2 (Nat.le_trans b1 h)
  unfold flog2Q
  simp only
  obtain ⟨k, hk⟩ : ∃ k, N.log2 = D.log2 + k := ⟨_, (Nat.add_sub_cancel' hab).symm⟩
  rw [hk] at a1 a2
  rw [hk, Nat.add_sub_cancel_left]
  have up : N < D * 2 ^ (k + 1) :=
    calc N < 2 ^ D.log2 * 2 ^ (k + 1) := by rw [← Nat.pow_add, ← Nat.add_assoc]; exact a2
      _ ≤ D * 2 ^ (k + 1) := Nat.mul_le_mul_right _ b1
  split
  · exact ⟨‹_›, up⟩
  · rename_i hlt
    cases k with
    | zero => exact absurd (by simpa using h) hlt
    | succ j =>
      refine ⟨?_, Nat.lt_of_not_le hlt⟩
      calc D * 2 ^ j ≤ 2 ^ (D.log2 + 1) * 2 ^ j := Nat.mul_le_mul_right _ (Nat.le_of_lt b2)
        _ = 2 ^ (D.log2 + (j + 1)) := by rw [← Nat.pow_add, Nat.add_right_comm, Nat.add_assoc]
        _ ≤ N := a1

theorem binade_le {N D a b : Nat} (ha : D * 2 ^ a ≤ N) (hb : N < D * 2 ^ (b + 1)) : a ≤ b := by
  apply Nat.le_of_not_lt
  intro h
  have : D * 2 ^ (b + 1) ≤ D * 2 ^ a := Nat.mul_le_mul_left _ (pow2_le h)
  omega

theorem binade_unique {N D a b : Nat}
    (ha : D * 2 ^ a ≤ N ∧ N < D * 2 ^ (a + 1)) (hb : D * 2 ^ b ≤ N ∧ N < D * 2 ^ (b + 1)) : a = b :=
  Nat.le_antisymm (binade_le ha.1 hb.2) (binade_le hb.1 ha.2)

theorem flog2Q_eq {N D a : Nat} (hD : 0 < D) (ha : D * 2 ^ a ≤ N ∧ N < D * 2 ^ (a + 1)) :
    flog2Q N D = a := by
  have h : D ≤ N := by
    have : D * 1 ≤ D * 2 ^ a := Nat.mul_le_mul_left _ (Nat.two_pow_pos a)
    omega
  exact binade_unique (flog2Q_spec hD h) ha

theorem cross_le {N D N' D' k : Nat} (hD' : 0 < D') (h : N * D' = N' * D) (hk : D' * k ≤ N') : D * k ≤ N := by
  apply Nat.le_of_mul_le_mul_right _ hD'
  calc D * k * D' = (D' * k) * D := by ac_rfl
    _ ≤ N' * D := Nat.mul_le_mul_right _ hk
    _ = N * D' := h.symm

theorem cross_lt {N D N' D' k : Nat} (hD : 0 < D) (h : N * D' = N' * D) (hk : N' < D' * k) : N < D * k := by
  apply Nat.lt_of_mul_lt_mul_right (a := D')
  calc N * D' = N' * D := h
    _ < (D' * k) * D := Nat.mul_lt_mul_of_pos_right hk hD
    _ = D * k * D' := by ac_rfl

theorem one_le_congr {N D N' D' : Nat} (hD : 0 < D) (hD' : 0 < D') (h : N * D' = N' * D) : D ≤ N ↔ D' ≤ N' := by
  have a := cross_le (k := 1) hD h.symm
  have b := cross_le (k := 1) hD' h
  rw [Nat.mul_one, Nat.mul_one] at a b
  exact ⟨a, b⟩

theorem flog2Q_congr {N D N' D' : Nat} (hD : 0 < D) (hD' : 0 < D') (h : N * D' = N' * D) (hle : D ≤ N) :
    flog2Q N D = flog2Q N' D' := by
  have s := flog2Q_spec hD' ((one_le_congr hD hD' h).1 hle)
  exact flog2Q_eq hD ⟨cross_le hD' h s.1, cross_lt hD h s.2⟩

theorem expOf_congr {p N D N' D' : Nat} (hD : 0 < D) (hD' : 0 < D') (h : N * D' = N' * D) :
    expOf p N D = expOf p N' D' := by
  unfold expOf
  by_cases hle : D ≤ N
  · have hle' := (one_le_congr hD hD' h).1 hle
    rw [if_pos hle, if_pos hle', flog2Q_congr hD hD' h hle]
  · have hle' : ¬ D' ≤ N' := fun x => hle ((one_le_congr hD hD' h).2 x)
    rw [if_neg hle, if_neg hle']

theorem rneDiv_scale {k N den : Nat} (hk : 0 < k) : rneDiv (k * N) (k * den) = rneDiv N den := by
  unfold rneDiv
  simp only [Nat.mul_div_mul_left _ _ hk, Nat.mul_mod_mul_left]
  have e1 : (2 * (k * (N % den)) < k * den) ↔ (2 * (N % den) < den) := by
    rw [show 2 * (k * (N % den)) = k * (2 * (N % den)) by ac_rfl]
    exact Nat.mul_lt_mul_left hk
  have e2 : (k * den < 2 * (k * (N % den))) ↔ (den < 2 * (N % den)) := by
    rw [show 2 * (k * (N % den)) = k * (2 * (N % den)) by ac_rfl]
    exact Nat.mul_lt_mul_left hk
  simp only [e1, e2]

theorem rneDiv_congr {N den N' den' : Nat} (hd : 0 < den) (hd' : 0 < den') (h : N * den' = N' * den) :
    rneDiv N den = rneDiv N' den' := by
  rw [← rneDiv_scale (k := den') (N := N) (den := den) hd', ← rneDiv_scale (k := den) (N := N') (den := den') hd]
  rw [show den' * N = den * N' by rw [Nat.mul_comm, h, Nat.mul_comm], Nat.mul_comm den' den]

theorem roundNat_congr {p N D N' D' : Nat} (hD : 0 < D) (hD' : 0 < D') (h : N * D' = N' * D) :
    roundNat p N D = roundNat p N' D' := by
  unfold roundNat
  simp only
  rw [expOf_congr hD hD' h]
  generalize expOf p N' D' = E
  have : rneDiv N (D * 2 ^ E) = rneDiv N' (D' * 2 ^ E) := by
    apply rneDiv_congr (Nat.mul_pos hD (Nat.two_pow_pos E)) (Nat.mul_pos hD' (Nat.two_pow_pos E))
    calc N * (D' * 2 ^ E) = (N * D') * 2 ^ E := by ac_rfl
      _ = (N' * D) * 2 ^ E := by rw [h]
      _ = N' * (D * 2 ^ E) := by ac_rfl
  rw [this]

theorem rneDiv_cases (N den : Nat) (hd : 0 < den) :
    ∃ q r, N = q * den + r ∧ r < den ∧
      ((2 * r < den ∧ rneDiv N den = q) ∨ (den < 2 * r ∧ rneDiv N den = q + 1) ∨
       (2 * r = den ∧ q % 2 = 0 ∧ rneDiv N den = q) ∨ (2 * r = den ∧ q % 2 = 1 ∧ rneDiv N den = q + 1)) := by
  refine ⟨N / den, N % den, ?_, Nat.mod_lt _ hd, ?_⟩
  · rw [Nat.mul_comm]; exact (Nat.div_add_mod N den).symm
  · unfold rneDiv
    simp only
    by_cases h1 : 2 * (N % den) < den
    · left; exact ⟨h1, by rw [if_pos h1]⟩
    · by_cases h2 : den < 2 * (N % den)
      · right; left; exact ⟨h2, by rw [if_neg h1, if_pos h2]⟩
      · have h3 : 2 * (N % den) = den := by omega
        by_cases h4 : N / den % 2 = 0
        · right; right; left; exact ⟨h3, h4, by rw [if_neg h1, if_neg h2, if_pos h4]⟩
        · right; right; right; exact ⟨h3, by omega, by rw [if_neg h1, if_neg h2, if_neg h4]⟩

theorem rneDiv_bounds (N den : Nat) (hd : 0 < den) :
    2 * (rneDiv N den * den) ≤ 2 * N + den ∧ 2 * N ≤ 2 * (rneDiv N den * den) + den := by
  obtain ⟨q, r, hN, hr, h⟩ := rneDiv_cases N den hd
  rcases h with ⟨h, e⟩ | ⟨h, e⟩ | ⟨h, _, e⟩ | ⟨h, _, e⟩ <;> rw [e] <;> subst hN
  · generalize q * den = X; omega
  · rw [Nat.add_mul]; generalize q * den = X; omega
  · generalize q * den = X; omega
  · rw [Nat.add_mul]; generalize q * den = X; omega

theorem rneDiv_tie_even {N den : Nat} (h : 2 * (N % den) = den) : rneDiv N den % 2 = 0 := by
  unfold rneDiv
  simp only
  rw [if_neg (by omega), if_neg (by omega)]
  split <;> omega

theorem rneDiv_exact (q den : Nat) (hd : 0 < den) : rneDiv (q * den) den = q := by
  unfold rneDiv
  simp only [Nat.mul_mod_left, Nat.mul_div_cancel _ hd]
  rw [if_pos (by omega)]

theorem mul_sep (a b den : Nat) : a * den = b * den ∨ a * den + den ≤ b * den ∨ b * den + den ≤ a * den := by
  rcases Nat.lt_trichotomy a b with h | h | h
  · exact .inr (.inl (by rw [← Nat.succ_mul]; exact Nat.mul_le_mul_right _ h))
  · exact .inl (by rw [h])
  · exact .inr (.inr (by rw [← Nat.succ_mul]; exact Nat.mul_le_mul_right _ h))

theorem rneDiv_le_of_le_mul {N den A : Nat} (hd : 0 < den) (h : N ≤ A * den) : rneDiv N den ≤ A := by
  apply Nat.le_of_not_lt
  intro hlt
  have hb := (rneDiv_bounds N den hd).1
  have := Nat.mul_le_mul_right den hlt
  rw [Nat.succ_mul] at this
  omega

theorem le_rneDiv_of_mul_le {N den A : Nat} (hd : 0 < den) (h : A * den ≤ N) : A ≤ rneDiv N den := by
  apply Nat.le_of_not_lt
  intro hlt
  have hb := (rneDiv_bounds N den hd).2
  have := Nat.mul_le_mul_right den hlt
  rw [Nat.succ_mul] at this
  omega

theorem rneDiv_nearest (N den k : Nat) (hd : 0 < den) :
    (((rneDiv N den * den : Nat) : Int) - (N : Int)).natAbs ≤ (((k * den : Nat) : Int) - (N : Int)).natAbs := by
  have hb := rneDiv_bounds N den hd
  have hs := mul_sep (rneDiv N den) k den
  generalize rneDiv N den * den = X at hb hs ⊢
  generalize k * den = Y at hs ⊢
  -- `X` is within half a unit `den` of `N`; `Y` is `X` or a whole unit away from it
  omega

theorem below_binade {p m E E0 : Nat} (hm : m < 2 ^ p) (hE : E < E0) : m * 2 ^ E < 2 ^ (p - 1) * 2 ^ E0 :=
  calc m * 2 ^ E < 2 ^ p * 2 ^ E := Nat.mul_lt_mul_of_pos_right hm (Nat.two_pow_pos E)
    _ ≤ 2 ^ (p - 1) * 2 ^ E0 := by rw [← Nat.pow_add, ← Nat.pow_add]; exact pow2_le (by omega)

theorem expOf_upper {p N D : Nat} (hD : 0 < D) : N < 2 ^ p * (D * 2 ^ expOf p N D) := by
  unfold expOf
  by_cases hle : D ≤ N
  · rw [if_pos hle]
    have s := (flog2Q_spec hD hle).2
    generalize flog2Q N D = L at s
    have : 2 ^ (L + 1) ≤ 2 ^ (p + (L + 1 - p)) := pow2_le (by omega)
    calc N < D * 2 ^ (L + 1) := s
      _ ≤ D * 2 ^ (p + (L + 1 - p)) := Nat.mul_le_mul_left _ this
      _ = 2 ^ p * (D * 2 ^ (L + 1 - p)) := by rw [Nat.pow_add]; ac_rfl
  · rw [if_neg hle]
    have : D * 1 ≤ D * (2 ^ p * 2 ^ (0 + 1 - p)) :=
      Nat.mul_le_mul_left _ (Nat.mul_pos (Nat.two_pow_pos p) (Nat.two_pow_pos _))
    calc N < D * 1 := by omega
      _ ≤ D * (2 ^ p * 2 ^ (0 + 1 - p)) := this
      _ = 2 ^ p * (D * 2 ^ (0 + 1 - p)) := by ac_rfl

theorem expOf_lower {p N D : Nat} (hp : 1 ≤ p) (hD : 0 < D) (hE : 0 < expOf p N D) :
    2 ^ (p - 1) * (D * 2 ^ expOf p N D) ≤ N := by
  unfold expOf at hE ⊢
  by_cases hle : D ≤ N
  · rw [if_pos hle] at hE ⊢
    have s := (flog2Q_spec hD hle).1
    generalize flog2Q N D = L at s hE
    have e : p - 1 + (L + 1 - p) = L := by omega
    calc 2 ^ (p - 1) * (D * 2 ^ (L + 1 - p)) = D * 2 ^ (p - 1 + (L + 1 - p)) := by rw [Nat.pow_add]; ac_rfl
      _ = D * 2 ^ L := by rw [e]
      _ ≤ N := s
  · rw [if_neg hle] at hE; omega

theorem roundNat_value {p N D m E : Nat} (hp : 1 ≤ p) (h : roundNat p N D = (m, E)) :
    m * 2 ^ E = rneDiv N (D * 2 ^ expOf p N D) * 2 ^ expOf p N D := by
  unfold roundNat at h
  simp only at h
  split at h <;> cases h
  · rename_i hc
    have : 2 ^ p = 2 ^ (p - 1) * 2 := by rw [← Nat.pow_succ]; congr 1; omega
    rw [hc, this, Nat.pow_succ]; ac_rfl
  · rfl

theorem roundNat_canonical {p N D m E : Nat} (hp : 1 ≤ p) (hD : 0 < D) (h : roundNat p N D = (m, E)) :
    m < 2 ^ p ∧ (E = 0 ∨ 2 ^ (p - 1) ≤ m) := by
  have hden : 0 < D * 2 ^ expOf p N D := Nat.mul_pos hD (Nat.two_pow_pos _)
  have hup : rneDiv N (D * 2 ^ expOf p N D) ≤ 2 ^ p :=
    rneDiv_le_of_le_mul hden (Nat.le_of_lt (expOf_upper hD))
  unfold roundNat at h
  simp only at h
  split at h <;> cases h
  · exact ⟨pow2_lt_iff.2 (by omega), Or.inr (Nat.le_refl _)⟩
  · refine ⟨by omega, ?_⟩
    by_cases hE : expOf p N D = 0
    · exact Or.inl hE
    · exact Or.inr (le_rneDiv_of_mul_le hden (expOf_lower hp hD (by omega)))

theorem roundNat_half_ulp {p N D m E : Nat} (hp : 1 ≤ p) (hD : 0 < D) (h : roundNat p N D = (m, E)) :
    2 * (m * 2 ^ E * D) ≤ 2 * N + 2 ^ E * D ∧ 2 * N ≤ 2 * (m * 2 ^ E * D) + 2 ^ E * D := by
  have hb := rneDiv_bounds N _ (Nat.mul_pos hD (Nat.two_pow_pos (expOf p N D)))
  have hE : D * 2 ^ expOf p N D ≤ 2 ^ E * D := by
    rw [Nat.mul_comm D]
    apply Nat.mul_le_mul_right
    apply pow2_le
    unfold roundNat at h
    simp only at h
    split at h <;> cases h <;> omega
  rw [roundNat_value hp h, Nat.mul_assoc (rneDiv _ _), Nat.mul_comm (2 ^ expOf p N D) D]
  generalize rneDiv N (D * 2 ^ expOf p N D) * (D * 2 ^ expOf p N D) = X at hb ⊢
  generalize D * 2 ^ expOf p N D = Y at hb hE
  generalize 2 ^ E * D = Z at hE ⊢
  omega

theorem roundNat_nearest {p N D m E : Nat} (hp : 1 ≤ p) (hD : 0 < D) (h : roundNat p N D = (m, E)) (m' E' : Nat)
    (hm' : m' < 2 ^ p) :
    (((m * 2 ^ E * D : Nat) : Int) - (N : Int)).natAbs ≤ (((m' * 2 ^ E' * D : Nat) : Int) - (N : Int)).natAbs := by
  rw [roundNat_value hp h]
  generalize hE0 : expOf p N D = E0
  have hden : 0 < D * 2 ^ E0 := Nat.mul_pos hD (Nat.two_pow_pos _)
  rw [Nat.mul_assoc (rneDiv _ _), Nat.mul_comm (2 ^ E0) D]
  by_cases hE : E0 ≤ E'
  · -- the other member is a multiple of the unit `D * 2^E0` as well
    obtain ⟨j, rfl⟩ : ∃ j, E' = E0 + j := ⟨E' - E0, by omega⟩
    rw [show m' * 2 ^ (E0 + j) * D = (m' * 2 ^ j) * (D * 2 ^ E0) by rw [Nat.pow_add]; ac_rfl]
    exact rneDiv_nearest N (D * 2 ^ E0) (m' * 2 ^ j) hden
  · -- the other member lies below `2^(p-1)` units, a multiple of the unit that is not above `N`
    have low : 2 ^ (p - 1) * (D * 2 ^ E0) ≤ N := hE0 ▸ expOf_lower hp hD (by omega)
    have hy : m' * 2 ^ E' * D ≤ 2 ^ (p - 1) * (D * 2 ^ E0) := by
      rw [Nat.mul_comm D, ← Nat.mul_assoc]
      exact Nat.mul_le_mul_right _ (Nat.le_of_lt (below_binade hm' (by omega)))
    refine Nat.le_trans (rneDiv_nearest N (D * 2 ^ E0) (2 ^ (p - 1)) hden) ?_
    generalize 2 ^ (p - 1) * (D * 2 ^ E0) = Y at low hy ⊢
    generalize m' * 2 ^ E' * D = Z at hy ⊢
    omega

theorem roundNat_tie_even {p N D m E : Nat} (hp : 2 ≤ p) (hD : 0 < D) (h : roundNat p N D = (m, E)) (k : Nat)
    (htie : 2 * N = (2 * k + 1) * (2 ^ E * D)) : m % 2 = 0 := by
  have hden : 0 < D * 2 ^ expOf p N D := Nat.mul_pos hD (Nat.two_pow_pos _)
  unfold roundNat at h
  simp only at h
  split at h <;> cases h
  · -- carry: the significand is `2^(p-1)`
    obtain ⟨j, rfl⟩ : ∃ j, p = j + 2 := ⟨p - 2, by omega⟩
    simp [Nat.pow_succ, Nat.mul_mod_left]
  · rw [Nat.mul_comm _ D, Nat.add_mul, Nat.one_mul, Nat.mul_assoc] at htie
    apply rneDiv_tie_even
    -- `2 * N = 2 * (k * den) + den`: the remainder of `N` is `N - k * den`, half of `den`
    generalize D * 2 ^ expOf p N D = den at htie hden ⊢
    have hN : N = (N - k * den) + k * den := by omega
    rw [hN, Nat.add_mul_mod_self_right, Nat.mod_eq_of_lt (by omega)]
    omega

theorem roundNat_le_repr {p N D m E a F : Nat} (hp : 1 ≤ p) (hD : 0 < D) (h : roundNat p N D = (m, E)) (ha : a < 2 ^ p)
    (hN : N ≤ a * 2 ^ F * D) : m * 2 ^ E ≤ a * 2 ^ F := by
  rw [roundNat_value hp h]
  have hden : 0 < D * 2 ^ expOf p N D := Nat.mul_pos hD (Nat.two_pow_pos _)
  -- the exponent of the last place is at most `F`: otherwise `a * 2^F * D < 2^(p-1) * 2^E0 * D ≤ N`
  have hEF : expOf p N D ≤ F := by
    apply Nat.le_of_not_lt
    intro hlt
    have low := expOf_lower hp hD (Nat.zero_lt_of_lt hlt)
    have h2 := Nat.mul_lt_mul_of_pos_right (below_binade ha hlt) hD
    rw [Nat.mul_assoc (2 ^ (p - 1)), Nat.mul_comm (2 ^ expOf p N D) D] at h2
    omega
  generalize expOf p N D = E0 at hden hEF ⊢
  obtain ⟨j, rfl⟩ : ∃ j, F = E0 + j := ⟨F - E0, by omega⟩
  have e : a * 2 ^ (E0 + j) = a * 2 ^ j * 2 ^ E0 := by rw [Nat.pow_add, Nat.mul_assoc, Nat.mul_comm (2 ^ E0)]
  rw [e] at hN ⊢
  exact Nat.mul_le_mul_right _ (rneDiv_le_of_le_mul hden (by rwa [Nat.mul_assoc, Nat.mul_comm (2 ^ E0)] at hN))

theorem roundNat_exp_le {p N D m E a F : Nat} (hp : 1 ≤ p) (hD : 0 < D) (h : roundNat p N D = (m, E)) (ha : a < 2 ^ p)
    (hN : N ≤ a * 2 ^ F * D) : E ≤ F := by
  have hv := roundNat_le_repr hp hD h ha hN
  rcases (roundNat_canonical hp hD h).2 with hc | hc
  · omega
  · -- otherwise `a * 2^F` lies below the binade of `m * 2^E`
    apply Nat.le_of_not_lt
    intro hlt
    have h1 := below_binade ha hlt
    have h2 := Nat.mul_le_mul_right (2 ^ E) hc
    omega

theorem roundNat_exact {p a F K : Nat} (hp : 1 ≤ p) (hK : 0 < K) (ha : a < 2 ^ p) (hc : F = 0 ∨ 2 ^ (p - 1) ≤ a) :
    roundNat p (a * 2 ^ F * K) K = (a, F) := by
  rw [roundNat_congr (N' := a * 2 ^ F) (D' := 1) hK (by decide) (by rw [Nat.mul_one])]
  have hE : expOf p (a * 2 ^ F) 1 = F := by
    have up := expOf_upper (p := p) (N := a * 2 ^ F) (D := 1) Nat.one_pos
    have low := expOf_lower (N := a * 2 ^ F) (D := 1) hp Nat.one_pos
    generalize expOf p (a * 2 ^ F) 1 = E0 at up low
    rw [Nat.one_mul] at up low
    apply Nat.le_antisymm
    · -- otherwise `a * 2^F` lies below the binade of exponent `E0`
      apply Nat.le_of_not_lt
      intro hlt
      exact Nat.lt_irrefl _ (Nat.lt_of_lt_of_le (below_binade ha hlt) (low (Nat.zero_lt_of_lt hlt)))
    · rcases hc with rfl | h
      · exact Nat.zero_le _
      · -- `2^(p-1) * 2^F ≤ a * 2^F < 2^p * 2^E0`
        have h1 := Nat.lt_of_le_of_lt (Nat.mul_le_mul_right (2 ^ F) h) up
        rw [← Nat.pow_add, ← Nat.pow_add] at h1
        have := pow2_lt_iff.1 h1
        omega
  unfold roundNat
  simp only [hE, Nat.one_mul]
  rw [rneDiv_exact _ _ (Nat.two_pow_pos F), if_neg (by omega)]

theorem scale_half {a b c : Nat} (h : 2 * a ≤ 2 * b + c) (k : Nat) : 2 * (a * k) ≤ 2 * (b * k) + c * k := by
  have := Nat.mul_le_mul_right k h
  rwa [Nat.add_mul, Nat.mul_assoc, Nat.mul_assoc] at this

theorem roundNat_unit_gap {p p' m E K K' m' E' : Nat} (hp' : 1 ≤ p') (hp : p' < p) (hK : 0 < K) (hKK : K' < K)
    (hc : E = 0 ∨ 2 ^ (p - 1) ≤ m) (h : roundNat p' (m * 2 ^ E * K') K = (m', E')) : 2 ^ E * K' < 2 ^ E' * K := by
  have hb := (roundNat_half_ulp hp' hK h).2
  have hm' := (roundNat_canonical hp' hK h).1
  have hU' := Nat.two_pow_pos E'
  rcases hc with rfl | h
  · -- subnormal: the unit is `1 / K'`
    calc 2 ^ 0 * K' < 1 * K := by omega
      _ ≤ 2 ^ E' * K := Nat.mul_le_mul_right _ hU'
  · -- `2^p * (2^E K') ≤ 2 m 2^E K' ≤ (2 m' + 1) 2^E' K < 2^(p'+1) * (2^E' K)`
    apply Nat.lt_of_mul_lt_mul_left (a := 2 ^ (p' + 1))
    have h1 : 2 ^ (p' + 1) * (2 ^ E * K') ≤ 2 * (m * 2 ^ E * K') := by
      have : 2 ^ (p' + 1) ≤ 2 * 2 ^ (p - 1) := by rw [← Nat.pow_succ']; exact pow2_le (by omega)
      calc 2 ^ (p' + 1) * (2 ^ E * K') ≤ 2 * m * (2 ^ E * K') := Nat.mul_le_mul_right _ (by omega)
        _ = 2 * (m * 2 ^ E * K') := by simp only [Nat.mul_assoc]
    have h2 : 2 * (m' * 2 ^ E' * K) + 2 ^ E' * K < 2 ^ (p' + 1) * (2 ^ E' * K) := by
      have : 2 * m' + 1 < 2 ^ (p' + 1) := by rw [Nat.pow_succ]; omega
      calc 2 * (m' * 2 ^ E' * K) + 2 ^ E' * K = (2 * m' + 1) * (2 ^ E' * K) := by
            simp only [Nat.add_mul, Nat.one_mul, Nat.mul_assoc]
        _ < 2 ^ (p' + 1) * (2 ^ E' * K) := Nat.mul_lt_mul_of_pos_right this (Nat.mul_pos hU' hK)
    omega

/-- Double rounding: `N / D` rounded to `p` bits (in units `1 / K`) and the result rounded again to `p' < p` bits in the
coarser units `1 / K'` stays strictly within one unit in the last place of the final result: each step errs by at
most half its unit, and the first unit is strictly smaller than the second. -/
theorem roundNat_twice_within_ulp {p p' N D K K' : Nat} (hp' : 1 ≤ p') (hp : p' < p) (hD : 0 < D) (hK : 0 < K) (hKK : K' < K)
    {m E m' E' : Nat} (h1 : roundNat p N D = (m, E)) (h2 : roundNat p' (m * 2 ^ E * K') K = (m', E')) :
    m' * 2 ^ E' * K * D < N * K' + 2 ^ E' * K * D ∧ N * K' < m' * 2 ^ E' * K * D + 2 ^ E' * K * D := by
  have H1 := roundNat_half_ulp (by omega) hD h1
  have H2 := roundNat_half_ulp hp' hK h2
  have H3 := roundNat_unit_gap hp' hp hK hKK (roundNat_canonical (by omega) hD h1).2 h2
  have a1 := scale_half H1.1 K'
  have a2 := scale_half H1.2 K'
  have b1 := scale_half H2.1 D
  have b2 := scale_half H2.2 D
  have c := Nat.mul_lt_mul_of_pos_right H3 hD
  simp only [Nat.mul_right_comm _ D K'] at a1 a2
  omega

end NunavutVerif.CLiteral
