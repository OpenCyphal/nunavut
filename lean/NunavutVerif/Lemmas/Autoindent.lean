import NunavutVerif.Model.Autoindent
import NunavutVerif.Lemmas.Lexer
/-!
`lineprefix` and the parser model of `Model/Autoindent.lean`.  On break-free lines `splitlines` undoes `joinNl` up to a
final empty line (`splitlines_joinNl`), `pre` composes and keeps lines break-free, and one terminator appended to a text
that does not end in one leaves `splitlines` as it is: what the `lineprefix` laws of `Properties/C19.lean` are put together
from.  Then the wrappers `subparse` builds for marked begin tokens; a token stream without marked begin token parses to a
tree without wrapper.
-/
namespace NunavutVerif.Lexer

theorem linesT_break {c : Char} (hc : isBreak c = true) : linesT [c] = [([], [c])] := by
  dsimp only [linesT]
  split
  · rename_i h; subst h; simp
  · simp

theorem linesT_line_nl (l rest : Str) (hl : breakFree l) :
    linesT (l ++ '\n' :: rest) = (l, ['\n']) :: linesT rest := by
  induction l with
  | nil => exact linesT_cons_nl rest
  | cons c l ih =>
    rw [List.cons_append, linesT_cons_plain (hl c List.mem_cons_self), ih fun x hx => hl x (List.mem_cons_of_mem _ hx)]
    rfl

theorem linesT_line (l : Str) (hl : breakFree l) (hne : l ≠ []) : linesT l = [(l, [])] := by
  induction l with
  | nil => exact absurd rfl hne
  | cons c l ih =>
    have hc : isBreak c = false := hl c (by simp)
    have hl' : breakFree l := fun x hx => hl x (by simp [hx])
    rw [linesT_cons_plain hc]
    by_cases h : l = []
    · subst h; rfl
    · rw [ih hl' h]; rfl

theorem splitlines_joinNl (ls : List Str) (h : ∀ l ∈ ls, breakFree l) :
    splitlines (joinNl ls) = dropTrailingEmpty ls := by
  match ls with
  | [] => simp [joinNl, splitlines, linesT, dropTrailingEmpty]
  | [l] =>
    dsimp only [joinNl, dropTrailingEmpty]
    by_cases hl : l = []
    · subst hl; simp [splitlines, linesT]
    · have : l.isEmpty = false := by cases l <;> simp_all
      simp only [this, Bool.false_eq_true, if_false, splitlines]
      rw [linesT_line l (h l (by simp)) hl]; rfl
  | l :: l' :: ls =>
    dsimp only [joinNl, dropTrailingEmpty, splitlines]
    rw [linesT_line_nl l _ (h l (by simp))]
    have ih := splitlines_joinNl (l' :: ls) (fun x hx => h x (by simp [hx]))
    simp only [splitlines] at ih
    simp [ih]

theorem pre_eq_nil_iff (p l : Str) : pre p l = [] ↔ l = [] := by
  unfold pre
  cases l with
  | nil => simp
  | cons a l => simp

theorem dropTrailingEmpty_eq (ls : List Str) :
    dropTrailingEmpty ls = if ls.getLast? = some [] then ls.dropLast else ls := by
  match ls with
  | [] => rfl
  | [l] => cases l <;> simp [dropTrailingEmpty]
  | l :: l' :: ls =>
    rw [dropTrailingEmpty, dropTrailingEmpty_eq (l' :: ls), List.getLast?_cons_cons]
    split <;> simp

theorem dropTrailingEmpty_map_pre (p : Str) (ls : List Str) :
    dropTrailingEmpty (ls.map (pre p)) = (dropTrailingEmpty ls).map (pre p) := by
  have : (ls.map (pre p)).getLast? = some [] ↔ ls.getLast? = some [] := by
    simp [List.getLast?_map, pre_eq_nil_iff]
  simp only [dropTrailingEmpty_eq, this]
  split <;> simp [List.map_dropLast]

theorem pre_pre (p1 p2 l : Str) : pre p1 (pre p2 l) = pre (p1 ++ p2) l := by
  unfold pre
  cases l with
  | nil => simp
  | cons a l => cases p2 <;> simp

theorem pre_nil (l : Str) : pre [] l = l := by simp [pre]

theorem breakFree_pre {p l : Str} (hp : breakFree p) (hl : breakFree l) : breakFree (pre p l) := by
  unfold pre
  split
  · exact hl
  · intro c hc
    rcases List.mem_append.1 hc with h | h
    · exact hp c h
    · exact hl c h

theorem map_pre_pre (p1 p2 : Str) (ls : List Str) : (ls.map (pre p2)).map (pre p1) = ls.map (pre (p1 ++ p2)) := by
  rw [List.map_map]
  exact List.map_congr_left fun l _ => pre_pre p1 p2 l

theorem breakFree_map_pre {p : Str} {ls : List Str} (hp : breakFree p) (h : ∀ l ∈ ls, breakFree l) :
    ∀ l ∈ ls.map (pre p), breakFree l :=
  List.forall_mem_map.2 fun l hl => breakFree_pre hp (h l hl)

theorem breakFree_fst_consHead {c : Char} {L : List (Str × Str)} (hc : isBreak c = false)
    (h : ∀ lt ∈ L, breakFree lt.1) : ∀ lt ∈ consHead c L, breakFree lt.1 := by
  cases L with
  | nil => simpa [consHead, breakFree] using hc
  | cons a L =>
    obtain ⟨l, t⟩ := a
    obtain ⟨hl, hL⟩ := List.forall_mem_cons.1 h
    exact List.forall_mem_cons.2 ⟨List.forall_mem_cons.2 ⟨hc, hl⟩, hL⟩

theorem breakFree_linesT (s : Str) : ∀ lt ∈ linesT s, breakFree lt.1 := by
  fun_induction linesT s
  case case1 => simp
  case case2 ih =>
    cases hL : linesT _ with
    | nil => simp [mergeCR, breakFree]
    | cons a L =>
      rw [hL] at ih
      exact List.forall_mem_cons.2 ⟨by simp [breakFree], fun lt hlt => ih lt (List.mem_cons_of_mem _ hlt)⟩
  case case3 ih => exact List.forall_mem_cons.2 ⟨by simp [breakFree], ih⟩
  case case4 ih => exact List.forall_mem_cons.2 ⟨by simp [breakFree], ih⟩
  case case5 hb ih => exact breakFree_fst_consHead (by simpa using hb) ih

theorem breakFree_splitlines (s : Str) : ∀ l ∈ splitlines s, breakFree l :=
  List.forall_mem_map.2 (breakFree_linesT s)

theorem head?_append_of_ne_nil {x y : Str} (h : x ≠ []) : (x ++ y).head? = x.head? := by
  cases x with
  | nil => exact absurd rfl h
  | cons a x => rfl

theorem splitlines_cons (a : Char) (x : Str) :
    splitlines (a :: x) =
      if a = '\r' then (if x.head? = some '\n' then mergeS (splitlines x) else [] :: splitlines x)
      else if isBreak a then [] :: splitlines x else consHeadS a (splitlines x) := by
  unfold splitlines
  dsimp only [linesT]
  split <;> split <;> simp [fst_mergeCR, fst_consHead]

theorem splitlines_snoc_break (x : Str) (c : Char) (hc : isBreak c = true) (hne : x ≠ [])
    (hlast : ∀ y, x.getLast? = some y → isBreak y = false) :
    splitlines (x ++ [c]) = splitlines x := by
  induction x with
  | nil => exact absurd rfl hne
  | cons a x ih =>
    rw [List.cons_append, splitlines_cons, splitlines_cons]
    by_cases hx : x = []
    · subst hx
      simp [hlast a rfl, not_cr_of_not_break (hlast a rfl), splitlines, linesT_break hc, linesT, consHeadS]
    · rw [head?_append_of_ne_nil hx, ih hx fun y hy => hlast y (getLast?_of_cons hy)]

theorem autoindentPrefix_marker (w : Str) (c : Char) : autoindentPrefix (w ++ ['{', c, '*']) = w := by
  simp [autoindentPrefix]

theorem endsStar_marker (w : Str) (c : Char) : endsStar (w ++ ['{', c, '*']) = true := by
  simp [endsStar]

theorem endsWith3_marker (w : Str) (a b c : Char) : endsWith3 a b c (w ++ [a, b, c]) = true := by
  simp [endsWith3]

theorem markerTest_variable (w : Str) : markerTest true (w ++ ['{', '{', '*']) = true := by
  simp [markerTest, isVariableMarker, endsWith3_marker]

theorem markerTest_block (w : Str) : markerTest false (w ++ ['{', '%', '*']) = true := by
  simp [markerTest, isBlockMarker, endsWith3_marker]

theorem renderNodes_singleton (V : Val) (n : Node) : renderNodes V [n] = renderNode V n := by
  simp [renderNodes]

theorem consItem_some {i : Item} {o : Option (List Item)} {items : List Item} (h : consItem i o = some items) :
    ∃ rest, o = some rest ∧ items = i :: rest := by
  cases o with
  | none => simp [consItem] at h
  | some rest => simp only [consItem, Option.some.injEq] at h; exact ⟨rest, rfl, h.symm⟩

theorem mkTag_noStar (v : Str) (texts : List Str) (h : markerTest false v = false) : (mkTag v texts).noStar = true := by
  unfold mkTag; split <;> simp [Item.noStar, h]

theorem groupItems_noStar (cur : Option (Bool × Str × List Str)) (toks : List PTok) :
    ∀ items, groupItems cur toks = some items → (∀ p ∈ toks, parserWraps p = false) →
    (∀ b v acc, cur = some (b, v, acc) → markerTest b v = false) → ∀ i ∈ items, i.noStar = true := by
  fun_induction groupItems cur toks <;> intro items hg ht hc
  case case1 => cases hg; simp
  case case2 => cases hg
  case case6 => cases hg
  case case10 => cases hg
  -- a tag is closed (or data passes): the item, then the rest of the stream with no tag open
  case case3 ih =>
    obtain ⟨rest, hr, rfl⟩ := consItem_some hg
    exact List.forall_mem_cons.2 ⟨rfl, ih rest hr (List.forall_mem_cons.1 ht).2 (by rintro b v acc ⟨⟩)⟩
  case case7 hcond ih =>
    obtain ⟨rfl, _⟩ := Bool.and_eq_true_iff.1 hcond
    obtain ⟨rest, hr, rfl⟩ := consItem_some hg
    have hbv := hc _ _ _ rfl
    exact List.forall_mem_cons.2 ⟨by simp [Item.noStar, hbv],
      ih rest hr (List.forall_mem_cons.1 ht).2 (by rintro b v acc ⟨⟩)⟩
  case case8 _ hcond ih =>
    obtain ⟨hiv, _⟩ := Bool.and_eq_true_iff.1 hcond
    rw [Bool.not_eq_true'] at hiv
    subst hiv
    obtain ⟨rest, hr, rfl⟩ := consItem_some hg
    exact List.forall_mem_cons.2 ⟨mkTag_noStar _ _ (hc _ _ _ rfl),
      ih rest hr (List.forall_mem_cons.1 ht).2 (by rintro b v acc ⟨⟩)⟩
  -- a tag is opened: its begin token is no marker
  case case4 ih | case5 ih =>
    refine ih items hg (List.forall_mem_cons.1 ht).2 ?_
    rintro b v' acc ⟨⟩
    simpa [parserWraps, markerTest] using ht _ List.mem_cons_self
  case case9 ih =>
    refine ih items hg (List.forall_mem_cons.1 ht).2 ?_
    rintro b v' acc' ⟨⟩
    exact hc _ _ _ rfl

theorem wrapStmt_noStar {bo : Str → Option (List Str × Str)} {v : Str} (n : Node) (h : markerTest false v = false) :
    wrapStmt (repaired bo) v n = n := by
  simp [wrapStmt, repaired, h]

theorem wrapperFreeL_cons_stmt {bo : Str → Option (List Str × Str)} {v name arg : Str} {n : Node} {ns : List Node}
    (hv : (Item.tag v name arg).noStar = true) (hn : n.wrapperFree = true) (hns : wrapperFreeL ns = true) :
    wrapperFreeL (wrapStmt (repaired bo) v n :: ns) = true := by
  simp only [Item.noStar, Bool.not_eq_true'] at hv
  simp [wrapStmt_noStar n hv, wrapperFreeL, hn, hns]

theorem subparse_wrapperFree (bo : Str → Option (List Str × Str)) (fuel : Nat) (ends : List Str) (items : List Item) :
    ∀ ns e r, subparse (repaired bo) fuel ends items = .ok (ns, e, r) → (∀ i ∈ items, i.noStar = true) →
      wrapperFreeL ns = true ∧ ∀ i ∈ r, i.noStar = true := by
  -- along the recursion of `subparse`; the branches that return an error go by `cases hs`
  fun_induction subparse (repaired bo) fuel ends items <;> intro ns e r hs h <;> cases hs
  case case2 => exact ⟨rfl, h⟩ -- end of the stream
  case case3 ih => -- data
    obtain ⟨h1, h2⟩ := ih _ _ _ (by assumption) (List.forall_mem_cons.1 h).2
    exact ⟨by simp [wrapperFreeL, Node.wrapperFree, h1], h2⟩
  case case5 ih => -- `{{ … }}`
    have hv := h _ List.mem_cons_self
    simp only [Item.noStar, Bool.not_eq_true'] at hv
    obtain ⟨h1, h2⟩ := ih _ _ _ (by assumption) (List.forall_mem_cons.1 h).2
    exact ⟨by simp [wrapperFreeL, Node.wrapperFree, repaired, hv, h1], h2⟩
  -- a tag: one of `ends`; a statement without body; a block statement without / with intermediate tag
  case case7 => exact ⟨rfl, (List.forall_mem_cons.1 h).2⟩
  case case8 ih =>
    obtain ⟨h1, h2⟩ := ih _ _ _ (by assumption) (List.forall_mem_cons.1 h).2
    exact ⟨wrapperFreeL_cons_stmt (h _ List.mem_cons_self) rfl h1, h2⟩
  case case12 ihbody ihrest =>
    obtain ⟨hb1, hb2⟩ := ihbody _ _ _ (by assumption) (List.forall_mem_cons.1 h).2
    obtain ⟨h1, h2⟩ := ihrest _ _ _ (by assumption) hb2
    exact ⟨wrapperFreeL_cons_stmt (h _ List.mem_cons_self) (by simp [Node.wrapperFree, wrapperFreeL, hb1]) h1, h2⟩
  case case16 ihbody ihalt ihrest =>
    obtain ⟨hb1, hb2⟩ := ihbody _ _ _ (by assumption) (List.forall_mem_cons.1 h).2
    obtain ⟨ha1, ha2⟩ := ihalt _ _ _ (by assumption) hb2
    obtain ⟨h1, h2⟩ := ihrest _ _ _ (by assumption) ha2
    exact ⟨wrapperFreeL_cons_stmt (h _ List.mem_cons_self) (by simp [Node.wrapperFree, hb1, ha1]) h1, h2⟩

theorem parseItems_wrapperFree (bo : Str → Option (List Str × Str)) (items : List Item) (h : ∀ i ∈ items, i.noStar = true)
    (ns : List Node) (hp : parseItems (repaired bo) items = .ok ns) : wrapperFreeL ns = true := by
  unfold parseItems at hp
  split at hp
  · rename_i ns' e r hs
    simp only [Except.ok.injEq] at hp; subst hp
    exact (subparse_wrapperFree bo _ [] items ns' e r hs h).1
  · simp at hp

end NunavutVerif.Lexer
