import NunavutVerif.Lemmas.GenCXDe
import NunavutVerif.Lemmas.GenCSer
import NunavutVerif.Lemmas.GenCDe
/-!
The address- and override-aware serializer simulates `serializeC` (induction along the recursion of `serAnyX`, no
typing hypotheses).  Besides `Sim` every step carries "the plain function keeps the buffer's size": the invariant
that the buffer pointer and its `cap` bytes lie inside the user's buffer speaks about the *current* buffer.
At the end the top-level statements of both directions (`deserializeCX_cases`, `serializeCX_cases`): the decoder's stands
here because it needs `deserializeC_refines` to exclude a failing primitive, and `GenCXDe` does not import `GenCDe`.
-/
namespace NunavutVerif.GenC
open NunavutVerif.Dsdl NunavutVerif.Bits

def SimW (B : Prop) (L : Nat) (rX r : Except Err W) : Prop :=
  Sim B rX r ∧ ∀ b off', r = .ok (b, off') → b.length = L

theorem chk_ok_inv {r : Except Bits.Err (Int × Buf)} {b : Buf} (h : chk r = .ok b) : ∃ c, r = .ok (c, b) := by
  unfold chk at h
  cases r with
  | error e => simp at h
  | ok p =>
    obtain ⟨c, b'⟩ := p
    simp only at h
    split at h
    · simp at h
    · simp only [Except.ok.injEq] at h
      exact ⟨c, by rw [h]⟩

theorem chk_setUxx_length {little : Bool} {buf : Buf} {cap off v len : Nat} {b : Buf}
    (h : chk (setUxx little buf cap off v len) = .ok b) : b.length = buf.length := by
  obtain ⟨c, hc⟩ := chk_ok_inv h
  exact setUxx_length hc

theorem step_length {x : Except Err Buf} {k L : Nat} (hx : ∀ b, x = .ok b → b.length = L) {b : Buf} {off' : Nat}
    (h : (match x with | Except.error e => (Except.error e : Except Err W) | Except.ok b => Except.ok (b, k)) = Except.ok (b, off')) :
    b.length = L := by
  cases x with
  | error e => simp at h
  | ok b' =>
    simp only [Except.ok.injEq, Prod.mk.injEq] at h
    rw [← h.1]
    exact hx b' rfl

theorem serVoid_length {o : Opts} {n cap : Nat} {d : AOff} {buf : Buf} {off : Nat} {b : Buf} {off' : Nat}
    (h : serVoid o n cap d buf off = .ok (b, off')) : b.length = buf.length := by
  unfold serVoid at h
  split at h
  · split at h
    · exact step_length (fun b hb => (set?_ok_inv (liftP_ok hb)).2) h
    · exact step_length (fun b hb => memset0_ok_len (liftP_ok hb)) h
  · exact step_length (fun b hb => chk_setUxx_length hb) h

theorem serBool_length {o : Opts} {v : Bool} {d : AOff} {buf : Buf} {off : Nat} {b : Buf} {off' : Nat}
    (h : serBool o v d buf off = .ok (b, off')) : b.length = buf.length := by
  unfold serBool at h
  split at h
  · exact step_length (fun b hb => (set?_ok_inv (liftP_ok hb)).2) h
  · split at h
    · simp at h
    · exact step_length (fun b hb => (set?_ok_inv (liftP_ok hb)).2) h

theorem serInt_length {o : Opts} {signed : Bool} {n Wd : Nat} {sat : Bool} {v : Int} {cap : Nat} {d : AOff} {buf : Buf}
    {off : Nat} {b : Buf} {off' : Nat}
    (h : serInt o signed n Wd sat v cap d buf off = .ok (b, off')) : b.length = buf.length := by
  unfold serInt at h
  dsimp only at h
  by_cases h1 : o.orc d = true ∧ n ≤ 8
  · rw [if_pos h1] at h
    exact step_length (fun b hb => (set?_ok_inv (liftP_ok hb)).2) h
  · rw [if_neg h1] at h
    by_cases h2 : o.orc d = true ∧ o.little = true
    · rw [if_pos h2] at h
      exact step_length (fun b hb => (memmove_ok_inv (liftP_ok hb)).1) h
    · rw [if_neg h2] at h
      refine step_length (fun b hb => ?_) h
      cases signed <;> exact chk_setUxx_length hb

theorem serFloat_length {o : Opts} {n : Nat} {m : Cast} {x cap : Nat} {d : AOff} {buf : Buf}
    {off : Nat} {b : Buf} {off' : Nat}
    (h : serFloat o n m x cap d buf off = .ok (b, off')) : b.length = buf.length := by
  unfold serFloat at h
  simp only at h
  split at h
  · exact step_length (fun b hb => (memmove_ok_inv (liftP_ok hb)).1) h
  · exact step_length (fun b hb => chk_setUxx_length hb) h

theorem assertC_ok_inv {α : Type} {o : Opts} {c : Prop} [Decidable c] {k : Except Err α} {a : α}
    (h : assertC o c k = .ok a) : k = .ok a := by
  unfold assertC at h
  split at h
  · simp at h
  · exact h

theorem padSer_length {o : Opts} {n cap : Nat} {buf : Buf} {off : Nat} {b : Buf} {off' : Nat}
    (h : padSer o n cap buf off = .ok (b, off')) : b.length = buf.length := by
  unfold padSer at h
  split at h
  · have h1 := assertC_ok_inv h
    cases hc : chk (setUxx o.little buf cap off 0 ((n - off % n) % 256)) with
    | error e => rw [hc] at h1; simp at h1
    | ok b1 =>
      rw [hc] at h1
      have h2 := assertC_ok_inv h1
      simp only [Except.ok.injEq, Prod.mk.injEq] at h2
      rw [← h2.1]
      exact chk_setUxx_length hc
  · simp only [Except.ok.injEq, Prod.mk.injEq] at h
    rw [← h.1]

/-! The length `L` of the buffer is a variable of every statement (`hl : buf.length = L`): the continuation of `simW_bind`
receives `b.length = L` for the buffer a step left and hands it to the next step as it is. -/

section
variable {o : Opts} {X : Ext} {b0 L0 : Nat} {B : Prop}

theorem simW_of_sim {L : Nat} {rX r : Except Err W} (h1 : Sim B rX r) (h2 : ∀ b off', r = .ok (b, off') → b.length = L) :
    SimW B L rX r := ⟨h1, h2⟩

/-- at the entry of a generated function: as `InvS` without `0 < cap` (established by the up-front check) -/
def InvF (o : Opts) (X : Ext) (b0 L0 pb : Nat) (len cap : Nat) : Prop :=
  o.asserts = true → X.addrs = true → b0 ≤ pb ∧ pb + len ≤ b0 + L0 ∧ cap ≤ len

theorem invF_of_invS {pb len cap : Nat} (h : InvS o X b0 L0 pb len cap) : InvF o X b0 L0 pb len cap := by
  intro ha hx
  obtain ⟨h0, h1, h2, _⟩ := h ha hx
  exact ⟨h0, h1, h2⟩

theorem invS_of_invF {pb len cap : Nat} (h : InvF o X b0 L0 pb len cap) (hc : 0 < cap) : InvS o X b0 L0 pb len cap :=
  fun ha hx => ⟨(h ha hx).1, (h ha hx).2.1, (h ha hx).2.2, hc⟩

theorem invF_nested {pb len cap q sb : Nat} (h : InvS o X b0 L0 pb len cap) (hq : o.asserts = true → q + sb ≤ cap) :
    InvF o X b0 L0 (pb + q) (len - q) sb := by
  intro ha hx
  obtain ⟨h0, h1, h2, _⟩ := h ha hx
  have := hq ha
  omega

variable {L : Nat}

theorem simW_refl {r : Except Err W} (h : ∀ b off', r = .ok (b, off') → b.length = L) : SimW B L r r :=
  ⟨.refl, h⟩

theorem simW_err {e : Err} : SimW B L (.error e) (.error e) := ⟨.refl, fun _ _ h => nomatch h⟩

theorem simW_ok {b : Buf} {off : Nat} (hl : b.length = L) : SimW B L (.ok (b, off)) (.ok (b, off)) :=
  ⟨.refl, fun _ _ h => by cases h; exact hl⟩

theorem simW_guard {kX k : Except Err W} {n c' c : Nat} (hle : c' ≤ c) (hB : c' < c → B) (h : SimW B L kX k) :
    SimW B L (if n > c' then .error eBadArrayLength else kX) (if n > c then .error eBadArrayLength else k) := by
  refine ⟨Sim.guard hle hB (fun _ => h.1), fun b off' hr => ?_⟩
  split at hr
  · cases hr
  · exact h.2 b off' hr

theorem assertC_simW (c : Prop) [Decidable c] {kX k : Except Err W}
    (h : (o.asserts = true → c) → SimW B L kX k) : SimW B L (assertC o c kX) (assertC o c k) := by
  unfold assertC
  by_cases hc : o.asserts = true ∧ ¬ c
  · rw [if_pos hc, if_pos hc]
    exact simW_err
  · rw [if_neg hc, if_neg hc]
    exact h (fun ha => Decidable.by_contra (fun hcc => hc ⟨ha, hcc⟩))

theorem anyGuard_simW (t : Ty) (room : Option Nat) (d : AOff) (off : Nat) {kX k : Except Err W}
    (h : SimW B L kX k) : SimW B L (anyGuard o t room d off kX) (anyGuard o t room d off k) := by
  unfold anyGuard
  exact assertC_simW _ (fun _ => assertC_simW _ (fun _ => assertC_simW _ (fun _ => h)))

/-- the first step may run on a buffer of another length (the sub-buffer of a nested call) -/
theorem simW_bind {L' : Nat} {fX f : Except Err W} {kX k : Buf → Nat → Except Err W} : SimW B L' fX f →
    (∀ b off', b.length = L' → SimW B L (kX b off') (k b off')) →
    SimW B L (match fX with | Except.error e => Except.error e | Except.ok (b, off') => kX b off')
      (match f with | Except.error e => Except.error e | Except.ok (b, off') => k b off') := by
  intro ⟨h1, h2⟩ hk
  refine ⟨?_, fun b' o' hr => ?_⟩
  · revert h2
    exact h1.bind (fun ⟨b, o'⟩ h2 => (hk b o' (h2 b o' rfl)).1) (fun _ _ => .refl) (fun hB _ => .bad hB)
      (fun e _ => .prim e)
  · cases hf : f with
    | error e => rw [hf] at hr; cases hr
    | ok w => rw [hf] at hr; exact (hk w.1 w.2 (h2 w.1 w.2 hf)).2 b' o' hr

theorem stepX_bind {xX x : Except Err Buf} {kX k : Buf → Except Err W} : Sim B xX x →
    (∀ b, x = .ok b → b.length = L) → (∀ b, b.length = L → SimW B L (kX b) (k b)) →
    SimW B L (match xX with | Except.error e => Except.error e | Except.ok b => kX b)
      (match x with | Except.error e => Except.error e | Except.ok b => k b) := by
  intro hs hx hk
  refine ⟨?_, fun b' o' hr => ?_⟩
  · revert hx
    exact hs.bind (fun b hx => (hk b (hx b rfl)).1) (fun _ _ => .refl) (fun hB _ => .bad hB) (fun e _ => .prim e)
  · cases hf : x with
    | error e => rw [hf] at hr; cases hr
    | ok b => rw [hf] at hr; exact (hk b (hx b hf)).2 b' o' hr

variable {buf : Buf} (hfx : X.fixed = true) (hp : Placed X b0 L0) (hl : buf.length = L)
include hfx hp hl

theorem setStepX_simW (pb cap off v n k : Nat) (hi : InvS o X b0 L0 pb L cap) :
    SimW B L (match setUxxX o X pb buf cap off v n with | .error e => .error e | .ok b => .ok (b, k))
      (match chk (setUxx o.little buf cap off v n) with | .error e => .error e | .ok b => .ok (b, k)) :=
  stepX_bind (setUxxX_sim hfx hp pb buf cap off v n hl hi) (fun _ hb => (chk_setUxx_length hb).trans hl)
    fun _ => simW_ok

theorem padSerX_simW (pb n cap off : Nat) (hi : InvS o X b0 L0 pb L cap) :
    SimW B L (padSerX o X pb n cap buf off) (padSer o n cap buf off) := by
  unfold padSerX padSer
  split
  · exact assertC_simW _ fun _ => stepX_bind (setUxxX_sim hfx hp pb buf cap off 0 _ hl hi)
      (fun _ hb => (chk_setUxx_length hb).trans hl) fun _ hb => assertC_simW _ fun _ => simW_ok hb
  · exact simW_ok hl

theorem serVoidX_simW (pb n cap : Nat) (d : AOff) (off : Nat) (hi : InvS o X b0 L0 pb L cap) :
    SimW B L (serVoidX o X pb n cap d buf off) (serVoid o n cap d buf off) := by
  unfold serVoidX
  split
  · exact simW_refl fun _ _ h => (serVoid_length h).trans hl
  · rename_i h
    unfold serVoid
    rw [if_neg h]
    exact setStepX_simW hfx hp hl pb cap off 0 n _ hi

theorem serIntX_simW (pb : Nat) (signed : Bool) (n Wd : Nat) (sat : Bool) (v : Int) (cap : Nat) (d : AOff) (off : Nat)
    (hi : InvS o X b0 L0 pb L cap) :
    SimW B L (serIntX o X pb signed n Wd sat v cap d buf off) (serInt o signed n Wd sat v cap d buf off) := by
  unfold serIntX
  split
  · exact simW_refl fun _ _ h => (serInt_length h).trans hl
  · rename_i h1
    split
    · exact simW_refl fun _ _ h => (serInt_length h).trans hl
    · rename_i h2
      unfold serInt
      dsimp only
      rw [if_neg h1, if_neg h2]
      -- `nunavutSetIxx` is `nunavutSetUxx` of `(uint64_t) value`
      cases signed <;> exact setStepX_simW hfx hp hl pb cap off _ n _ hi

theorem serFloatX_simW (pb n : Nat) (m : Cast) (x cap : Nat) (d : AOff) (off : Nat) (hi : InvS o X b0 L0 pb L cap) :
    SimW B L (serFloatX o X pb n m x cap d buf off) (serFloat o n m x cap d buf off) := by
  unfold serFloatX
  split
  · exact simW_refl fun _ _ h => (serFloat_length h).trans hl
  · rename_i h1
    unfold serFloat
    dsimp only
    rw [if_neg h1]
    exact setStepX_simW hfx hp hl pb cap off _ n _ hi

omit hfx hp hl

theorem serLoop_simW {elemX elem : Val → Buf → Nat → Except Err W}
    (he : ∀ v b f, b.length = L → SimW B L (elemX v b f) (elem v b f)) :
    ∀ (vs : List Val) (b : Buf) (f : Nat), b.length = L → SimW B L (serLoop elemX vs b f) (serLoop elem vs b f) := by
  intro vs
  induction vs with
  | nil => exact fun b f hb => simW_ok hb
  | cons v vs ih => exact fun b f hb => simW_bind (he v b f hb) ih

theorem copy_arrRep_storN (t : Ty) (hz : zeroCost o t = true) (buf : Buf) (off : Nat) (vs : List Val) (s' s : Nat) :
    copyBits buf off (vs.length * primBits t) (arrRep t vs s') 0 =
      copyBits buf off (vs.length * primBits t) (arrRep t vs s) 0 := by
  unfold arrRep padRight
  apply copyBits_src_prefix
  rw [Nat.zero_add, flatMap_elemRep_length]
  have e : 8 * (primBits t / 8) = primBits t := mul_div_aligned (zeroCost_mod8 hz)
  rw [Nat.mul_comm 8, Nat.mul_assoc, Nat.mul_comm _ 8, e]
  exact Nat.le_refl _

theorem serElemsX_nonbool (pb : Nat) (t : Ty) (ht : t ≠ .bool) (elem : Val → Buf → Nat → Except Err W)
    (vs : List Val) (storN : Nat) (post : Option (Nat × Nat)) (buf : Buf) (off : Nat) :
    serElemsX o X pb t elem vs storN post buf off =
      if zeroCost o t then
        match copyInX o X pb buf off (vs.length * primBits t) (arrRep t vs storN) with
        | .error e => .error e
        | .ok b => .ok (b, off + vs.length * primBits t)
      else
        match serLoop elem vs buf off with
        | .error e => .error e
        | .ok (b, off') => assertC o (inRange (off' - off) post = true) (.ok (b, off')) := by
  cases t <;> first | exact absurd rfl ht | rfl

theorem serElemsX_simW (hfx : X.fixed = true) (hp : Placed X b0 L0) (pb : Nat) (t : Ty)
    {elemX elem : Val → Buf → Nat → Except Err W} (vs : List Val) (s' s : Nat) (hs : t = .bool → s' = s)
    (post : Option (Nat × Nat)) (buf : Buf) (off cap : Nat) (hl : buf.length = L) (hi : InvS o X b0 L0 pb L cap)
    (he : ∀ v b f, b.length = L → SimW B L (elemX v b f) (elem v b f)) :
    SimW B L (serElemsX o X pb t elemX vs s' post buf off) (serElems o t elem vs s post buf off) := by
  have hcopy : ∀ len src, SimW B L (match copyInX o X pb buf off len src with | .error e => .error e | .ok b => .ok (b, off + len))
      (match liftP (copyBits buf off len src 0) with | .error e => .error e | .ok b => .ok (b, off + len)) :=
    fun len src => stepX_bind (copyInX_sim hfx hp pb buf off len src hl hi)
      (fun _ hb => (copyBits_ok_inv (liftP_ok hb)).1.trans hl) fun _ => simW_ok
  by_cases hb : t = .bool
  · subst hb
    rw [hs rfl]
    exact hcopy _ _
  · rw [serElemsX_nonbool pb t hb, serElems_nonbool o t hb]
    split
    · rename_i hz
      rw [← copy_arrRep_storN (o := o) t hz buf off vs s' s]
      exact hcopy _ _
    · exact simW_bind (serLoop_simW he vs buf off hl) fun _ _ hl1 => assertC_simW _ fun _ => simW_ok hl1

theorem nestedSerX_simW (hfx : X.fixed = true) (hp : Placed X b0 L0) (pb : Nat)
    {innerX : Nat → Buf → Nat → Except Err W} {inner : Buf → Nat → Except Err W} (maxB : Nat)
    (hin : ∀ pb' buf' L', buf'.length = L' → InvF o X b0 L0 pb' L' ((maxB + 7) / 8) →
      SimW B L' (innerX pb' buf' ((maxB + 7) / 8)) (inner buf' ((maxB + 7) / 8)))
    (isDelim fixed : Bool) (minB cap : Nat) (d : AOff) (buf : Buf) (off : Nat) (hl : buf.length = L)
    (hi : InvS o X b0 L0 pb L cap) :
    SimW B L (nestedSerX o X pb innerX isDelim fixed minB maxB cap d buf off)
      (nestedSer o inner isDelim fixed minB maxB cap d buf off) := by
  unfold nestedSerX nestedSer
  dsimp only
  refine simW_bind (L' := L) ?_ (fun buf1 off1 hl1 => ?_)
  · split
    · split
      · exact serIntX_simW hfx hp hl pb false 32 64 false _ cap d off hi
      · exact simW_ok hl
    · exact simW_ok hl
  · refine assertC_simW _ (fun hc1 => assertC_simW _ (fun hc2 => ?_))
    -- the nested call keeps the size of the sub-buffer, so the spliced buffer has the size of `buf`
    refine simW_bind (hin _ _ _ (by rw [List.length_drop, hl1]) (invF_nested hi hc2))
      (fun sub size hsub => assertC_simW _ (fun _ => ?_))
    have hl2 : (List.take (off1 / 8) buf1 ++ sub).length = L := by
      rw [List.length_append, List.length_take, hsub, hl1]
      generalize off1 / 8 = q
      omega
    refine stepX_bind ?_ (fun b3 h3 => ?_) fun _ hb => assertC_simW _ fun _ => simW_ok hb
    · split
      · split
        · exact .refl
        · exact setUxxX_sim hfx hp pb _ cap (off1 - 32) size 32 hl2 hi
      · exact .refl
    · split at h3
      · split at h3
        · exact (memmove_ok_inv (liftP_ok h3)).1.trans hl2
        · exact (chk_setUxx_length h3).trans hl2
      · cases h3
        exact hl2

theorem topSerX_simW (hfx : X.fixed = true) (hp : Placed X b0 L0) (hnc : X.noCheck = false) (pb minB maxB : Nat)
    {bodyX body : Nat → Buf → Except Err W} (buf : Buf) (cap : Nat) (hl : buf.length = L) (hi : InvF o X b0 L0 pb L cap)
    (hb : InvS o X b0 L0 pb L cap → SimW B L (bodyX cap buf) (body cap buf)) :
    SimW B L (topSerX o X pb minB maxB bodyX buf cap) (topSer o minB maxB body buf cap) := by
  unfold topSerX topSer
  split
  · exact simW_ok hl
  · rename_i hm
    simp only [hnc, true_and]
    split
    · exact simW_err
    · rename_i hroom
      have hiS := invS_of_invF hi (by omega)
      exact simW_bind (hb hiS) fun b1 off1 hl1 => simW_bind (padSerX_simW hfx hp hl1 pb 8 cap off1 hiS)
        fun b2 off2 hl2 => assertC_simW _ fun _ => assertC_simW _ fun _ => simW_ok hl2

def SerSimAny (o : Opts) (X : Ext) (b0 L0 : Nat) (B : Prop) (t : Ty) (v : Val) : Prop :=
  ∀ pb cap d buf off L, buf.length = L → InvS o X b0 L0 pb L cap →
    SimW B L (serAnyX o X t v pb cap d buf off) (serAny o t v cap d buf off)

def SerSimFn (o : Opts) (X : Ext) (b0 L0 : Nat) (B : Prop) (t : Ty) (v : Val) : Prop :=
  ∀ pb buf cap L, buf.length = L → InvF o X b0 L0 pb L cap → SimW B L (serFnX o X t v pb buf cap) (serFn o t v buf cap)

def SerSimNth (o : Opts) (X : Ext) (b0 L0 : Nat) (B : Prop) (fs : List Ty) (k : Nat) (v : Val) : Prop :=
  ∀ pb cap d buf off L, buf.length = L → InvS o X b0 L0 pb L cap →
    SimW B L (serNthX o X fs k v pb cap d buf off) (serNth o fs k v cap d buf off)

def SerSimFields (o : Opts) (X : Ext) (b0 L0 : Nat) (B : Prop) (fs : List Ty) (vs : List Val) : Prop :=
  ∀ first pb cap d buf off L, buf.length = L → InvS o X b0 L0 pb L cap →
    SimW B L (serFieldsX o X fs vs first pb cap d buf off) (serFields o fs vs first cap d buf off)

theorem serSim (hfx : X.fixed = true) (hp : Placed X b0 L0) (hnc : X.noCheck = false)
    (hle : ∀ t c, effCap X t c ≤ c) (hB : ∀ t c, effCap X t c < c → B) :
    (∀ t v, SerSimAny o X b0 L0 B t v) ∧ (∀ t v, SerSimFn o X b0 L0 B t v) ∧
      (∀ fs k v, SerSimNth o X b0 L0 B fs k v) ∧ ∀ fs vs, SerSimFields o X b0 L0 B fs vs := by
  -- the body of `T_serialize_` is needed twice: as the function itself and nested in `_serialize_any`
  have hstruct : ∀ fs vs, SerSimFields o X b0 L0 B fs vs → SerSimFn o X b0 L0 B (.struct fs) (.struct vs) := by
    intro fs vs ih pb buf cap L hl hi
    simp only [serFnX, serFn]
    exact topSerX_simW hfx hp hnc pb _ _ buf cap hl hi fun hiS => ih true pb cap AOff.zero buf 0 L hl hiS
  have hunion : ∀ fs k v, SerSimNth o X b0 L0 B fs k v → SerSimFn o X b0 L0 B (.union fs) (.union k v) := by
    intro fs k v ih pb buf cap L hl hi
    simp only [serFnX, serFn]
    exact topSerX_simW hfx hp hnc pb _ _ buf cap hl hi fun hiS =>
      simW_bind (serIntX_simW hfx hp hl pb false _ _ false _ cap AOff.zero 0 hiS) fun b1 off1 hl1 =>
        ih pb cap _ b1 off1 L hl1 hiS
  apply serAnyX.mutual_induct
  · exact fun n m i pb cap d buf off L hl hi => serIntX_simW hfx hp hl pb _ _ _ _ _ cap d off hi
  · exact fun n m i pb cap d buf off L hl hi => serIntX_simW hfx hp hl pb _ _ _ _ _ cap d off hi
  · exact fun n m x pb cap d buf off L hl hi => serFloatX_simW hfx hp hl pb _ _ _ cap d off hi
  · exact fun b pb cap d buf off L hl hi => simW_refl fun _ _ h => (serBool_length h).trans hl
  · exact fun n pb cap d buf off L hl hi => serVoidX_simW hfx hp hl pb _ cap d off hi
  · intro t n vs ih pb cap d buf off L hl hi
    simp only [serAnyX, serAny]
    split
    · exact serElemsX_simW hfx hp pb t vs n n (fun _ => rfl) _ buf off cap hl hi
        fun v b f hb => anyGuard_simW t _ _ f (ih v pb cap _ b f L hb hi)
    · exact simW_err
  · intro t c vs ih pb cap d buf off L hl hi
    simp only [serAnyX, serAny]
    refine simW_guard (hle t c) (hB t c) ?_
    refine simW_bind (serIntX_simW hfx hp hl pb false _ 64 false _ cap d off hi) fun b1 off1 hl1 =>
      assertC_simW _ fun _ => ?_
    exact serElemsX_simW hfx hp pb t vs (effCap X t c) c (fun e => e ▸ effCap_bool X c) none b1 off1 cap
      hl1 hi fun v b f hb => anyGuard_simW t _ _ f (ih v pb cap _ b f L hb hi)
  · intro fs vs ih pb cap d buf off L hl hi
    simp only [serAnyX, serAny]
    exact nestedSerX_simW hfx hp pb _ (fun pb' buf' L' => hstruct fs vs ih pb' buf' _ L') false _ _ cap d buf off hl hi
  · intro fs k v ih pb cap d buf off L hl hi
    simp only [serAnyX, serAny]
    exact nestedSerX_simW hfx hp pb _ (fun pb' buf' L' => hunion fs k v ih pb' buf' _ L') false _ _ cap d buf off hl hi
  · intro e t v ih pb cap d buf off L hl hi
    simp only [serAnyX, serAny]
    exact nestedSerX_simW hfx hp pb _ (fun pb' buf' L' => ih pb' buf' _ L') true _ _ cap d buf off hl hi
  · intro t v h1 h2 h3 h4 h5 h6 h7 h8 h9 h10 pb cap d buf off L _ _
    rw [serAnyX.eq_11 o X t v h10 h1 h2 h3 h4 h5 h6 h7 h8 h9, serAny.eq_11 o t v h10 h1 h2 h3 h4 h5 h6 h7 h8 h9]
    exact simW_err
  · exact hstruct
  · exact hunion
  · intro e t v ih pb buf cap L hl hi
    simp only [serFnX, serFn]
    exact ih pb buf cap L hl hi
  · intro t v h1 h2 h3 pb buf cap L _ _
    rw [serFnX.eq_4 o X t v h3 h1 h2, serFn.eq_4 o t v h3 h1 h2]
    exact simW_err
  · exact fun _ _ _ _ _ _ _ _ _ _ => simW_err
  · intro f fs v ih pb cap d buf off L hl hi
    simp only [serNthX, serNth]
    exact anyGuard_simW f _ d off (ih pb cap d buf off L hl hi)
  · intro f fs k v ih pb cap d buf off L hl hi
    simp only [serNthX, serNth]
    exact ih pb cap d buf off L hl hi
  · exact fun first pb cap d buf off L hl _ => simW_ok hl
  · intro f fs v vs ihf ih first pb cap d buf off L hl hi
    simp only [serFieldsX, serFields]
    refine simW_bind (L' := L) ?_ fun b1 off1 hl1 =>
      simW_bind (anyGuard_simW f _ _ off1 (ihf pb cap _ b1 off1 L hl1 hi)) fun b2 off2 hl2 =>
        ih false pb cap _ b2 off2 L hl2 hi
    split
    · exact simW_ok hl
    · exact padSerX_simW hfx hp hl pb (align f) cap off hi
  · intro fs vs h1 h2 first pb cap d buf off L _ _
    rw [serFieldsX.eq_3 o X fs vs h1 h2, GenC.serFields.eq_3 o fs vs h1 h2]
    exact simW_err

theorem deserializeCX_cases (hs : o.Sound) (t : Ty) (hw : wf t = true) (hwC : wfC t = true)
    (hc : isComposite (topInner t) = true) (buf : Buf) (cap : Nat) (hwf : WF buf) (hcap : cap ≤ buf.length)
    (hfx : X.fixed = true) (hhg : X.headGuarded = true) (hle : ∀ t c, effCap X t c ≤ c)
    (hB : ∀ t c, effCap X t c < c → B) (b0 : Nat) (hp : Placed X b0 buf.length) :
    deserializeCX o X b0 t buf cap = deserializeC o t buf cap ∨
      (B ∧ deserializeCX o X b0 t buf cap = .error eBadArrayLength) := by
  have hi : InvD o X b0 buf.length b0 buf := fun _ _ => ⟨Nat.le_refl _, fun _ => Nat.le_refl _⟩
  rcases (deSim hfx hp (Or.inl hhg) hle hB).2.1 t b0 buf cap hi with h | h | ⟨e, h⟩
  · exact Or.inl h
  · exact Or.inr h
  · -- the plain deserializer never fails in a primitive
    obtain ⟨e', _, h'⟩ := mapError_eq_error (deserializeC_refines o hs t hw hwC hc buf cap hwf hcap) h
    cases e' <;> cases h'

theorem serializeCX_cases (hs : o.Sound) (t : Ty) (hw : wf t = true) (hwC : wfC t = true)
    (hc : isComposite (topInner t) = true) (v : Val) (ht : hasTy t v = true) (hst : storageOK t v = true)
    (buf : Buf) (cap : Nat) (hwf : WF buf) (hcap : cap ≤ buf.length)
    (hfx : X.fixed = true) (hnc : X.noCheck = false) (hle : ∀ t c, effCap X t c ≤ c)
    (hB : ∀ t c, effCap X t c < c → B) (b0 : Nat) (hp : Placed X b0 buf.length) :
    serializeCX o X b0 t v buf cap = serializeC o t v buf cap ∨
      (B ∧ serializeCX o X b0 t v buf cap = .error eBadArrayLength) := by
  have hi : InvF o X b0 buf.length b0 buf.length cap := fun _ _ => ⟨Nat.le_refl _, Nat.le_refl _, hcap⟩
  rcases ((serSim hfx hp hnc hle hB).2.1 t v b0 buf cap _ rfl hi).1 with h | h | ⟨e, h⟩
  · exact Or.inl h
  · exact Or.inr h
  · -- the plain serializer never fails in a primitive
    obtain ⟨e', _, h'⟩ := (serializeC_top o hs t hw hwC hc v ht hst buf cap hwf hcap).error h
    cases e' <;> cases h'

end

end NunavutVerif.GenC
