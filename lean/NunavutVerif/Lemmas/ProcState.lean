import NunavutVerif.Model.ProcState
import NunavutVerif.Lemmas.Tpl
import NunavutVerif.Lemmas.LineBuffer
/-!
The process-state machines of C10: the unique-name generator against its closed form, the line post-processors from file
to file (a non-blank first line brings every limiter to zero), memoisation (a valid cache is transparent), sequences of
files in one process.
-/
namespace NunavutVerif.ProcState
open NunavutVerif.LineBuffer NunavutVerif.Tpl

theorem lookup_bump (st : UState) (k k' : NameKey) :
    lookup (bump st k) k' = if k' = k then lookup st k + 1 else lookup st k' := by
  fun_induction bump st k with
  | case1 k => simp [lookup, eq_comm]
  | case2 n rest k => by_cases h : k' = k <;> simp [lookup, h, eq_comm]
  | case3 k0 n rest k h0 ih => by_cases h : k0 = k' <;> simp_all [lookup]

theorem issue_eq_spec_on (p : NameKey → Prop) (st : UState) (seen : List NameKey) (reqs : List Req)
    (hp : ∀ r ∈ reqs, p r.nameKey) (h : ∀ k, p k → lookup st k = seen.count k) :
    (issue st reqs).1 = specNames seen reqs := by
  induction reqs generalizing st seen with
  | nil => rfl
  | cons r rs ih =>
    have hr := hp r List.mem_cons_self
    simp only [issue, specNames, request]
    rw [h r.nameKey hr]
    congr 1
    apply ih _ _ (fun r' hr' => hp r' (List.mem_cons_of_mem _ hr'))
    intro k hk
    rw [lookup_bump, List.count_cons, h k hk, h r.nameKey hr]
    by_cases e : k = r.nameKey
    · subst e; simp
    · have e' : ¬ (r.nameKey == k) = true := by simpa using fun x => e x.symm
      simp [e, e']

theorem lookup_resetDomain (st : UState) (d : Str) (k : NameKey) :
    lookup (resetDomain st d) k = if k.1 = d then 0 else lookup st k := by
  fun_induction resetDomain st d with
  | case1 => simp [lookup]
  | case2 k0 n rest ih => by_cases e : k0 = k <;> simp_all [lookup]
  | case3 k0 n rest d h0 ih => by_cases e : k0 = k <;> simp_all [lookup]

theorem hasNonWs_append (a b : Str) : hasNonWs (a ++ b) = (hasNonWs a || hasNonWs b) := by
  induction a with
  | nil => simp [hasNonWs]
  | cons c rest ih => simp [hasNonWs, ih, Bool.or_assoc]

theorem ne_nil_of_hasNonWs {s : Str} (h : hasNonWs s = true) : s ≠ [] := by
  intro e; subst e; simp [hasNonWs] at h

theorem hasNonWs_trimStr (s : Str) : hasNonWs (trimStr s) = hasNonWs s := by
  fun_induction trimStr s with
  | case1 => rfl
  | case2 c rest r hr ih =>
    -- `c` is whitespace and so is all of `rest`
    simp [hasNonWs, hr.2, ← ih, r, hr.1]
  | case3 c rest r hr ih => simp [hasNonWs, ← ih, r]

/-- The model states `pipeLinesSt` twice, for C15 and for the process state. -/
theorem pipeLinesSt_eq (pps : List PP) (ss : List Nat) (ls : List Line) :
    pipeLinesSt pps ss ls = LineBuffer.pipeLinesSt pps ss ls := by
  induction ls generalizing ss with
  | nil => rfl
  | cons l ls ih => simp only [pipeLinesSt, LineBuffer.pipeLinesSt, ih]

theorem pipeLine_nonblank (pps : List PP) (ss ss' : List Nat) (l : Line)
    (hl : ss.length = pps.length) (hl' : ss'.length = pps.length) (hn : hasNonWs l.content = true) :
    (pipeLine pps ss l).1 = (pipeLine pps ss' l).1 ∧
      limAgree pps (pipeLine pps ss l).2 (pipeLine pps ss' l).2 := by
  induction pps generalizing ss ss' l with
  | nil => simp [pipeLine, limAgree]
  | cons p ps ih =>
    cases ss with
    | nil => simp at hl
    | cons s st =>
      cases ss' with
      | nil => simp at hl'
      | cons s' st' =>
        simp only [List.length_cons, Nat.add_right_cancel_iff] at hl hl'
        cases p with
        | trim => exact ih st st' (trim l) hl hl' ((hasNonWs_trimStr _).trans hn)
        | limit n =>
          have e : ∀ cnt, limitStep n cnt l = (l, 0) := fun cnt => by simp [limitStep, ne_nil_of_hasNonWs hn]
          have := ih st st' l hl hl' hn
          simp only [pipeLine, ppStep, e]
          exact ⟨this.1, rfl, this.2⟩

theorem fileOut_fst (pps : List PP) (ss : List Nat) (text : Str) :
    (fileOut pps ss text).1 = write (pipeLines pps ss (specLines text)) := by
  rw [fileOut, pipeLinesSt_eq, LineBuffer.pipeLinesSt_fst]

theorem isWs_cr : isWs '\r' = true := by decide

theorem hasNonWs_snoc_or_firstLineNonBlank {buf rest : Str} {c : Char} (hc : ¬ c = '\n')
    (h : hasNonWs buf = true ∨ firstLineNonBlank (c :: rest) = true) :
    hasNonWs (buf ++ [c]) = true ∨ firstLineNonBlank rest = true := by
  rw [hasNonWs_append]
  by_cases w : isWs c = true
  · simpa [firstLineNonBlank, hc, w, hasNonWs] using h
  · simp [hasNonWs, w]

theorem scan_first_nonblank (buf text : Str)
    (h : hasNonWs buf = true ∨ firstLineNonBlank text = true) :
    ∃ l ls, (scan buf text).1 ++ flush (scan buf text).2 = l :: ls ∧ hasNonWs l.content = true := by
  fun_induction scan buf text with
  | case1 buf =>
    have hb : hasNonWs buf = true := by simpa [firstLineNonBlank] using h
    exact ⟨⟨buf, []⟩, [], by simp [flush, ne_nil_of_hasNonWs hb], hb⟩
  | case2 buf =>
    have hb : hasNonWs buf = true := by simpa [firstLineNonBlank] using h
    exact ⟨⟨buf, LF⟩, [], by simp [flush], hb⟩
  | case3 buf c hc =>
    have hb : hasNonWs (buf ++ [c]) = true := by
      simpa [firstLineNonBlank] using hasNonWs_snoc_or_firstLineNonBlank hc h
    exact ⟨⟨buf ++ [c], []⟩, [], by simp [flush], hb⟩
  | case4 buf d rest r ih =>
    have hb : hasNonWs buf = true := by simpa [firstLineNonBlank] using h
    exact ⟨⟨buf, LF⟩, r.1 ++ flush r.2, by simp, hb⟩
  | case5 buf c d rest hc hcd r ih =>
    obtain ⟨rfl, rfl⟩ := hcd
    have hb : hasNonWs buf = true := by simpa [firstLineNonBlank, isWs_cr] using h
    exact ⟨⟨buf, CRLF⟩, r.1 ++ flush r.2, by simp, hb⟩
  | case6 buf c d rest hc hcd ih => exact ih (hasNonWs_snoc_or_firstLineNonBlank hc h)

/-- T6 (partial): a file whose first line has a non-blank character is written identically from every start state
of the processors, and leaves them in states that agree on every limiter. -/
theorem fileOut_start_independent (pps : List PP) (ss ss' : List Nat) (text : Str)
    (hl : ss.length = pps.length) (hl' : ss'.length = pps.length) (h : firstLineNonBlank text = true) :
    (fileOut pps ss text).1 = (fileOut pps ss' text).1 ∧
      limAgree pps (fileOut pps ss text).2 (fileOut pps ss' text).2 := by
  obtain ⟨l, ls, e, hn⟩ := scan_first_nonblank [] text (Or.inr h)
  have e' : specLines text = l :: ls := by simpa [specLines] using e
  have a := pipeLine_nonblank pps ss ss' l hl hl' hn
  have b := LineBuffer.pipeLinesSt_agree pps _ _ ls a.2
  simp only [fileOut, e', pipeLinesSt_eq, LineBuffer.pipeLinesSt]
  exact ⟨by rw [a.1, b.1], b.2⟩

theorem fileOut_empty (pps : List PP) (ss : List Nat) : fileOut pps ss [] = ([], ss) := by
  simp [fileOut, specLines, scan, flush, pipeLinesSt, write]

theorem cacheFind_mem {κ ν : Type} [DecidableEq κ] (cache : List (κ × ν)) (k : κ) (v : ν)
    (h : cacheFind cache k = some v) : (k, v) ∈ cache := by
  fun_induction cacheFind cache k with
  | case1 => cases h
  | case2 k v' rest =>
    cases h
    exact List.mem_cons_self
  | case3 k' v' rest k hne ih => exact List.mem_cons_of_mem _ (ih h)

/-- T5: a valid cache never changes a result and stays valid — under any eviction policy. -/
theorem memoGet_transparent {κ ν : Type} [DecidableEq κ] (f : κ → ν) (evict : List (κ × ν) → List (κ × ν))
    (hev : ∀ c p, p ∈ evict c → p ∈ c) (cache : List (κ × ν)) (hv : CacheValid f cache) (k : κ) :
    (memoGet f evict cache k).1 = f k ∧ CacheValid f (memoGet f evict cache k).2 := by
  unfold memoGet
  cases h : cacheFind cache k with
  | some v => exact ⟨hv _ (cacheFind_mem cache k v h), hv⟩
  | none =>
    refine ⟨rfl, fun p hp => ?_⟩
    rcases List.mem_cons.mp (hev _ p hp) with rfl | hp
    · rfl
    · exact hv p hp

theorem memoRun_transparent {κ ν : Type} [DecidableEq κ] (f : κ → ν) (evict : List (κ × ν) → List (κ × ν))
    (hev : ∀ c p, p ∈ evict c → p ∈ c) (cache : List (κ × ν)) (hv : CacheValid f cache) (ks : List κ) :
    (memoRun f evict cache ks).1 = ks.map f ∧ CacheValid f (memoRun f evict cache ks).2 := by
  induction ks generalizing cache with
  | nil => exact ⟨rfl, hv⟩
  | cons k ks ih =>
    have a := memoGet_transparent f evict hev cache hv k
    have b := ih _ a.2
    simp only [memoRun, List.map_cons]
    exact ⟨by rw [a.1, b.1], b.2⟩

theorem memoGetBy_transparent {κ κ' ν : Type} [DecidableEq κ'] (π : κ → κ') (f : κ → ν)
    (hdet : ∀ k k', π k = π k' → f k = f k') (cache : List (κ' × ν)) (hv : CacheValidBy π f cache) (k : κ) :
    (memoGetBy π f cache k).1 = f k ∧ CacheValidBy π f (memoGetBy π f cache k).2 := by
  unfold memoGetBy
  cases h : cacheFind cache (π k) with
  | some v => exact ⟨hv _ (cacheFind_mem cache (π k) v h) k rfl, hv⟩
  | none =>
    refine ⟨rfl, fun p hp k' hk' => ?_⟩
    rcases List.mem_cons.mp hp with rfl | hp
    · exact hdet k k' hk'.symm
    · exact hv p hp k' hk'

theorem memoRunBy_transparent {κ κ' ν : Type} [DecidableEq κ'] (π : κ → κ') (f : κ → ν)
    (hdet : ∀ k k', π k = π k' → f k = f k') (cache : List (κ' × ν)) (hv : CacheValidBy π f cache) (ks : List κ) :
    (memoRunBy π f cache ks).1 = ks.map f ∧ CacheValidBy π f (memoRunBy π f cache ks).2 := by
  induction ks generalizing cache with
  | nil => exact ⟨rfl, hv⟩
  | cons k ks ih =>
    have a := memoGetBy_transparent π f hdet cache hv k
    have b := ih _ a.2
    simp only [memoRunBy, List.map_cons]
    exact ⟨by rw [a.1, b.1], b.2⟩

theorem memoRunShared_eq_memoRunBy {ι κ ν : Type} [DecidableEq κ] (f : ι → κ → ν) (cache : List (κ × ν))
    (qs : List (ι × κ)) :
    memoRunShared f cache qs = memoRunBy Prod.snd (fun q => f q.1 q.2) cache qs := by
  induction qs generalizing cache with
  | nil => rfl
  | cons q qs ih => simp only [memoRunShared, memoRunBy, memoGetShared, memoGetBy, ih]

theorem genFile_counters_length {δ : Type} (I : Interp δ) (P : List Tpl) (fuel : Nat) (resetPerFile : Bool)
    (pps : List PP) (σ : PState) (root : Nat) (d : δ) (hl : σ.counters.length = pps.length) :
    (genFile I P fuel resetPerFile pps σ root d).2.length = pps.length := by
  unfold genFile fileOut
  cases resetPerFile <;> simp [pipeLinesSt_eq, pipeLinesSt_length, hl, zeros]

theorem runJobs_invariant {δ : Type} {cs : List Src} (I : Interp δ) (P : List Tpl) (fuel : Nat)
    (resetPerFile : Bool) (pps : List PP) (evolve : Amb → Job δ → Amb)
    (hev : ∀ a j s, cs.contains s = false → evolve a j s = a s) (jobs : List (Job δ)) (σ : PState)
    (hl : σ.counters.length = pps.length) :
    agreeOff cs σ.amb (runJobs I P fuel resetPerFile pps evolve σ jobs).2.amb ∧
      (runJobs I P fuel resetPerFile pps evolve σ jobs).2.counters.length = pps.length := by
  induction jobs generalizing σ with
  | nil => exact ⟨agreeOff_refl _ _, hl⟩
  | cons j js ih =>
    simp only [runJobs]
    have := ih ⟨evolve σ.amb j, (genFile I P fuel resetPerFile pps σ j.root j.decl).2⟩
      (genFile_counters_length I P fuel resetPerFile pps σ j.root j.decl hl)
    refine ⟨?_, this.2⟩
    intro s hs
    rw [← this.1 s hs]
    exact (hev σ.amb j s hs).symm

theorem runRenderings_perCall_reset (pps : List PP) (ss : List Nat) (buf : Str) (rs : List Rendering) :
    runRenderings true true pps ss buf rs =
      rs.map fun r => if pps.isEmpty then r.chunks.flatten
                      else write (pipeLinesSt pps (zeros pps) (bufLines [] r).1).1 := by
  induction rs generalizing ss buf with
  | nil => rfl
  | cons r rs ih =>
    -- with or without processors the tail is `ih`, at whatever state and buffer this rendering leaves
    by_cases hp : pps.isEmpty = true <;> simp [runRenderings, ih, hp]

theorem fileOut_no_processors (ss : List Nat) (text : Str) : (fileOut [] ss text).1 = text := by
  rw [fileOut_fst, pipeLines_nil, write_specLines]

theorem bufLines_complete (chunks : List Str) : (bufLines [] ⟨chunks, false⟩).1 = genLines chunks := by
  simp [bufLines, genLines]

end NunavutVerif.ProcState
