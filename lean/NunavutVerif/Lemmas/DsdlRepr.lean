import NunavutVerif.Lemmas.DsdlBits
/-!
Which values the serializer accepts: exactly the well-typed values whose variable-length arrays fit their
capacity and whose union tags name an existing option, at any nesting depth; every other well-typed value
is rejected with `badArrayLength` or `badUnionTag`.
-/
namespace NunavutVerif.Dsdl

mutual
def representable : Ty → Val → Bool
  | .arr t _, .arr vs => vs.all (representable t)
  | .varr t cap, .arr vs => decide (vs.length ≤ cap) && vs.all (representable t)
  | .struct fs, .struct vs => reprFields fs vs
  | .union fs, .union k v => decide (k < fs.length) && reprNth fs k v
  | .delim _ t, v => representable t v
  | _, _ => true
def reprFields : List Ty → List Val → Bool
  | f :: fs, v :: vs => representable f v && reprFields fs vs
  | _, _ => true
def reprNth : List Ty → Nat → Val → Bool
  | [], _, _ => true
  | f :: _, 0, v => representable f v
  | _ :: fs, k + 1, v => reprNth fs k v
end

theorem reprNth_eq {fs : List Ty} {k : Nat} (hk : k < fs.length) : reprNth fs k = representable fs[k] :=
  nth_eq (fun _ _ => rfl) (fun _ _ _ => rfl) hk

theorem representable_topInner (t : Ty) (v : Val) :
    representable (topInner t) v = representable t v := by
  cases t <;> rfl

def IsReject (e : SerErr) : Prop := e = .badArrayLength ∨ e = .badUnionTag

def Outcome (b : Bool) (r : Except SerErr (List Bool)) : Prop :=
  (b = true → ∃ bs, r = .ok bs) ∧ (b = false → ∃ e, r = .error e ∧ IsReject e)

def SerOK (t : Ty) : Prop := ∀ v, hasTy t v = true → Outcome (representable t v) (serBits t v)

theorem outcome_true {bs : List Bool} : Outcome true (.ok bs) :=
  And.intro (fun _ => ⟨bs, rfl⟩) (fun h => nomatch h)

theorem outcome_false {e : SerErr} (he : IsReject e) : Outcome false (.error e) :=
  And.intro (fun h => nomatch h) (fun _ => ⟨e, rfl, he⟩)

theorem outcome_map {b : Bool} {r : Except SerErr (List Bool)} (f : List Bool → List Bool)
    (h : Outcome b r) : Outcome b (r.map f) := by
  constructor
  · intro hb; obtain ⟨bs, rfl⟩ := h.1 hb; exact ⟨f bs, rfl⟩
  · intro hb; obtain ⟨e, rfl, he⟩ := h.2 hb; exact ⟨e, rfl, he⟩

theorem outcome_seq {b₁ b₂ : Bool} {r₁ : Except SerErr (List Bool)}
    {r₂ : List Bool → Except SerErr (List Bool)} (g : List Bool → List Bool → List Bool)
    (h₁ : Outcome b₁ r₁) (h₂ : ∀ a, Outcome b₂ (r₂ a)) :
    Outcome (b₁ && b₂)
      (match (generalizing := false) r₁ with
       | .error e => .error e
       | .ok a => match r₂ a with
         | .error e => .error e
         | .ok b => .ok (g a b)) := by
  cases b₁ with
  | false => obtain ⟨e, rfl, he⟩ := h₁.2 rfl; exact outcome_false he
  | true =>
    obtain ⟨a, rfl⟩ := h₁.1 rfl
    cases b₂ with
    | false => obtain ⟨e, he, hr⟩ := (h₂ a).2 rfl; simp only [he]; exact outcome_false hr
    | true => obtain ⟨b, hb⟩ := (h₂ a).1 rfl; simp only [hb]; exact outcome_true

theorem serAll_outcome {t : Ty} (h : SerOK t) :
    ∀ vs, List.all vs (hasTy t) = true → Outcome (List.all vs (representable t)) (serAllWith (serBits t) vs) := by
  intro vs
  induction vs with
  | nil => intro _; exact outcome_true
  | cons v vs ih =>
    intro ht
    simp only [List.all_cons, Bool.and_eq_true] at ht
    exact outcome_seq (· ++ ·) (h v ht.1) (fun _ => ih ht.2)

theorem serFields_outcome {fs : List Ty} (ih : ∀ f ∈ fs, SerOK f) :
    ∀ vs off, hasTyFields fs vs = true → Outcome (reprFields fs vs) (serFields fs vs off) := by
  induction fs with
  | nil =>
    intro vs off ht
    cases vs <;> cases ht
    exact outcome_true
  | cons f fs ihf =>
    intro vs off ht
    obtain ⟨ihf', ihfs⟩ := List.forall_mem_cons.1 ih
    cases vs with
    | nil => cases ht
    | cons v vs =>
      obtain ⟨hv, hvs⟩ := Bool.and_eq_true_iff.1 ht
      exact outcome_seq (zeros (padLen (align f) off) ++ · ++ ·) (ihf' v hv)
        (fun a => ihf ihfs vs (padTo (align f) off + a.length) hvs)

theorem serOK (t : Ty) : SerOK t := by
  induction t using Ty.ind with
  | uint | sint | float | bool | void =>
    intro v ht
    -- the matching shape is serialized, no other shape is well-typed
    cases v <;> first | exact outcome_true | cases ht
  | arr t n ih =>
    intro v ht
    cases v with
    | arr vs =>
      obtain ⟨hn, hall⟩ := Bool.and_eq_true_iff.1 ht
      show Outcome (vs.all (representable t)) (if vs.length = n then _ else _)
      rw [if_pos (eq_of_beq hn)]
      exact serAll_outcome ih vs hall
    | _ => cases ht
  | varr t cap ih =>
    intro v ht
    cases v with
    | arr vs =>
      show Outcome (decide (vs.length ≤ cap) && vs.all (representable t))
        (if vs.length > cap then _ else _)
      by_cases hc : vs.length > cap
      · rw [if_pos hc, decide_eq_false (Nat.not_le.2 hc)]
        exact outcome_false (.inl rfl)
      · rw [if_neg hc, decide_eq_true (Nat.not_lt.1 hc)]
        exact outcome_map _ (serAll_outcome ih vs ht)
    | _ => cases ht
  | struct fs ih =>
    intro v ht
    cases v with
    | struct vs => exact outcome_map _ (serFields_outcome ih vs 0 ht)
    | _ => cases ht
  | union fs ih =>
    intro v ht
    cases v with
    | union k v =>
      show Outcome (decide (k < fs.length) && reprNth fs k v) (if k ≥ fs.length then _ else _)
      by_cases hc : k ≥ fs.length
      · rw [if_pos hc, decide_eq_false (Nat.not_lt.2 hc)]
        exact outcome_false (.inr rfl)
      · have hk := Nat.not_le.1 hc
        rw [if_neg hc, decide_eq_true hk, serNth_eq hk, reprNth_eq hk]
        exact outcome_map _ (ih _ (List.getElem_mem hk) v (hasTyNth_eq hk ▸ ht))
    | _ => cases ht
  | delim e t ih => exact fun v ht => outcome_map _ (ih v ht)

theorem isReject_of_error {t : Ty} {v : Val} {e : SerErr} (ht : hasTy t v = true) (h : serBits t v = .error e) :
    IsReject e := by
  have hrej := serOK t v ht
  cases hrep : representable t v with
  | true => obtain ⟨bs, hb⟩ := hrej.1 hrep; rw [hb] at h; cases h
  | false => obtain ⟨e2, he2, hk⟩ := hrej.2 hrep; rw [he2] at h; cases h; exact hk

end NunavutVerif.Dsdl
