import NunavutVerif.Lemmas.Float16Near
/-!
The property theorems, once, for any packer `f` that splits into sign and a magnitude function `g` obeying
`MagLaw` (which `MagLaw.of_bracket` builds from the bracket below the threshold).  Specification level only; the
instances are the shipped ties-away packer (`pack`, `packMag`: `Float16Pack`), the repaired ties-to-even packer
(`packRneC`, `packMag2`) and the Python target (`packRne`, `packMag2`), both in `Float16Fixed`; the round trip
through `unpack` is `gen_roundtrip` in `Float16Unpack`.
-/
namespace NunavutVerif.Float16

/-- What the regional lemmas establish about the magnitude part of a packer. -/
structure MagLaw (g : Nat → Nat) : Prop where
  lt : ∀ a, g a < 32768
  bracket : ∀ a, a < 1199566848 → g a < 31744 ∧ Bracket a (g a)
  overflow : ∀ a, a < 2139095040 → (g a = 31744 ↔ 1199566848 ≤ a)
  mono : ∀ a b, a ≤ b → b ≤ 2139095040 → g a ≤ g b
  nan : ∀ a, a < 2147483648 → (31744 < g a ↔ 2139095040 < a)
  inf : g 2139095040 = 31744
  zero : g 0 = 0

def Packs (f g : Nat → Nat) : Prop :=
  ∀ x, x < 4294967296 → f x = g (x % 2147483648) + x / 2147483648 * 32768

theorem mono_of_bracket {g : Nat → Nat} (hbr : ∀ a, a < 1199566848 → g a < 31744 ∧ Bracket a (g a))
    (htop : ∀ a, 1199566848 ≤ a → a ≤ 2139095040 → g a = 31744)
    (a b : Nat) (hab : a ≤ b) (hb : b ≤ 2139095040) : g a ≤ g b := by
  by_cases h1 : b < 1199566848
  · by_cases h2 : a = b
    · rw [h2]; exact Nat.le_refl _
    · have ha := hbr a (by omega)
      exact bracket_mono a b _ _ (by omega) (by omega) (by omega) ha.2 (hbr b h1).2
  · rw [htop b (by omega) hb]
    by_cases h2 : a < 1199566848
    · exact Nat.le_of_lt (hbr a h2).1
    · rw [htop a (by omega) (by omega)]; exact Nat.le_refl _

theorem MagLaw.of_bracket {g : Nat → Nat} (lt : ∀ a, g a < 32768)
    (br : ∀ a, a < 1199566848 → g a < 31744 ∧ Bracket a (g a))
    (top : ∀ a, 1199566848 ≤ a → a ≤ 2139095040 → g a = 31744)
    (nan : ∀ a, 2139095040 < a → a < 2147483648 → 31744 < g a) : MagLaw g where
  lt := lt
  bracket := br
  overflow := fun a ha =>
    ⟨fun e => Nat.le_of_not_lt fun c => Nat.ne_of_lt (br a c).1 e, fun c => top a c (Nat.le_of_lt ha)⟩
  mono := mono_of_bracket br top
  nan := fun a ha => by
    refine ⟨fun h => Nat.lt_of_not_le fun c => ?_, fun c => nan a c ha⟩
    -- up to infinity `g` stays below its value at infinity
    have := mono_of_bracket br top a _ c (Nat.le_refl _)
    rw [top _ (by omega) (Nat.le_refl _)] at this
    omega
  inf := top _ (by omega) (by omega)
  zero := eq_of_bracket 0 _ 0 (br 0 (by omega)).2 (br 0 (by omega)).1 (by omega) (by decide)

theorem natAbs_sub (a b : Nat) : ((a : Int) - b).natAbs = dist a b := by unfold dist; omega
theorem natAbs_neg_sub_neg (a b : Nat) : (-(a : Int) - -(b : Int)).natAbs = dist a b := by unfold dist; omega
theorem natAbs_neg_sub (a b : Nat) : (-(a : Int) - b).natAbs = a + b := by omega
theorem natAbs_sub_neg (a b : Nat) : ((a : Int) - -(b : Int)).natAbs = a + b := by omega

theorem natAbs_sub_le (M v Q : Nat) (s t : Bool) (n1 : dist M v ≤ dist Q v) :
    ((bif s then -(M : Int) else M) - (bif s then -(v : Int) else v)).natAbs ≤
    ((bif t then -(Q : Int) else Q) - (bif s then -(v : Int) else v)).natAbs := by
  have n0 : dist M v ≤ Q + v := by unfold dist at n1 ⊢; omega
  cases s <;> cases t <;>
    simp only [cond_true, cond_false, natAbs_sub, natAbs_neg_sub_neg, natAbs_neg_sub, natAbs_sub_neg] <;> assumption

theorem val_le_of_mag (vx vy Mx My : Nat) (s t : Bool) (kxy : vx ≤ vy → Mx ≤ My) (kyx : vy ≤ vx → My ≤ Mx)
    (zy : vy = 0 → My = 0)
    (hle : (bif s then -(vx : Int) else vx) ≤ (bif t then -(vy : Int) else vy)) :
    (bif s then -(Mx : Int) else Mx) ≤ (bif t then -(My : Int) else My) := by
  -- `zy` serves `+vx ≤ -vy`, where both are zero: then `My = 0`, and `Mx ≤ My` by `kxy`
  cases s <;> cases t <;> simp only [cond_true, cond_false] at hle ⊢ <;> omega

section generic
variable {f g : Nat → Nat} (P : Packs f g) (L : MagLaw g)
include P L

theorem gen_mod (x : Nat) (hx : x < 4294967296) : f x % 32768 = g (x % 2147483648) := by
  have := L.lt (x % 2147483648)
  rw [P x hx]; omega

theorem gen_div (x : Nat) (hx : x < 4294967296) : f x / 32768 = x / 2147483648 := by
  have := L.lt (x % 2147483648)
  rw [P x hx]; omega

theorem gen_lt (x : Nat) (hx : x < 4294967296) : f x < 65536 := by
  have := L.lt (x % 2147483648)
  rw [P x hx]; omega

theorem gen_neg (x : Nat) (hx : x < 4294967296) : F16.neg (f x) = F32.neg x := by
  have h1 := gen_div P L x hx
  have h2 := gen_lt P L x hx
  rw [Bool.eq_iff_iff, F16.neg_iff _ h2, F32.neg_iff x hx]
  omega

theorem gen_mag (x : Nat) (hx : x < 4294967296) : F16.mag (f x) = F16.mag (g (x % 2147483648)) := by
  rw [F16.mag_mod, gen_mod P L x hx]

theorem gen_nan (x : Nat) (hx : x < 4294967296) : F16.isNaN (f x) = F32.isNaN x := by
  rw [Bool.eq_iff_iff, F16.isNaN_iff, F32.isNaN_iff, gen_mod P L x hx]
  exact L.nan _ (by omega)

theorem gen_inf (x : Nat) (hx : x < 4294967296) (hi : F32.isInf x = true) : F16.isInf (f x) = true := by
  have := (F32.isInf_iff x).1 hi
  rw [F16.isInf_iff, gen_mod P L x hx, this]
  exact L.inf

theorem gen_overflow (x : Nat) (hx : x < 4294967296) (hf : F32.isFinite x = true) :
    F16.isInf (f x) = true ↔ 65520 * 2 ^ 149 ≤ F32.mag x := by
  have hfin := (F32.isFinite_iff x).1 hf
  rw [F16.isInf_iff, gen_mod P L x hx, L.overflow _ hfin, F32.mag_mod x, ← mag_threshold]
  exact (F32.mag_le_iff _ _ (by omega) (by omega)).symm

omit P in
theorem gen_exact (a p : Nat) (hp : p < 31744) (he : F32.mag a = F16.mag p) : g (a % 2147483648) = p := by
  have ha := lt_threshold_of_mag_lt a (by rw [he]; exact F16.mag_lt_threshold p hp)
  obtain ⟨hr, hb⟩ := L.bracket _ ha
  exact eq_of_bracket _ _ p hb hr hp (by rw [← F32.mag_mod a]; exact he)

theorem gen_nearest (x : Nat) (hx : x < 4294967296) (hlt : F32.mag x < 65520 * 2 ^ 149) :
    F16.isFinite (f x) = true ∧
    ∀ h, h < 65536 → F16.isFinite h = true →
      (F16.val (f x) - F32.val x).natAbs ≤ (F16.val h - F32.val x).natAbs := by
  have ha := lt_threshold_of_mag_lt x hlt
  obtain ⟨hr, hbr⟩ := L.bracket _ ha
  refine ⟨(F16.isFinite_iff _).2 (by rw [gen_mod P L x hx]; exact hr), ?_⟩
  intro h hh hhf
  have hq := (F16.isFinite_iff h).1 hhf
  have n1 := nearest_of_bracket _ _ (h % 32768) hbr hr hq
  rw [← F16.mag_mod h, ← F32.mag_mod x, ← gen_mag P L x hx] at n1
  unfold F16.val F32.val
  rw [gen_neg P L x hx]
  exact natAbs_sub_le _ _ _ _ _ n1

theorem gen_faithful (x : Nat) (hx : x < 4294967296)
    (hlt : F32.mag x < 65520 * 2 ^ 149) (h : Nat) (hh : h < 65536) (hhf : F16.isFinite h = true) :
    ¬ (F16.val (f x) < F16.val h ∧ F16.val h < F32.val x) ∧
    ¬ (F32.val x < F16.val h ∧ F16.val h < F16.val (f x)) ∧
    (F16.val h = F32.val x → F16.val (f x) = F32.val x) := by
  have hn := (gen_nearest P L x hx hlt).2 h hh hhf
  refine ⟨?_, ?_, ?_⟩
  · intro ⟨h1, h2⟩; omega
  · intro ⟨h1, h2⟩; omega
  · intro he; rw [he] at hn; omega

theorem gen_mag_mono (x y : Nat) (hx : x < 4294967296) (hy : y < 4294967296)
    (nx : F32.isNaN x = false) (ny : F32.isNaN y = false) (h : F32.mag x ≤ F32.mag y) :
    F16.mag (f x) ≤ F16.mag (f y) := by
  have ha := (F32.isNaN_false_iff x).1 nx
  have hb := (F32.isNaN_false_iff y).1 ny
  rw [F32.mag_mod x, F32.mag_mod y, F32.mag_le_iff _ _ (by omega) (by omega)] at h
  rw [gen_mag P L x hx, gen_mag P L y hy]
  exact F16.mag_mono _ _ (L.mono _ _ h hb) (L.lt _)

theorem gen_mag_zero (x : Nat) (hx : x < 4294967296) (h0 : F32.mag x = 0) : F16.mag (f x) = 0 := by
  rw [gen_mag P L x hx, gen_exact L x 0 (by omega) h0]
  rfl

theorem gen_monotone (x y : Nat) (hx : x < 4294967296) (hy : y < 4294967296)
    (nx : F32.isNaN x = false) (ny : F32.isNaN y = false) (hle : F32.val x ≤ F32.val y) :
    F16.val (f x) ≤ F16.val (f y) := by
  unfold F16.val
  rw [gen_neg P L x hx, gen_neg P L y hy]
  exact val_le_of_mag _ _ _ _ _ _ (gen_mag_mono P L x y hx hy nx ny) (gen_mag_mono P L y x hy hx ny nx)
    (gen_mag_zero P L y hy) hle

theorem gen_ties_to_even (hE : ∀ a, a < 1199566848 → BracketEven a (g a)) (x p : Nat) (hx : x < 4294967296)
    (hp : p + 1 < 31744) (hmid : 2 * F32.mag x = F16.mag p + F16.mag (p + 1)) :
    f x % 32768 = if p % 2 = 0 then p else p + 1 := by
  have s1 := F16.mag_strict p (p + 1) (by omega) (by omega)
  have t := F16.mag_lt_threshold (p + 1) hp
  have ha := lt_threshold_of_mag_lt x (by generalize 65520 * 2 ^ 149 = T at t ⊢; omega)
  rw [gen_mod P L x hx]
  exact even_of_bracketEven _ _ p (hE _ ha) (L.bracket _ ha).1 hp (by rw [← F32.mag_mod x]; exact hmid)

end generic

end NunavutVerif.Float16
