import NunavutVerif.Lemmas.Float16Pack
/-!
The repaired packer `packRneC` in arithmetic form.  The unit in the last place of `[0.5, 1)` is `2^-24`, that of the
subnormal halves, so the modelled addition `x + 0.5f` yields `0x3F000000 + rne (|x|·2^149) 125` for every
`|x| < 2^-14`; the normal range is rounded by integer arithmetic on the pattern.  Its bracket (with strict
inequalities at odd results) and `MagLaw packMag2`.  The round-to-nearest-even model `packRne` of the Python target
is the same function.
-/
namespace NunavutVerif.Float16

theorem rne_mag (a : Nat) (ha : a < 126 * 8388608) :
    rne (F32.mag a) 125 = rne (F32.sig a) (126 - F32.exp a) := by
  obtain ⟨he1, he2⟩ := F32.exp_bounds a 125 (by omega) ha
  have := rne_scale (F32.sig a) (126 - F32.exp a) (F32.exp a - 1) (by omega)
  rwa [show 126 - F32.exp a + (F32.exp a - 1) = 125 by omega, ← F32.mag_sig a (by omega)] at this

/-- The C idiom `(P + 0x0FFF + odd) >> 13` with `odd = (P >> 13) & 1`. -/
theorem rne13 (P : Nat) : rne P 13 = (P + 4095 + P / 8192 % 2) / 8192 := by
  rw [rne_eq, show 13 - 1 = 12 from rfl, show (2 : Nat) ^ 13 = 8192 by decide, show (2 : Nat) ^ 12 = 4096 by decide]
  split <;> omega

/-- `0x3F000000 = 126 <<< 23` is `0.5f`, the larger operand since `a` is below `947912704 = 113 <<< 23`; `d`, `S`, `r`
are those of `f32add`. -/
theorem f32add_half_eq (a : Nat) (ha : a < 947912704) : f32add a 0x3F000000 =
    (let d := 126 - F32.exp a
     let S := 8388608 * 2 ^ d + F32.sig a
     let r := if S < 2 ^ (24 + d) then 125 * 8388608 + rne S d else 126 * 8388608 + rne S (d + 1)
     if 2139095040 ≤ r then 2139095040 else r) := by
  have hea : a >>> 23 = a / 8388608 := by rw [Nat.shiftRight_eq_div_pow]
  simp only [f32add, Nat.ble_eq_true_of_le (show a ≤ 1056964608 by omega), cond_true, hea,
    show (1056964608 >>> 23) = 126 from rfl, show Nat.beq 126 0 = false from rfl, cond_false,
    show 1056964608 % 8388608 + 8388608 = 8388608 from rfl, show 126 - 1 = 125 from rfl, Nat.shiftLeft_eq]
  simp only [F32.sig, F32.exp, cond_eq_ite, Nat.beq_eq, Nat.blt_eq, Nat.ble_eq]
  rfl

theorem f32add_half (a : Nat) (ha : a < 947912704) :
    f32add a 0x3F000000 = 1056964608 + rne (F32.mag a) 125 ∧ rne (F32.mag a) 125 ≤ 1024 := by
  have hM := F32.sig_lt a
  obtain ⟨he1, he2⟩ := F32.exp_bounds a 112 (by omega) ha
  rw [f32add_half_eq a ha, rne_mag a (by omega)]
  generalize F32.sig a = M at hM ⊢
  generalize hd : 126 - F32.exp a = d
  -- the sum `2^(23+d) + M` stays in the binade of `0.5`, since `M < 2^24 ≤ 2^(10+d)`
  have hpow : 2 ^ 14 ≤ 2 ^ d := Nat.pow_le_pow_right (by omega) (by omega)
  have hS : 8388608 * 2 ^ d + M < 2 ^ (24 + d) := by
    rw [Nat.pow_add]; omega
  have hq : M / 2 ^ d ≤ M / 2 ^ 14 := Nat.div_le_div_left hpow (by omega)
  have hle := rne_le M d
  simp only []
  rw [if_pos hS, rne_add_mul 8388608 M d (by decide), if_neg (by omega)]
  constructor <;> omega

/-- `packRneC` on the magnitude `a = x % 2^31`. -/
def packMag2 (a : Nat) : Nat :=
  if 1199570944 ≤ a then (if 2139095040 < a then 0x7E00 else 0x7C00)
  else if a < 947912704 then rne (F32.mag a) 125
  else (a - 939524096 + 4095 + a / 8192 % 2) / 8192

theorem packMag2_lt (a : Nat) : packMag2 a < 32768 := by
  unfold packMag2
  by_cases h1 : 1199570944 ≤ a
  · rw [if_pos h1]; split <;> omega
  · rw [if_neg h1]
    by_cases h2 : a < 947912704
    · rw [if_pos h2]; have := (f32add_half a h2).2; omega
    · rw [if_neg h2]; omega

theorem packRneC_eq (x : Nat) (hx : x < 4294967296) :
    packRneC x = packMag2 (x % 2147483648) + x / 2147483648 * 32768 := by
  have ha : x % 2147483648 < 2147483648 := Nat.mod_lt _ (by omega)
  rw [← or_high _ _ 15 (packMag2_lt _)]
  simp only [packRneC, packMag2, and_sign x hx, xor_sign x, sign_shift x hx, cond_eq_ite, Nat.ble_eq,
    Nat.blt_eq, Nat.shiftRight_eq_div_pow, Nat.and_one_is_mod]
  generalize x % 2147483648 = a at ha ⊢
  refine congrArg (· ||| _) ?_
  split
  · rfl
  · split
    · next h =>
      obtain ⟨e, le⟩ := f32add_half a h
      rw [e]; omega
    · -- `uint32` arithmetic without wrap-around, and the truncation to 16 bits does nothing
      have hodd : a / 8192 % 2 < 2 := Nat.mod_lt _ (by omega)
      rw [show (2 : Nat) ^ 13 = 8192 by decide,
        show (a + 4294967296 - 939524096) % 4294967296 = a - 939524096 by omega, ← Nat.add_assoc,
        Nat.mod_eq_of_lt (show a - 939524096 + 4095 + a / 8192 % 2 < 4294967296 by omega),
        Nat.mod_eq_of_lt (by omega)]

theorem packMag2_sub (a : Nat) (h : a < 947912704) : packMag2 a = rne (F32.mag a) 125 := by
  unfold packMag2; rw [if_neg (by omega), if_pos h]

theorem packMag2_norm (a : Nat) (h1 : 947912704 ≤ a) (h2 : a < 1199570944) :
    packMag2 a = rne (a - 939524096) 13 := by
  unfold packMag2; rw [if_neg (by omega), if_neg (by omega), rne13]; omega

theorem packMag2_top (a : Nat) (h1 : 1199566848 ≤ a) (h2 : a ≤ 2139095040) : packMag2 a = 31744 := by
  by_cases h : a < 1199570944
  · have := rne_bracket (a - 939524096) 13 (by omega)
    rw [packMag2_norm a (by omega) h]; omega
  · unfold packMag2; rw [if_pos (by omega), if_neg (by omega)]

theorem packMag2_nan (a : Nat) (h1 : 2139095040 < a) (_ : a < 2147483648) : 31744 < packMag2 a := by
  unfold packMag2; rw [if_pos (by omega), if_pos h1]; decide

theorem packMag2_bracket (a : Nat) (ha : a < 1199566848) : packMag2 a < 31744 ∧ BracketEven a (packMag2 a) := by
  by_cases h1 : a < 947912704
  · -- halves in units of `2^125`: the bracket is that of `rne · 125`
    have hb := (f32add_half a h1).2
    have hr := rne_bracket (F32.mag a) 125 (by omega)
    rw [packMag2_sub a h1]
    generalize rne (F32.mag a) 125 = r at hb hr
    unfold BracketEven Bracket
    rw [F16.mag_small (r - 1) (by omega), F16.mag_small r (by omega), F16.mag_small (r + 1) (by omega)]
    omega
  · -- normal halves: `rne · 13` acts on the pattern of `|a|·2^-112`
    obtain ⟨h1, h2, ho⟩ := rne_bracket (a - 939524096) 13 (by omega)
    have e := F32.mag_unbias a (by omega) (by omega)
    rw [packMag2_norm a (by omega) (by omega)]
    generalize rne (a - 939524096) 13 = r at h1 h2 ho
    have hr : 1 ≤ r ∧ r < 31744 := by omega
    have b := bracket_scaled a _ _ r hr.2 (by omega) (by omega) (Nat.le_of_eq e.symm) (Nat.le_of_eq e) h1 h2
    exact ⟨hr.2, b.1, fun h => ⟨b.2.1 hr.1 (ho h).1, b.2.2 (ho h).2⟩⟩

theorem magLaw_packRneC : MagLaw packMag2 :=
  .of_bracket packMag2_lt (fun a ha => ⟨(packMag2_bracket a ha).1, (packMag2_bracket a ha).2.1⟩) packMag2_top packMag2_nan

theorem packs_packRneC : Packs packRneC packMag2 := packRneC_eq

theorem packRne_eq (x : Nat) (_hx : x < 4294967296) :
    packRne x = packMag2 (x % 2147483648) + x / 2147483648 * 32768 := by
  have ha : x % 2147483648 < 2147483648 := Nat.mod_lt _ (by omega)
  simp only [packRne, cond_eq_ite, Nat.ble_eq, Nat.beq_eq, Nat.shiftRight_eq_div_pow,
    show (2:Nat) ^ 31 = 2147483648 from by decide, show (2:Nat) ^ 23 = 8388608 from by decide]
  generalize x % 2147483648 = a at ha ⊢
  refine congrArg (· + _) ?_
  split
  · unfold packMag2
    rw [if_pos (show 1199570944 ≤ a by omega)]
    -- from infinity on, `a = 0x7F800000` is `¬ 0x7F800000 < a`
    split <;> split <;> omega
  · split
    · -- normal halves: both are `rne · 13`, the clamp acts only where `packMag2` is already infinity
      have hr := rne_bracket (a - 939524096) 13 (by omega)
      by_cases h3 : 1199570944 ≤ a
      · rw [packMag2_top a (by omega) (by omega)]; split <;> omega
      · rw [packMag2_norm a (by omega) (by omega)]; split <;> omega
    · rw [packMag2_sub a (by omega), rne_mag a (by omega)]
      by_cases h0 : a < 8388608
      · -- binary32 subnormals: both round to zero
        obtain ⟨hs, he⟩ := F32.sig_exp_of_lt a h0
        have r1 := rne_bracket (a % 8388608 + 8388608) (126 - 0) (by omega)
        have r2 := rne_bracket a (126 - 1) (by omega)
        rw [hs, he, show a / 8388608 = 0 by omega]
        omega
      · obtain ⟨hs, he⟩ := F32.sig_exp_of_ge a (by omega)
        rw [hs, he]

theorem packs_packRne : Packs packRne packMag2 := packRne_eq

end NunavutVerif.Float16
