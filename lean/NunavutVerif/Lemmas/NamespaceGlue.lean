import NunavutVerif.Model.NamespaceGlue
import NunavutVerif.Lemmas.Namespace
/-!
Helper lemmas for the path glue of C11 (`Model/NamespaceGlue.lean`): what `create()` leaves in a configuration
section under the builder's overrides; the kernel's path walk keeps a path of safe segments below the resolved base;
every generated file is such a path (`InsideSafe`), and so is every directory `mkdir -p` creates unless it is the base
or above it.  Core Lean only.
-/
namespace NunavutVerif.Namespace

theorem secGet_secSet (s : Section) (k k' : Str) (v : Option Str) :
    secGet (secSet s k v) k' = if k' = k then some v else secGet s k' := by
  unfold secGet secSet
  split
  next hany =>
    -- the assignment keeps every key in its place, so the same entry is found
    have hkey : ∀ e : Str × Option Str, (if e.1 = k then (k, v) else e).1 = e.1 := by
      intro e; split <;> simp [*]
    rw [List.find?_map]
    simp only [Function.comp_def, hkey]
    cases hf : s.find? (fun e => decide (e.1 = k')) with
    | none =>
      have hk : k' ≠ k := by
        rintro rfl
        obtain ⟨e, he, hek⟩ := List.any_eq_true.1 hany
        exact List.find?_eq_none.1 hf e he hek
      simp [hk]
    | some e =>
      have he : e.1 = k' := by simpa using List.find?_some hf
      by_cases hk : k' = k <;> simp [he, hk]
  next hany =>
    have hnone : s.find? (fun e => decide (e.1 = k)) = none :=
      List.find?_eq_none.2 fun e he h => hany (List.any_eq_true.2 ⟨e, he, h⟩)
    by_cases hk : k' = k
    · subst hk
      simp [List.find?_append, hnone]
    · have hk2 : ¬ k = k' := fun e => hk e.symm
      simp [List.find?_append, hk, hk2]

theorem keyExtension_ne_keyStem : keyExtension ≠ keyStem := by
  -- the literals as character lists first: evaluating `String.toList` decodes them from UTF-8, which is slow
  unfold keyExtension keyStem Gen.NsGlue.keyExtension Gen.NsGlue.keyNamespaceFileStem
  rw [String.toList_ofList, String.toList_ofList]
  decide

theorem deepUpdate_nil (t : Section) : deepUpdate t [] = t := rfl

theorem deepUpdate_cons (t : Section) (e : Str × Option Str) (r : Section) :
    deepUpdate t (e :: r) = deepUpdate (secSet t e.1 e.2) r := rfl

/-- The section's stem as `Namespace.__init__` reads it: always a value (default `_`). -/
def sectionStem (s : Section) : Str :=
  match secGet s keyStem with
  | some (some v) => v
  | some none => []
  | none => defaultStem

theorem getConfigValue_stem (s : Section) : getConfigValue s keyStem (some defaultStem) = .ok (sectionStem s) := by
  unfold getConfigValue sectionStem
  cases secGet s keyStem with
  | none => rfl
  | some v => cases v <;> rfl

theorem secGet_setOverride (s : Section) (k k' : Str) (v : Option Str) :
    secGet (setOverride s k v) k' = if k' = k ∧ v.isSome then some v else secGet s k' := by
  cases v with
  | none => simp [setOverride]
  | some x => simp [setOverride, secGet_secSet]

theorem deepUpdate_overrides (t : Section) (ext stem : Option Str) :
    deepUpdate t (setOverride (setExtension [] ext) keyStem stem) = setOverride (setExtension t ext) keyStem stem := by
  have e1 : ∀ (k : Str) (v : Option Str), secSet [] k v = [(k, v)] := fun _ _ => rfl
  have e2 : ∀ ev sv, secSet [(keyExtension, ev)] keyStem sv = [(keyExtension, ev), (keyStem, sv)] := by
    intro ev sv; simp [secSet, keyExtension_ne_keyStem]
  cases ext <;> cases stem <;> simp only [setExtension, setOverride, e1, e2, deepUpdate_cons, deepUpdate_nil]

theorem secGet_effective (lang : Section) (files : List Section) (ext stem : Option Str) (k : Str) :
    secGet (effectiveSection lang files (setOverride (setExtension [] ext) keyStem stem)) k =
      if k = keyStem ∧ stem.isSome then some stem
      else if k = keyExtension ∧ ext.isSome then some ext
      else secGet (files.foldl deepUpdate lang) k := by
  rw [effectiveSection, deepUpdate_overrides, secGet_setOverride, setExtension, secGet_setOverride]

theorem getConfigValue_effective_ext (lang : Section) (files : List Section) (ext stem : Option Str) :
    getConfigValue (effectiveSection lang files (setOverride (setExtension [] ext) keyStem stem)) keyExtension none =
      match ext with
      | some e => .ok e
      | none => getConfigValue (files.foldl deepUpdate lang) keyExtension none := by
  unfold getConfigValue
  rw [secGet_effective]
  cases ext <;> simp [keyExtension_ne_keyStem]

theorem getConfigValue_effective_stem (lang : Section) (files : List Section) (ext stem : Option Str) :
    getConfigValue (effectiveSection lang files (setOverride (setExtension [] ext) keyStem stem)) keyStem
        (some defaultStem) =
      .ok (match stem with
        | some s => s
        | none => sectionStem (files.foldl deepUpdate lang)) := by
  cases stem with
  | some s =>
    unfold getConfigValue
    rw [secGet_effective]
    simp
  | none =>
    rw [← getConfigValue_stem]
    unfold getConfigValue
    rw [secGet_effective]
    have hne : keyStem ≠ keyExtension := fun e => keyExtension_ne_keyStem e.symm
    simp [hne]

theorem cfgOfCli_eq_cfgOfApi (strop : Str → Str) (enable : Bool) (lang : Section) (files : List Section) (a : CliArgs) :
    cfgOfCli strop enable lang files a =
      cfgOfApi strop enable lang files (a.outputExtension.map extensionType) a.namespaceOutputStem
        (a.outdir.getD defaultOutdir) := rfl

theorem foldl_filter_noop {σ α} (f : σ → α → σ) (keep : α → Bool) (hno : ∀ x, keep x = false → ∀ st, f st x = st)
    (l : List α) (init : σ) : l.foldl f init = (l.filter keep).foldl f init := by
  induction l generalizing init with
  | nil => rfl
  | cons a r ih =>
    simp only [List.foldl_cons, List.filter_cons]
    cases hk : keep a with
    | true => simp [ih]
    | false => simp [hno a hk, ih]

theorem stepFs_noop (fs : Fs) (c : Str) (h : keepPart c = false) (phys : Path) : stepFs fs phys c = phys := by
  unfold stepFs
  have : c = [] ∨ c = ['.'] := by
    by_cases h1 : c = []
    · exact Or.inl h1
    · by_cases h2 : c = ['.']
      · exact Or.inr h2
      · simp [keepPart, h1, h2] at h
  rw [if_pos this]

theorem splitSlash_ne_nil (s : Str) : splitSlash s ≠ [] := by
  fun_induction splitSlash s <;> simp

theorem splitSlash_pieces_noslash (s : Str) : ∀ p ∈ splitSlash s, '/' ∉ p := by
  fun_induction splitSlash s with
  | case1 => simp
  | case2 rest ih => simpa using ih
  | case3 c rest hc hsp ih => simpa using Ne.symm hc
  | case4 c rest hc h t hsp ih =>
    simp only [hsp, List.mem_cons, forall_eq_or_imp, not_or] at ih ⊢
    exact ⟨⟨Ne.symm hc, ih.1⟩, ih.2⟩

theorem segParts_head_ne_root (s : Str) : (segParts s).head? ≠ some rootPart :=
  head?_ne_root fun p hp => splitSlash_pieces_noslash s p (List.mem_filter.1 hp).1

theorem resolveStr_eq_resolve_pjoin (fs : Fs) (s : Str) : resolveStr fs s = resolve fs (pjoin [] s) := by
  unfold resolveStr
  rw [foldl_filter_noop (stepFs fs) keepPart (fun c h st => stepFs_noop fs c h st)]
  unfold pjoin resolve
  by_cases ha : isAbs s = true
  · simp only [ha, if_true, List.head?_cons, List.tail_cons]
    rfl
  · have hne := segParts_head_ne_root s
    simp only [ha, Bool.false_eq_true, if_false, List.nil_append, hne]
    rfl

theorem resolve_append (fs : Fs) (b rel : Path) (h : rel.head? ≠ some rootPart) :
    resolve fs (b ++ rel) = rel.foldl (stepFs fs) (resolve fs b) := by
  cases b with
  | nil =>
    simp only [List.nil_append]
    unfold resolve
    simp [h]
  | cons x y =>
    unfold resolve
    by_cases hx : x = rootPart
    · simp [hx, List.foldl_append]
    · have : ¬ (some x = some rootPart) := fun e => hx (Option.some.inj e)
      simp [this, List.foldl_append]

theorem stepFs_safe (fs : Fs) (phys : Path) (c : Str) (hs : SafeSeg c) (hl : fs.link (phys ++ [c]) = none) :
    stepFs fs phys c = phys ++ [c] := by
  obtain ⟨h1, h2, h3, _⟩ := hs
  unfold stepFs
  have : ¬ (c = [] ∨ c = ['.']) := by rintro (e | e) <;> contradiction
  rw [if_neg this, if_neg h3, hl]

theorem foldl_stepFs_safe (fs : Fs) (d : Path) (hl : NoLinkBelow fs d) (rel pre : Path)
    (hs : ∀ s ∈ rel, SafeSeg s) : rel.foldl (stepFs fs) (d ++ pre) = d ++ pre ++ rel := by
  induction rel generalizing pre with
  | nil => simp
  | cons c r ih =>
    simp only [List.foldl_cons]
    rw [stepFs_safe fs _ c (hs c (by simp)) (by rw [List.append_assoc]; exact hl _ (by simp))]
    rw [List.append_assoc, ih (pre ++ [c]) (fun s h => hs s (by simp [h]))]
    simp

theorem resolve_insideSafe (fs : Fs) (base rel : Path) (hs : ∀ s ∈ rel, SafeSeg s)
    (hl : NoLinkBelow fs (resolve fs base)) : resolve fs (base ++ rel) = resolve fs base ++ rel := by
  rw [resolve_append fs base rel (head?_ne_root fun s h => (hs s h).2.2.2)]
  simpa using foldl_stepFs_safe fs (resolve fs base) hl rel [] hs

def Inside (base p : Path) : Prop :=
  ∃ rel, p = base ++ rel ∧ rel ≠ [] ∧ ∀ s ∈ rel, s ≠ [] ∧ '/' ∉ s ∧ s ≠ ['.', '.']

def InsideSafe (base p : Path) : Prop := ∃ rel, p = base ++ rel ∧ rel ≠ [] ∧ ∀ s ∈ rel, SafeSeg s

theorem insideSafe_inside {base p : Path} (h : InsideSafe base p) : Inside base p := by
  obtain ⟨rel, h1, h2, h3⟩ := h
  exact ⟨rel, h1, h2, fun s hs => ⟨(h3 s hs).1, (h3 s hs).2.2.2, (h3 s hs).2.2.1⟩⟩

theorem file_safeSeg {s ext : Str} (h : IdSeg s) (he : ValidExt ext) : SafeSeg (s ++ ext) := by
  obtain ⟨h1, h2, h3⟩ := h
  have hdot : ∀ rest, s ++ ext ≠ '.' :: rest := by
    cases s with
    | nil => exact absurd rfl h1
    | cons c r => intro rest e; simp at e; exact h3 (by simp [e.1])
  refine ⟨by simp [h1], hdot _, hdot _, ?_⟩
  simp only [List.mem_append, not_or]
  exact ⟨h2, validSuffix_noslash he⟩

theorem idseg_safeSeg {s : Str} (h : IdSeg s) : SafeSeg s :=
  List.append_nil s ▸ file_safeSeg (ext := []) h rfl

theorem insideSafe_dirs_file (base : Path) {dirs : List Str} {stem ext : Str} (hd : ∀ s ∈ dirs, IdSeg s)
    (hs : IdSeg stem) (he : ValidExt ext) : InsideSafe base (base ++ (dirs ++ [stem ++ ext])) := by
  refine ⟨_, rfl, by simp, fun s hs' => ?_⟩
  rcases List.mem_append.1 hs' with h | h
  · exact idseg_safeSeg (hd s h)
  · exact List.mem_singleton.1 h ▸ file_safeSeg hs he

theorem outputPath_insideSafe (cfg : Cfg) (t : Ty) (h : NamesOk cfg t) :
    ∃ p, outputPath cfg t = .ok p ∧ InsideSafe (basePath cfg) p :=
  ⟨_, outputPath_formula cfg t h, insideSafe_dirs_file _ (List.forall_mem_map.2 h.comps) h.name h.ext⟩

theorem nsOutputPath_insideSafe (cfg : Cfg) (k : Key) (hk : ∀ c ∈ k, IdSeg (cfg.strop c))
    (hstem : IdSeg cfg.stem) (hext : ValidExt cfg.ext) :
    ∃ p, nsOutputPath cfg k = .ok p ∧ InsideSafe (basePath cfg) p :=
  ⟨_, (nsOutputPath_formula cfg k hk hstem hext).trans (congrArg _ (List.append_assoc _ _ _)),
    insideSafe_dirs_file _ (List.forall_mem_map.2 hk) hstem hext⟩

def storedAt (cfg : Cfg) (st : Store) (k : Key) : List PathR := pathOf cfg st k :: (typesOf st k).map (·.2)

theorem Built.stored_insideSafe {cfg : Cfg} {ts : List Ty} {r : Str} {tr : Tree} (b : Built cfg ts r tr)
    (hnames : ∀ t ∈ ts, NamesOk cfg t) (hcomps : ∀ t ∈ ts, ∀ c ∈ t.ns, IdSeg (cfg.strop c)) (hstem : IdSeg cfg.stem)
    (hext : ValidExt cfg.ext) {k : Key} (hk : IsNs (nsOf ts) k) {x : PathR} (hx : x ∈ storedAt cfg tr.store k) :
    ∃ p, x = .ok p ∧ InsideSafe (basePath cfg) p := by
  rcases List.mem_cons.1 hx with rfl | hx
  · exact b.path k ▸ nsOutputPath_insideSafe cfg k (isNs_comps hk hcomps) hstem hext
  · obtain ⟨e, he, rfl⟩ := List.mem_map.1 hx
    obtain ⟨h1, _, h3⟩ := (b.types k e).1 he
    exact h3 ▸ outputPath_insideSafe cfg e.1 (hnames e.1 h1)

theorem mem_mkdirChain (p q : Path) : q ∈ mkdirChain p ↔ ∃ i, i + 1 < p.length ∧ q = p.take (i + 1) := by
  unfold mkdirChain
  simp only [List.mem_map, List.mem_range, Nat.lt_sub_iff_add_lt]
  exact ⟨fun ⟨i, hi, e⟩ => ⟨i, hi, e.symm⟩, fun ⟨i, hi, e⟩ => ⟨i, hi, e.symm⟩⟩

theorem mkdirChain_insideSafe (base p : Path) (h : InsideSafe base p) :
    ∀ q ∈ mkdirChain p, q <+: base ∨ InsideSafe base q := by
  obtain ⟨rel, rfl, hne, hs⟩ := h
  intro q hq
  obtain ⟨i, hi, rfl⟩ := (mem_mkdirChain _ _).1 hq
  by_cases hle : i + 1 ≤ base.length
  · left
    rw [List.take_append_of_le_length hle]
    exact List.take_prefix _ _
  · right
    have hlt : base.length < i + 1 := Nat.lt_of_not_le hle
    refine ⟨rel.take (i + 1 - base.length), ?_, take_ne_nil _ _ (Nat.sub_pos_of_lt hlt) hne,
      fun s hs' => hs s (List.mem_of_mem_take hs')⟩
    rw [List.take_append, List.take_of_length_le (Nat.le_of_lt hlt)]

theorem mem_okPaths (l : List PathR) (p : Path) : p ∈ okPaths l ↔ (.ok p : PathR) ∈ l := by
  unfold okPaths
  rw [List.mem_filterMap]
  constructor
  · rintro ⟨r, hr, h⟩
    cases r with
    | ok q => simp at h; subst h; exact hr
    | error e => simp at h
  · intro h; exact ⟨.ok p, h, rfl⟩

theorem mem_writtenFiles {cfg : Cfg} {tr : Tree} {nsTypes : Bool} {subs names : List Str} {x : PathR}
    (h : x ∈ writtenFiles cfg tr nsTypes subs names) :
    (∃ k ∈ allNamespaces tr, x ∈ storedAt cfg tr.store k) ∨ x ∈ names.map (supportTarget cfg tr subs) := by
  refine (List.mem_append.1 h).imp_left fun h => ?_
  cases nsTypes with
  | true => exact List.mem_flatMap.1 h
  | false =>
    rw [if_neg Bool.false_ne_true, allDatatypes, typeGen_eq, List.map_flatMap] at h
    exact (List.mem_flatMap.1 h).imp fun k hk => ⟨hk.1, List.mem_cons_of_mem _ hk.2⟩

theorem supportFiles_insideSafe (cfg : Cfg) (tr : Tree) (hb : baseOf cfg tr.store tr.root = basePath cfg)
    (subs names : List Str) (hsubs : ∀ s ∈ subs, IdSeg s)
    (hres : ∀ n ∈ names, ∃ stem suf, n = stem ++ '.' :: suf ∧ IdSeg stem ∧ suf ≠ [] ∧ '.' ∉ suf ∧ '/' ∉ suf)
    (hext : ValidExt cfg.ext) :
    ∀ p, (.ok p : PathR) ∈ names.map (supportTarget cfg tr subs) → InsideSafe (basePath cfg) p := by
  intro p hp
  obtain ⟨n, hn, hnp⟩ := List.mem_map.1 hp
  obtain ⟨stem, suf, rfl, h1, h2, h3, h4⟩ := hres n hn
  rw [supportTarget_dotted cfg tr hb subs stem suf hsubs h1 h2 h3 h4 hext] at hnp
  cases hnp
  exact insideSafe_dirs_file _ hsubs h1 hext

theorem createdPaths_inside (cfg : Cfg) (tr : Tree) (nsTypes : Bool) (subs names : List Str)
    (hfiles : ∀ p, (.ok p : PathR) ∈ writtenFiles cfg tr nsTypes subs names → InsideSafe (basePath cfg) p) :
    ∀ p ∈ createdPaths cfg tr nsTypes subs names, InsideSafe (basePath cfg) p ∨ p <+: basePath cfg := by
  intro p hp
  unfold createdPaths at hp
  rcases List.mem_append.1 hp with hp | hp
  · exact Or.inl (hfiles p ((mem_okPaths _ _).1 hp))
  · obtain ⟨f, hf, hpf⟩ := List.mem_flatMap.1 hp
    exact (mkdirChain_insideSafe _ f (hfiles f ((mem_okPaths _ _).1 hf)) p hpf).symm

end NunavutVerif.Namespace
