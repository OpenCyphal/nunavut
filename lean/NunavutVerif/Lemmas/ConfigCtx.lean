import NunavutVerif.Model.ConfigCtx
import NunavutVerif.Lemmas.Config
/-!
For the access-path and process layer of C13 (`Model/ConfigCtx.lean`).  A call on another builder changes neither the
file system nor the state of builder `b`, so what `b` is answered in a whole history is what it is answered in the
history of the calls that concern it (`history_independent`).  `_new_language_map` rewrites each section but the
target's once and no step touches the section of another, so the loop is described section by section (`buildMap_spec`).
-/
namespace NunavutVerif.Config

variable {κ σ : Type}

theorem alook_aset {α : Type} : ∀ (l : List (Nat × α)) (k k' : Nat) (v : α),
    alook (aset l k v) k' = if k = k' then some v else alook l k'
  | [], k, k', v => rfl
  | (k0, v0) :: r, k, k', v => by
    have ih := alook_aset r k k' v
    by_cases h : k0 = k <;> by_cases hk : k0 = k' <;> simp_all [aset, alook]
    · intro h'; exact absurd h'.symm h

theorem alook_aset_self {α : Type} (l : List (Nat × α)) (k : Nat) (v : α) : alook (aset l k v) k = some v := by
  rw [alook_aset, if_pos rfl]

theorem alook_aset_ne {α : Type} (l : List (Nat × α)) {k k' : Nat} (v : α) (h : k ≠ k') :
    alook (aset l k v) k' = alook l k' := by
  rw [alook_aset, if_neg h]

def Proc.Agree (b : Nat) (p q : Proc κ σ) : Prop := p.fs = q.fs ∧ alook p.bs b = alook q.bs b

theorem Proc.Agree.refl (b : Nat) (p : Proc κ σ) : Proc.Agree b p p := ⟨rfl, rfl⟩

theorem Proc.Agree.trans {b : Nat} {p q r : Proc κ σ} (h1 : Proc.Agree b p q) (h2 : Proc.Agree b q r) :
    Proc.Agree b p r := ⟨h1.1.trans h2.1, h1.2.trans h2.2⟩

theorem onBuilder_fs (p : Proc κ σ) (b : Nat) (f : BS κ σ → Except CErr (BS κ σ × Ans κ σ)) :
    (p.onBuilder b f).1.fs = p.fs := by
  unfold Proc.onBuilder
  split
  · rfl
  · split
    · rfl
    · split <;> rfl

theorem onBuilder_same (p q : Proc κ σ) (b : Nat) (f : BS κ σ → Except CErr (BS κ σ × Ans κ σ))
    (h : alook p.bs b = alook q.bs b) :
    alook (p.onBuilder b f).1.bs b = alook (q.onBuilder b f).1.bs b ∧ (p.onBuilder b f).2 = (q.onBuilder b f).2 := by
  unfold Proc.onBuilder
  rw [← h]
  split
  · exact ⟨h, rfl⟩
  · split
    · exact ⟨h, rfl⟩
    · split <;> exact ⟨by rw [alook_aset_self, alook_aset_self], rfl⟩

theorem onBuilder_other (p : Proc κ σ) (b b' : Nat) (f : BS κ σ → Except CErr (BS κ σ × Ans κ σ)) (hb : b' ≠ b) :
    alook (p.onBuilder b' f).1.bs b = alook p.bs b := by
  unfold Proc.onBuilder
  split
  · rfl
  · split
    · rfl
    · split <;> exact alook_aset_ne _ _ hb

theorem Proc.Agree.onBuilder {b : Nat} {p q : Proc κ σ} (ha : Proc.Agree b p q)
    (f : BS κ σ → Except CErr (BS κ σ × Ans κ σ)) :
    Proc.Agree b (p.onBuilder b f).1 (q.onBuilder b f).1 ∧ (p.onBuilder b f).2 = (q.onBuilder b f).2 :=
  have h := onBuilder_same p q b f ha.2
  ⟨⟨by rw [onBuilder_fs, onBuilder_fs, ha.1], h.1⟩, h.2⟩

variable [DecidableEq κ]

theorem step_concerns (P : PEnv κ σ) (b : Nat) (p q : Proc κ σ) (op : POp κ σ) (ha : Proc.Agree b p q)
    (hc : op.concerns b = true) :
    Proc.Agree b (p.step P op).1 (q.step P op).1 ∧ (p.step P op).2 = (q.step P op).2 := by
  cases op with
  | write path doc => exact ⟨⟨congrArg (aset · path doc) ha.1, ha.2⟩, rfl⟩
  | newBuilder b' exp =>
    cases of_decide_eq_true hc
    exact ⟨⟨ha.1, by simp only [Proc.step, alook_aset_self]⟩, rfl⟩
  | addFiles b' paths =>
    -- the one call that reads the file system
    cases of_decide_eq_true hc
    simp only [Proc.step, ha.1]
    exact ha.onBuilder _
  | _ =>
    cases of_decide_eq_true hc
    exact ha.onBuilder _

theorem step_other (P : PEnv κ σ) (b : Nat) (p : Proc κ σ) (op : POp κ σ) (hc : op.concerns b = false) :
    Proc.Agree b (p.step P op).1 p := by
  cases op with
  | write path doc => cases hc
  | newBuilder b' exp => exact ⟨rfl, alook_aset_ne _ _ (of_decide_eq_false hc)⟩
  | _ => exact ⟨onBuilder_fs _ _ _, onBuilder_other _ _ _ _ (of_decide_eq_false hc)⟩

def Proc.answersFor (P : PEnv κ σ) (b : Nat) : Proc κ σ → List (POp κ σ) → List (Ans κ σ)
  | _, [] => []
  | p, op :: ops =>
    if op.concerns b then (p.step P op).2 :: Proc.answersFor P b (p.step P op).1 ops
    else Proc.answersFor P b (p.step P op).1 ops

theorem history_independent (P : PEnv κ σ) (b : Nat) (ops : List (POp κ σ)) (p q : Proc κ σ)
    (h : Proc.Agree b p q) :
    Proc.Agree b (Proc.run P p ops).1 (Proc.run P q (ops.filter (POp.concerns b))).1 ∧
      Proc.answersFor P b p ops = (Proc.run P q (ops.filter (POp.concerns b))).2 := by
  induction ops generalizing p q with
  | nil => exact ⟨h, rfl⟩
  | cons op ops ih =>
    cases hc : op.concerns b with
    | true =>
      obtain ⟨ha, he⟩ := step_concerns P b p q op h hc
      obtain ⟨ih1, ih2⟩ := ih _ _ ha
      simp only [List.filter_cons, hc, if_true, Proc.run, Proc.answersFor]
      exact ⟨ih1, by rw [ih2, he]⟩
    | false =>
      obtain ⟨ih1, ih2⟩ := ih _ _ ((step_other P b p op hc).trans h)
      simp only [List.filter_cons, hc, Proc.run, Proc.answersFor]
      exact ⟨ih1, by simpa using ih2⟩

theorem newLanguage_spec (E : LangEnv κ σ) (exp : Bool) (c c' : M κ σ) (l : κ) (obj : LangObj κ σ) (keep : Bool)
    (h : newLanguage E exp c l = .ok (c', obj, keep)) :
    ∃ sec sec' own, c.get l = some (.map sec) ∧ initSection E l sec = .ok (sec', own) ∧ obj = ⟨l, own⟩ ∧
      c' = c.set l (.map sec') ∧ keep = (E.stable sec' || exp) := by
  unfold newLanguage at h
  split at h
  · split at h
    · rename_i sec hg
      split at h
      · cases h
      · rename_i sec' own hi
        cases h
        exact ⟨sec, sec', own, hg, hi, rfl, rfl, rfl⟩
    · cases h
  · cases h

theorem buildMap_cons {E : LangEnv κ σ} {exp : Bool} {t l : κ} {ls : List κ} {c c' : M κ σ}
    {os : List (LangObj κ σ)} (h : buildMap E exp t c (l :: ls) = .ok (c', os)) :
    (l = t ∧ buildMap E exp t c ls = .ok (c', os)) ∨
    (l ≠ t ∧ ∃ sec sec' own os1, c.get l = some (.map sec) ∧ initSection E l sec = .ok (sec', own) ∧
      buildMap E exp t (c.set l (.map sec')) ls = .ok (c', os1) ∧
      os = if (E.stable sec' || exp) = true then ⟨l, own⟩ :: os1 else os1) := by
  simp only [buildMap] at h
  split at h
  · rename_i hlt; exact .inl ⟨hlt, h⟩
  · rename_i hlt
    split at h
    · cases h
    · rename_i c1 obj keep hnl
      obtain ⟨sec, sec', own, hg, hi, rfl, rfl, rfl⟩ := newLanguage_spec E exp c c1 l obj keep hnl
      split at h
      · cases h
      · rename_i c2 os2 hb
        cases h
        exact .inr ⟨hlt, sec, sec', own, os2, hg, hi, hb, rfl⟩

theorem buildMap_get (E : LangEnv κ σ) (exp : Bool) (t : κ) (ls : List κ) (c c' : M κ σ)
    (os : List (LangObj κ σ)) (h : buildMap E exp t c ls = .ok (c', os)) (l : κ) (hl : l ∉ ls ∨ l = t) :
    c'.get l = c.get l := by
  induction ls generalizing c os with
  | nil => cases h; rfl
  | cons l0 ls ih =>
    have hl' : l ∉ ls ∨ l = t := hl.imp_left fun hn hm => hn (List.mem_cons_of_mem _ hm)
    rcases buildMap_cons h with ⟨_, h1⟩ | ⟨hlt, sec, sec', own, os1, _, _, h1, _⟩
    · exact ih c os h1 hl'
    · have hne : l0 ≠ l := fun e => hl.elim (fun hn => hn (e ▸ List.mem_cons_self)) (fun e' => hlt (e.trans e'))
      rw [ih _ os1 h1 hl', M.get_set_ne _ _ hne]

theorem buildMap_spec (E : LangEnv κ σ) (exp : Bool) (t : κ) (ls : List κ) (c c' : M κ σ)
    (os : List (LangObj κ σ)) (hn : ls.Nodup) (h : buildMap E exp t c ls = .ok (c', os)) :
    (∀ obj ∈ os, obj.sect ∈ ls ∧ obj.sect ≠ t ∧ ∃ sec sec', c.get obj.sect = some (.map sec) ∧
        initSection E obj.sect sec = .ok (sec', obj.own) ∧ c'.get obj.sect = some (.map sec')) ∧
    (∀ l ∈ ls, l ≠ t → ∃ sec sec' own, c.get l = some (.map sec) ∧ initSection E l sec = .ok (sec', own) ∧
        c'.get l = some (.map sec') ∧ ((E.stable sec' || exp) = true → (⟨l, own⟩ : LangObj κ σ) ∈ os)) := by
  induction ls generalizing c os with
  | nil =>
    cases h
    exact ⟨fun _ h => (nomatch h), fun _ h => (nomatch h)⟩
  | cons l ls ih =>
    obtain ⟨hl, hn⟩ := List.nodup_cons.mp hn
    rcases buildMap_cons h with ⟨hlt, h1⟩ | ⟨hlt, sec, sec', own, os1, hg, hi, h1, rfl⟩
    · obtain ⟨i2, i3⟩ := ih c os hn h1
      exact ⟨fun obj ho => (i2 obj ho).imp_left (List.mem_cons_of_mem _),
        fun l' hl' hne => i3 l' ((List.mem_cons.mp hl').resolve_left (hlt ▸ hne)) hne⟩
    · obtain ⟨i2, i3⟩ := ih _ os1 hn h1
      -- the later steps leave section `l` as this step wrote it; this step leaves their sections as they were
      have hl1 : c'.get l = some (.map sec') := by
        rw [buildMap_get E exp t ls _ c' os1 h1 l (.inl hl), M.get_set_self]
      have hget : ∀ l' ∈ ls, (c.set l (.map sec')).get l' = c.get l' :=
        fun l' hm => M.get_set_ne _ _ (fun e => hl (e ▸ hm))
      refine ⟨fun o ho => ?_, fun l' hl' hne => ?_⟩
      · have ho' : o = ⟨l, own⟩ ∨ o ∈ os1 := by
          split at ho
          · exact List.mem_cons.mp ho
          · exact .inr ho
        rcases ho' with rfl | ho'
        · exact ⟨List.mem_cons_self, hlt, sec, sec', hg, hi, hl1⟩
        · obtain ⟨a, b, sec2, sec2', g2, r⟩ := i2 o ho'
          exact ⟨List.mem_cons_of_mem _ a, b, sec2, sec2', hget _ a ▸ g2, r⟩
      · rcases List.mem_cons.mp hl' with rfl | hm
        · exact ⟨sec, sec', own, hg, hi, hl1, fun hst => by rw [if_pos hst]; exact List.mem_cons_self⟩
        · obtain ⟨sec2, sec2', own2, g2, ini2, fin2, mem2⟩ := i3 l' hm hne
          refine ⟨sec2, sec2', own2, hget _ hm ▸ g2, ini2, fin2, fun hst => ?_⟩
          split
          · exact List.mem_cons_of_mem _ (mem2 hst)
          · exact mem2 hst

theorem force_built (P : PEnv κ σ) {s : BS κ σ} {j : Nat} {cx : CtxS κ σ} {os : List (LangObj κ σ)}
    (hc : alook s.ctxs j = some cx) (hf : cx.langs = some os) : s.force P j = .ok (s, cx, os) := by
  simp only [BS.force, hc, hf]

theorem find_sect {cx : CtxS κ σ} {os : List (LangObj κ σ)} {name : κ} {obj : LangObj κ σ}
    (h : cx.find os name = some obj) : obj.sect = name := by
  unfold CtxS.find at h
  split at h
  · rename_i ht; cases h; exact ht.symm
  · have := List.find?_some h
    exact of_decide_eq_true this

theorem option_after_init (E : LangEnv κ σ) (c : M κ σ) (l : κ) (sec sec' : M κ σ) (own : Option (M κ σ))
    (hi : initSection E l sec = .ok (sec', own)) (hc : c.get l = some (.map sec')) (key : κ) :
    ∃ o', E.validateOptions l ((dictOr sec E.defaults).getD .nil) ((dictOr sec E.options).getD .nil) = .ok o' ∧
      (⟨l, own⟩ : LangObj κ σ).option E c key = o'.get key := by
  simp only [initSection] at hi
  split at hi
  · -- the section has an `options` mapping: validated in place, the object reads it from the configuration
    rename_i o ho
    split at hi
    · cases hi
    · rename_i o' hv
      cases hi
      refine ⟨o', by rw [ho]; exact hv, ?_⟩
      simp only [LangObj.option, optionOf, hc, dictOr, M.get_set_self]
  · -- no `options` mapping: a validated `{}` private to the object
    rename_i ho
    split at hi
    · cases hi
    · rename_i o' hv
      cases hi
      exact ⟨o', by rw [ho]; exact hv, rfl⟩

mutual
theorem normV_WF : ∀ (v : V κ σ), (normV v).WF
  | .map m => normM_WF m .nil trivial
  | .scalar _ | .dflt _ | .list _ => trivial
theorem normM_WF : ∀ (m acc : M κ σ), acc.WF → (normM acc m).WF
  | .nil, _, h => h
  | .cons k v rest, _, h => normM_WF rest _ (WF.set k h (normV_WF v))
end

mutual
theorem normV_id : ∀ (v : V κ σ), v.WF → normV v = v
  | .map m, hw => by
    rw [normV, normM_append m .nil hw (fun _ _ _ => rfl)]
    rfl
  | .scalar _, _ | .dflt _, _ | .list _, _ => rfl
theorem normM_append : ∀ (m acc : M κ σ), m.WF → (∀ k v, m.get k = some v → acc.get k = none) →
    normM acc m = acc.append m
  | .nil, acc, _, _ => (M.append_nil acc).symm
  | .cons k v rest, acc, ⟨hk, hv, hr⟩, hd => by
    have hacc : acc.get k = none := hd k v (by simp only [M.get, if_true])
    rw [normM, normV_id v hv, normM_append rest _ hr (M.disjoint_set v hk hd), M.set_append acc k v rest hacc]
end

end NunavutVerif.Config
