import NunavutVerif.Lemmas.GenCppSer
/-!
The *frame* of the generated C++ serializer.  Every `bitspan` setter changes exactly the addressed bits (C14
contracts), so — unlike the C code, whose byte stores may overrun up to the next byte boundary — the generated C++
serializer never changes a bit at or above its final cursor, and the function as a whole leaves every byte at or above
the size it returns as it was.  No hypothesis on the type or the object: the statement is about every run that
succeeds.  The induction (`belowP`) has the cases of `GenCpp.serP`.
-/
namespace NunavutVerif.GenCpp
open NunavutVerif.Dsdl NunavutVerif.Bits
open NunavutVerif.GenC (AOff W serLoop)

/-- `e` reads the position reached off the result: the cursor itself for a site, `8 * size` for the end of a function,
which returns a size in bytes. -/
def Below (r : Except Err W) (data : Buf) (off : Nat) (e : Nat → Nat := id) : Prop :=
  ∀ d' p, r = .ok (d', p) →
    off ≤ e p ∧ d'.length = data.length ∧ (WF data → WF d') ∧ ∀ i, e p ≤ i → bitAt d' i = bitAt data i

def FnBelow (inner : Buf → Nat → Except Err W) : Prop := ∀ sub off0, Below (inner sub off0) sub 0 (8 * ·)

theorem Below.ok {e : Nat → Nat} {data : Buf} {off p : Nat} (h : off ≤ e p) : Below (.ok (data, p)) data off e := by
  intro d' p' hr
  cases hr
  exact ⟨h, rfl, id, fun _ _ => rfl⟩

theorem Below.refl (data : Buf) (off : Nat) : Below (.ok (data, off)) data off := Below.ok (Nat.le_refl off)

theorem Below.error {e : Nat → Nat} (x : Err) (data : Buf) (off : Nat) : Below (.error x) data off e := by
  intro d' off' h; cases h

theorem Below.bind {e : Nat → Nat} {r : Except Err W} {k : Buf → Nat → Except Err W} {data : Buf} {off : Nat} :
    Below r data off → (∀ d1 o1, Below (k d1 o1) d1 o1 e) →
    Below
      (match r with
        | .error e => .error e
        | .ok (d, o) => k d o) data off e := by
  intro h1 h2
  cases r with
  | error e => exact Below.error _ _ _
  | ok p =>
    intro d' q h
    obtain ⟨b1, b2, b3, b4⟩ := h1 p.1 p.2 rfl
    obtain ⟨a1, a2, a3, a4⟩ := h2 p.1 p.2 d' q h
    exact ⟨Nat.le_trans b1 a1, a2.trans b2, fun hw => a3 (b3 hw),
      fun i hi => by rw [a4 i hi, b4 i (Nat.le_trans a1 hi)]⟩

theorem Below.ite {e : Nat → Nat} {c : Prop} [Decidable c] {a b : Except Err W} {data : Buf} {off : Nat}
    (ha : Below a data off e) (hb : Below b data off e) : Below (if c then a else b) data off e := by
  split <;> assumption

theorem assertX_below {e : Nat → Nat} {o : Opts} {c : Prop} [Decidable c] {r : Except Err W} {data : Buf} {off : Nat}
    (h : Below r data off e) : Below (assertX o c r) data off e :=
  Below.ite (Below.error _ _ _) h

theorem Below.ceil (data : Buf) (off : Nat) : Below (.ok (data, offsetBytesCeil off)) data off (8 * ·) :=
  Below.ok (show off ≤ 8 * ((off + 7) / 8) by omega)

theorem anyGuardS_below {o : Opts} {t : Ty} {d : AOff} {b : Buf} {f : Nat} {r : Except Err W} {data : Buf} {off : Nat}
    (h : Below r data off) : Below (anyGuardS o t d b f r) data off :=
  assertX_below (assertX_below (assertX_below h))

theorem Sets.frame {res : Except Err Buf} {data : Buf} {off n m : Nat} {f : Nat → Bool} (h : Sets res data off n m f)
    {r : Buf} (hr : res = .ok r) :
    r.length = data.length ∧ (WF data → WF r) ∧ ∀ i, off + n ≤ i → bitAt r i = bitAt data i := by
  obtain ⟨hl, hwf, hbits⟩ := h.sets r hr
  have := h.le
  exact ⟨hl, hwf, fun i hi => by
    rw [hbits i, if_neg fun h => Nat.lt_irrefl i (Nat.lt_of_lt_of_le h.2 (Nat.le_trans (Nat.add_le_add_left this off) hi))]⟩

theorem Sets.below {res : Except Err Buf} {data : Buf} {off n m : Nat} {f : Nat → Bool} :
    Sets res data off n m f →
    Below
      (match res with
        | .error e => .error e
        | .ok d => .ok (d, off + n)) data off := by
  intro h d' off' hr
  cases res with
  | error e => cases hr
  | ok r =>
    cases hr
    exact ⟨Nat.le_add_right _ _, h.frame rfl⟩

theorem serInt_below (signed : Bool) (n : Nat) (sat : Bool) (v : Int) (data : Buf) (off : Nat) :
    Below (serInt signed n sat v data off) data off := by
  rw [serInt_eq]
  exact (setUxx_sets data off _ n).below

theorem serFloat_below (n : Nat) (m : Cast) (x : Nat) (data : Buf) (off : Nat) :
    Below (serFloat n m x data off) data off :=
  (setUxx_sets data off _ n).below

theorem serVoid_below (n : Nat) (data : Buf) (off : Nat) : Below (serVoid n data off) data off :=
  (setZeros_sets data off n).below

theorem serBool_below (v : Bool) (data : Buf) (off : Nat) : Below (serBool v data off) data off :=
  (setBit_sets data off v).below

theorem padSer_below (n : Nat) (data : Buf) (off : Nat) (hn : n = 1 ∨ n = 8) : Below (padSer n data off) data off := by
  rw [padSer_eq_serVoid n data off hn]
  exact serVoid_below _ data off

theorem serLoop_below (elem : Val → Buf → Nat → Except Err W) (helem : ∀ v b f, Below (elem v b f) b f) :
    ∀ (vs : List Val) (data : Buf) (off : Nat), Below (serLoop elem vs data off) data off
  | [], data, off => Below.refl data off
  | v :: vs, data, off => Below.bind (helem v data off) (serLoop_below elem helem vs)

theorem window_frame {data sub : Buf} {k nb size : Nat} (hk : k + nb ≤ data.length)
    (h : Below (.ok (sub, size)) ((data.drop k).take nb) 0 (8 * ·)) :
    (data.take k ++ sub ++ data.drop (k + nb)).length = data.length ∧
    (WF data → WF (data.take k ++ sub ++ data.drop (k + nb))) ∧
    ∀ i, 8 * k + size * 8 ≤ i → bitAt (data.take k ++ sub ++ data.drop (k + nb)) i = bitAt data i := by
  obtain ⟨_, hl, hwf, (hf : ∀ i, 8 * size ≤ i → _)⟩ := h _ _ rfl
  obtain ⟨kl, kw, kb⟩ := window_spec hk hl hwf
  refine ⟨kl, kw, fun i hi' => ?_⟩
  rw [kb i]
  split
  · rename_i hin
    obtain ⟨j, rfl⟩ : ∃ j, i = 8 * k + j := ⟨i - 8 * k, by omega⟩
    rw [Nat.add_sub_cancel_left, hf j (by omega), bitAt_take, bitAt_drop,
      decide_eq_true (Nat.div_lt_of_lt_mul (by omega)), Bool.true_and]
  · rfl

theorem nestedSer_below (o : Opts) (inner : Buf → Nat → Except Err W) (hin : FnBelow inner) (isDelim : Bool)
    (minB maxB : Nat) (data : Buf) (off : Nat) :
    Below (nestedSer o inner isDelim minB maxB data off) data off := by
  unfold nestedSer
  dsimp only
  generalize (maxB + 7) / 8 * 8 = S
  generalize hB : (if isDelim = true then 32 else 0) = B
  obtain ⟨s1, s2⟩ := Cpp.subspan_spec ⟨data, off⟩ B S
  by_cases hs : data.length * 8 < off + B + S
  · rw [s1 hs]
    exact Below.error _ _ _
  · obtain ⟨first, nbytes, noff, hsub, h1, _, h3, _⟩ := s2 hs
    have h8 : 8 * first ≤ off + B := by rw [Nat.mul_comm]; exact Nat.le_of_add_right_le (Nat.le_of_eq h1)
    rw [hsub]
    simp only [ne_eq, not_true_eq_false, if_false]
    refine assertX_below ?_
    cases hi : inner ((data.drop first).take nbytes) noff with
    | error e => exact Below.error _ _ _
    | ok p =>
      obtain ⟨sub, size⟩ := p
      refine assertX_below ?_
      obtain ⟨kl, kw, kf⟩ := window_frame h3 (hi ▸ hin _ noff)
      cases isDelim with
      | false =>
        obtain rfl : 0 = B := hB
        intro d' off' h
        cases h
        exact ⟨Nat.le_add_right _ _, kl, kw, fun i hi' => kf i (Nat.le_trans (Nat.add_le_add_right h8 _) hi')⟩
      | true =>
        obtain rfl : 32 = B := hB
        -- the header, written last, lies below the nested object
        intro d' off' h
        rw [if_pos rfl] at h
        cases hc : chkX (Cpp.setUxx ⟨data.take first ++ sub ++ data.drop (first + nbytes), off⟩ size 32) with
        | error e => rw [hc] at h; cases h
        | ok d =>
          rw [hc] at h
          cases h
          obtain ⟨hl, hwf, hf⟩ := (setUxx_sets _ off size 32).frame hc
          exact ⟨Nat.le_trans (Nat.le_add_right _ _) (Nat.le_add_right _ _), hl.trans kl, fun hw => hwf (kw hw),
            fun i hi' => by
              rw [hf i (Nat.le_trans (Nat.le_add_right _ _) hi'), kf i (Nat.le_trans (Nat.add_le_add_right h8 _) hi')]⟩

theorem topSer_fnBelow (o : Opts) (minB maxB : Nat) (body : Buf → Nat → Except Err W)
    (hbody : ∀ b f, Below (body b f) b f) : FnBelow (topSer o minB maxB body) := by
  intro sub off0
  unfold topSer
  refine Below.ite (Below.ok (Nat.le_refl 0)) (Below.ite (Below.error _ _ _) fun d' size h =>
    ⟨Nat.zero_le _, (assertX_below (Below.bind (hbody sub off0) fun d1 o1 =>
      Below.bind (padSer_below 8 d1 o1 (Or.inr rfl)) fun d2 o2 =>
        assertX_below (assertX_below (Below.ceil d2 o2))) d' size h).2⟩)

theorem belowP (o : Opts) :
    (∀ t v d data off, Below (serAny o t v d data off) data off) ∧
    (∀ t v, FnBelow (serFn o t v)) ∧
    (∀ fs k v d data off, Below (GenCpp.serNth o fs k v d data off) data off) ∧
    ∀ fs vs first d data off, Below (GenCpp.serFields o fs vs first d data off) data off := by
  apply serAny.mutual_induct
  · -- uint
    exact fun n m i d data off => serInt_below _ _ _ _ _ _
  · -- sint
    exact fun n m i d data off => serInt_below _ _ _ _ _ _
  · -- float
    exact fun n m x d data off => serFloat_below _ _ _ _ _
  · -- bool
    exact fun b d data off => serBool_below _ _ _
  · -- void
    exact fun n d data off => serVoid_below _ _ _
  · -- fixed array
    exact fun t n vs ih d data off => Below.ite
      (Below.bind (serLoop_below _ (fun v b f => anyGuardS_below (ih v _ b f)) vs data off)
        fun b1 o1 => assertX_below (Below.refl b1 o1)) (Below.error _ _ _)
  · -- variable array
    exact fun t c vs ih d data off => Below.ite (Below.error _ _ _)
      (Below.bind (serInt_below _ _ _ _ data off) fun b1 o1 =>
        assertX_below (serLoop_below _ (fun v b f => anyGuardS_below (ih v _ b f)) vs b1 o1))
  · -- struct, union as members: calls of the function
    exact fun fs vs ih d data off => nestedSer_below o _ (topSer_fnBelow o _ _ _ (ih true _)) _ _ _ _ _
  · exact fun fs k v ih d data off => nestedSer_below o _
      (topSer_fnBelow o _ _ _ fun b f => Below.bind (serInt_below _ _ _ _ b f) (ih _)) _ _ _ _ _
  · -- delimited
    exact fun ext inner v ih d data off => nestedSer_below o _ ih _ _ _ _ _
  · -- an object of another shape
    intro t v h1 h2 h3 h4 h5 h6 h7 h8 h9 h10 d data off
    rw [serAny.eq_11 o t v h10 h1 h2 h3 h4 h5 h6 h7 h8 h9]
    exact Below.error _ _ _
  · -- the generated functions
    exact fun fs vs ih => topSer_fnBelow o _ _ _ (ih true _)
  · exact fun fs k v ih => topSer_fnBelow o _ _ _ fun b f => Below.bind (serInt_below _ _ _ _ b f) (ih _)
  · exact fun ext inner v ih => ih
  · intro t v h1 h2 h3
    rw [serFn.eq_4 o t v h3 h1 h2]
    exact fun _ _ => Below.error _ _ _
  · -- union options
    exact fun k v d data off => Below.error _ _ _
  · exact fun f fs v ih d data off => anyGuardS_below (ih _ _ _)
  · exact fun f fs k v ih => ih
  · -- fields
    exact fun first d data off => Below.refl _ _
  · intro f fs v vs ihf ih first d data off
    refine Below.bind ?_ (fun d0 o0 => Below.bind (anyGuardS_below (ihf _ d0 o0)) (ih false _))
    cases first with
    | true => exact Below.refl _ _
    | false => exact padSer_below _ _ _ (align_cases f)
  · intro fs vs h1 h2 first d data off
    rw [GenCpp.serFields.eq_3 o fs vs h1 h2]
    exact Below.error _ _ _

theorem serializeCpp_frame (o : Opts) (t : Ty) (v : Val) (buf buf' : Buf) (n : Nat)
    (h : serializeCpp o t v buf = .ok (buf', n)) :
    buf'.length = buf.length ∧ (WF buf → WF buf') ∧ ∀ i, 8 * n ≤ i → bitAt buf' i = bitAt buf i :=
  ((belowP o).2.1 t v buf 0 buf' n h).2

theorem serializeCpp_tail_untouched (o : Opts) (t : Ty) (v : Val) (buf buf' : Buf) (n : Nat) (hwf : WF buf)
    (h : serializeCpp o t v buf = .ok (buf', n)) : buf'.drop n = buf.drop n := by
  obtain ⟨hl, hw, hf⟩ := serializeCpp_frame o t v buf buf' n h
  apply eq_of_bitAt
  · simp only [List.length_drop, hl]
  · exact WF_drop (hw hwf) _
  · exact WF_drop hwf _
  · intro i
    rw [bitAt_drop, bitAt_drop]
    exact hf _ (Nat.le_add_right _ _)

end NunavutVerif.GenCpp
