import NunavutVerif.Model.OverwriteCli
import NunavutVerif.Lemmas.Overwrite
import NunavutVerif.Lemmas.CliParse
/-!
Helper lemmas for the command-line glue of C12 (`Model/OverwriteCli.lean`).  The `generate_all` calls of one invocation all
receive the same keyword values (`generate_calls`) and the same file post-processors, so its parts run as one `Run`
(`runParts_uniform`, `cliParts_one_run`); the post-processor list ends in its only `SetFileMode` (`buildPPs_shape`).
-/
namespace NunavutVerif.OverwriteCli
open NunavutVerif.Overwrite NunavutVerif.CliParse NunavutVerif.Gen.CliArgs

def ctorIsSetMode : PPCtor → Bool
  | .setFileMode _ => true
  | _ => false

def ppIsSetMode : PP → Bool
  | .setFileMode _ => true
  | _ => false

theorem buildPPs_append (ns : Namespace) (xs ys : List PPRule) :
    buildPPs ns (xs ++ ys) = (buildPPs ns xs).bind fun a => (buildPPs ns ys).map (a ++ ·) := by
  induction xs with
  | nil => cases h : buildPPs ns ys <;> simp [buildPPs, h]
  | cons r rest ih =>
    simp only [List.cons_append, buildPPs, ih]
    cases evalCond ns r.cond with
    | none => rfl
    | some c =>
      cases buildPPs ns rest with
      | none => rfl
      | some a =>
        cases buildPPs ns ys <;> cases c <;> try rfl
        all_goals cases evalCtor ns r.ctor <;> rfl

theorem evalCtor_setMode {ns : Namespace} {c : PPCtor} {p : PP} (h : evalCtor ns c = some p) :
    ppIsSetMode p = ctorIsSetMode c := by
  cases c with
  | trim => simp [evalCtor] at h; subst h; rfl
  | limitEmptyLines d =>
    simp only [evalCtor, Option.map_eq_some_iff] at h; obtain ⟨_, _, rfl⟩ := h; rfl
  | setFileMode d =>
    simp only [evalCtor, Option.map_eq_some_iff] at h; obtain ⟨_, _, rfl⟩ := h; rfl
  | extProgram d ad =>
    simp only [evalCtor] at h
    split at h
    · simp only [Option.some.injEq] at h; subst h; rfl
    · simp only [Option.some.injEq] at h; subst h; rfl
    · cases h

theorem buildPPs_mem (ns : Namespace) : ∀ (rs : List PPRule) (pps : List PP), buildPPs ns rs = some pps →
    ∀ p ∈ pps, ∃ r ∈ rs, evalCtor ns r.ctor = some p := by
  intro rs
  induction rs with
  | nil => intro pps h p hp; cases h; cases hp
  | cons r rest ih =>
    intro pps h
    simp only [buildPPs, Option.bind_eq_bind, Option.pure_def, Option.bind_eq_some_iff] at h
    obtain ⟨c, _, tail, htail, h⟩ := h
    have iht : ∀ p ∈ tail, ∃ r' ∈ r :: rest, evalCtor ns r'.ctor = some p := fun p hp =>
      (ih tail htail p hp).imp fun r' h' => ⟨List.mem_cons_of_mem _ h'.1, h'.2⟩
    cases c with
    | false => simp only [Bool.false_eq_true, if_false, Option.some.injEq] at h; subst h; exact iht
    | true =>
      simp only [if_true, Option.bind_eq_some_iff, Option.some.injEq] at h
      obtain ⟨p, hp, rfl⟩ := h
      intro p' hp'
      rcases List.mem_cons.1 hp' with rfl | hp'
      · exact ⟨r, List.mem_cons_self .., hp⟩
      · exact iht p' hp'

theorem toFilePPs_no_setMode (prog : List Scalar → Content → Option (Content × Option Nat)) :
    ∀ (pps : List PP), (∀ p ∈ pps, ppIsSetMode p = false) → ∀ f ∈ toFilePPs prog pps, ∃ g, f = .edit g := by
  intro pps h f hf
  simp only [toFilePPs, List.mem_filterMap] at hf
  obtain ⟨p, hp, hpf⟩ := hf
  cases p with
  | trim => simp [toFilePP] at hpf
  | limitEmptyLines n => simp [toFilePP] at hpf
  | extProgram argv => simp only [toFilePP, Option.some.injEq] at hpf; exact ⟨_, hpf.symm⟩
  | setFileMode v => have := h _ hp; simp [ppIsSetMode] at this

theorem buildPPs_shape {ns : Namespace} {pps : List PP} (h : buildPPs ns ppRules = some pps) :
    ∃ pre v, pps = pre ++ [.setFileMode v] ∧ ns.lookup "file_mode" = some v ∧ ∀ p ∈ pre, ppIsSetMode p = false := by
  have hsplit : ppRules = ppRules.dropLast ++ [⟨.always, .setFileMode "file_mode"⟩] := rfl
  rw [hsplit, buildPPs_append] at h
  cases ha : buildPPs ns ppRules.dropLast with
  | none => rw [ha] at h; cases h
  | some a =>
    cases hv : ns.lookup "file_mode" with
    | none => simp [ha, buildPPs, evalCond, evalCtor, hv] at h
    | some v =>
      simp only [ha, buildPPs, evalCond, evalCtor, hv, Option.bind_eq_bind, Option.pure_def, Option.bind_some, if_true,
        Option.map_some, Option.some.injEq] at h
      refine ⟨a, v, h.symm, rfl, fun p hp => ?_⟩
      obtain ⟨r, hr, he⟩ := buildPPs_mem ns _ a ha p hp
      rw [evalCtor_setMode he]
      exact (by decide : ∀ r ∈ ppRules.dropLast, ctorIsSetMode r.ctor = false) r hr

theorem toFilePPs_append (prog : List Scalar → Content → Option (Content × Option Nat)) (xs ys : List PP) :
    toFilePPs prog (xs ++ ys) = toFilePPs prog xs ++ toFilePPs prog ys := by
  simp [toFilePPs, List.filterMap_append]

/-- `--file-mode` (`type=lambda v: int(v, 0)`, default `0o444`) leaves an integer, or a list (`--file-mode=--` leaves `[]`). -/
theorem parsed_file_mode {argv : List String} {ns : Namespace} (hp : parseArgv argv = .ok ns) {v : Val}
    (hv : ns.lookup "file_mode" = some v) : (∃ i, v = .sc (.int i)) ∨ ∃ l, v = .list l := by
  obtain ⟨_, _, _, htyped, _⟩ := parse_ok tableOk_actions hp
  have hsp : ∃ sp ∈ actions, sp.dest = "file_mode" ∧ sp.kind = .store ∧ sp.type = .intAuto ∧ sp.dflt = .sc (.int 292) := by
    decide +kernel
  obtain ⟨sp, hsp, hd, hk, hty, hdf⟩ := hsp
  obtain ⟨v', hv', hok⟩ := htyped sp hsp (by rw [hd]; decide)
  obtain rfl := Option.some.inj ((hd ▸ hv').symm.trans hv)
  cases v' with
  | none => simp [valOk, valOkK, hk, hdf] at hok
  | bool b => simp [valOk, valOkK, hk, hdf] at hok
  | sc x =>
    cases x with
    | int i => exact .inl ⟨i, rfl⟩
    | str t => simp [valOk, valOkK, hk, hdf, scalarOk, hty] at hok
  | list l => exact .inr ⟨l, rfl⟩

section appendUnless
variable {α : Type} (p : α → Bool) (x : α)

def appendUnless (l : List α) : List α := if l.any p then l else l ++ [x]

theorem appendUnless_of_any {l : List α} (h : l.any p = true) : appendUnless p x l = l := if_pos h

theorem any_appendUnless (hx : p x = true) (l : List α) : (appendUnless p x l).any p = true := by
  unfold appendUnless; split
  · assumption
  · simp [hx]

theorem any_appendUnless_of {q : α → Bool} {l : List α} (h : l.any q = true) : (appendUnless p x l).any q = true := by
  unfold appendUnless; split
  · exact h
  · simp [h]

theorem filterMap_appendUnless {β : Type} (f : α → Option β) (hx : f x = none) (l : List α) :
    (appendUnless p x l).filterMap f = l.filterMap f := by
  unfold appendUnless; split
  · rfl
  · simp [hx]

end appendUnless

def isLimit : PP → Bool
  | .limitEmptyLines _ => true
  | _ => false

def isTrim : PP → Bool
  | .trim => true
  | _ => false

theorem augment_eq (limit : Option Val) (trimWs : Bool) (pps : List PP) :
    augment limit trimWs pps =
      (if trimWs then appendUnless isTrim .trim else id)
        (match limit with | some n => appendUnless isLimit (.limitEmptyLines n) pps | none => pps) := by
  cases limit <;> cases trimWs <;> rfl

theorem toFilePPs_augment (limit : Option Val) (trimWs : Bool) (pps : List PP)
    (prog : List Scalar → Content → Option (Content × Option Nat)) :
    toFilePPs prog (augment limit trimWs pps) = toFilePPs prog pps := by
  unfold toFilePPs
  rw [augment_eq]
  cases limit <;> cases trimWs <;> simp only [if_true, id, Bool.false_eq_true, if_false]
  · exact filterMap_appendUnless _ _ _ rfl _
  · exact filterMap_appendUnless _ _ _ rfl _
  · rw [filterMap_appendUnless _ _ _ rfl, filterMap_appendUnless _ _ _ rfl]

theorem augment_idem (limit : Option Val) (trimWs : Bool) (pps : List PP) :
    augment limit trimWs (augment limit trimWs pps) = augment limit trimWs pps := by
  simp only [augment_eq]
  cases limit <;> cases trimWs <;> simp only [if_true, id, Bool.false_eq_true, if_false]
  · exact appendUnless_of_any _ _ (any_appendUnless _ _ rfl _)
  · exact appendUnless_of_any _ _ (any_appendUnless _ _ rfl _)
  · rw [appendUnless_of_any isLimit _ (any_appendUnless_of _ _ (any_appendUnless _ _ rfl _))]
    exact appendUnless_of_any _ _ (any_appendUnless _ _ rfl _)

def generateKwSpec : List (String × Expr) :=
  [("is_dryrun", .arg "dry_run"), ("allow_overwrite", .notArg "no_overwrite"),
   ("omit_serialization_support", .arg "omit_serialization_support"), ("embed_auditing_info", .arg "embed_auditing_info")]

theorem generate_specs : calls.filter (fun c => c.method = "_generate") =
    [⟨"_generate", "_support_generator", "generate_all", [.shouldGenerateSupport], generateKwSpec, false⟩,
     ⟨"_generate", "_generator", "generate_all", [.notOnly], generateKwSpec, false⟩] := rfl

/-- The generators `_generate` calls, in order. -/
def generateTargets (a : Cli.Args) : List String :=
  (if Cli.shouldGenerateSupport a then ["_support_generator"] else []) ++
  (if a.genSupport != .only then ["_generator"] else [])

def generateCall (steps : List Step) (t : String) : Call :=
  ⟨t, "generate_all", generateKw (steps.any (Step.takes "dry_run")) (steps.any (Step.takes "no_overwrite"))
    (steps.any (Step.takes "omit_serialization_support")) (steps.any (Step.takes "embed_auditing_info"))⟩

theorem generate_calls {argv : List String} {ns : Namespace} (hp : parseArgv argv = .ok ns) {steps : List Step}
    (hs : stepsOf actions argv = some steps) (a : Cli.Args) {cs : List Call}
    (hc : callsOf calls "_generate" a ns = some cs) : cs = (generateTargets a).map (generateCall steps) := by
  have h1 := parsed_flag hp hs (d := "dry_run") (by repeat constructor)
  have h2 := parsed_flag hp hs (d := "no_overwrite") (by repeat constructor)
  have h3 := parsed_flag hp hs (d := "omit_serialization_support") (by repeat constructor)
  have h4 := parsed_flag hp hs (d := "embed_auditing_info") (by repeat constructor)
  have hk : evalKwargs ns generateKwSpec = some (generateCall steps "").kwargs := by
    simp [generateKwSpec, generateCall, generateKw, evalKwargs, evalExpr, h1, h2, h3, h4, truthy]
  unfold callsOf at hc
  rw [generate_specs] at hc
  simp only [callsOfSpecs, List.all_cons, List.all_nil, Bool.and_true, guardHolds, hk] at hc
  unfold generateTargets
  by_cases hg1 : Cli.shouldGenerateSupport a = true <;> by_cases hg2 : (a.genSupport != .only) = true <;>
    simp only [hg1, hg2, if_true, if_false, Bool.false_eq_true, Option.some.injEq] at hc ⊢ <;> exact hc.symm

theorem boolKw_generateCall (steps : List Step) (t : String) :
    boolKw (generateCall steps t) "allow_overwrite" = some (!steps.any (Step.takes "no_overwrite")) ∧
    boolKw (generateCall steps t) "is_dryrun" = some (steps.any (Step.takes "dry_run")) := by
  simp [boolKw, Call.kw, generateCall, generateKw, List.lookup]

theorem runParts_uniform (env : Env) (a : Bool) (q : List FilePP) : ∀ (ps : List Part) (fs : FS),
    (∀ p ∈ ps, p.allow = a ∧ p.pps = q) →
    runParts env ps fs = runRun env ⟨a, q, ps.flatMap (·.writes)⟩ fs := by
  intro ps
  induction ps with
  | nil => intro fs _; simp [runParts, runRun, runWrites]
  | cons p ps ih =>
    intro fs h
    obtain ⟨ha, hq⟩ := h p (List.mem_cons_self ..)
    have ih' := ih (runWrites env a q p.writes fs).fs (fun p' hp' => h p' (List.mem_cons_of_mem _ hp'))
    simp only [runParts, runRun, List.flatMap_cons, ha, hq] at ih' ⊢
    rw [runWrites_append]
    cases ho : runWrites env a q p.writes fs with
    | mk f o e =>
      rw [ho] at ih'
      cases e with
      | some e => rfl
      | none => simp only; rw [ih']

theorem partsOfCalls_map (fpps : List FilePP) (files : String → List Write) (mk : String → Call) (g : String → Part)
    (h : ∀ t, partOfCall fpps files (mk t) = some (g t)) (ts : List String) :
    partsOfCalls fpps files (ts.map mk) = some (ts.map g) := by
  induction ts with
  | nil => rfl
  | cons t ts ih => simp only [List.map_cons, partsOfCalls, h, ih]

theorem flatMap_generateTargets {β : Type} (a : Cli.Args) (f : String → List β) :
    (generateTargets a).flatMap f =
      (if Cli.shouldGenerateSupport a then f "_support_generator" else []) ++
      (if a.genSupport != .only then f "_generator" else []) := by
  unfold generateTargets
  rw [List.flatMap_append]
  congr 1 <;> split <;> simp

theorem cliParts_one_run (prog : List Scalar → Content → Option (Content × Option Nat)) (files : String → List Write)
    (a : Cli.Args) {argv : List String} {ns : Namespace} {parts : List Part} {steps : List Step}
    (hp : parseArgv argv = .ok ns) (hs : stepsOf actions argv = some steps) (hparts : cliParts prog files a ns = some parts) :
    ∃ pps, buildPPs ns ppRules = some pps ∧
      (∀ env fs, runParts env parts fs =
        runRun env ⟨!steps.any (Step.takes "no_overwrite"), toFilePPs prog pps, parts.flatMap (·.writes)⟩ fs) ∧
      parts.flatMap (·.writes) =
        if steps.any (Step.takes "dry_run") then []
        else (if Cli.shouldGenerateSupport a then files "_support_generator" else []) ++
             (if a.genSupport != .only then files "_generator" else []) := by
  unfold cliParts at hparts
  split at hparts
  · rename_i cs pps hcs hpps
    obtain rfl := generate_calls hp hs a hcs
    -- each call is a part with the same gate and the same file post-processors
    rw [partsOfCalls_map _ _ _ (fun t => ⟨!steps.any (Step.takes "no_overwrite"), toFilePPs prog pps,
      if steps.any (Step.takes "dry_run") then [] else files t⟩)
      (fun t => by simp only [partOfCall, boolKw_generateCall]; rfl)] at hparts
    obtain rfl := Option.some.inj hparts
    refine ⟨pps, hpps, ?_, ?_⟩
    · intro env fs
      apply runParts_uniform
      intro p hpm
      obtain ⟨t, _, rfl⟩ := List.mem_map.1 hpm
      exact ⟨rfl, rfl⟩
    · rw [List.flatMap_map, flatMap_generateTargets]
      cases steps.any (Step.takes "dry_run")
      · rfl
      · simp
  · cases hparts

end NunavutVerif.OverwriteCli
