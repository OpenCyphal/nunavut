import NunavutVerif.Lemmas.DsdlLen
import NunavutVerif.Lemmas.DsdlFloat
/-!
Round trip of the DSDL specification model: decoding what the serializer produced (followed by anything)
returns the cast-adjusted value and consumes exactly the produced bits.
-/
namespace NunavutVerif.Dsdl

def RtOK (t : Ty) : Prop :=
  ∀ v bs, serBits t v = .ok bs → ∀ rest, deBits t (bs ++ rest) = .ok (castAdjust t v, bs.length)

theorem serAll_rt {t : Ty} (h : RtOK t) :
    ∀ vs bs, serAllWith (serBits t) vs = .ok bs →
      ∀ rest, deAllWith (deBits t) vs.length (bs ++ rest) = .ok (List.map (castAdjust t) vs, bs.length) := by
  intro vs
  induction vs with
  | nil => intro bs hs rest; cases hs; rfl
  | cons v vs ih =>
    intro bs hs rest
    obtain ⟨a, b, ha, hb, rfl⟩ := serAllWith_cons_ok hs
    simp only [List.length_cons, deAllWith, List.append_assoc, h v a ha, List.drop_left, ih b hb, List.map,
      List.length_append]

theorem serFields_rt {fs : List Ty} (ih : ∀ f ∈ fs, RtOK f) :
    ∀ vs off bs, serFields fs vs off = .ok bs →
      ∀ pre rest, pre.length = off →
        deFields fs (pre ++ bs ++ rest) off = .ok (adjFields fs vs, off + bs.length) := by
  induction fs with
  | nil =>
    intro vs off bs hs pre rest _
    cases vs <;> cases hs
    rfl
  | cons f fs ihf =>
    intro vs off bs hs pre rest hpre
    obtain ⟨ihf', ihfs⟩ := List.forall_mem_cons.1 ih
    obtain ⟨v, vs, a, b, rfl, ha, hb, rfl⟩ := serFields_cons_ok hs
    have h1 := ihf' v a ha (b ++ rest)
    have h2 := ihf ihfs vs _ b hb (pre ++ zeros (padLen (align f) off) ++ a) rest
      (by simp only [List.length_append, zeros_length, hpre, padTo])
    have hd : (pre ++ (zeros (padLen (align f) off) ++ (a ++ (b ++ rest)))).drop (padTo (align f) off)
        = a ++ (b ++ rest) := by
      rw [← List.append_assoc]
      exact List.drop_left' (by simp only [List.length_append, zeros_length, hpre, padTo])
    simp only [List.append_assoc] at h2 ⊢
    simp only [deFields, adjFields, hd, h1, h2]
    simp only [List.length_append, zeros_length, padTo, Nat.add_assoc]

theorem lt_two_pow_tagBits {k n : Nat} (hk : k < n) (hn : n ≤ 2 ^ 64) : k < 2 ^ tagBits n :=
  Nat.lt_of_le_of_lt (Nat.le_sub_one_of_lt hk) (lt_two_pow_stdWidth
    (Nat.lt_of_lt_of_le (Nat.sub_one_lt (Nat.ne_of_gt (Nat.zero_lt_of_lt hk))) hn))

theorem rtOK (t : Ty) : wf t = true → RtOK t := by
  induction t using Ty.ind with
  | uint n m =>
    intro _ v bs h rest
    cases v <;> cases h
    simp only [deBits, castAdjust, readNat_of_lt (castU_lt n m _), natToBits_length]
  | sint n m =>
    intro _ v bs h rest
    cases v <;> cases h
    simp only [deBits, castAdjust, readNat_of_lt (castS_lt n m _), natToBits_length]
  | float n m =>
    intro hw v bs h rest
    replace hw := wf_float hw
    cases v <;> cases h
    simp only [deBits, castAdjust, readNat_of_lt (narrow_lt hw m _), natToBits_length]
  | bool =>
    intro _ v bs h rest
    cases v <;> cases h
    rename_i b
    cases b <;> rfl
  | void n =>
    intro _ v bs h rest
    cases v <;> cases h
    simp only [deBits, castAdjust, zeros_length]
  | arr t n ih =>
    intro hw v bs h rest
    obtain ⟨vs, rfl, rfl, hs⟩ := serBits_arr_ok h
    simp only [deBits, castAdjust, serAll_rt (ih hw) vs bs hs rest]
  | varr t cap ih =>
    intro hw v bs h rest
    replace hw := wf_varr hw
    obtain ⟨vs, b, rfl, hn, hb, rfl⟩ := serBits_varr_ok h
    have hlt : vs.length < 2 ^ prefixBits cap := Nat.lt_of_le_of_lt hn (lt_two_pow_stdWidth hw.1)
    simp only [deBits, castAdjust, List.append_assoc, readNat_of_lt hlt, if_neg (Nat.not_lt.2 hn),
      List.drop_left' (natToBits_length ..), serAll_rt (ih hw.2) vs b hb rest, List.length_append,
      natToBits_length]
  | struct fs ih =>
    intro hw v bs h rest
    obtain ⟨vs, b, rfl, hb, rfl⟩ := serBits_struct_ok h
    have h1 := serFields_rt (forall_mem_of_wfAll ih hw) vs 0 b hb [] (zeros (padLen 8 b.length) ++ rest) rfl
    simp only [List.nil_append, Nat.zero_add] at h1
    simp only [deBits, castAdjust, List.append_assoc, h1, List.length_append, zeros_length, padTo]
  | union fs ih =>
    intro hw v bs h rest
    replace hw := wf_union hw
    obtain ⟨k, v, b, hk, rfl, hb, rfl⟩ := serBits_union_ok h
    have hlt : k < 2 ^ tagBits fs.length := lt_two_pow_tagBits hk hw.1.2
    simp only [deBits, castAdjust, List.append_assoc, readNat_of_lt hlt, if_neg (Nat.not_le.2 hk),
      List.drop_left' (natToBits_length ..), deNth_eq hk, adjNth_eq hk,
      forall_mem_of_wfAll ih hw.2 _ (List.getElem_mem hk) v b hb, List.length_append,
      natToBits_length, zeros_length, padTo, Nat.add_assoc]
  | delim e t ih =>
    intro hw v bs h rest
    obtain ⟨⟨hc, _, hmax, hsmall⟩, hwt⟩ := wf_delim hw
    obtain ⟨b, hb, rfl⟩ := serBits_delim_ok h
    have hl := lenOK t hwt v b hb
    rw [align_of_isComposite hc] at hl
    have h1 := ih hwt v b hb []
    rw [List.append_nil] at h1
    have hlt : b.length / 8 < 2 ^ headerBits :=
      Nat.div_lt_of_lt_mul (Nat.lt_of_le_of_lt (Nat.le_trans hl.2.1 hmax) hsmall)
    have h8 : 8 * (b.length / 8) = b.length := Nat.mul_div_cancel' (Nat.dvd_of_mod_eq_zero hl.2.2)
    simp only [deBits, castAdjust, List.append_assoc, readNat_of_lt hlt, h8,
      List.drop_left' (natToBits_length ..), List.length_append, Nat.not_lt.2 (Nat.le_add_right ..),
      if_false, List.take_left' rfl, h1, natToBits_length]

end NunavutVerif.Dsdl
