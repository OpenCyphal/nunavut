import NunavutVerif.Model.OverwriteFs
import NunavutVerif.Lemmas.Overwrite
/-!
Helper lemmas for the extended file-system model of C12 (`Model/OverwriteFs.lean`).  Resolution (`walk`) is monotone along
`Ext` — which covers both an entry replaced by one of the same kind and new entries —, and a tree that only gained
directories resolves no path to a file that did not resolve to it before; from that, what one `writeFile` and a run of them
preserve.
-/
namespace NunavutVerif.OverwriteFs
open NunavutVerif.Overwrite (Content Mode File FilePP Env permBits ownerWrite addWriteBits applyPPs)

theorem FS.set_same (fs : FS) (p : P) (n : Node) : (fs.set p n) p = some n := by simp [FS.set]

theorem FS.set_other {fs : FS} {p q : P} {n : Node} (h : q ≠ p) : (fs.set p n) q = fs q := by simp [FS.set, h]

theorem FS.set_set (fs : FS) (q : P) (a b : Node) : (fs.set q a).set q b = fs.set q b := by
  funext x; simp only [FS.set]; split <;> rfl

theorem Pres.refl (fs : FS) : Pres fs fs := fun _ _ h => h

theorem Pres.trans {a b c : FS} (h₁ : Pres a b) (h₂ : Pres b c) : Pres a c := fun p n h => h₂ p n (h₁ p n h)

theorem Pres.absent {fs fs' : FS} (h : Pres fs fs') {q : P} (hq : fs' q = none) : fs q = none := by
  cases hf : fs q with
  | none => rfl
  | some n => rw [h q n hf] at hq; cases hq

theorem Pres.set_new {fs fs' : FS} (h : Pres fs fs') {q : P} (hq : fs q = none) (n : Node) : Pres fs (fs'.set q n) := by
  intro p m hp
  have : p ≠ q := by intro e; rw [e, hq] at hp; cases hp
  rw [FS.set_other this]; exact h p m hp

def AddDirs (fs fs' : FS) : Prop :=
  Pres fs fs' ∧ ∀ q, fs q = none → fs' q = none ∨ ∃ m, fs' q = some (.dir m)

theorem AddDirs.refl (fs : FS) : AddDirs fs fs := ⟨Pres.refl fs, fun _ h => .inl h⟩

theorem AddDirs.trans {a b c : FS} (h₁ : AddDirs a b) (h₂ : AddDirs b c) : AddDirs a c := by
  refine ⟨h₁.1.trans h₂.1, ?_⟩
  intro q hq
  rcases h₁.2 q hq with hb | ⟨m, hb⟩
  · exact h₂.2 q hb
  · exact .inr ⟨m, h₂.1 q _ hb⟩

theorem AddDirs.set_dir {fs fs' : FS} (h : AddDirs fs fs') {q : P} (hq : fs' q = none) (m : Mode) :
    AddDirs fs (fs'.set q (.dir m)) := by
  refine ⟨h.1.set_new (h.1.absent hq) _, ?_⟩
  intro x hx
  by_cases e : x = q
  · subst e; exact .inr ⟨m, FS.set_same _ _ _⟩
  · rw [FS.set_other e]; exact h.2 x hx

theorem AddDirs.new_is_dir {fs fs' : FS} (h : AddDirs fs fs') {q : P} {n : Node} (hq : fs q = none)
    (hq' : fs' q = some n) : ∃ m, n = .dir m := by
  rcases h.2 q hq with h' | ⟨m, h'⟩
  · rw [hq'] at h'; cases h'
  · exact ⟨m, Option.some.inj (hq'.symm.trans h')⟩

theorem AddDirs.old_of_not_dir {fs fs' : FS} (h : AddDirs fs fs') {q : P} {n : Node} (hq : fs' q = some n)
    (hn : ∀ m, n ≠ .dir m) : fs q = some n := by
  cases hf : fs q with
  | some n' => rw [← h.1 q n' hf, hq]
  | none => obtain ⟨m, hm⟩ := h.new_is_dir hf hq; exact absurd hm (hn m)

theorem isRealDir_root (fs : FS) : isRealDir fs [] = true := by simp [isRealDir]

theorem isRealDir_iff {fs : FS} {d : P} : isRealDir fs d = true ↔ d = [] ∨ ∃ m, fs d = some (.dir m) := by
  unfold isRealDir
  rw [Bool.or_eq_true, decide_eq_true_eq]
  refine or_congr Iff.rfl ?_
  split
  · simp [*]
  · rename_i h; simpa using h

theorem sameKind_refl (n : Node) : sameKind n n := by
  cases n with
  | link _ => exact rfl
  | file _ | dir _ => exact trivial

theorem Pres.ext {fs fs' : FS} (h : Pres fs fs') : Ext fs fs' := fun p n hp => ⟨n, h p n hp, sameKind_refl n⟩

theorem Ext.set_kind {fs : FS} {q : P} {n n' : Node} (hq : fs q = some n) (hk : sameKind n n') : Ext fs (fs.set q n') := by
  intro p k hp
  by_cases e : p = q
  · subst e
    obtain rfl := Option.some.inj (hq.symm.trans hp)
    exact ⟨n', FS.set_same _ _ _, hk⟩
  · exact ⟨k, (FS.set_other e).trans hp, sameKind_refl k⟩

section Ext
variable {fs fs' : FS} (h : Ext fs fs') {x : P}
include h

theorem Ext.link {t : P} (hx : fs x = some (.link t)) : fs' x = some (.link t) := by
  obtain ⟨n', h', hk⟩ := h x _ hx
  cases n' with
  | link t' => obtain rfl : t = t' := hk; exact h'
  | file _ | dir _ => exact hk.elim

theorem Ext.dir {m : Mode} (hx : fs x = some (.dir m)) : ∃ m', fs' x = some (.dir m') := by
  obtain ⟨n', h', hk⟩ := h x _ hx
  cases n' with
  | dir m' => exact ⟨m', h'⟩
  | file _ | link _ => exact hk.elim

theorem Ext.nonlink {n : Node} (hx : fs x = some n) (hn : ∀ t, n ≠ .link t) : ∃ n', fs' x = some n' ∧ ∀ t, n' ≠ .link t := by
  obtain ⟨n', h', hk⟩ := h x _ hx
  refine ⟨n', h', fun t e => ?_⟩
  subst e
  cases n with
  | link t' => exact hn t' rfl
  | file _ | dir _ => exact hk.elim

theorem isRealDir_ext {d : P} (hd : isRealDir fs d = true) : isRealDir fs' d = true :=
  isRealDir_iff.2 ((isRealDir_iff.1 hd).imp id fun ⟨_, hm⟩ => h.dir hm)

end Ext

theorem WF.none_below {fs : FS} (hw : WF fs) {d : P} (hd : fs d = none) (hne : d ≠ []) :
    ∀ (ext : List String), fs (d ++ ext) = none := by
  intro ext
  induction ext generalizing d with
  | nil => rwa [List.append_nil]
  | cons x ext ih =>
    -- an entry `d ++ [x]` would sit in the directory `d`
    have hx : fs (d ++ [x]) = none := by
      cases hx : fs (d ++ [x]) with
      | none => rfl
      | some n =>
        have hp := (hw _ _ hx).2
        rw [List.dropLast_concat] at hp
        rcases isRealDir_iff.1 hp with h0 | ⟨m, hm⟩
        · exact absurd h0 hne
        · rw [hd] at hm; cases hm
    have := ih hx (by simp)
    rwa [List.append_assoc] at this

theorem WF.set_new {fs : FS} (hw : WF fs) {q : P} (hq : fs q = none) (hne : q ≠ []) (hp : isRealDir fs q.dropLast = true)
    (n : Node) : WF (fs.set q n) := by
  have keep {d : P} := isRealDir_ext ((Pres.refl fs).set_new hq n).ext (d := d)
  intro p m hpm
  by_cases e : p = q
  · subst e; exact ⟨hne, keep hp⟩
  · rw [FS.set_other e] at hpm
    obtain ⟨h1, h2⟩ := hw _ _ hpm
    exact ⟨h1, keep h2⟩

theorem WF.set_kind {fs : FS} {q : P} {n n' : Node} (hw : WF fs) (hq : fs q = some n) (hk : sameKind n n') :
    WF (fs.set q n') := by
  intro p k hp
  obtain ⟨k₀, hp₀⟩ : ∃ k₀, fs p = some k₀ := by
    by_cases e : p = q
    · exact ⟨n, e ▸ hq⟩
    · exact ⟨k, (FS.set_other e).symm.trans hp⟩
  exact (hw p k₀ hp₀).imp id (isRealDir_ext (Ext.set_kind hq hk))

theorem walk_last {fs : FS} {cur : P} {name : String} {n : Node} (h : fs (cur ++ [name]) = some n)
    (hn : ∀ t, n ≠ .link t) : walk fs cur [name] = .found (cur ++ [name]) n := by
  dsimp only [walk]
  rw [h]
  cases n with
  | link t => exact absurd rfl (hn t)
  | file _ | dir _ => rfl

theorem walk_last_link {fs : FS} {cur : P} {name : String} {t : P} {n : Node} (h : fs (cur ++ [name]) = some (.link t))
    (ht : fs t = some n) (hn : ∀ t, n ≠ .link t) : walk fs cur [name] = .found t n := by
  dsimp only [walk]
  rw [h]
  simp only [ht]

theorem walk_facts (fs : FS) (cur : P) (rest : List String) :
    (isRealDir fs cur = true →
      ∀ q, walk fs cur rest = .missing q → fs q = none ∧ q ≠ [] ∧ isRealDir fs q.dropLast = true) ∧
    (∀ q n, walk fs cur rest = .found q n → (rest = [] ∧ q = cur) ∨ (fs q = some n ∧ ∀ t, n ≠ .link t)) := by
  fun_induction walk fs cur rest
  -- a directory on the way, directly or through a link: the same question from there
  case case10 hne m hd ih | case12 hne _ _ m hd ih =>
    exact ⟨fun _ => ih.1 (isRealDir_iff.2 (.inr ⟨m, hd⟩)), fun q n h => (ih.2 q n h).imp (fun h0 => absurd h0.1 hne) id⟩
  -- everywhere else the outcome is explicit
  all_goals refine ⟨fun hcur q h => ?_, fun q n h => ?_⟩
  all_goals try split at h
  all_goals cases h
  · -- the empty path
    exact .inl ⟨rfl, rfl⟩
  · -- the last component is absent
    exact ⟨‹_›, by simp, by rwa [List.dropLast_concat]⟩
  · -- the last component is a link to an entry that is not a link
    exact .inr ⟨‹_›, ‹_›⟩
  · -- the last component is a dangling link whose target can be created
    rename_i hd
    simp only [Bool.and_eq_true, decide_eq_true_eq] at hd
    exact ⟨‹_›, hd.1, hd.2⟩
  · -- the last component is an entry that is not a link
    exact .inr ⟨‹_›, ‹_›⟩

theorem resolve_found_at {fs : FS} {p q : P} {n : Node} (hp : p ≠ []) (h : resolve fs p = .found q n) : fs q = some n :=
  (((walk_facts fs [] p).2 _ _ h).resolve_left (fun h0 => hp h0.1)).1

theorem realOf_of_found {fs : FS} {p q : P} {n : Node} (h : resolve fs p = .found q n) : realOf fs p = some q := by
  unfold realOf; rw [h]

theorem readFile_of_found {fs : FS} {p q : P} {f : File} (h : resolve fs p = .found q (.file f)) : readFile fs p = some f := by
  unfold readFile; rw [h]

theorem resolve_file_nonempty {fs : FS} {p q : P} {f : File} (h : resolve fs p = .found q (.file f)) : p ≠ [] := by
  intro e; subst e; cases h

theorem walk_ext {fs fs2 : FS} (h : Ext fs fs2) (cur : P) (rest : List String) :
    (∀ r n, walk fs cur rest = .found r n → ∃ n', walk fs2 cur rest = .found r n') ∧
    (∀ q f, walk fs cur rest = .missing q → fs2 q = some (.file f) → walk fs2 cur rest = .found q (.file f)) := by
  fun_induction walk fs cur rest
  -- a directory on the way, directly or through a link: the new tree takes the same step
  case case10 hr m h1 ih =>
    obtain ⟨m', h'⟩ := h.dir h1
    rw [walk.eq_3 _ _ _ _ hr, h']; exact ih
  case case12 hr t h1 m h2 ih =>
    obtain ⟨m', h'⟩ := h.dir h2
    rw [walk.eq_3 _ _ _ _ hr, h.link h1]; simp only [h']; exact ih
  all_goals refine ⟨fun r n hf => ?_, fun q f hm hq => ?_⟩
  all_goals try split at hf
  all_goals try split at hm
  all_goals try (cases hf; done)
  all_goals try (cases hm; done)
  · -- the empty path
    exact ⟨_, hf⟩
  · -- the last component was absent
    cases hm; exact walk_last hq nofun
  · -- the last component is a link to an entry that is not a link
    rename_i h1 _ hn h2
    cases hf
    obtain ⟨n', h2', hn'⟩ := h.nonlink h2 hn
    exact ⟨n', walk_last_link (h.link h1) h2' hn'⟩
  · -- the last component is a link whose target was absent
    rename_i h1 _ _
    cases hm; exact walk_last_link (h.link h1) hq nofun
  · -- the last component is an entry that is not a link
    rename_i hn h1
    cases hf
    obtain ⟨n', h1', hn'⟩ := h.nonlink h1 hn
    exact ⟨n', walk_last h1' hn'⟩

theorem resolve_ext {fs fs2 : FS} (h : Ext fs fs2) {p r : P} {n : Node} (hr : resolve fs p = .found r n) :
    ∃ n', resolve fs2 p = .found r n' :=
  (walk_ext h [] p).1 r n hr

theorem pathExists_pres {fs fs2 : FS} (h : Pres fs fs2) {p : P} (he : pathExists fs p = true) : pathExists fs2 p = true := by
  unfold pathExists at he ⊢
  cases hr : resolve fs p with
  | found q n => obtain ⟨n', hr'⟩ := resolve_ext h.ext hr; rw [hr']
  | missing _ | noent | notdir | loop => rw [hr] at he; cases he

theorem walk_pres_found {fs fs2 : FS} (h : Pres fs fs2) (cur : P) (rest : List String) :
    ∀ r n, walk fs cur rest = .found r n → walk fs2 cur rest = .found r n := by
  intro r n hf
  obtain ⟨n', hf'⟩ := (walk_ext h.ext cur rest).1 r n hf
  rcases (walk_facts fs cur rest).2 r n hf with ⟨rfl, _⟩ | ⟨hr, _⟩
  · exact hf
  · rcases (walk_facts fs2 cur rest).2 r n' hf' with ⟨rfl, _⟩ | ⟨hr', _⟩
    · exact hf
    · rw [hf', Option.some.inj (hr'.symm.trans (h r n hr))]

theorem walk_set_new_found {fs : FS} (cur : P) (rest : List String) (q : P) (x : Node) (hq : fs q = none) :
    ∀ r n, walk fs cur rest = .found r n → walk (fs.set q x) cur rest = .found r n :=
  walk_pres_found ((Pres.refl fs).set_new hq x) cur rest

theorem resolve_set_file {fs : FS} {p q : P} {f : File} (h : resolve fs p = .found q (.file f)) (F : File) :
    resolve (fs.set q (.file F)) p = .found q (.file F) := by
  have hp := resolve_file_nonempty h
  obtain ⟨n', h'⟩ := resolve_ext (Ext.set_kind (resolve_found_at hp h) (n' := .file F) trivial) h
  obtain rfl := Option.some.inj ((resolve_found_at hp h').symm.trans (FS.set_same _ _ _))
  exact h'

theorem walk_set_new_missing {fs : FS} (cur : P) (rest : List String) (q : P) (f' : File) (hq : fs q = none)
    (hm : walk fs cur rest = .missing q) : walk (fs.set q (.file f')) cur rest = .found q (.file f') :=
  (walk_ext ((Pres.refl fs).set_new hq _).ext cur rest).2 q f' hm (FS.set_same _ _ _)

theorem walk_below_new {fs fs2 : FS} (h : AddDirs fs fs2) (cur : P) (rest : List String) :
    (∀ ext, fs (cur ++ ext) = none) → ∀ q f, walk fs2 cur rest ≠ .found q (.file f) := by
  fun_induction walk fs2 cur rest
  all_goals intro hb q f hc
  all_goals try split at hc
  all_goals try (cases hc; done)
  -- left: the component is a link, a file in last position, a directory on the way; only the last can be new
  · rename_i h1 _ _ _
    obtain ⟨m, hm⟩ := h.new_is_dir (hb _) h1; cases hm
  · rename_i h1
    cases hc
    obtain ⟨m, hm⟩ := h.new_is_dir (hb _) h1; cases hm
  · rename_i ih
    exact ih (fun ext => by simpa [List.append_assoc] using hb (_ :: ext)) q f hc
  · rename_i h1 _ _ _
    obtain ⟨m, hm⟩ := h.new_is_dir (hb _) h1; cases hm

theorem walk_old_file {fs fs2 : FS} (hw : WF fs) (hw2 : WF fs2) (h : AddDirs fs fs2) (cur : P) (rest : List String) :
    ∀ q f, walk fs2 cur rest = .found q (.file f) → walk fs cur rest = .found q (.file f) := by
  fun_induction walk fs2 cur rest
  all_goals intro q f hf
  all_goals try split at hf
  all_goals try (cases hf; done)
  · -- the last component is a link to the file
    rename_i hl _ _ ht
    cases hf
    exact walk_last_link (h.old_of_not_dir hl nofun) (h.old_of_not_dir ht nofun) nofun
  · rename_i hx
    cases hf
    exact walk_last (h.old_of_not_dir hx nofun) nofun
  · -- a directory on the way: old, or new (then nothing old is below it)
    rename_i cur name rest hne mode hd ih
    cases ho : fs (cur ++ [name]) with
    | some n =>
      obtain rfl := Option.some.inj ((h.1 _ _ ho).symm.trans hd)
      rw [walk.eq_3 _ _ _ _ hne, ho]
      exact ih q f hf
    | none => exact absurd hf (walk_below_new h (cur ++ [name]) rest (hw.none_below ho (by simp)) q f)
  · -- a link to a directory on the way
    rename_i cur name rest hne t hl mode ht ih
    have hl' := h.old_of_not_dir hl nofun
    cases ho : fs t with
    | some n =>
      obtain rfl := Option.some.inj ((h.1 _ _ ho).symm.trans ht)
      rw [walk.eq_3 _ _ _ _ hne, hl']
      simp only [ho]
      exact ih q f hf
    | none =>
      exact absurd hf (walk_below_new h t rest (hw.none_below ho (fun e => (hw2 _ _ ht).1 e)) q f)

theorem resolve_found_dir_real {fs : FS} {p q : P} {m : Mode} (h : resolve fs p = .found q (.dir m)) :
    isRealDir fs q = true := by
  rcases (walk_facts fs [] p).2 q _ h with ⟨_, hq⟩ | ⟨hq, _⟩
  · rw [hq]; exact isRealDir_root fs
  · exact isRealDir_iff.2 (.inr ⟨m, hq⟩)

theorem mkdir1_ok {env : EnvFs} {fs fs' : FS} {rp : List String} (h : mkdir1 env fs rp = .ok fs') :
    AddDirs fs fs' ∧ (WF fs → WF fs') := by
  unfold mkdir1 at h
  split at h
  · cases h
  · rename_i name revParent
    simp only at h
    split at h
    · rename_i q m hres
      split at h
      · cases h
      · rename_i hnone
        split at h
        · simp only [MkRes.ok.injEq] at h
          subst h
          exact ⟨(AddDirs.refl fs).set_dir hnone _, fun hw => hw.set_new hnone (by simp)
            (by rw [List.dropLast_concat]; exact resolve_found_dir_real hres) _⟩
        · cases h
    all_goals cases h

theorem mkdirP_addDirs (env : EnvFs) : ∀ (rp : List String) (fs : FS),
    AddDirs fs (mkdirP env fs rp).fs ∧ (WF fs → WF (mkdirP env fs rp).fs) := by
  intro rp
  induction rp with
  | nil => intro fs; exact ⟨AddDirs.refl fs, id⟩
  | cons name revParent ih =>
    intro fs
    unfold mkdirP
    simp only
    split
    · rename_i fs' h1; exact mkdir1_ok h1
    · split <;> exact ⟨AddDirs.refl fs, id⟩
    · have hup := ih fs
      split
      · exact hup
      · split
        · rename_i fs' h2
          have := mkdir1_ok h2
          exact ⟨hup.1.trans this.1, fun hw => this.2 (hup.2 hw)⟩
        · exact hup
        · split <;> exact hup

theorem gate_ok {allow : Bool} {p : P} {fs fs1 : FS} {ops1 : List Op} (h : gate allow p fs = .ok (fs1, ops1)) :
    (fs1 = fs ∧ ∀ q n, resolve fs p ≠ .found q n) ∨
    (allow = true ∧ ∃ q n n', resolve fs p = .found q n ∧ fs1 = fs.set q n' ∧ sameKind n n') := by
  unfold gate at h
  split at h
  · rename_i q n hres
    cases allow with
    | false => cases h
    | true =>
      simp only [if_true] at h
      cases n with
      | file f => cases h; exact .inr ⟨rfl, q, _, _, hres, rfl, trivial⟩
      | dir m => cases h; exact .inr ⟨rfl, q, _, _, hres, rfl, trivial⟩
      | link t => cases h
  · rename_i hnf
    cases h; exact .inl ⟨rfl, hnf⟩

theorem openTrunc_ok {env : EnvFs} {p q : P} {fs fs3 : FS} {m : Mode} (h : openTrunc env p fs = .ok (fs3, q, m)) :
    fs3 = fs.set q (.file ⟨"", m⟩) ∧
    ((∃ f, resolve fs p = .found q (.file f) ∧ fs q = some (.file f) ∧ m = f.mode) ∨
     (resolve fs p = .missing q ∧ fs q = none ∧ q ≠ [] ∧ isRealDir fs q.dropLast = true ∧ m = env.createMode)) := by
  unfold openTrunc at h
  split at h
  · rename_i q' f hres
    split at h
    · cases h
      exact ⟨rfl, .inl ⟨f, hres, resolve_found_at (resolve_file_nonempty hres) hres, rfl⟩⟩
    · cases h
  · cases h
  · cases h
  · rename_i q' hres
    split at h
    · cases h
      obtain ⟨h1, h2, h3⟩ := (walk_facts fs [] p).1 (isRealDir_root fs) _ hres
      exact ⟨rfl, .inr ⟨hres, h1, h2, h3, rfl⟩⟩
    · cases h
  all_goals cases h

def Produces (pps : List FilePP) (w : Write) (F : File) : Prop :=
  Overwrite.ppContent pps w.content = some F.content ∧
  ∀ fm, Overwrite.requestedMode pps = some fm → F.mode = permBits fm

theorem afterOpen_set (pps : List FilePP) (w : Write) (q : P) (m : Mode) (fs : FS) (n : Node) (ops : List Op) :
    ∃ F, (afterOpen pps w q m (fs.set q n) ops).fs = fs.set q (.file F) ∧
      ((afterOpen pps w q m (fs.set q n) ops).err = none → Produces pps w F) := by
  unfold afterOpen
  split
  · refine ⟨_, FS.set_set _ _ _ _, fun h => ?_⟩
    have he := Option.map_eq_none_iff.1 h
    exact ⟨Overwrite.applyPPs_content _ _ _ _ he, fun fm hfm => Overwrite.applyPPs_requested_mode hfm _ _ _ he⟩
  · exact ⟨_, FS.set_set _ _ _ _, nofun⟩

/-- How far a write gets: refused by the gate; else the gate left the tree alone (nothing at the path) or `chmod`-ed the entry
there, `mkdir -p` added directories, and then the write was stopped by `mkdir` or `open`, or a file was opened — an existing one
truncated or a missing one created — and written. -/
theorem writeFile_stages (env : EnvFs) (allow : Bool) (pps : List FilePP) (w : Write) (fs : FS) :
    (∃ e, writeFile env allow pps w fs = ⟨fs, [], some e⟩) ∨
    ∃ fs1 fs2,
      ((fs1 = fs ∧ ∀ q n, resolve fs w.path ≠ .found q n) ∨
       (allow = true ∧ ∃ q n n', resolve fs w.path = .found q n ∧ fs1 = fs.set q n' ∧ sameKind n n')) ∧
      AddDirs fs1 fs2 ∧ (WF fs1 → WF fs2) ∧
      (((writeFile env allow pps w fs).fs = fs2 ∧ (writeFile env allow pps w fs).err ≠ none) ∨
        ∃ q F, (writeFile env allow pps w fs).fs = fs2.set q (.file F) ∧
          ((writeFile env allow pps w fs).err = none → Produces pps w F) ∧
          ((∃ f, resolve fs2 w.path = .found q (.file f) ∧ fs2 q = some (.file f)) ∨
           (resolve fs2 w.path = .missing q ∧ fs2 q = none ∧ q ≠ [] ∧ isRealDir fs2 q.dropLast = true))) := by
  unfold writeFile
  cases hg : gate allow w.path fs with
  | error e => exact .inl ⟨e, rfl⟩
  | ok r =>
    obtain ⟨fs1, ops1⟩ := r
    have hmk := mkdirP_addDirs env w.path.dropLast.reverse fs1
    refine .inr ⟨fs1, _, gate_ok hg, hmk.1, hmk.2, ?_⟩
    simp only
    cases (mkdirP env fs1 w.path.dropLast.reverse).err with
    | some e => exact .inl ⟨rfl, nofun⟩
    | none =>
      simp only
      cases hop : openTrunc env w.path (mkdirP env fs1 w.path.dropLast.reverse).fs with
      | error e => exact .inl ⟨rfl, nofun⟩
      | ok r =>
        obtain ⟨fs3, q, m⟩ := r
        obtain ⟨rfl, hcase⟩ := openTrunc_ok hop
        obtain ⟨F, hfs, hF⟩ := afterOpen_set pps w q m (mkdirP env fs1 w.path.dropLast.reverse).fs (.file ⟨"", m⟩)
          (ops1 ++ (mkdirP env fs1 w.path.dropLast.reverse).ops ++ [.openW w.path])
        exact .inr ⟨q, F, hfs, hF, hcase.imp (fun ⟨f, h1, h2, _⟩ => ⟨f, h1, h2⟩) (fun ⟨h1, h2, h3, h4, _⟩ => ⟨h1, h2, h3, h4⟩)⟩

theorem writeFile_wf (env : EnvFs) (allow : Bool) (pps : List FilePP) (w : Write) (fs : FS) (hw : WF fs)
    (hp : allow = true → w.path ≠ []) : WF (writeFile env allow pps w fs).fs := by
  rcases writeFile_stages env allow pps w fs with ⟨e, h⟩ | ⟨fs1, fs2, hg, _, hmk, hrest⟩
  · rw [h]; exact hw
  · have hw2 : WF fs2 := by
      rcases hg with ⟨rfl, _⟩ | ⟨ha, q, n, n', hres, rfl, hk⟩
      · exact hmk hw
      · exact hmk (hw.set_kind (resolve_found_at (hp ha) hres) hk)
    rcases hrest with ⟨h, _⟩ | ⟨q, F, h, _, ⟨f, _, hq⟩ | ⟨_, hq, hne, hpar⟩⟩
    · rw [h]; exact hw2
    · rw [h]; exact hw2.set_kind hq trivial
    · rw [h]; exact hw2.set_new hq hne hpar _

theorem writeFile_noow_preserved (env : EnvFs) (pps : List FilePP) (w : Write) (fs : FS) (hw : WF fs) :
    Pres fs (writeFile env false pps w fs).fs := by
  rcases writeFile_stages env false pps w fs with ⟨e, h⟩ | ⟨fs1, fs2, hg, hmk, hwf, hrest⟩
  · rw [h]; exact Pres.refl fs
  · obtain ⟨rfl, hnf⟩ := hg.resolve_right (fun h => nomatch h.1)
    rcases hrest with ⟨h, _⟩ | ⟨q, F, h, _, ⟨f, hr, _⟩ | ⟨_, hq, _⟩⟩
    · rw [h]; exact hmk.1
    · -- would truncate an old file: the old tree then resolved the path too
      exact absurd (walk_old_file hw (hwf hw) hmk [] w.path q f hr) (hnf q _)
    · rw [h]; exact hmk.1.set_new (hmk.1.absent hq) _

theorem writeFile_allow_ok (env : EnvFs) (pps : List FilePP) (w : Write) (fs : FS) (hw : WF fs) (hp : w.path ≠ [])
    (hok : (writeFile env true pps w fs).err = none) :
    ∃ q F, Produces pps w F ∧ resolve (writeFile env true pps w fs).fs w.path = .found q (.file F) ∧
      (∀ x n, fs x = some n → x ≠ q → (writeFile env true pps w fs).fs x = some n) ∧
      ((∃ f, fs q = some (.file f)) ∨ fs q = none) := by
  rcases writeFile_stages env true pps w fs with ⟨e, h⟩ | ⟨fs1, fs2, hg, hmk, hwf, ⟨_, h⟩ | ⟨q, F, h, hF, hcase⟩⟩
  · rw [h] at hok; cases hok
  · exact absurd hok h
  rw [h]
  have hres : resolve (fs2.set q (.file F)) w.path = .found q (.file F) := by
    rcases hcase with ⟨f, hrf, _⟩ | ⟨hrm, hq, _⟩
    · exact resolve_set_file hrf F
    · exact walk_set_new_missing [] w.path q _ hq hrm
  refine ⟨q, F, hF hok, hres, ?_⟩
  rcases hg with ⟨rfl, hnf⟩ | ⟨_, q0, n0, n0', hres0, rfl, hk⟩
  · -- nothing at the path before
    refine ⟨fun x n hx hne => (FS.set_other hne).trans (hmk.1 x n hx), ?_⟩
    rcases hcase with ⟨f, hrf, _⟩ | ⟨_, hq, _⟩
    · exact absurd (walk_old_file hw (hwf hw) hmk [] w.path q f hrf) (hnf q _)
    · exact .inr (hmk.1.absent hq)
  · -- the gate `chmod`-ed the entry `q0` the path resolves to; `mkdir` left it alone: it is the file `open` truncated
    have hq0 := resolve_found_at hp hres0
    obtain ⟨n1, hr1⟩ := resolve_ext (Ext.set_kind hq0 hk) hres0
    obtain ⟨n2, hr2⟩ := resolve_ext hmk.1.ext hr1
    rcases hcase with ⟨f, hrf, hq⟩ | ⟨hrm, _⟩
    · obtain ⟨rfl, rfl⟩ := Res.found.inj (hr2.symm.trans hrf)
      refine ⟨fun x n hx hne => ?_, .inl ?_⟩
      · exact (FS.set_other hne).trans (hmk.1 x n ((FS.set_other hne).trans hx))
      · obtain rfl := Option.some.inj ((hmk.1 _ _ (FS.set_same _ _ _)).symm.trans hq)
        cases n0 with
        | file f0 => exact ⟨f0, hq0⟩
        | dir _ | link _ => exact hk.elim
    · cases hr2.symm.trans hrm

theorem writeFile_noow_conflict (env : EnvFs) (pps : List FilePP) (w : Write) (fs : FS) (he : pathExists fs w.path = true) :
    (writeFile env false pps w fs).err = some (.conflict w.path) := by
  unfold pathExists at he
  unfold writeFile gate
  cases hr : resolve fs w.path with
  | found q n => simp
  | missing _ | noent | notdir | loop => rw [hr] at he; cases he

def KeepsBut (Q : P → Prop) (fs fs' : FS) : Prop :=
  ∀ x n, fs x = some n → fs' x = some n ∨ (Q x ∧ ∃ f f', n = .file f ∧ fs' x = some (.file f'))

theorem KeepsBut.ext {Q : P → Prop} {fs fs' : FS} (h : KeepsBut Q fs fs') : Ext fs fs' := fun x n hx =>
  (h x n hx).elim (fun h' => ⟨n, h', sameKind_refl n⟩) fun ⟨_, _, _, e, h'⟩ => ⟨_, h', e ▸ trivial⟩

theorem KeepsBut.not_file {Q : P → Prop} {fs fs' : FS} (h : KeepsBut Q fs fs') {x : P} {n : Node} (hx : fs x = some n)
    (hn : ∀ f, n ≠ .file f) : fs' x = some n :=
  (h x n hx).resolve_right fun ⟨_, f, _, e, _⟩ => hn f e

theorem KeepsBut.trans {Q₁ Q₂ Q : P → Prop} {a b c : FS} (h₁ : KeepsBut Q₁ a b) (h₂ : KeepsBut Q₂ b c)
    (i₁ : ∀ x, Q₁ x → Q x) (i₂ : ∀ x, Q₂ x → Q x) : KeepsBut Q a c := by
  intro x n hx
  rcases h₁ x n hx with hb | ⟨hq, f, f', e, hb⟩
  · exact (h₂ x n hb).imp id fun ⟨hq, r⟩ => ⟨i₂ x hq, r⟩
  · refine .inr ⟨i₁ x hq, f, ?_⟩
    rcases h₂ x _ hb with hc | ⟨_, _, g', _, hc⟩
    · exact ⟨f', e, hc⟩
    · exact ⟨g', e, hc⟩

theorem runWrites_wf (env : EnvFs) (allow : Bool) (pps : List FilePP) (ws : List Write) (fs : FS) (hw : WF fs)
    (hp : allow = true → ∀ w ∈ ws, w.path ≠ []) : WF (runWrites env allow pps ws fs).fs := by
  fun_induction runWrites env allow pps ws fs with
  | case1 => exact hw
  | case2 w ws fs => exact writeFile_wf env allow pps w fs hw (fun h => hp h w (List.mem_cons_self ..))
  | case3 w ws fs _ _ _ ih =>
    exact ih (writeFile_wf env allow pps w fs hw (fun h => hp h w (List.mem_cons_self ..)))
      (fun h w' hw' => hp h w' (List.mem_cons_of_mem _ hw'))

theorem runWrites_noow_preserved (env : EnvFs) (pps : List FilePP) (ws : List Write) (fs : FS) (hw : WF fs) :
    Pres fs (runWrites env false pps ws fs).fs := by
  fun_induction runWrites env false pps ws fs with
  | case1 fs => exact Pres.refl fs
  | case2 w ws fs => exact writeFile_noow_preserved env pps w fs hw
  | case3 w ws fs _ _ _ ih =>
    exact (writeFile_noow_preserved env pps w fs hw).trans (ih (writeFile_wf env false pps w fs hw nofun))

theorem runWrites_noow_conflict_fails (env : EnvFs) (pps : List FilePP) (ws : List Write) (fs : FS) (hw : WF fs)
    (h : ∃ w ∈ ws, pathExists fs w.path = true) : (runWrites env false pps ws fs).err ≠ none := by
  fun_induction runWrites env false pps ws fs with
  | case1 => obtain ⟨w, hw, _⟩ := h; cases hw
  | case2 => exact nofun
  | case3 w ws fs _ he _ ih =>
    obtain ⟨w', hw', hex⟩ := h
    rcases List.mem_cons.1 hw' with rfl | hw''
    · exact absurd ((writeFile_noow_conflict env pps _ fs hex).symm.trans he) nofun
    · exact ih (writeFile_wf env false pps w fs hw nofun)
        ⟨w', hw'', pathExists_pres (writeFile_noow_preserved env pps w fs hw) hex⟩

theorem runWrites_allow_keepsBut (env : EnvFs) (pps : List FilePP) (ws : List Write) (fs : FS) (hw : WF fs)
    (hps : ∀ w ∈ ws, w.path ≠ []) (hok : (runWrites env true pps ws fs).err = none) :
    KeepsBut (fun x => ∃ w ∈ ws, realOf (runWrites env true pps ws fs).fs w.path = some x) fs
      (runWrites env true pps ws fs).fs := by
  fun_induction runWrites env true pps ws fs with
  | case1 => exact fun x n hx => .inl hx
  | case2 => cases hok
  | case3 w ws fs _ he _ ih =>
    have hpw := hps w (List.mem_cons_self ..)
    obtain ⟨q, F, _, hres, hframe, hq⟩ := writeFile_allow_ok env pps w fs hw hpw he
    have h₁ : KeepsBut (· = q) fs (writeFile env true pps w fs).fs := by
      intro x n hx
      by_cases e : x = q
      · subst e
        rcases hq with ⟨f, hf⟩ | hn
        · exact .inr ⟨rfl, f, F, Option.some.inj (hx.symm.trans hf), resolve_found_at hpw hres⟩
        · rw [hn] at hx; cases hx
      · exact .inl (hframe x n hx e)
    have h₂ := ih (writeFile_wf env true pps w fs hw (fun _ => hpw)) (fun w' h' => hps w' (List.mem_cons_of_mem _ h')) hok
    -- in the final tree the head's path still ends up at `q`
    obtain ⟨nq, hrq⟩ := resolve_ext h₂.ext hres
    exact h₁.trans h₂ (fun x e => ⟨w, List.mem_cons_self .., e ▸ realOf_of_found hrq⟩)
      (fun x ⟨w', h', e⟩ => ⟨w', List.mem_cons_of_mem _ h', e⟩)

theorem runWrites_allow_reads (env : EnvFs) (pps : List FilePP) (ws : List Write) (fs : FS) (hw : WF fs)
    (hps : ∀ w ∈ ws, w.path ≠ []) (hok : (runWrites env true pps ws fs).err = none)
    (hpair : ws.Pairwise fun a b =>
      realOf (runWrites env true pps ws fs).fs a.path ≠ realOf (runWrites env true pps ws fs).fs b.path) :
    ∀ w ∈ ws, ∃ q F, Produces pps w F ∧ resolve (runWrites env true pps ws fs).fs w.path = .found q (.file F) := by
  fun_induction runWrites env true pps ws fs with
  | case1 => intro w hw; cases hw
  | case2 => cases hok
  | case3 w ws fs _ he _ ih =>
    intro w0 hw0
    have hpw := hps w (List.mem_cons_self ..)
    have hps' : ∀ w' ∈ ws, w'.path ≠ [] := fun w' h' => hps w' (List.mem_cons_of_mem _ h')
    obtain ⟨q, F, hF, hres, _, _⟩ := writeFile_allow_ok env pps w fs hw hpw he
    have hw1 := writeFile_wf env true pps w fs hw (fun _ => hpw)
    rw [List.pairwise_cons] at hpair
    rcases List.mem_cons.1 hw0 with rfl | hw0'
    · -- the later writes end up elsewhere, so what this one wrote is still there
      have hk := runWrites_allow_keepsBut env pps ws _ hw1 hps' hok
      obtain ⟨n', hrn⟩ := resolve_ext hk.ext hres
      refine ⟨q, F, hF, ?_⟩
      rcases hk q _ (resolve_found_at hpw hres) with hq | ⟨⟨w', h', e⟩, _⟩
      · rw [hrn, Option.some.inj ((resolve_found_at hpw hrn).symm.trans hq)]
      · exact absurd ((realOf_of_found hrn).trans e.symm) (hpair.1 w' h')
    · exact ih hw1 hps' hok hpair.2 w0 hw0'

theorem runHistory_wf (env : EnvFs) : ∀ (hist : List Run) (fs : FS), WF fs →
    (∀ r ∈ hist, r.allowOverwrite = true → ∀ w ∈ r.writes, w.path ≠ []) →
    ∀ s ∈ runHistory env hist fs, WF s.1 ∧ s.2.2 = runRun env s.2.1 s.1 := by
  intro hist
  induction hist with
  | nil => intro fs _ _ s hs; cases hs
  | cons r rs ih =>
    intro fs hw hps s hs
    unfold runHistory at hs
    simp only [List.mem_cons] at hs
    rcases hs with rfl | hs
    · exact ⟨hw, rfl⟩
    · exact ih _ (runWrites_wf env _ _ _ _ hw (hps r (List.mem_cons_self ..)))
        (fun r' h' => hps r' (List.mem_cons_of_mem _ h')) s hs

end NunavutVerif.OverwriteFs
