import NunavutVerif.Model.Tpl
import NunavutVerif.Gen.TplFlows
import NunavutVerif.Gen.TplCallables
/-!
Noninterference of the mini template language, by structural induction. The static check is antitone in the list of
classes, so each generated table is evaluated once, for the classes of C07 and C10 together, and each property takes
its part of it.
-/
namespace NunavutVerif.Tpl
open NunavutVerif.LineBuffer (Str)

variable {δ : Type}

def agreeOff (cs : List Src) (a₁ a₂ : Amb) : Prop := ∀ s, cs.contains s = false → a₁ s = a₂ s

theorem agreeOff_refl (cs : List Src) (a : Amb) : agreeOff cs a a := fun _ _ => rfl

theorem agreeOff_of_all (cs : List Src) (a₁ a₂ : Amb) (h : ∀ s, a₁ s ≠ a₂ s → cs.contains s = true) :
    agreeOff cs a₁ a₂ := by
  intro s hs
  by_cases e : a₁ s = a₂ s
  · exact e
  · have := h s e; simp_all

theorem Leaf.cleanFor_iff {cs : List Src} {l : Leaf} : l.cleanFor cs = true ↔ ∀ s ∈ l.effective, s ∉ cs := by
  simp [Leaf.cleanFor]

theorem mask_eq_of_clean {cs : List Src} {l : Leaf} {a₁ a₂ : Amb}
    (h : agreeOff cs a₁ a₂) (hc : l.cleanFor cs = true) :
    mask l.effective a₁ = mask l.effective a₂ := by
  funext s
  unfold mask
  split
  · next hs => exact h s (by simpa using Leaf.cleanFor_iff.mp hc s (by simpa using hs))
  · rfl

theorem renderWith_ni {cs : List Src} (I : Interp δ) (d : δ) {a₁ a₂ : Amb} (h : agreeOff cs a₁ a₂)
    (c₁ c₂ : Nat → List Nat → Str) :
    ∀ (t : Tpl) (ls : List Nat), t.cleanFor cs = true →
      (∀ m, m ∈ t.callees → ∀ ls', c₁ m ls' = c₂ m ls') →
      renderWith I false d a₁ c₁ ls t = renderWith I false d a₂ c₂ ls t := by
  intro t
  induction t with
  | nil | text => intros; rfl
  | out e =>
    intro ls hc _
    simp only [renderWith, mask_eq_of_clean h hc]
  | seq x y ihx ihy =>
    intro ls hc hcal
    simp only [Tpl.cleanFor, Bool.and_eq_true] at hc
    simp only [Tpl.callees, List.forall_mem_append] at hcal
    simp only [renderWith, ihx ls hc.1 hcal.1, ihy ls hc.2 hcal.2]
  | ite c t e iht ihe =>
    intro ls hc hcal
    simp only [Tpl.callees, List.forall_mem_append] at hcal
    cases c with
    | audit => exact ihe ls hc hcal.2
    | notAudit => exact iht ls hc hcal.1
    | leaf l =>
      simp only [Tpl.cleanFor, Bool.and_eq_true] at hc
      have hcond : evalCond I false d a₁ ls (.leaf l) = evalCond I false d a₂ ls (.leaf l) :=
        congrArg (I.cond l.id d ls) (mask_eq_of_clean h hc.1.1)
      simp only [renderWith, hcond, iht ls hc.1.2 hcal.1, ihe ls hc.2 hcal.2]
  | loop e body ih =>
    intro ls hc hcal
    simp only [Tpl.cleanFor, Bool.and_eq_true] at hc
    simp only [renderWith, mask_eq_of_clean h hc.1]
    congr 1
    funext item
    exact ih (item :: ls) hc.2 hcal
  | call m =>
    intro ls _ hcal
    exact hcal m (List.mem_singleton_self m) ls
  | filterBlock f t ih =>
    intro ls hc hcal
    simp only [Tpl.cleanFor, Bool.and_eq_true] at hc
    simp only [renderWith, mask_eq_of_clean h hc.1, ih ls hc.2 hcal]

theorem closedClean_iff {cs : List Src} {P : List Tpl} {S : List Nat} :
    closedClean cs P S = true ↔
      ∀ m ∈ S, ∃ b, P[m]? = some b ∧ b.cleanFor cs = true ∧ ∀ c ∈ b.callees, c ∈ S := by
  simp only [closedClean, List.all_eq_true]
  refine forall₂_congr fun m _ => ?_
  cases P[m]? <;> simp

theorem Lang.rootsCleanFor_iff {L : Lang} {cs : List Src} {k : FileKind} :
    L.rootsCleanFor cs k = true ↔ ∀ r ∈ L.roots, r.kind = k → ∀ m, r.body = some m →
      m ∈ reachFrom L.program m ∧ closedClean cs L.program (reachFrom L.program m) = true := by
  simp only [Lang.rootsCleanFor, List.all_eq_true]
  refine forall₂_congr fun r _ => ?_
  by_cases hk : r.kind = k <;> cases r.body <;> simp [hk]

/-- Noninterference (T1), for every interpretation of the leaves, every call depth and loop context. -/
theorem render_ni {cs : List Src} (I : Interp δ) (P : List Tpl) (S : List Nat) (hS : closedClean cs P S = true)
    (d : δ) {a₁ a₂ : Amb} (h : agreeOff cs a₁ a₂) :
    ∀ (fuel m : Nat) (ls : List Nat), m ∈ S →
      render I P false d a₁ fuel m ls = render I P false d a₂ fuel m ls := by
  intro fuel
  induction fuel with
  | zero => intros; rfl
  | succ f ih =>
    intro m ls hm
    obtain ⟨b, hb, hc, hcal⟩ := closedClean_iff.mp hS m hm
    simp only [render, hb]
    exact renderWith_ni I d h _ _ b ls hc fun c hc ls' => ih c ls' (hcal c hc)

theorem Leaf.cleanFor_mono {cs cs' : List Src} (h : cs ⊆ cs') {l : Leaf} (hc : l.cleanFor cs' = true) :
    l.cleanFor cs = true :=
  Leaf.cleanFor_iff.mpr fun s hs hin => Leaf.cleanFor_iff.mp hc s hs (h hin)

theorem Tpl.cleanFor_mono {cs cs' : List Src} (h : cs ⊆ cs') {t : Tpl} (hc : t.cleanFor cs' = true) :
    t.cleanFor cs = true := by
  induction t with
  | nil | text | call => rfl
  | out e => exact Leaf.cleanFor_mono h hc
  | seq a b iha ihb =>
    simp only [Tpl.cleanFor, Bool.and_eq_true] at hc ⊢
    exact ⟨iha hc.1, ihb hc.2⟩
  | ite c t e iht ihe =>
    cases c with
    | audit => exact ihe hc
    | notAudit => exact iht hc
    | leaf l =>
      simp only [Tpl.cleanFor, Bool.and_eq_true] at hc ⊢
      exact ⟨⟨Leaf.cleanFor_mono h hc.1.1, iht hc.1.2⟩, ihe hc.2⟩
  | loop e b ih | filterBlock e b ih =>
    simp only [Tpl.cleanFor, Bool.and_eq_true] at hc ⊢
    exact ⟨Leaf.cleanFor_mono h hc.1, ih hc.2⟩

theorem closedClean_mono {cs cs' : List Src} (h : cs ⊆ cs') {P : List Tpl} {S : List Nat}
    (hc : closedClean cs' P S = true) : closedClean cs P S = true := by
  rw [closedClean_iff] at hc ⊢
  exact fun m hm => let ⟨b, hb, hcl, hcal⟩ := hc m hm; ⟨b, hb, Tpl.cleanFor_mono h hcl, hcal⟩

theorem Lang.rootsCleanFor_mono {cs cs' : List Src} (h : cs ⊆ cs') {L : Lang} {k : FileKind}
    (hc : L.rootsCleanFor cs' k = true) : L.rootsCleanFor cs k = true := by
  rw [Lang.rootsCleanFor_iff] at hc ⊢
  exact fun r hr hk m hb => ⟨(hc r hr hk m hb).1, closedClean_mono h (hc r hr hk m hb).2⟩

theorem Lang.cleanFor_mono {cs cs' : List Src} (h : cs ⊆ cs') {L : Lang} (hc : L.cleanFor cs' = true) :
    L.cleanFor cs = true := by
  simp only [Lang.cleanFor, Bool.and_eq_true] at hc ⊢
  exact ⟨⟨rootsCleanFor_mono h hc.1.1, rootsCleanFor_mono h hc.1.2⟩, rootsCleanFor_mono h hc.2⟩

theorem Callable.asExpected_mono {cs cs' : List Src} (h : cs ⊆ cs') {c : Callable}
    (hc : c.asExpected cs' = true) : c.asExpected cs = true := by
  simp only [Callable.asExpected, List.all_eq_true, List.mem_filter, List.contains_eq_mem,
    decide_eq_true_eq] at hc ⊢
  exact fun s hs => hc s ⟨hs.1, h hs.2⟩

theorem firstLineNonBlank_append (p q : Str) (h : firstLineNonBlank p = true) :
    firstLineNonBlank (p ++ q) = true := by
  fun_induction firstLineNonBlank p with
  | case1 => cases h
  | case2 rest => cases h
  | case3 c rest hc hw ih => simp [firstLineNonBlank, hc, hw, ih h]
  | case4 c rest hc hw => simp [firstLineNonBlank, hc, hw]

theorem strLe_iff (a b : Str) : strLe a b = true ↔ a ≤ b := by
  induction a generalizing b with
  | nil => simp [strLe]
  | cons x xs ih =>
    cases b with
    | nil => simp [strLe]
    | cons y ys =>
      have hlt : x < y ↔ x.toNat < y.toNat := by rw [Char.lt_def, UInt32.lt_iff_toNat_lt]; rfl
      rw [List.cons_le_cons_iff, ← ih, strLe, hlt, ← Char.toNat_inj]
      rcases Nat.lt_trichotomy x.toNat y.toNat with h | h | h
      · simp [h]
      · simp [h]
      · simp [h, Nat.lt_asymm h, Nat.ne_of_gt h]

theorem sortStrs_perm_invariant {l₁ l₂ : List Str} (h : l₁.Perm l₂) : sortStrs l₁ = sortStrs l₂ := by
  have htrans : ∀ a b c : Str, strLe a b = true → strLe b c = true → strLe a c = true := by
    simp only [strLe_iff]; exact fun _ _ _ => List.le_trans
  have htotal : ∀ a b : Str, (strLe a b || strLe b a) = true := by
    simp only [Bool.or_eq_true, strLe_iff]; exact List.le_total
  unfold sortStrs
  apply List.Perm.eq_of_pairwise (le := fun a b => strLe a b = true)
  · simp only [strLe_iff]; exact fun _ _ _ _ => List.le_antisymm
  · exact List.pairwise_mergeSort htrans htotal l₁
  · exact List.pairwise_mergeSort htrans htotal l₂
  · exact (List.mergeSort_perm l₁ _).trans (h.trans (List.mergeSort_perm l₂ _).symm)

end NunavutVerif.Tpl

namespace NunavutVerif.Gen
open NunavutVerif.Tpl

/-- c: every leaf of every built-in and support template that reads anything ambient or process-wide is under an
auditing guard or behind its sanitiser. -/
theorem TplFlowsC.lang_clean : TplFlowsC.lang.cleanFor (Src.c07 ++ Src.c10) = true := by decide +kernel

theorem TplFlowsCpp.lang_clean : TplFlowsCpp.lang.cleanFor (Src.c07 ++ Src.c10) = true := by decide +kernel

theorem TplFlowsHtml.lang_clean : TplFlowsHtml.lang.cleanFor (Src.c07 ++ Src.c10) = true := by decide +kernel

/-- py is clean except for one cell, per-type files × (absolute location, model-cache state): the `pickle` filter
(known findings `py-pickled-model-absolute-path`, `py-pickled-model-cache-state`); that cell really is dirty in the
table. -/
theorem TplFlowsPy.lang_clean_except_type_cell :
    TplFlowsPy.lang.cleanFor [.time, .platform, .hashOrder, .random, .siblings, .psUniqueName, .psMemo,
      .psTemplateCache, .psCompileFold, .psSharedMutable] = true ∧
    TplFlowsPy.lang.rootsCleanFor (Src.c07 ++ Src.c10) .namespace = true ∧
    TplFlowsPy.lang.rootsCleanFor (Src.c07 ++ Src.c10) .support = true ∧
    TplFlowsPy.lang.rootsCleanFor [.absPath] .type = false ∧
    TplFlowsPy.lang.rootsCleanFor [.psModelCache] .type = false := by decide +kernel

theorem TplFlowsPy.lang_scrubbed_clean :
    (TplFlowsPy.lang.scrub TplFlowsPy.pickleLeaves).cleanFor (Src.c07 ++ Src.c10) = true := by decide +kernel

theorem TplCallables.all_asExpected :
    TplCallables.unclassified = [] ∧
    TplCallables.all.all (fun L => L.2.all (Callable.asExpected (Src.c07 ++ Src.c10))) = true := by decide +kernel

theorem TplCallables.all_asExpected_of_subset {cs : List Src} (h : cs ⊆ Src.c07 ++ Src.c10) :
    TplCallables.unclassified = [] ∧ TplCallables.all.all (fun L => L.2.all (Callable.asExpected cs)) = true := by
  refine ⟨TplCallables.all_asExpected.1, ?_⟩
  have := TplCallables.all_asExpected.2
  simp only [List.all_eq_true] at this ⊢
  exact fun L hL c hc => Callable.asExpected_mono h (this L hL c hc)

end NunavutVerif.Gen
