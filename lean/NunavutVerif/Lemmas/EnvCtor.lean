import NunavutVerif.Lemmas.Resolve
import NunavutVerif.Model.EnvCtor
/-!
The constructor state machine (C16): over the statement list the hand-written `construct` describes, the state machine
succeeds exactly when `construct` does, with the same environment, and ends with the flag equal to the constructor
argument.
-/
namespace NunavutVerif.Resolve
open Gen.EnvCtor (AllowExpr Step)

def okOf {ε α : Type} : Except ε α → Option α
  | .ok x => some x
  | .error _ => none

theorem okOf_eq_some {ε α : Type} {r : Except ε α} {x : α} : okOf r = some x ↔ r = .ok x := by
  cases r <;> simp [okOf]

theorem ok_of_okOf_map {ε ε' α β : Type} {r : Except ε α} {r' : Except ε' β} {f : β → α} {x : α}
    (h : okOf r = (okOf r').map f) (hx : r = .ok x) : ∃ y, r' = .ok y ∧ x = f y := by
  rw [hx] at h
  cases r' with
  | error e => cases h
  | ok y => cases h; exact ⟨y, rfl, rfl⟩

theorem okOf_bind {ε α β : Type} (r : Except ε α) (f : α → Except ε β) :
    okOf (r.bind f) = (okOf r).bind fun x => okOf (f x) := by
  cases r <;> rfl

theorem addPost_append (allow : Bool) : ∀ (a b : List (Kind × Name × Owner)) (e : Env),
    addPost allow e (a ++ b) = match addPost allow e a with
      | .ok e' => addPost allow e' b
      | .error x => .error x
  | [], b, e => by simp [addPost]
  | (.filter, n, v) :: a, b, e => by
    simp only [List.cons_append, addPost]
    cases addToEnv allow e.filters n v with
    | ok f => simp only [addPost_append allow a b]
    | error x => rfl
  | (.test, n, v) :: a, b, e => by
    simp only [List.cons_append, addPost]
    cases addToEnv allow e.tests n v with
    | ok f => simp only [addPost_append allow a b]
    | error x => rfl

/-- The statement list the hand-written `construct` describes (`CodeGenEnvironment.__init__`). -/
def canonCtorSteps : List Step :=
  [.jinjaDefaults, .setAllow .ctorArg, .userGlobals true true, .reservedNamespaces, .assignGlobal nowUtc,
   .langGlobals true, .langSupport, .nunavutNamespace, .ownMethods, .userFilters, .userTests]

/-- … and `DSDLCodeGenerator.__init__` after `create()`. -/
def canonDsdlSteps : List Step := [.instanceTests, .generatorMethods]

theorem runSteps_append (cfg : SMCfg) (i : CtorInputs) (a b : List Step) (s : SMState) :
    runSteps cfg i s (a ++ b) = (runSteps cfg i s a).bind fun s' => runSteps cfg i s' b := by
  induction a generalizing s with
  | nil => rfl
  | cons st a ih =>
    simp only [List.cons_append, runSteps]
    cases runStep cfg i s st with
    | ok s' => exact ih s'
    | error e => rfl

theorem constructSM_canon_builder (hg : Gen.EnvCtor.addGuard = .ctorArg) (cfg : SMCfg) (i : CtorInputs) :
    okOf (constructSM cfg i canonCtorSteps) =
      (okOf (construct (cfg.toEnvCfg []) i.allowArg i.ug i.uf i.ut)).map fun env => ⟨some i.allowArg, env⟩ := by
  simp only [constructSM, canonCtorSteps, runSteps, runStep, smInit, evalAllow, withFlag, guardOf, hg, if_true,
    construct, constructRest, SMCfg.toEnvCfg, addAll_append, addPost, builtinGlobals]
  cases addGlobals (cfg.reservedNs ++ cfg.reservedNames) i.allowArg cfg.jinjaGlobals i.ug with
  | error e => rfl
  | ok g =>
    dsimp only
    cases addAll i.allowArg cfg.jinjaFilters cfg.langFilters with
    | error e => rfl
    | ok f1 =>
      dsimp only
      cases addAll i.allowArg cfg.jinjaTests cfg.langTests with
      -- `construct` tries the own filters before any test, so the two sides may fail differently; `okOf` forgets how
      | error e => dsimp only; cases addAll i.allowArg f1 cfg.ownFilters <;> rfl
      | ok t1 =>
        dsimp only
        cases addAll i.allowArg f1 cfg.ownFilters with
        | error e => rfl
        | ok f2 =>
          dsimp only
          cases addAll i.allowArg t1 cfg.ownTests with
          | error e => rfl
          | ok t2 =>
            dsimp only
            cases addAll i.allowArg f2 (conv i.uf) with
            | error e => rfl
            | ok f3 =>
              dsimp only
              cases addAll i.allowArg t2 (conv i.ut) <;> rfl

theorem construct_post (cfg : SMCfg) (post : List (Kind × Name × Owner)) (allow : Bool) (ug uf ut : List (Name × Owner)) :
    construct (cfg.toEnvCfg post) allow ug uf ut =
      (construct (cfg.toEnvCfg []) allow ug uf ut).bind fun env => addPost allow env post := by
  simp only [construct, constructRest, SMCfg.toEnvCfg, addPost]
  cases addGlobals (cfg.reservedNs ++ cfg.reservedNames) allow cfg.jinjaGlobals ug with
  | error e => rfl
  | ok g =>
    cases addAll allow cfg.jinjaFilters (cfg.langFilters ++ cfg.ownFilters) with
    | error e => rfl
    | ok f1 =>
      cases addAll allow cfg.jinjaTests (cfg.langTests ++ cfg.ownTests) with
      | error e => rfl
      | ok t1 =>
        dsimp only
        cases addAll allow f1 (conv uf) with
        | error e => rfl
        | ok f2 => cases addAll allow t1 (conv ut) <;> rfl

theorem runSteps_canonDsdl (hg : Gen.EnvCtor.addGuard = .ctorArg) (cfg : SMCfg) (i : CtorInputs) (a : Bool) (env : Env) :
    okOf (runSteps cfg i ⟨some a, env⟩ canonDsdlSteps) =
      (okOf (addPost a env (cfg.instanceTests ++ cfg.generatorMethods))).map fun e => ⟨some a, e⟩ := by
  simp only [canonDsdlSteps, runSteps, runStep, withFlag, guardOf, evalAllow, hg, addPost_append]
  cases addPost a env cfg.instanceTests with
  | error e => rfl
  | ok e1 => dsimp only; cases addPost a e1 cfg.generatorMethods <;> rfl

theorem constructSM_canon_generator (hg : Gen.EnvCtor.addGuard = .ctorArg) (cfg : SMCfg) (i : CtorInputs) :
    okOf (constructSM cfg i (canonCtorSteps ++ canonDsdlSteps)) =
      (okOf (construct (cfg.toEnvCfg (cfg.instanceTests ++ cfg.generatorMethods)) i.allowArg i.ug i.uf i.ut)).map
        fun env => ⟨some i.allowArg, env⟩ := by
  have hb := constructSM_canon_builder hg cfg i
  unfold constructSM at hb ⊢
  rw [construct_post cfg (cfg.instanceTests ++ cfg.generatorMethods), okOf_bind, runSteps_append, okOf_bind, hb]
  cases okOf (construct (cfg.toEnvCfg []) i.allowArg i.ug i.uf i.ut) with
  | none => rfl
  | some env => exact runSteps_canonDsdl hg cfg i _ env

end NunavutVerif.Resolve
