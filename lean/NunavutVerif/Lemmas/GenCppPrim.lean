import NunavutVerif.Model.GenCpp
import NunavutVerif.Lemmas.BitsCpp
import NunavutVerif.Lemmas.GenCDePrim
/-!
Assertions, and what one emitted primitive site does — every `bitspan` setter through one contract (`Sets`: the
addressed bits and nothing else), hence as a writer (`GenC.Wrote`); every `const_bitspan` getter as a reader of the
specification's bit list — from the C14 contracts of the C++ operations (`Lemmas/BitsCpp.lean`).
-/
namespace NunavutVerif.GenCpp
open NunavutVerif.Dsdl NunavutVerif.Bits
open NunavutVerif.Bits.Py (bitOf)
open NunavutVerif.GenC (AOff W liftP storW floatBits Wrote SerStep bitsOf satV readNat_data)
open NunavutVerif.GenC.AOff (Adm)

theorem assertX_ok {α : Type} (o : Opts) {c : Prop} [Decidable c] (h : c) (k : Except Err α) :
    assertX o c k = k := by
  unfold assertX
  rw [if_neg]
  intro hh
  exact hh.2 h

theorem Opts.Sound.aligned {o : Opts} (hs : o.Sound) {d : AOff} {x : Nat} (hx : Adm d x)
    (ho : o.orc d = true) : x % 8 = 0 :=
  GenC.AOff.aligned_of_adm (hs d ho) hx

theorem anyGuardS_ok {α : Type} (o : Opts) (hs : o.Sound) (t : Ty) (d : AOff) (data : Buf) (off : Nat)
    (k : Except Err α) (hal : off % align t = 0) (hd : Adm d off) (hroom : off + maxBits t ≤ 8 * data.length) :
    anyGuardS o t d data off k = k := by
  unfold anyGuardS
  rw [assertX_ok o (fun _ => hal), assertX_ok o (fun ho => hs.aligned hd ho),
    assertX_ok o (fun _ => Cpp.le_size hroom)]

theorem anyGuardD_ok {α : Type} (o : Opts) (hs : o.Sound) (t : Ty) (d : AOff) (off : Nat)
    (k : Except Err α) (hal : off % align t = 0) (hd : Adm d off) : anyGuardD o t d off k = k := by
  unfold anyGuardD
  rw [assertX_ok o (fun _ => hal), assertX_ok o (fun ho => hs.aligned hd ho)]

theorem chkX_ok (r : Buf) : chkX (.ok (0, r)) = .ok r := by simp [chkX]

theorem offsetBytesCeil_of_aligned {off : Nat} (h : off % 8 = 0) : offsetBytesCeil off = off / 8 := by
  obtain ⟨m, rfl⟩ := Nat.dvd_of_mod_eq_zero h
  rw [offsetBytesCeil, Nat.mul_add_div (by decide), Nat.mul_div_cancel_left m (by decide)]
  rfl

/-- Contract of a checked `bitspan` setter asked for `n` bits at `off`, of which it sets the first `m`: `m < n` only for
`setUxx` beyond 64 bits. -/
structure Sets (res : Except Err Buf) (data : Buf) (off n m : Nat) (f : Nat → Bool) : Prop where
  le : m ≤ n
  fits : off + n ≤ 8 * data.length → ∃ r, res = .ok r
  sets : ∀ r, res = .ok r → r.length = data.length ∧ (WF data → WF r) ∧
    ∀ i, bitAt r i = if off ≤ i ∧ i < off + m then f (i - off) else bitAt data i

theorem Sets.of_spec {res : Except Bits.Err (Int × Buf)} {data : Buf} {off n m : Nat} {f : Nat → Bool} {small : Prop}
    (hm : m ≤ n) (hsmall : small → res = .ok (errTooSmall, data)) (hfit : off + n ≤ 8 * data.length → ¬ small)
    (hok : ¬ small → ∃ r, res = .ok (0, r) ∧ r.length = data.length ∧ (WF data → WF r) ∧
      ∀ i, bitAt r i = if off ≤ i ∧ i < off + m then f (i - off) else bitAt data i) :
    Sets (chkX res) data off n m f := by
  refine ⟨hm, fun h => ?_, fun r hr => ?_⟩
  · obtain ⟨r, h1, _⟩ := hok (hfit h)
    exact ⟨r, by rw [h1, chkX_ok]⟩
  · by_cases h : small
    · rw [hsmall h] at hr
      simp [chkX, errTooSmall] at hr
    · obtain ⟨r', h1, h2⟩ := hok h
      rw [h1, chkX_ok] at hr
      cases hr
      exact h2

theorem setUxx_sets (data : Buf) (off value n : Nat) :
    Sets (chkX (Cpp.setUxx ⟨data, off⟩ value n)) data off n (min n 64) value.testBit := by
  rw [Cpp.setUxx_eq]
  exact Sets.of_spec (small := data.length * 8 < off + n) (Nat.min_le_left _ _)
    (setUxx_small false data data.length off value n) (fun h => Nat.not_lt.2 (by rwa [Nat.mul_comm]))
    (setUxx_spec false data data.length off value n (Nat.le_refl _))

theorem setZeros_sets (data : Buf) (off n : Nat) :
    Sets (chkX (Cpp.setZeros ⟨data, off⟩ n)) data off n n (fun _ => false) :=
  Sets.of_spec (Nat.le_refl _) (Cpp.setZeros_small ⟨data, off⟩ n) (fun h => Nat.not_lt.2 (Cpp.le_size h))
    (Cpp.setZeros_spec ⟨data, off⟩ n)

theorem setBit_sets (data : Buf) (off : Nat) (v : Bool) :
    Sets (chkX (Cpp.setBit ⟨data, off⟩ v)) data off 1 1 (fun _ => v) := by
  rw [Cpp.setBit_eq]
  refine Sets.of_spec (small := data.length * 8 ≤ off) (Nat.le_refl _)
    (setBit_small data data.length off v) (fun h => Nat.not_le.2 (by rwa [Nat.mul_comm])) (fun h => ?_)
  obtain ⟨r, hr, hl, hwf, hbits⟩ := setBit_spec data data.length off v (Nat.le_refl _) h
  refine ⟨r, hr, hl, hwf, fun i => ?_⟩
  rw [hbits i]
  by_cases hi : i = off
  · rw [if_pos hi, if_pos ⟨Nat.le_of_eq hi.symm, Nat.lt_succ_of_le (Nat.le_of_eq hi)⟩]
  · rw [if_neg hi, if_neg fun h => hi (Nat.le_antisymm (Nat.le_of_lt_succ h.2) h.1)]

/-! Every primitive site checks the result of one setter and advances the cursor. -/

theorem Sets.serStep {res : Except Err Buf} {data : Buf} {off n : Nat} {f : Nat → Bool} {bits : List Bool} :
    Sets res data off n n f → off + n ≤ 8 * data.length → bits.length = n →
    (∀ i, i < bits.length → f i = bitOf bits i) →
    SerStep
      (match res with
        | .error e => .error e
        | .ok d => .ok (d, off + n)) data off bits := by
  intro h hroom hb hf
  obtain ⟨r, hr⟩ := h.fits hroom
  obtain ⟨hl, hwf, hbits⟩ := h.sets r hr
  subst hb
  exact ⟨r, by rw [hr], .of_overwrites hl hwf hbits (Nat.le_refl _) hf⟩

/-- `setIxx(v, n)` is `setUxx` of the two's complement pattern -/
theorem serInt_eq (signed : Bool) (n : Nat) (sat : Bool) (v : Int) (data : Buf) (off : Nat) :
    serInt signed n sat v data off =
      match chkX (Cpp.setUxx ⟨data, off⟩ (lowBits 64 (satV signed n sat v)) n) with
      | .error e => .error e
      | .ok d => .ok (d, off + n) := by
  cases signed <;> rfl

theorem serInt_wrote (signed : Bool) (n : Nat) (sat : Bool) (v : Int) (data : Buf) (off : Nat)
    (hn64 : n ≤ 64) (hroom : off + n ≤ 8 * data.length) :
    SerStep (serInt signed n sat v data off) data off (natToBits n (lowBits n (satV signed n sat v))) := by
  rw [serInt_eq]
  have h := setUxx_sets data off (lowBits 64 (satV signed n sat v)) n
  rw [Nat.min_eq_left hn64] at h
  refine h.serStep hroom (natToBits_length _ _) (fun i hi => ?_)
  rw [natToBits_length] at hi
  rw [bitOf_natToBits, testBit_lowBits hn64 hi]
  simp [hi]

theorem serInt_nat_wrote (n k : Nat) (data : Buf) (off : Nat) (hn64 : n ≤ 64) (hroom : off + n ≤ 8 * data.length) :
    SerStep (serInt false n false (k : Int) data off) data off (natToBits n k) :=
  GenC.natToBits_count n k ▸ serInt_wrote false n false (k : Int) data off hn64 hroom

theorem serFloat_wrote (n : Nat) (m : Cast) (x : Nat) (data : Buf) (off : Nat) (hn : n = 16 ∨ n = 32 ∨ n = 64)
    (hroom : off + n ≤ 8 * data.length) :
    SerStep (serFloat n m x data off) data off (natToBits n (floatBits n m x)) := by
  have h := setUxx_sets data off (floatBits n m x) n
  rw [Nat.min_eq_left (by omega)] at h
  refine h.serStep hroom (natToBits_length _ _) (fun i hi => ?_)
  rw [natToBits_length] at hi
  rw [bitOf_natToBits]
  simp [hi]

theorem serVoid_wrote (n : Nat) (data : Buf) (off : Nat) (hroom : off + n ≤ 8 * data.length) :
    SerStep (serVoid n data off) data off (zeros n) :=
  (setZeros_sets data off n).serStep hroom (zeros_length n) (fun i _ => (bitOf_zeros n i).symm)

theorem serBool_wrote (v : Bool) (data : Buf) (off : Nat) (hroom : off + 1 ≤ 8 * data.length) :
    SerStep (serBool v data off) data off [v] :=
  (setBit_sets data off v).serStep hroom rfl (fun i hi => by
    have : i = 0 := by simpa using hi
    subst this; rfl)

theorem serVoid_zero (data : Buf) (off : Nat) : serVoid 0 data off = .ok (data, off) := by
  simp [serVoid, Cpp.setZeros, chkX]

theorem padSer_eq_serVoid (n : Nat) (data : Buf) (off : Nat) (hn : n = 1 ∨ n = 8) :
    padSer n data off = serVoid (padLen n off) data off := by
  rcases hn with rfl | rfl
  · rw [padLen_one, serVoid_zero]
    rfl
  · by_cases h : off % 8 = 0
    · rw [padLen_of_mod (Or.inr rfl) h, serVoid_zero]
      simp [padSer, Cpp.padAndMoveToAlignment, h]
    · have e : padLen 8 off = 8 - off % 8 := Nat.mod_eq_of_lt (Nat.sub_lt (by decide) (Nat.pos_of_ne_zero h))
      have e256 : (8 - off % 8) % 256 = 8 - off % 8 :=
        Nat.mod_eq_of_lt (Nat.lt_of_le_of_lt (Nat.sub_le ..) (by decide))
      rw [e]
      simp only [padSer, serVoid, Cpp.padAndMoveToAlignment, chkX, e256, bind, Except.bind]
      rw [if_pos (by decide), if_neg (by decide), if_pos (by omega)]
      cases Cpp.setZeros ⟨data, off⟩ (8 - off % 8) with
      | error e => rfl
      | ok p =>
        obtain ⟨rc, d⟩ := p
        by_cases hrc : rc = 0 <;> simp [hrc]

theorem padSer_wrote (n : Nat) (data : Buf) (off : Nat) (hn : n = 1 ∨ n = 8)
    (hroom : padTo n off ≤ 8 * data.length) :
    SerStep (padSer n data off) data off (zeros (padLen n off)) := by
  rw [padSer_eq_serVoid n data off hn]
  exact serVoid_wrote _ data off hroom

/-- the `first` flag of the field loop is an optimisation: at offset 0 the padding does nothing -/
theorem padSer_first (n : Nat) (data : Buf) {first : Bool} {off : Nat} (hn : n = 1 ∨ n = 8)
    (h : first = true → off = 0) :
    (if first = true then (.ok (data, off) : Except Err W) else padSer n data off) = padSer n data off := by
  cases first with
  | false => rfl
  | true => rw [h rfl, if_pos rfl, padSer_eq_serVoid n data 0 hn, padLen_of_mod hn (Nat.zero_mod n), serVoid_zero]

theorem deUint_spec (n : Nat) (data : Buf) (off : Nat) (hn64 : n ≤ 64) (hw : WF data) :
    deUint n data off = .ok (readNat n ((bitsOf data data.length).drop off)) := by
  rw [readNat_data]
  unfold deUint
  rw [Cpp.getU_spec (storW n) ⟨data, off⟩ n (GenC.storW_mod8 n) hw, Nat.min_eq_left (GenC.storW_ge n hn64)]
  rfl

theorem deSint_spec (n : Nat) (data : Buf) (off : Nat) (hn1 : 1 ≤ n) (hn64 : n ≤ 64) (hw : WF data) :
    deSint n data off = .ok (Dsdl.signExtend n (readNat n ((bitsOf data data.length).drop off))) := by
  rw [readNat_data]
  unfold deSint
  rw [Cpp.getI_spec (storW n) ⟨data, off⟩ n (GenC.storW_mod8 n) (GenC.storW_pos n) (GenC.storW_le n) hw]
  simp only [liftP, Nat.min_eq_left (GenC.storW_ge n hn64)]
  congr 1
  exact signExtend_of_top hn1 (fieldOf_lt _ n)

theorem deBool_spec (data : Buf) (off : Nat) (hw : WF data) :
    deBool data off = .ok (readNat 1 ((bitsOf data data.length).drop off) == 1) := by
  rw [readNat_data]
  unfold deBool Cpp.getBit
  rw [Cpp.getU_spec 8 ⟨data, off⟩ 1 (by decide) hw]
  rfl

theorem deFloat_spec (n : Nat) (data : Buf) (off : Nat) (hn : n = 16 ∨ n = 32 ∨ n = 64) (hw : WF data) :
    deFloat n data off = .ok (widen n (readNat n ((bitsOf data data.length).drop off))) := by
  rw [readNat_data]
  unfold deFloat
  rw [Cpp.getU_spec n ⟨data, off⟩ n (by omega) hw, Nat.min_self]
  rfl

end NunavutVerif.GenCpp
