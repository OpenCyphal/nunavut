import NunavutVerif.Model.BitsCpp
import NunavutVerif.Lemmas.BitsC
/-!
Helper lemmas for C14 (C++ `bitspan`): `copyTo` is `copyBits` on the clamped length (`copyTo_eq`), so the C lemmas carry
over; the repaired `setZeros` clears whole bytes and then puts back the bits in front of and behind the range
(`zero_then_restore`).
-/
namespace NunavutVerif.Bits.Cpp
open NunavutVerif.Bits

theorem size_eq (s : Span) : s.size = s.data.length * 8 - s.off := by
  unfold Span.size; simp only []; split <;> omega

theorem le_size {data : Buf} {off n : Nat} (h : off + n ≤ 8 * data.length) : n ≤ Span.size ⟨data, off⟩ := by
  rw [size_eq, Nat.mul_comm]
  exact Nat.le_sub_of_add_le' h

theorem Span.saturate_eq (s : Span) (len : Nat) : s.saturate len = min len (s.data.length * 8 - s.off) := by
  unfold Span.saturate; simp only [sub_min_self]

theorem copyTo_eq (src dst : Span) (len : Nat) :
    copyTo src dst len = copyBits dst.data dst.off (min len src.size) src.data src.off := by
  unfold copyTo
  have hclamp : (if len > src.size then src.size else len) = min len src.size := by split <;> omega
  simp only [hclamp]
  generalize min len src.size = l
  by_cases h0 : l = 0
  · subst h0; simp [copyBits_zero]
  · unfold copyBits
    rw [if_neg h0]
    by_cases hal : src.off % 8 = 0 ∧ dst.off % 8 = 0
    · have e1 : (dst.off + l) / 8 = dst.off / 8 + l / 8 := by omega
      have e2 : (src.off + l) / 8 = src.off / 8 + l / 8 := by omega
      simp only [hal, and_self, if_true, memmove_guard, e1, e2]
    · simp only [hal, if_false]

theorem getBits_eq (src : Span) (out : Buf) (len : Nat) :
    getBits src out len = Bits.getBits out src.data src.data.length src.off len := by
  unfold getBits Bits.getBits
  simp only [Span.saturate_eq, saturate_eq, copyTo_eq, size_eq, Nat.min_assoc, Nat.min_self]

theorem setUxx_eq (sp : Span) (value len : Nat) :
    setUxx sp value len = Bits.setUxx false sp.data sp.data.length sp.off value len := by
  unfold setUxx Bits.setUxx
  simp only [copyTo_eq, size_eq, chooseMin_eq, Bool.false_eq_true, if_false]
  have : (u64Tmp value).length * 8 - 0 = 64 := by simp [u64Tmp]
  rw [this, Nat.min_assoc, Nat.min_self]

theorem setBit_eq (sp : Span) (value : Bool) :
    setBit sp value = Bits.setBit sp.data sp.data.length sp.off value := by
  unfold setBit Bits.setBit
  simp only [copyTo_eq, size_eq]
  have : min 1 ([if value = true then 1 else 0].length * 8 - 0) = 1 := by simp
  rw [this]

theorem getU_spec (W : Nat) (sp : Span) (len : Nat) (hW : W % 8 = 0) (hw : WF sp.data) :
    getU W sp len = .ok (fieldOf (fun i => bitAt sp.data (sp.off + i)) (min len W)) := by
  unfold getU
  dsimp only
  rw [Span.saturate_eq, copyTo_eq, size_eq, Nat.min_assoc, Nat.min_self]
  obtain ⟨r, hr, hwr, hb⟩ := copyBits_zeros (W / 8) sp.data sp.data.length sp.off (min len W) (Nat.le_refl _)
    (by omega) hw
  simp only [hr, bind, Except.bind]
  exact congrArg _ (eq_fieldOf fun i => by rw [testBit_leLoad r i hwr, hb, zbit_length])

theorem getI_spec (W : Nat) (sp : Span) (len : Nat) (hW : W % 8 = 0) (hW0 : 0 < W) (hW64 : W ≤ 64)
    (hw : WF sp.data) :
    getI W sp len = .ok
      (let sat := min len W
       let u := fieldOf (fun i => bitAt sp.data (sp.off + i)) sat
       if sat > 0 ∧ u.testBit (sat - 1) then (u : Int) - 2 ^ sat else (u : Int)) := by
  unfold getI
  dsimp only
  rw [getU_spec W sp (min len W) hW hw, show min (min len W) W = min len W by omega]
  simp only [bind, Except.bind]
  exact signExtend_spec W _ _ hW0 hW64 (by omega) (fieldOf_lt _ _)

theorem testBit_lowMask (m j : Nat) (hj : j < 8) :
    ((0xFF >>> (8 - m)) % 256).testBit j = decide (j < m) := by
  rw [testBit_mod_256, Nat.testBit_shiftRight, show (0xFF : Nat) = 2 ^ 8 - 1 from rfl, Nat.testBit_two_pow_sub_one]
  by_cases h : j < m
  · simp [h, hj]; omega
  · simp [h]; omega

theorem testBit_highMask (e j : Nat) (hj : j < 8) :
    ((0xFF <<< e) % 256).testBit j = decide (e ≤ j) := by
  rw [testBit_mod_256, Nat.testBit_shiftLeft, show (0xFF : Nat) = 2 ^ 8 - 1 from rfl, Nat.testBit_two_pow_sub_one]
  by_cases h : e ≤ j
  · simp [h, hj]; omega
  · simp [h]

theorem setZeros_small (sp : Span) (len : Nat) (h : len > sp.size) :
    setZeros sp len = .ok (errTooSmall, sp.data) := by
  simp [setZeros, h]

theorem zero_then_restore {data d1 d2 d3 : Buf} {lo nf n nb : Nat}
    (z : Overwrites d1 data lo (nf + n + nb) (fun _ => false))
    (front : Overwrites d2 d1 lo nf (fun j => bitAt data (lo + j)))
    (back : Overwrites d3 d2 (lo + nf + n) nb (fun j => bitAt data (lo + nf + n + j))) :
    Overwrites d3 data (lo + nf) n (fun _ => false) := by
  intro i
  rw [back i, front i, z i]
  by_cases hA : lo + nf ≤ i ∧ i < lo + nf + n
  · rw [if_pos hA, if_neg (by omega), if_neg (by omega), if_pos (by omega)]
  · rw [if_neg hA]
    by_cases hB : lo + nf + n ≤ i ∧ i < lo + nf + n + nb
    · rw [if_pos hB]
      show bitAt data (lo + nf + n + (i - (lo + nf + n))) = _
      rw [show lo + nf + n + (i - (lo + nf + n)) = i by omega]
    · rw [if_neg hB]
      by_cases hC : lo ≤ i ∧ i < lo + nf
      · rw [if_pos hC]
        show bitAt data (lo + (i - lo)) = _
        rw [show lo + (i - lo) = i by omega]
      · rw [if_neg hC, if_neg (by omega)]

theorem setZeros_spec (sp : Span) (len : Nat) (h : ¬ len > sp.size) :
    ∃ r, setZeros sp len = .ok (0, r) ∧ r.length = sp.data.length ∧ (WF sp.data → WF r) ∧
      ∀ i, bitAt r i = if sp.off ≤ i ∧ i < sp.off + len then false else bitAt sp.data i := by
  unfold setZeros
  rw [if_neg h]
  by_cases h0 : len = 0
  · subst h0
    exact ⟨sp.data, by simp, rfl, id, Overwrites.refl sp.data sp.off fun _ => false⟩
  rw [if_neg h0]
  have hfit : sp.off + len ≤ sp.data.length * 8 := by have := size_eq sp; omega
  clear h
  obtain ⟨data, off⟩ := sp
  obtain ⟨ob, m, hm, rfl⟩ := exists_byte_bit off
  dsimp only at hfit ⊢
  rw [mul_add_div8 ob hm, mul_add_mod8 ob hm]
  -- `q + 1` bytes are affected; `em'`: where the kept bits of the last one start (8: none)
  obtain ⟨q, em', hnb, hem', he, hem1, hem8⟩ := ceil_byte (m + len) (by omega)
  rw [hnb, ← Nat.add_assoc]
  generalize (m + len) % 8 = em at hem' ⊢
  have hlb : ob + q < data.length := by omega
  have hob : ob < data.length := Nat.lt_of_le_of_lt (Nat.le_add_right ob q) hlb
  obtain ⟨b, hb⟩ := get?_of_lt hob
  obtain ⟨l, hl⟩ := get?_of_lt hlb
  generalize hlk : (if em = 0 then (0 : Nat) else (l &&& ((0xFF <<< em) % 256)) % 256) = lk
  have hlkeq : lastByteKeepOf data (ob + q) em = .ok lk := by
    unfold lastByteKeepOf
    rw [← hlk]
    split
    · rfl
    · simp only [hl, bind, Except.bind]
  have hlkbit : ∀ j, j < 8 → lk.testBit j = (decide (em' ≤ j) && l.testBit j) := by
    intro j hj
    rw [← hlk, ← hem']
    by_cases hz : em = 0
    · simp [hz, show ¬ 8 ≤ j by omega]
    · rw [if_neg hz, if_neg hz, testBit_mod_256, Nat.testBit_and, testBit_highMask em j hj]
      simp [hj, Bool.and_comm]
  clear hem' hlk hnb
  obtain ⟨d1, hd1, hlen1, hwf1, hz⟩ := memset0_bits (q + 1) data ob hlb
  obtain ⟨b1, hb1⟩ := get?_of_lt (hlen1 ▸ hob)
  generalize hv1 : (b1 ||| (b &&& ((0xFF >>> (8 - m)) % 256)) % 256) % 256 = v1
  have hfront : Overwrites (d1.set ob v1) d1 (8 * ob + 0) m (fun j => bitAt data (8 * ob + 0 + j)) := by
    refine .set_byte hb1 (by omega) fun j hj => ?_
    rw [← hv1, testBit_mod_256, Nat.testBit_or, testBit_mod_256, Nat.testBit_and, testBit_lowMask m j hj,
      decide_eq_true hj, Bool.true_and, Bool.true_and, testBit_of_get? hb1 hj, hz, if_pos (by omega), Bool.false_or,
      testBit_of_get? hb hj]
    by_cases hjm : j < m
    · rw [if_pos ⟨Nat.zero_le _, by omega⟩, decide_eq_true hjm, Bool.and_true, Nat.add_zero, Nat.sub_zero]
    · rw [if_neg (by omega), decide_eq_false hjm, Bool.and_false]
  have hlb2 : ob + q < (d1.set ob v1).length := by rw [List.length_set, hlen1]; exact hlb
  obtain ⟨x2, hx2⟩ := get?_of_lt hlb2
  generalize hv3 : (x2 ||| lk) % 256 = v3
  have hback : Overwrites ((d1.set ob v1).set (ob + q) v3) (d1.set ob v1) (8 * (ob + q) + em') (8 - em')
      (fun j => bitAt data (8 * (ob + q) + em' + j)) := by
    refine .set_byte hx2 (by omega) fun j hj => ?_
    rw [← hv3, testBit_mod_256, Nat.testBit_or, decide_eq_true hj, Bool.true_and, hlkbit j hj]
    by_cases hje : em' ≤ j
    · -- a kept bit: nothing was put back there by the first store
      have hx2j : x2.testBit j = false := by
        rw [testBit_of_get? hx2 hj, hfront, if_neg (by omega), hz, if_pos (by omega)]
      rw [if_pos ⟨hje, by omega⟩, decide_eq_true hje, Bool.true_and, hx2j, Bool.false_or,
        testBit_of_get? hl hj, show 8 * (ob + q) + em' + (j - em') = 8 * (ob + q) + j by omega]
    · rw [if_neg (fun c => hje c.1), decide_eq_false hje, Bool.false_and, Bool.or_false]
  refine ⟨(d1.set ob v1).set (ob + q) v3, ?_, by rw [List.length_set, List.length_set, hlen1], fun hw => ?_, ?_⟩
  · simp only [sub?, Nat.le_add_left 1 (ob + q), if_true, Nat.add_sub_cancel, bind, Except.bind, hb, hlkeq, hd1, hb1, hv1,
      set?_ok (hlen1 ▸ hob), hx2, hv3, set?_ok hlb2]
  · refine WF_set (WF_set (hwf1 hw) ?_) ?_
    · rw [← hv1]; exact Nat.mod_lt _ (by decide)
    · rw [← hv3]; exact Nat.mod_lt _ (by decide)
  · rw [show 8 * (q + 1) = m + len + (8 - em') by omega] at hz
    rw [Nat.add_zero] at hfront
    rw [show 8 * (ob + q) + em' = 8 * ob + m + len by omega] at hback
    exact zero_then_restore hz hfront hback

theorem subspan_spec (sp : Span) (bitsAt sizeBits : Nat) :
    (sp.data.length * 8 < sp.off + bitsAt + sizeBits → subspan sp bitsAt sizeBits = (errTooSmall, 0, 0, 0)) ∧
    (¬ sp.data.length * 8 < sp.off + bitsAt + sizeBits →
      ∃ first nbytes noff, subspan sp bitsAt sizeBits = (0, first, nbytes, noff) ∧
        first * 8 + noff = sp.off + bitsAt ∧ noff < 8 ∧ first + nbytes ≤ sp.data.length ∧
        nbytes = (noff + sizeBits) / 8) := by
  unfold subspan
  dsimp only
  refine ⟨fun h => ?_, fun h => ?_⟩
  · by_cases h1 : (sp.off + bitsAt) / 8 > sp.data.length
    · rw [if_pos h1]
    · rw [if_neg h1, if_pos (by omega)]
  · rw [if_neg (by omega), if_neg (by omega)]
    exact ⟨_, _, _, rfl, by omega, by omega, by omega, rfl⟩

/-- a window that starts on a byte and holds whole bytes -/
theorem subspan_aligned (data : Buf) {off B k nb : Nat} (hk : off + B = 8 * k) (hroom : k + nb ≤ data.length) :
    subspan ⟨data, off⟩ B (8 * nb) = (0, k, nb, 0) := by
  unfold subspan
  simp only [hk, Nat.mul_mod_right, Nat.zero_add, Nat.mul_div_cancel_left _ (show 0 < 8 by decide)]
  rw [if_neg (Nat.not_lt.2 (Nat.le_trans (Nat.le_add_right k nb) hroom)), Nat.mul_comm 8 nb,
    if_neg (Nat.not_lt.2 (Nat.mul_le_mul_right 8 (Nat.le_sub_of_add_le' hroom)))]

end NunavutVerif.Bits.Cpp
