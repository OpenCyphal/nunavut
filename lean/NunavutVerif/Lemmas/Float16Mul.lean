import NunavutVerif.Lemmas.Float16Spec
/-!
The binary32 multiplication by a power of two (the second operand of both `pack` and `unpack`).  `f32round` is exact
whenever the value to be rounded is a whole number of units `2^-149` with at most 24 significant bits
(`f32round_exact`: a statement about the value of the result, normal or subnormal, so no caller has to normalise
anything); hence `f32mul_pow2_exact`, and the product is an addition in the exponent field while operand and result
are normal.
-/
namespace NunavutVerif.Float16

theorem forall_of_allBelow (n : Nat) (p : Nat → Bool) (h : allBelow n p = true) : ∀ i, i < n → p i = true := by
  induction n with
  | zero => intro i hi; omega
  | succ n ih =>
    simp only [allBelow, Bool.and_eq_true] at h
    intro i hi
    by_cases hin : i = n
    · subst hin; exact h.1
    · exact ih h.2 i (by omega)

def LgOn (g : Nat → Nat → Nat) (n : Nat) : Prop :=
  ∀ p r, 0 < p → p < 2 ^ n → ∃ k, g p r = r + k ∧ 2 ^ k ≤ p ∧ p < 2 ^ (k + 1)

theorem LgOn.rung {g : Nat → Nat → Nat} {j : Nat} (hg : LgOn g j) :
    LgOn (fun p r => bif Nat.ble (2 ^ j) p then g (p >>> j) (r + j) else g p r) (2 * j) := by
  intro p r h0 h
  have hj : 0 < 2 ^ j := Nat.two_pow_pos j
  rw [Nat.two_mul, Nat.pow_add] at h
  simp only [cond_eq_ite, Nat.ble_eq, Nat.shiftRight_eq_div_pow]
  split
  · next hp =>
    obtain ⟨k, e, l, u⟩ := hg (p / 2 ^ j) (r + j) (Nat.div_pos hp hj) ((Nat.div_lt_iff_lt_mul hj).2 h)
    refine ⟨k + j, by omega, ?_, ?_⟩
    · rw [Nat.pow_add]; exact (Nat.le_div_iff_mul_le hj).1 l
    · rw [Nat.add_right_comm, Nat.pow_add]; exact (Nat.div_lt_iff_lt_mul hj).1 u
  · next hp => exact hg p r h0 (by omega)

theorem lgE_on : LgOn lgE 32 :=
  have h1 : LgOn (fun _ r => r) 1 := fun p r h0 h => ⟨0, rfl, by omega, by omega⟩
  have hA : LgOn lgA 2 := h1.rung
  have hB : LgOn lgB 4 := hA.rung
  have hC : LgOn lgC 8 := hB.rung
  have hD : LgOn lgD 16 := hC.rung
  hD.rung

theorem lg_spec (p : Nat) (h0 : 0 < p) (h : p < 2 ^ 64) : 2 ^ lg p ≤ p ∧ p < 2 ^ (lg p + 1) := by
  obtain ⟨k, e, b⟩ := lgE_on.rung p 0 h0 h
  rw [Nat.zero_add] at e
  rw [show lg p = k from e]
  exact b

theorem lt_of_two_pow_le_lt {j k p : Nat} (h1 : 2 ^ j ≤ p) (h2 : p < 2 ^ k) : j < k :=
  (Nat.pow_lt_pow_iff_right (a := 2) (by omega)).1 (Nat.lt_of_le_of_lt h1 h2)

theorem lg_lt (p k : Nat) (h0 : 0 < p) (hk : k ≤ 64) (h : p < 2 ^ k) : lg p < k :=
  lt_of_two_pow_le_lt (lg_spec p h0 (Nat.lt_of_lt_of_le h (Nat.pow_le_pow_right (by omega) hk))).1 h

theorem lg_eq (p k : Nat) (hk : k < 64) (h1 : 2 ^ k ≤ p) (h2 : p < 2 ^ (k + 1)) : lg p = k := by
  have s := lg_spec p (Nat.lt_of_lt_of_le (Nat.two_pow_pos k) h1)
    (Nat.lt_of_lt_of_le h2 (Nat.pow_le_pow_right (by omega) (show k + 1 ≤ 64 by omega)))
  have a := lt_of_two_pow_le_lt s.1 h2
  have b := lt_of_two_pow_le_lt h1 s.2
  omega

theorem rne_eq (P s : Nat) : rne P s =
    if 2 ^ (s - 1) < P % 2 ^ s ∨ (P % 2 ^ s = 2 ^ (s - 1) ∧ P / 2 ^ s % 2 = 1) then P / 2 ^ s + 1 else P / 2 ^ s := by
  simp only [rne, Nat.shiftRight_eq_div_pow, cond_eq_ite, Bool.or_eq_true, Bool.and_eq_true, Nat.blt_eq, Nat.beq_eq]

theorem rne_exact (M s : Nat) : rne (M * 2 ^ s) s = M := by
  have hp : 0 < 2 ^ s := Nat.two_pow_pos _
  have hh : 0 < 2 ^ (s - 1) := Nat.two_pow_pos _
  rw [rne_eq, Nat.mul_mod_left, Nat.mul_div_cancel _ hp, if_neg (by omega)]

theorem rne_le (P s : Nat) : rne P s ≤ P / 2 ^ s + 1 := by
  rw [rne_eq]; split <;> omega

theorem rne_bracket (P s : Nat) (hs : 1 ≤ s) :
    rne P s * 2 ^ s ≤ P + 2 ^ (s - 1) ∧ P ≤ rne P s * 2 ^ s + 2 ^ (s - 1) ∧
    (rne P s % 2 = 1 → rne P s * 2 ^ s < P + 2 ^ (s - 1) ∧ P < rne P s * 2 ^ s + 2 ^ (s - 1)) := by
  have hq := Nat.div_add_mod P (2 ^ s)
  have hl := Nat.mod_lt P (Nat.two_pow_pos s)
  rw [rne_eq]
  generalize P / 2 ^ s = q at *
  generalize P % 2 ^ s = l at *
  rw [← Nat.two_pow_pred_mul_two (w := s) hs] at *
  generalize 2 ^ (s - 1) = H at *
  rw [Nat.mul_comm] at hq
  split
  · rw [Nat.succ_mul]; omega
  · omega

theorem rne_add_mul (K P s : Nat) (hK : K % 2 = 0) : rne (K * 2 ^ s + P) s = K + rne P s := by
  have hp : 0 < 2 ^ s := Nat.two_pow_pos _
  have h1 : (K * 2 ^ s + P) % 2 ^ s = P % 2 ^ s := by
    rw [Nat.add_comm, Nat.add_mul_mod_self_right]
  have h2 : (K * 2 ^ s + P) / 2 ^ s = K + P / 2 ^ s := by
    rw [Nat.add_comm, Nat.add_mul_div_right _ _ hp, Nat.add_comm]
  have h3 : (K + P / 2 ^ s) % 2 = P / 2 ^ s % 2 := by omega
  rw [rne_eq, rne_eq, h1, h2, h3]
  split <;> omega

theorem rne_scale (M s k : Nat) (hs : 1 ≤ s) : rne (M * 2 ^ k) (s + k) = rne M s := by
  have hk : 0 < 2 ^ k := Nat.two_pow_pos _
  have h1 : M * 2 ^ k / 2 ^ (s + k) = M / 2 ^ s := by
    rw [Nat.pow_add, Nat.mul_div_mul_right _ _ hk]
  have h2 : M * 2 ^ k % 2 ^ (s + k) = M % 2 ^ s * 2 ^ k := by
    rw [Nat.pow_add, Nat.mul_mod_mul_right]
  have h3 : 2 ^ (s + k - 1) = 2 ^ (s - 1) * 2 ^ k := by
    rw [← Nat.pow_add]; congr 1; omega
  rw [rne_eq, rne_eq, h1, h2, h3]
  simp only [Nat.mul_lt_mul_right hk, Nat.mul_right_cancel_iff hk]

theorem f32round_eq (P E : Nat) (h0 : P ≠ 0) : f32round P E =
    min (if 174 ≤ lg P + E then
           (lg P + E - 174) * 8388608 + (if lg P ≤ 23 then P <<< (23 - lg P) else rne P (lg P - 23))
         else if 151 ≤ E then P <<< (E - 151) else rne P (151 - E)) 2139095040 := by
  simp only [f32round, cond_eq_ite, Nat.ble_eq, Nat.beq_eq, if_neg h0]
  generalize (if 174 ≤ lg P + E then _ else _) = r
  split <;> omega

theorem f32round_le (P E : Nat) : f32round P E ≤ 2139095040 := by
  by_cases h : P = 0
  · rw [h]; exact Nat.zero_le _
  · rw [f32round_eq P E h]; exact Nat.min_le_right _ _

theorem f32mul_le (a b : Nat) : f32mul a b ≤ 2139095040 := f32round_le _ _

theorem two_pow_merge (M a b c : Nat) (h : a + b = c) : M * 2 ^ a * 2 ^ b = M * 2 ^ c := by
  rw [Nat.mul_assoc, ← Nat.pow_add, h]

theorem two_pow_regroup (M a b c d : Nat) (h : a + b = c + d) : M * 2 ^ a * 2 ^ b = M * 2 ^ c * 2 ^ d := by
  rw [two_pow_merge M a b _ rfl, two_pow_merge M c d _ rfl, h]

theorem two_pow_cancel {a b n : Nat} (h : a * 2 ^ n = b * 2 ^ n) : a = b :=
  Nat.eq_of_mul_eq_mul_right (Nat.two_pow_pos n) h

/-- The two ways `f32round` scales by a power of two (shift left, or shift right with rounding), when nothing is
rounded off. -/
theorem scale_exact (P n m y : Nat) (h : y * 2 ^ m = P * 2 ^ n) :
    (if m ≤ n then P <<< (n - m) else rne P (m - n)) = y := by
  split
  · rw [Nat.shiftLeft_eq]
    exact two_pow_cancel (n := m) (by rw [h, two_pow_merge P _ _ n (by omega)])
  · rw [(two_pow_cancel (n := n) (by rw [← h, two_pow_merge y _ _ m (by omega)]) : P = y * 2 ^ (m - n)), rne_exact]

/-- `hv`: the value `P · 2^(E-300)` to be rounded is `v` units of `2^-149`; `P = Q · 2^k` has at most 24 significant
bits; `k + E ≤ 404` keeps the value below `2^128`. -/
theorem f32round_exact (Q k E v : Nat) (hQ : Q < 16777216) (hk : k ≤ 40) (hE : k + E ≤ 404)
    (hv : v * 2 ^ 151 = Q * 2 ^ k * 2 ^ E) :
    f32round (Q * 2 ^ k) E < 2139095040 ∧ F32.mag (f32round (Q * 2 ^ k) E) = v := by
  by_cases hP0 : Q * 2 ^ k = 0
  · rw [hP0, Nat.zero_mul] at hv
    rw [hP0, (Nat.mul_eq_zero.1 hv).resolve_right (Nat.ne_of_gt (Nat.two_pow_pos _)), show f32round 0 E = 0 from rfl]
    decide
  have hPk : Q * 2 ^ k < 2 ^ (24 + k) := by
    rw [Nat.pow_add]; exact Nat.mul_lt_mul_of_pos_right hQ (Nat.two_pow_pos k)
  obtain ⟨l, u⟩ := lg_spec _ (Nat.pos_of_ne_zero hP0)
    (Nat.lt_of_lt_of_le hPk (Nat.pow_le_pow_right (by omega) (by omega)))
  have hLk := lt_of_two_pow_le_lt l hPk
  rw [f32round_eq _ E hP0]
  generalize lg (Q * 2 ^ k) = L at *
  split
  · -- normal result: the significand is `P` scaled to 24 bits, `Q · 2^(k+23-L)`; the exponent field is `L + E - 173`
    have e : Q * 2 ^ (k + 23 - L) * 2 ^ L = Q * 2 ^ k * 2 ^ 23 := two_pow_regroup Q _ _ _ _ (by omega)
    have s1 : 8388608 ≤ Q * 2 ^ (k + 23 - L) := by
      refine Nat.le_of_mul_le_mul_right (c := 2 ^ L) ?_ (Nat.two_pow_pos L)
      rw [e, Nat.mul_comm]; exact Nat.mul_le_mul_right _ l
    have s2 : Q * 2 ^ (k + 23 - L) < 16777216 := by
      refine Nat.lt_of_mul_lt_mul_right (a := 2 ^ L) ?_
      rw [e, show (16777216 : Nat) * 2 ^ L = 2 ^ (L + 1) * 2 ^ 23 by rw [Nat.pow_succ]; omega]
      exact Nat.mul_lt_mul_of_pos_right u (Nat.two_pow_pos 23)
    rw [scale_exact _ 23 L _ e, Nat.min_eq_left (by omega), F32.mag_normal _ _ s1 (Nat.le_of_lt s2) (by omega)]
    refine ⟨by omega, two_pow_cancel (n := 151) ?_⟩
    rw [hv, two_pow_merge Q _ _ (k + 23 - L + (L + E - 174)) rfl]
    exact two_pow_regroup Q _ _ _ _ (by omega)
  · -- subnormal result: `v < 2^23` is its own pattern
    rw [scale_exact _ E 151 v hv]
    have hv23 : v < 8388608 := by
      refine Nat.lt_of_mul_lt_mul_right (a := 2 ^ 151) ?_
      rw [hv, show (8388608 : Nat) = 2 ^ 23 from rfl, ← Nat.pow_add]
      exact Nat.lt_of_lt_of_le (Nat.mul_lt_mul_of_pos_right u (Nat.two_pow_pos E))
        (by rw [← Nat.pow_add]; exact Nat.pow_le_pow_right (by omega) (by omega))
    rw [Nat.min_eq_left (by omega), F32.mag_small v (by omega)]
    exact ⟨by omega, rfl⟩

theorem f32mul_pow2 (a Eb : Nat) (hEb : 1 ≤ Eb) :
    f32mul a (Eb * 8388608) = f32round (F32.sig a * 2 ^ 23) (F32.exp a + Eb) := by
  have e1 : Eb * 8388608 / 8388608 = Eb := by omega
  have e2 : Eb * 8388608 % 8388608 + 8388608 = 2 ^ 23 := by omega
  simp only [f32mul, F32.sig, F32.exp, Nat.shiftRight_eq_div_pow, show (2 : Nat) ^ 23 = 8388608 from rfl, e1,
    cond_eq_ite, Nat.beq_eq, if_neg (show ¬ Eb = 0 by omega)]
  rw [e2]

/-- `Eb * 8388608` is the pattern of `2^(Eb-127)`.  `hv`: the product is a whole number `v` of units `2^-149`, nothing
is shifted out; `hfin`: it stays finite, `3204448256 = (127 + 255) <<< 23` bounding the sum of the exponent fields. -/
theorem f32mul_pow2_exact (a Eb v : Nat) (ha : a < 2147483648) (hEb : 1 ≤ Eb) (hEb' : Eb ≤ 380)
    (hfin : a + Eb * 8388608 < 3204448256) (hv : v * 2 ^ 127 = F32.mag a * 2 ^ Eb) :
    f32mul a (Eb * 8388608) < 2139095040 ∧ F32.mag (f32mul a (Eb * 8388608)) = v := by
  have he := F32.exp_bounds a (381 - Eb) (by omega) (by omega)
  rw [f32mul_pow2 a Eb hEb]
  refine f32round_exact (F32.sig a) 23 _ v (F32.sig_lt a) (by omega) (by omega) ?_
  rw [← two_pow_merge v 127 24 151 rfl, hv, F32.mag_sig a ha]
  simp only [Nat.mul_assoc, ← Nat.pow_add]
  congr 2; omega

theorem f32mul_pow2_eq (a Eb c : Nat) (ha : a < 2147483648) (hEb : 1 ≤ Eb) (hEb' : Eb ≤ 380)
    (hfin : a + Eb * 8388608 < 3204448256) (hc : c < 2147483648) (hv : F32.mag c * 2 ^ 127 = F32.mag a * 2 ^ Eb) :
    f32mul a (Eb * 8388608) = c :=
  have ⟨h1, h2⟩ := f32mul_pow2_exact a Eb _ ha hEb hEb' hfin hv
  F32.mag_inj _ _ (by omega) hc h2

/-- `1065353216 = 127 <<< 23` is the bias; `h1`, `h2` keep the resulting exponent field within `1..254`. -/
theorem f32mul_pow2_normal (a Eb : Nat) (ha : 8388608 ≤ a) (ha' : a < 2147483648) (hEb : 1 ≤ Eb)
    (h1 : 1073741824 ≤ a + Eb * 8388608) (h2 : a + Eb * 8388608 < 3204448256) :
    f32mul a (Eb * 8388608) = a + Eb * 8388608 - 1065353216 :=
  f32mul_pow2_eq a Eb _ ha' hEb (by omega) h2 (by omega)
    (F32.mag_shift_exp a _ Eb 127 ha (by omega) ha' (by omega) (by omega))

theorem f32round_small (P E : Nat) (hP : P < 2 ^ 47) (hE : E ≤ 115) : f32round P E < 4096 := by
  by_cases hP0 : P = 0
  · rw [hP0]; exact Nat.zero_lt_succ _
  · have hl := lg_lt P 47 (by omega) (by omega) hP
    rw [f32round_eq P E hP0, if_neg (by omega), if_neg (by omega)]
    have h1 := rne_le P (151 - E)
    have h2 : P / 2 ^ (151 - E) ≤ P / 2 ^ 36 :=
      Nat.div_le_div_left (Nat.pow_le_pow_right (by omega) (by omega)) (Nat.two_pow_pos _)
    omega
end NunavutVerif.Float16
