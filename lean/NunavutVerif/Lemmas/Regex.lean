import NunavutVerif.Model.Regex
import NunavutVerif.Lemmas.Core
/-!
The regex engine of `Model/Regex.lean` (C09).  `sub` emits replacement strings and copies a character of the subject only
at a position where the pattern has no non-empty match (`subGo_all`), so `[K]+` leaves no member of `K`; the other shapes
the shipped encoding rules and reserved patterns rely on (`^[K]{1,…}`, `[A][B]`, `[B]{2,…}`) are read off the first two
characters of the subject.  `eo` and `rej` are a syntactic first-character analysis: `rej c p` shows that `p` cannot match
a subject starting with `c`.
-/
namespace NunavutVerif.Regex

theorem subGo_all (P : Nat → Prop) (n : Nat) (re : Re) (f : Str → Str) (hf : ∀ m, ∀ c ∈ f m, P c) (s : Str)
    (hs : ∀ c ∈ s, ∀ t, (∀ r ∈ matchR n re (c :: t), ¬ r.length < (c :: t).length) → P c) (k : Nat) :
    ∀ c ∈ subGo n re f s k, P c := by
  induction s generalizing k with
  | nil =>
    rw [subGo]
    split
    · split
      · nofun
      · exact hf []
    · nofun
  | cons c t ih =>
    have iht := ih (fun x hx => hs x (List.mem_cons_of_mem _ hx))
    have hc := hs c List.mem_cons_self t
    cases k with
    | succ k => rw [subGo]; exact iht k
    | zero =>
      rw [subGo]
      split
      · rename_i hnil
        exact List.forall_mem_cons.mpr ⟨hc (by rw [hnil]; nofun), iht 0⟩
      · split
        · exact List.forall_mem_append.mpr ⟨hf _, iht _⟩
        · refine List.forall_mem_append.mpr ⟨hf _, ?_⟩
          split
          · rename_i hnone
            exact List.forall_mem_cons.mpr
              ⟨hc fun r hr hlt => List.find?_eq_none.mp hnone r hr (decide_eq_true hlt), iht 0⟩
          · exact List.forall_mem_append.mpr ⟨hf _, iht _⟩

theorem sub_all (P : Nat → Prop) (re : Re) (f : Str → Str)
    (hf : ∀ m, ∀ c ∈ f m, P c) (s : Str) (hs : ∀ c ∈ s, P c) : ∀ c ∈ sub re f s, P c :=
  subGo_all P _ re f hf s (fun c hc _ _ => hs c hc) 0

theorem sub_ne_nil (re : Re) (f : Str → Str) (hf : ∀ m, m ≠ [] → f m ≠ []) (s : Str) (hs : s ≠ []) :
    sub re f s ≠ [] := by
  cases s with
  | nil => exact absurd rfl hs
  | cons c t =>
    have htake : ∀ r : Str, r.length < (c :: t).length → f ((c :: t).take ((c :: t).length - r.length)) ≠ [] := by
      intro r hr
      apply hf
      simp only [ne_eq, List.take_eq_nil_iff, reduceCtorEq, or_false]
      omega
    -- whatever happens at the first position leaves something
    rw [sub, subGo]
    split
    · exact List.cons_ne_nil _ _
    · split
      · rename_i hlt
        exact List.append_ne_nil_of_left_ne_nil (htake _ hlt) _
      · split
        · exact List.append_ne_nil_of_right_ne_nil _ (List.cons_ne_nil _ _)
        · rename_i r2 hfind
          have hlt := List.find?_some hfind
          exact List.append_ne_nil_of_right_ne_nil _
            (List.append_ne_nil_of_left_ne_nil (htake r2 (of_decide_eq_true hlt)) _)

theorem subGo_id_of_matchesNowhere (n : Nat) (re : Re) (f : Str → Str) (s : Str)
    (h : matchesNowhere n re s = true) : subGo n re f s 0 = s := by
  induction s with
  | nil => simp [matchesNowhere] at h; simp [subGo, h]
  | cons c t ih =>
    simp only [matchesNowhere, Bool.and_eq_true, List.isEmpty_iff] at h
    unfold subGo
    simp [h.1, ih h.2]

theorem sub_id_of_matchesNowhere (re : Re) (f : Str → Str) (s : Str)
    (h : matchesNowhere s.length re s = true) : sub re f s = s :=
  subGo_id_of_matchesNowhere _ re f s h

theorem matchesStart_of_matchesNowhere (re : Re) (s : Str)
    (h : matchesNowhere s.length re s = true) : matchesStart re s = false := by
  unfold matchesStart
  cases s with
  | nil => simp [matchesNowhere] at h; simp [h]
  | cons c t => simp only [matchesNowhere, Bool.and_eq_true] at h; rw [h.1]; rfl

theorem matchR_rep (n mn : Nat) (mo : Option Nat) (r : Re) (s : Str) :
    matchR n (.rep mn mo r) s = repAux (fun s' => matchR n r s') (mn + s.length + 1) mn mo s := by
  rw [matchR]

def clsStep (K : Cls) : Str → List Str
  | [] => []
  | c :: t => if K.mem c then [t] else []

theorem matchR_chr_eq (n : Nat) (K : Cls) : (fun s' => matchR n (.chr K) s') = clsStep K := by
  funext s'; cases s' <;> simp [matchR, clsStep]

theorem repAux_clsStep_succ (K : Cls) (fuel mn : Nat) (mo : Option Nat) (s : Str) :
    repAux (clsStep K) (fuel + 1) (mn + 1) mo s =
      match s with
      | [] => []
      | c :: t => if K.mem c then repAux (clsStep K) fuel mn mo t else [] := by
  cases s with
  | nil => simp [repAux, clsStep]
  | cons c t => cases hc : K.mem c <;> simp [repAux, clsStep, hc]

theorem matchR_rep_chr_succ (n mn : Nat) (mo : Option Nat) (K : Cls) (s : Str) :
    matchR n (.rep (mn + 1) mo (.chr K)) s =
      match s with
      | [] => []
      | c :: t => if K.mem c then repAux (clsStep K) (mn + t.length + 2) mn mo t else [] := by
  rw [matchR_rep, matchR_chr_eq]
  cases s with
  | nil => simp [repAux, clsStep]
  | cons c t =>
    have e : mn + 1 + (c :: t).length + 1 = (mn + t.length + 2) + 1 := by simp only [List.length_cons]; omega
    rw [e, repAux_clsStep_succ]

theorem self_mem_repAux (step : Str → List Str) (fuel : Nat) (more : Option Nat) (s : Str) :
    s ∈ repAux step (fuel + 1) 0 more s := by
  rw [repAux]
  exact List.mem_append_right _ (List.mem_singleton_self s)

theorem sub_plusCls_all (P : Nat → Prop) (K : Cls) (f : Str → Str)
    (hf : ∀ m, ∀ c ∈ f m, P c) (hK : ∀ c, K.mem c = false → P c) (s : Str) :
    ∀ c ∈ sub (.rep 1 none (.chr K)) f s, P c := by
  refine subGo_all P _ _ f hf s (fun c _ t hno => hK c ?_) 0
  -- were `c` in `K`, the one mandatory iteration alone would be a non-empty match
  cases hc : K.mem c with
  | false => rfl
  | true =>
    simp only [matchR_rep_chr_succ, hc, if_true] at hno
    exact absurd (Nat.lt_succ_self _) (hno t (self_mem_repAux _ _ _ t))

theorem matchR_bol_seq (q : Re) (s : Str) : matchR s.length (.seq .bol q) s = matchR s.length q s := by
  simp [matchR]

theorem matchesStart_bol_cls (K : Cls) (mo : Option Nat) (c : Nat) (t : Str) :
    matchesStart (.seq .bol (.rep 1 mo (.chr K))) (c :: t) = K.mem c := by
  rw [matchesStart, matchR_bol_seq, matchR_rep_chr_succ]
  cases hc : K.mem c with
  | false => simp [hc]
  | true =>
    -- the optional iterations may be declined
    simp only [hc, if_true, Bool.not_eq_true', List.isEmpty_eq_false_iff_exists_mem]
    exact ⟨t, self_mem_repAux _ _ _ t⟩

theorem mem_ite_singleton {p : Prop} [Decidable p] {x s : Str} (h : x ∈ (if p then [s] else [])) : x = s := by
  split at h
  · exact List.mem_singleton.mp h
  · cases h

theorem repAux_closed (step : Str → List Str) (Q : Str → Prop) (hQ : ∀ s, Q s → ∀ x ∈ step s, Q x)
    (fuel min : Nat) (more : Option Nat) (s : Str) (hs : Q s) : ∀ x ∈ repAux step fuel min more s, Q x := by
  induction fuel generalizing min more s with
  | zero => simp [repAux]
  | succ fuel ih =>
    cases min with
    | succ min =>
      simp only [repAux, List.mem_flatMap]
      rintro x ⟨y, hy, hx⟩
      exact ih _ _ y (hQ s hs y hy) x hx
    | zero =>
      simp only [repAux, List.mem_append, List.mem_singleton]
      rintro x (hx | rfl)
      · split at hx
        · cases hx
        · simp only [List.mem_flatMap] at hx
          obtain ⟨y, hy, hx⟩ := hx
          split at hx
          · exact ih _ _ y (hQ s hs y hy) x hx
          · rw [List.mem_singleton.mp hx]; exact hQ s hs y hy
      · exact hs

theorem repAux_length (step : Str → List Str) (hstep : ∀ s, ∀ x ∈ step s, x.length ≤ s.length)
    (fuel min : Nat) (more : Option Nat) (s : Str) : ∀ x ∈ repAux step fuel min more s, x.length ≤ s.length :=
  repAux_closed step (·.length ≤ s.length) (fun s' hs' x hx => Nat.le_trans (hstep s' x hx) hs') fuel min more s
    (Nat.le_refl _)

/-- on a subject starting with `c`, every match of the pattern is empty (or there is none) -/
def eo (c : Nat) : Re → Bool
  | .eps | .bol | .eol | .eos => true
  | .chr k => !k.mem c
  | .seq a b => eo c a && eo c b
  | .alt a b => eo c a && eo c b
  | .rep _ _ r => eo c r

/-- on a subject starting with `c` the pattern cannot match (a sufficient syntactic condition) -/
def rej (c : Nat) : Re → Bool
  | .eps | .bol | .eol | .eos => false
  | .chr k => !k.mem c
  | .seq a b => rej c a || (eo c a && rej c b)
  | .alt a b => rej c a && rej c b
  | .rep min _ r => decide (0 < min) && rej c r

theorem eo_sound (c : Nat) (re : Re) (h : eo c re = true) (n : Nat) (t : Str) :
    ∀ x ∈ matchR n re (c :: t), x = c :: t := by
  induction re with
  | eps | eos => simp [matchR]
  | chr k => simp only [eo, Bool.not_eq_true'] at h; simp [matchR, h]
  | bol | eol => intro x hx; rw [matchR] at hx; exact mem_ite_singleton hx
  | seq a b iha ihb =>
    simp only [eo, Bool.and_eq_true] at h
    simp only [matchR, List.mem_flatMap]
    rintro x ⟨y, hy, hx⟩
    rw [iha h.1 y hy] at hx
    exact ihb h.2 x hx
  | alt a b iha ihb =>
    simp only [eo, Bool.and_eq_true] at h
    simp only [matchR, List.mem_append]
    rintro x (hx | hx)
    · exact iha h.1 x hx
    · exact ihb h.2 x hx
  | rep mn mo r ih =>
    simp only [eo] at h
    rw [matchR_rep]
    exact repAux_closed _ (· = c :: t) (fun _ hs x hx => by subst hs; exact ih h x hx) _ _ _ _ rfl

theorem rej_sound (c : Nat) (re : Re) (h : rej c re = true) (n : Nat) (t : Str) :
    matchR n re (c :: t) = [] := by
  induction re with
  | eps | bol | eol | eos => simp [rej] at h
  | chr k => simp only [rej, Bool.not_eq_true'] at h; simp [matchR, h]
  | seq a b iha ihb =>
    simp only [rej, Bool.or_eq_true, Bool.and_eq_true] at h
    simp only [matchR]
    rcases h with h | ⟨h1, h2⟩
    · simp [iha h]
    · rw [List.flatMap_eq_nil_iff]
      intro y hy
      rw [eo_sound c a h1 n t y hy]
      exact ihb h2
  | alt a b iha ihb =>
    simp only [rej, Bool.and_eq_true] at h
    simp [matchR, iha h.1, ihb h.2]
  | rep mn mo r ih =>
    simp only [rej, Bool.and_eq_true, decide_eq_true_eq] at h
    obtain ⟨k, rfl⟩ : ∃ k, mn = k + 1 := ⟨mn - 1, by omega⟩
    simp only [matchR_rep, repAux, ih h.2, List.flatMap_nil]

theorem matchR_seq_chr_chr (n : Nat) (A B : Cls) (s : Str) (h : ∀ b, s[1]? = some b → B.mem b = false) :
    matchR n (.seq (.chr A) (.chr B)) s = [] := by
  rcases s with _ | ⟨a, _ | ⟨b, t⟩⟩
  · rfl
  · simp only [matchR]; cases A.mem a <;> rfl
  · simp only [matchR]
    cases A.mem a
    · rfl
    · simp [h b rfl]

theorem matchR_rep2_chr (n : Nat) (B : Cls) (mo : Option Nat) (s : Str) (h : ∀ b, s[1]? = some b → B.mem b = false) :
    matchR n (.rep 2 mo (.chr B)) s = [] := by
  rw [matchR_rep_chr_succ]
  rcases s with _ | ⟨a, _ | ⟨b, t⟩⟩
  · rfl
  · simp only [repAux_clsStep_succ]; cases B.mem a <;> rfl
  · simp only [repAux_clsStep_succ, h b rfl]; cases B.mem a <;> rfl

theorem inRanges_iff {rs : List (Nat × Nat)} {c : Nat} : inRanges rs c = true ↔ ∃ p ∈ rs, p.1 ≤ c ∧ c ≤ p.2 := by
  induction rs with
  | nil => exact ⟨nofun, nofun⟩
  | cons p rest ih =>
    simp only [inRanges, Bool.or_eq_true, Bool.and_eq_true, decide_eq_true_eq, ih, List.mem_cons, exists_eq_or_imp]

def subRanges (rs rs' : List (Nat × Nat)) : Bool :=
  rs.all fun p => rs'.any fun q => decide (q.1 ≤ p.1) && decide (p.2 ≤ q.2)

theorem subRanges_sound {rs rs' : List (Nat × Nat)} (h : subRanges rs rs' = true) {c : Nat}
    (hc : inRanges rs c = true) : inRanges rs' c = true := by
  obtain ⟨p, hp, h1, h2⟩ := inRanges_iff.mp hc
  obtain ⟨q, hq, hle⟩ := List.any_eq_true.mp (List.all_eq_true.mp h p hp)
  rw [Bool.and_eq_true, decide_eq_true_eq, decide_eq_true_eq] at hle
  exact inRanges_iff.mpr ⟨q, hq, Nat.le_trans hle.1 h1, Nat.le_trans h2 hle.2⟩

def clsSubUU (K : Cls) : Bool := !K.neg && subRanges K.ranges [(65, 90), (95, 95)]

theorem clsSubUU_sound (K : Cls) (h : clsSubUU K = true) (c : Nat) (hc : K.mem c = true) :
    c = 95 ∨ (65 ≤ c ∧ c ≤ 90) := by
  obtain ⟨neg, ranges⟩ := K
  simp only [clsSubUU, Bool.and_eq_true, Bool.not_eq_true'] at h
  obtain ⟨rfl, hr⟩ := h
  have := subRanges_sound hr (c := c) (by simpa [Cls.mem] using hc)
  simp only [inRanges, Bool.or_false, Bool.or_eq_true, Bool.and_eq_true, decide_eq_true_eq] at this
  omega

theorem matchR_length (n : Nat) (re : Re) (s : Str) : ∀ x ∈ matchR n re s, x.length ≤ s.length := by
  induction re generalizing s with
  | eps => simp [matchR]
  | chr k => cases s with
    | nil => simp [matchR]
    | cons c t => intro x hx; rw [matchR] at hx; rw [mem_ite_singleton hx]; exact Nat.le_succ _
  | bol | eol | eos => intro x hx; rw [matchR] at hx; rw [mem_ite_singleton hx]; exact Nat.le_refl _
  | seq a b iha ihb =>
    simp only [matchR, List.mem_flatMap]
    rintro x ⟨y, hy, hx⟩
    exact Nat.le_trans (ihb y x hx) (iha s y hy)
  | alt a b iha ihb =>
    simp only [matchR, List.mem_append]
    rintro x (hx | hx)
    · exact iha s x hx
    · exact ihb s x hx
  | rep mn mo r ih =>
    rw [matchR_rep]
    exact repAux_length _ (fun s x hx => ih s x hx) _ _ _ _

/-- the fuel `min + |s| + 1` that `matchR` hands to `repAux` is enough: more fuel changes nothing -/
theorem repAux_fuel (step : Str → List Str) (hstep : ∀ s, ∀ x ∈ step s, x.length ≤ s.length)
    (f1 f2 min : Nat) (more : Option Nat) (s : Str) (h1 : min + s.length < f1) (h2 : min + s.length < f2) :
    repAux step f1 min more s = repAux step f2 min more s := by
  -- an iteration leaves enough fuel: a mandatory one lowers `min`, an optional one shortens the subject
  have mand : ∀ {m a b k : Nat}, a ≤ b → m + 1 + b < k + 1 → m + a < k := by omega
  have opt : ∀ {a b k : Nat}, a < b → 0 + b < k + 1 → 0 + a < k := by omega
  induction f1 generalizing f2 min more s with
  | zero => exact absurd h1 (Nat.not_lt_zero _)
  | succ k1 ih =>
    cases f2 with
    | zero => exact absurd h2 (Nat.not_lt_zero _)
    | succ k2 =>
      cases min with
      | succ m =>
        simp only [repAux]
        refine flatMap_congr_left fun y hy => ?_
        have hy := hstep s y hy
        exact ih _ _ _ _ (mand hy h1) (mand hy h2)
      | zero =>
        simp only [repAux]
        exact congrArg (· ++ [s]) (ite_congr rfl (fun _ => rfl) fun _ => flatMap_congr_left fun y _ =>
          ite_congr rfl (fun hlt => ih _ _ _ _ (opt hlt h1) (opt hlt h2)) fun _ => rfl)

end NunavutVerif.Regex
