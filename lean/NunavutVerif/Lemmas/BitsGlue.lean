import NunavutVerif.Model.BitsGlue
import NunavutVerif.Lemmas.BitsPy
/-!
Helper lemmas for the remaining entry points of the support libraries: the C++ windows are `drop` and `take` of the byte
list, which do the clipping of the offset and of the size; joining a Python fork is an aligned store of its bytes at the
parent's cursor (`fork_join_appends`).
-/
namespace NunavutVerif.Bits

namespace Cpp

theorem subspan1_eq (sp : Span) (bits : Nat) :
    subspan1 sp bits = ⟨sp.data.drop ((sp.off + bits) / 8), (sp.off + bits) % 8⟩ := by
  unfold subspan1
  dsimp only
  rw [show (if (sp.off + bits) / 8 < sp.data.length then sp.data.length - (sp.off + bits) / 8 else 0)
      = (sp.data.drop ((sp.off + bits) / 8)).length by rw [List.length_drop]; split <;> omega, List.take_length]

theorem subspanBytes_eq (sp : Span) (n : Nat) :
    subspanBytes sp n = ⟨(sp.data.drop (sp.off / 8)).take n, 0⟩ := by
  unfold subspanBytes
  dsimp only
  congr 1
  by_cases h : sp.off / 8 < sp.data.length
  · rw [if_pos h, List.take_eq_take_iff, List.length_drop]
    split <;> omega
  · rw [if_neg h, List.drop_eq_nil_of_le (Nat.le_refl _), List.drop_eq_nil_of_le (Nat.le_of_not_lt h), List.take_nil,
      List.take_nil]

theorem and_clear_low (x k n : Nat) (hk : k ≤ n) (hx : x < 2 ^ n) :
    x &&& (2 ^ n - 1 - (2 ^ k - 1)) = x / 2 ^ k * 2 ^ k := by
  have hmask : 2 ^ n - 1 - (2 ^ k - 1) = (2 ^ (n - k) - 1) <<< k := by
    rw [Nat.shiftLeft_eq, Nat.sub_mul, ← Nat.pow_add, show n - k + k = n by omega]
    have : 2 ^ k ≤ 2 ^ n := Nat.pow_le_pow_right (by decide) hk
    have : 0 < 2 ^ k := Nat.pow_pos (by omega)
    omega
  rw [hmask]
  apply Nat.eq_of_testBit_eq
  intro i
  rw [Nat.testBit_and, Nat.testBit_shiftLeft, Nat.testBit_two_pow_sub_one, ← Nat.shiftLeft_eq,
    ← Nat.shiftRight_eq_div_pow, Nat.testBit_shiftLeft, Nat.testBit_shiftRight]
  by_cases h1 : k ≤ i
  · by_cases h2 : i - k < n - k
    · simp [h1, h2, show k + (i - k) = i by omega]
    · simp [h1, h2, testBit_of_lt_two_pow hx (show n ≤ i by omega)]
  · simp [h1]

theorem alignOffsetTo_spec (k : Nat) (sp : Span) (hk : k ≤ 64) (hoff : sp.off + 2 ^ k ≤ 2 ^ 64) :
    (alignOffsetTo (2 ^ k) sp).data = sp.data ∧
    (alignOffsetTo (2 ^ k) sp).off = (sp.off + (2 ^ k - 1)) / 2 ^ k * 2 ^ k := by
  refine ⟨rfl, ?_⟩
  unfold alignOffsetTo
  have hp : 0 < 2 ^ k := Nat.pow_pos (by omega)
  have hlt : sp.off + (2 ^ k - 1) < 2 ^ 64 := by omega
  simp only [Nat.mod_eq_of_lt hlt]
  exact and_clear_low _ k 64 hk hlt

theorem roundUp_props (x n : Nat) (hn : 0 < n) :
    x ≤ (x + (n - 1)) / n * n ∧ (x + (n - 1)) / n * n < x + n ∧ ((x + (n - 1)) / n * n) % n = 0 := by
  have h1 := Nat.div_add_mod (x + (n - 1)) n
  have h2 := Nat.mod_lt (x + (n - 1)) hn
  have h3 : (x + (n - 1)) / n * n = n * ((x + (n - 1)) / n) := Nat.mul_comm _ _
  refine ⟨by omega, by omega, ?_⟩
  rw [h3]; exact Nat.mul_mod_right _ _

end Cpp

namespace Py

theorem bufferView_spec (s : Ser) :
    (bufferView s).length = min ((s.off + 7) / 8) s.buf.length ∧
    ∀ i, bitAt (bufferView s) i = (decide (i / 8 < (s.off + 7) / 8) && bitAt s.buf i) := by
  refine ⟨by simp [bufferView, List.length_take], fun i => ?_⟩
  simp [bufferView, bitAt_take]

theorem forkBytes_ok (s : Ser) (k : Nat) (ha : s.off % 8 = 0) (hroom : s.off / 8 + k + 1 ≤ s.buf.length) :
    forkBytes s k = .ok ⟨(s.buf.drop (s.off / 8)).take (k + 1), 0⟩ := by
  simp only [forkBytes, ha, ne_eq, not_true_eq_false, if_false, List.length_drop]
  rw [if_neg (by omega)]

theorem fork_inv (s : Ser) (k : Nat) (hinv : s.Inv) (ha : s.off % 8 = 0) :
    (⟨(s.buf.drop (s.off / 8)).take (k + 1), 0⟩ : Ser).Inv := by
  refine ⟨WF_take (WF_drop hinv.1 _) _, fun i _ => ?_⟩
  simp only
  rw [bitAt_take, bitAt_drop, hinv.2 _ (by omega), Bool.and_false]

theorem joinFork_eq (s f : Ser) (hle : s.off / 8 + f.buf.length ≤ s.buf.length) :
    joinFork s f = writeAll s.buf (s.off / 8) f.buf :=
  (writeAll_eq_splice f.buf s.buf _ hle).symm

theorem fork_join_appends (s f' : Ser) (k n : Nat) (bit : Nat → Bool) (hinv : s.Inv) (ha : s.off % 8 = 0)
    (hroom : s.off / 8 + k + 1 ≤ s.buf.length)
    (happ : Appends ⟨(s.buf.drop (s.off / 8)).take (k + 1), 0⟩ f' n bit) :
    Appends s ⟨joinFork s f', s.off + n⟩ n bit := by
  obtain ⟨_, hlen, hinv', hbits⟩ := happ
  simp only [List.length_take, List.length_drop] at hlen
  have hle : s.off / 8 + f'.buf.length ≤ s.buf.length := by omega
  -- the fork started from zeros, so its bits are just the appended ones
  have hfb : ∀ j, bitAt f'.buf j = (decide (j < n) && bit j) := fun j => by
    rw [hbits j, if_neg (Nat.not_lt_zero j), Nat.zero_add, Nat.sub_zero]
  -- and joining it is storing its bytes at the parent's cursor, as an aligned `add_*` does
  rw [joinFork_eq s f' hle]
  exact addAlignedCore s f'.buf n hinv ha hinv'.1 hfb hle

theorem zebForkBytes_spec (buf : Buf) (o l : Nat) :
    (o + l ≤ buf.length ∨ l = 0 → ∃ out, zebForkBytes buf o l = .ok out ∧ out.length = l ∧
      ∀ i, bitAt out i = (decide (i / 8 < l) && bitAt buf (8 * o + i))) ∧
    (¬ (o + l ≤ buf.length ∨ l = 0) → zebForkBytes buf o l = .error .usage) := by
  constructor
  · intro h
    by_cases hl : l = 0
    · subst hl
      refine ⟨[], ?_, rfl, fun i => by simp [bitAt]⟩
      simp [zebForkBytes]
      omega
    · have hle : o + l ≤ buf.length := by rcases h with h | h; exact h; exact absurd h hl
      refine ⟨(buf.drop o).take l, ?_, by simp [List.length_take, List.length_drop]; omega, fun i => ?_⟩
      · simp [zebForkBytes, hl]; omega
      · rw [bitAt_take, bitAt_drop]
  · intro h
    have hl : l ≠ 0 := fun e => h (.inr e)
    have : ¬ o + l ≤ buf.length := fun e => h (.inl e)
    simp [zebForkBytes, hl]
    omega

end Py
end NunavutVerif.Bits
