import NunavutVerif.Model.HtmlPage
import NunavutVerif.Lemmas.Html
/-!
Whole pages.  The `namespaceinfo` part of a namespace page is one block of items for each entry of the flat list `srcNs`
(`render`), so its ids are what `assign` hands out along `srcNs`, its references stay inside their block and its links are those of
`linkedNs`; the ids of the sidebar are the `_sidebar` twins of `topTargets`.  From these: every same-page reference has its target,
and (for simple names) all ids of a page are distinct (put together in `C20_page_ids_unique`), because the kind of the last
`_`-separated group tells constants, twins, namespace entries, type entries and `make_unique` results apart.
-/
namespace NunavutVerif.Html

theorem idsOf_append (a b : List Item) : idsOf (a ++ b) = idsOf a ++ idsOf b := by
  induction a with
  | nil => rfl
  | cons x a ih => cases x <;> simp [idsOf, ih]

theorem mem_idsOf {s : Str} {l : List Item} : s ∈ idsOf l ↔ Item.id s ∈ l := by
  induction l with
  | nil => simp [idsOf]
  | cons x l ih => cases x <;> simp [idsOf, ih]

def RefsIn (ids : List Str) (items : List Item) : Prop := ∀ it ∈ items, ∀ s, it.sameRef = some s → s ∈ ids

theorem RefsIn.append {ids : List Str} {a b : List Item} (ha : RefsIn ids a) (hb : RefsIn ids b) : RefsIn ids (a ++ b) := by
  intro it hit s hs
  rcases List.mem_append.mp hit with h | h
  · exact ha it h s hs
  · exact hb it h s hs

theorem RefsIn.mono {ids ids' : List Str} {a : List Item} (h : RefsIn ids a) (hsub : ∀ s ∈ ids, s ∈ ids') : RefsIn ids' a :=
  fun it hit s hs => hsub s (h it hit s hs)

theorem RefsIn.nil (ids : List Str) : RefsIn ids [] := fun _ h => absurd h (by simp)

def RefsSelf (items : List Item) : Prop := RefsIn (idsOf items) items

theorem RefsSelf.append {a b : List Item} (ha : RefsSelf a) (hb : RefsSelf b) : RefsSelf (a ++ b) := by
  unfold RefsSelf
  rw [idsOf_append]
  exact (RefsIn.mono ha (fun s h => List.mem_append_left _ h)).append (RefsIn.mono hb (fun s h => List.mem_append_right _ h))

theorem sameRef_href_none {x : Str} (h : x.head? ≠ some '#') : Item.sameRef (.href x) = none := by
  unfold Item.sameRef
  split <;> simp_all

theorem id_refs (i : Str) (ids : List Str) : RefsIn ids [.id i] := fun it hit s hs => by
  obtain rfl := List.mem_singleton.mp hit
  cases hs

theorem voidHref_inert {v : String} (hv : v = "javascript:void" ∨ v = "javascript:void;") :
    Item.sameRef (.href v.toList) = none ∧ Item.relLink (.href v.toList) = none := by
  rcases hv with rfl | rfl <;> (rw [String.toList_ofList]; decide +kernel)

theorem ctl_refs {v : String} (hv : v = "javascript:void" ∨ v = "javascript:void;") (i : Str) (ids : List Str) (hi : i ∈ ids) :
    RefsIn ids (ctl v i) := by
  intro it hit s hs
  simp only [ctl, List.mem_cons, List.not_mem_nil, or_false] at hit
  rcases hit with rfl | rfl | rfl | rfl
  · rw [(voidHref_inert hv).1] at hs; cases hs
  · exact Option.some.inj hs ▸ hi
  · exact Option.some.inj hs ▸ hi
  · exact Option.some.inj hs ▸ hi

theorem entLink_refs (up : Str) (hup : ∀ s, up ≠ '#' :: s) (nested : Bool) (ct : CType) (ids : List Str) :
    RefsIn ids (entLink up nested ct) := by
  intro it hit s hs
  unfold entLink at hit
  split at hit
  · obtain rfl := List.mem_singleton.mp hit
    rw [sameRef_href_none] at hs
    · cases hs
    · cases up with
      | nil => simp [urlFromType]
      | cons c r => exact fun e => hup r (by rw [Option.some.inj e])
  · cases hit

theorem idsOf_ctl (v : String) (i : Str) : idsOf (ctl v i) = [] := by simp [ctl, idsOf]

theorem idsOf_entLink (up : Str) (nested : Bool) (ct : CType) : idsOf (entLink up nested ct) = [] := by
  unfold entLink; split <;> simp [idsOf]

def Source.block (up : Str) (s : Source) (i : Str) : List Item :=
  ctl (match s with | .ns _ => "javascript:void;" | _ => "javascript:void") i ++
    (match s with | .nestC ct => entLink up true ct | _ => []) ++ [.id i]

def render (up : Str) : List Str → List Source → List Item × List Str
  | seen, [] => ([], seen)
  | seen, s :: l =>
    (s.block up (entId s.entry.1 seen s.entry.2).1 ++ (render up (entId s.entry.1 seen s.entry.2).2 l).1,
      (render up (entId s.entry.1 seen s.entry.2).2 l).2)

theorem render_append (up : Str) (seen : List Str) (a b : List Source) : render up seen (a ++ b) =
    ((render up seen a).1 ++ (render up (render up seen a).2 b).1, (render up (render up seen a).2 b).2) := by
  induction a generalizing seen with
  | nil => rfl
  | cons s a ih => simp [render, ih]

mutual
theorem entItems_eq (up : Str) (nested : Bool) (seen : List Str) : ∀ e : Ent, entItems up nested seen e = render up seen (srcEnt nested e)
  | .comp ct sv attrs => by
    unfold entItems srcEnt
    rw [entsItems_eq up _ attrs]
    cases nested <;> rfl
  | .arr es el => by
    unfold entItems srcEnt
    rw [entsItems_eq up _ el]
    cases nested <;> rfl
theorem entsItems_eq (up : Str) (seen : List Str) : ∀ es : List Ent, entsItems up seen es = render up seen (srcEnts es)
  | [] => rfl
  | e :: es => by
    unfold entsItems srcEnts
    rw [render_append, entItems_eq up true seen e, entsItems_eq up _ es]
end

theorem topItems_eq (up : Str) (seen : List Str) (es : List Ent) : topItems up seen es = render up seen (srcTop es) := by
  fun_induction topItems up seen es with
  | case1 => rfl
  | case2 seen e es h ih => rw [srcTop, if_pos h, render_append, ih, entItems_eq]
  | case3 seen e es h ih => rw [srcTop, if_neg h, ih]

mutual
theorem nsInfoItems_eq (up : Str) (seen : List Str) : ∀ n : NsD, nsInfoItems up seen n = render up seen (srcNs n)
  | .node name types children => by
    unfold nsInfoItems srcNs
    rw [nsInfoItemsL_eq up _ children, topItems_eq]
    show _ = render up seen ([.ns name] ++ srcTop types ++ srcNsL children)
    rw [render_append, render_append]
    rfl
theorem nsInfoItemsL_eq (up : Str) (seen : List Str) : ∀ l : List NsD, nsInfoItemsL up seen l = render up seen (srcNsL l)
  | [] => rfl
  | n :: l => by
    unfold nsInfoItemsL srcNsL
    rw [render_append, nsInfoItems_eq up seen n, nsInfoItemsL_eq up _ l]
end

theorem idsOf_block (up : Str) (s : Source) (i : Str) : idsOf (s.block up i) = [i] := by
  cases s <;> simp [Source.block, idsOf_append, idsOf_ctl, idsOf_entLink, idsOf]

theorem block_refs {up : Str} (hup : ∀ s, up ≠ '#' :: s) (s : Source) {i : Str} {ids : List Str} (hi : i ∈ ids) :
    RefsIn ids (s.block up i) := by
  refine ((ctl_refs ?_ i ids hi).append ?_).append (id_refs i ids)
  · cases s <;> simp
  · cases s with
    | nestC ct => exact entLink_refs up hup _ _ _
    | _ => exact RefsIn.nil _

theorem render_refsSelf {up : Str} (hup : ∀ s, up ≠ '#' :: s) (seen : List Str) (l : List Source) : RefsSelf (render up seen l).1 := by
  induction l generalizing seen with
  | nil => exact RefsIn.nil _
  | cons s l ih => exact RefsSelf.append (block_refs hup s (by rw [idsOf_block]; exact List.mem_singleton_self _)) (ih _)

theorem entsItems_refsSelf (up : Str) (hup : ∀ s, up ≠ '#' :: s) (seen : List Str) :
    ∀ es : List Ent, RefsSelf (entsItems up seen es).1 :=
  fun es => entsItems_eq up seen es ▸ render_refsSelf hup seen _

theorem nsInfoItems_refsSelf (up : Str) (hup : ∀ s, up ≠ '#' :: s) (seen : List Str) : ∀ n : NsD, RefsSelf (nsInfoItems up seen n).1 :=
  fun n => nsInfoItems_eq up seen n ▸ render_refsSelf hup seen _

theorem nsInfoItemsL_refsSelf (up : Str) (hup : ∀ s, up ≠ '#' :: s) (seen : List Str) : ∀ l : List NsD, RefsSelf (nsInfoItemsL up seen l).1 :=
  fun l => nsInfoItemsL_eq up seen l ▸ render_refsSelf hup seen _

theorem assign_append (seen : List Str) (a b : List (Bool × Str)) :
    assign seen (a ++ b) = ((assign seen a).1 ++ (assign (assign seen a).2 b).1, (assign (assign seen a).2 b).2) := by
  induction a generalizing seen with
  | nil => simp [assign]
  | cons e a ih => simp [assign, ih]

theorem assign_cons_false (seen : List Str) (b : Str) (l : List (Bool × Str)) :
    assign seen ((false, b) :: l) = (b :: (assign seen l).1, (assign seen l).2) := by simp [assign, entId]

theorem render_assign (up : Str) (seen : List Str) (l : List Source) :
    idsOf (render up seen l).1 = (assign seen (l.map Source.entry)).1 ∧ (render up seen l).2 = (assign seen (l.map Source.entry)).2 := by
  induction l generalizing seen with
  | nil => exact ⟨rfl, rfl⟩
  | cons s l ih => simp [render, assign, idsOf_append, idsOf_block, ih]

theorem entItems_assign (up : Str) (nested : Bool) (seen : List Str) : ∀ e : Ent,
    idsOf (entItems up nested seen e).1 = (assign seen ((srcEnt nested e).map Source.entry)).1 ∧
    (entItems up nested seen e).2 = (assign seen ((srcEnt nested e).map Source.entry)).2 :=
  fun e => entItems_eq up nested seen e ▸ render_assign up seen _

theorem entsItems_assign (up : Str) (seen : List Str) : ∀ es : List Ent,
    idsOf (entsItems up seen es).1 = (assign seen ((srcEnts es).map Source.entry)).1 ∧
    (entsItems up seen es).2 = (assign seen ((srcEnts es).map Source.entry)).2 :=
  fun es => entsItems_eq up seen es ▸ render_assign up seen _

theorem topItems_assign (up : Str) (seen : List Str) (es : List Ent) :
    idsOf (topItems up seen es).1 = (assign seen ((srcTop es).map Source.entry)).1 ∧
    (topItems up seen es).2 = (assign seen ((srcTop es).map Source.entry)).2 :=
  topItems_eq up seen es ▸ render_assign up seen _

theorem nsInfoItems_assign (up : Str) (seen : List Str) : ∀ n : NsD,
    idsOf (nsInfoItems up seen n).1 = (assign seen ((srcNs n).map Source.entry)).1 ∧
    (nsInfoItems up seen n).2 = (assign seen ((srcNs n).map Source.entry)).2 :=
  fun n => nsInfoItems_eq up seen n ▸ render_assign up seen _

theorem nsInfoItemsL_assign (up : Str) (seen : List Str) : ∀ l : List NsD,
    idsOf (nsInfoItemsL up seen l).1 = (assign seen ((srcNsL l).map Source.entry)).1 ∧
    (nsInfoItemsL up seen l).2 = (assign seen ((srcNsL l).map Source.entry)).2 :=
  fun l => nsInfoItemsL_eq up seen l ▸ render_assign up seen _

mutual
theorem srcEnt_plain_nested : ∀ e : Ent, (srcEnt true e).filterMap Source.plain = []
  | .comp ct sv attrs => by
    show List.filterMap Source.plain (Source.nestC ct :: srcEnts attrs) = []
    rw [List.filterMap_cons]; simp only [Source.plain]; exact srcEnts_plain attrs
  | .arr es el => by
    show List.filterMap Source.plain (Source.nestA es :: srcEnts el) = []
    rw [List.filterMap_cons]; simp only [Source.plain]; exact srcEnts_plain el
theorem srcEnts_plain : ∀ es : List Ent, (srcEnts es).filterMap Source.plain = []
  | [] => by simp [srcEnts]
  | e :: es => by unfold srcEnts; simp [List.filterMap_append, srcEnt_plain_nested e, srcEnts_plain es]
end

theorem srcEnt_plain_top (e : Ent) : (srcEnt false e).filterMap Source.plain = [e.tag] := by
  cases e with
  | comp ct sv attrs =>
    show List.filterMap Source.plain (Source.top ct :: srcEnts attrs) = _
    rw [List.filterMap_cons]; simp only [Source.plain, srcEnts_plain attrs, Ent.tag]
  | arr es el =>
    show List.filterMap Source.plain (Source.topA es :: srcEnts el) = _
    rw [List.filterMap_cons]; simp only [Source.plain, srcEnts_plain el, Ent.tag]

theorem srcTop_plain : ∀ es : List Ent, (srcTop es).filterMap Source.plain = (es.filter Ent.listed).map Ent.tag
  | [] => by simp [srcTop]
  | e :: es => by
    unfold srcTop
    by_cases hx : e.listed = true
    · simp [hx, List.filterMap_append, srcEnt_plain_top, srcTop_plain es]
    · simp [hx, srcTop_plain es]

mutual
theorem srcNs_plain : ∀ n : NsD, (srcNs n).filterMap Source.plain = topTargets n
  | .node name types children => by
    unfold srcNs topTargets
    simp [Source.plain, List.filterMap_append, srcTop_plain, srcNsL_plain children]
theorem srcNsL_plain : ∀ l : List NsD, (srcNsL l).filterMap Source.plain = topTargetsL l
  | [] => by simp [srcNsL, topTargetsL]
  | n :: l => by unfold srcNsL topTargetsL; simp [List.filterMap_append, srcNs_plain n, srcNsL_plain l]
end

mutual
theorem sidebar_ids : ∀ n : NsD, idsOf (sidebarItems n) = (topTargets n).map (· ++ sidebarSuffix)
  | .node name types children => by
    unfold sidebarItems topTargets
    have hty : ∀ l : List Ent, idsOf (l.flatMap sideType) = (l.map Ent.tag).map (· ++ sidebarSuffix) := by
      intro l
      induction l with
      | nil => rfl
      | cons e l ih => simp [List.flatMap_cons, sideType, idsOf, ih]
    simp [idsOf_append, idsOf, hty, sidebarL_ids children]
theorem sidebarL_ids : ∀ l : List NsD, idsOf (sidebarItemsL l) = (topTargetsL l).map (· ++ sidebarSuffix)
  | [] => by simp [sidebarItemsL, topTargetsL, idsOf]
  | n :: l => by unfold sidebarItemsL topTargetsL; simp [idsOf_append, sidebar_ids n, sidebarL_ids l]
end

def uniqs (seen : List Str) : List Str → List Str
  | [] => []
  | b :: l => (makeUnique seen b).1 :: uniqs (makeUnique seen b).2 l

theorem render_ids_perm (up : Str) : ∀ (l : List Source) (seen : List Str),
    (idsOf (render up seen l).1).Perm (l.filterMap Source.plain ++ uniqs seen (l.filterMap Source.nested))
  | [], _ => .refl _
  | s :: l, seen => by
    rw [render, idsOf_append, idsOf_block]
    cases s with
    | nestC ct => exact ((render_ids_perm up l _).cons _).trans List.perm_middle.symm
    | nestA es => exact ((render_ids_perm up l _).cons _).trans List.perm_middle.symm
    | _ => exact (render_ids_perm up l _).cons _

theorem topTargets_in_nsInfo (up : Str) (seen : List Str) (n : NsD) : ∀ s ∈ topTargets n, s ∈ idsOf (nsInfoItems up seen n).1 := by
  intro s hs
  rw [nsInfoItems_eq]
  exact (render_ids_perm up _ seen).mem_iff.mpr (List.mem_append_left _ (srcNs_plain n ▸ hs))

theorem topTargetsL_in_nsInfo (up : Str) (seen : List Str) : ∀ l : List NsD, ∀ s ∈ topTargetsL l, s ∈ idsOf (nsInfoItemsL up seen l).1 := by
  intro l s hs
  rw [nsInfoItemsL_eq]
  exact (render_ids_perm up _ seen).mem_iff.mpr (List.mem_append_left _ (srcNsL_plain l ▸ hs))

theorem twins_in_sidebar : ∀ n : NsD, ∀ s ∈ topTargets n, s ++ sidebarSuffix ∈ idsOf (sidebarItems n) :=
  fun n _ hs => sidebar_ids n ▸ List.mem_map_of_mem (f := (· ++ sidebarSuffix)) hs

theorem twinsL_in_sidebar : ∀ l : List NsD, ∀ s ∈ topTargetsL l, s ++ sidebarSuffix ∈ idsOf (sidebarItemsL l) :=
  fun l _ hs => sidebarL_ids l ▸ List.mem_map_of_mem (f := (· ++ sidebarSuffix)) hs

theorem topTargets_head (n : NsD) : nsId n.name ∈ topTargets n := by
  cases n with
  | node name types children => simp [topTargets, NsD.name]

/-- what the sidebar holds for a namespace entry or a listed type entry with id `x` (a type has the last two only) -/
def sideBlock (x : Str) : List Item :=
  [.dataTarget (x ++ sidebarSuffix), .onclick (x ++ sidebarSuffix) (some "sidebar".toList), .aria (x ++ sidebarSuffix),
   .href ('#' :: x), .id (x ++ sidebarSuffix)]

mutual
theorem sidebarItems_blocks : ∀ n : NsD, ∀ it ∈ sidebarItems n, ∃ x ∈ topTargets n, it ∈ sideBlock x
  | .node name types children, it, hit => by
    unfold sidebarItems at hit
    unfold topTargets
    simp only [List.mem_append, List.mem_flatMap] at hit
    rcases hit with (h | ⟨e, he, h⟩) | h
    · exact ⟨nsId name, by simp, h⟩
    · refine ⟨e.tag, by simp only [List.mem_cons, List.mem_append, List.mem_map]; exact .inl (.inr ⟨e, he, rfl⟩), ?_⟩
      simp only [sideType, List.mem_cons, List.not_mem_nil, or_false] at h
      rcases h with rfl | rfl <;> simp [sideBlock]
    · obtain ⟨x, hx, hb⟩ := sidebarItemsL_blocks children it h
      exact ⟨x, List.mem_append_right _ hx, hb⟩
theorem sidebarItemsL_blocks : ∀ l : List NsD, ∀ it ∈ sidebarItemsL l, ∃ x ∈ topTargetsL l, it ∈ sideBlock x
  | [], it, hit => nomatch hit
  | n :: l, it, hit => by
    unfold sidebarItemsL at hit
    unfold topTargetsL
    rcases List.mem_append.mp hit with h | h
    · obtain ⟨x, hx, hb⟩ := sidebarItems_blocks n it h
      exact ⟨x, List.mem_append_left _ hx, hb⟩
    · obtain ⟨x, hx, hb⟩ := sidebarItemsL_blocks l it h
      exact ⟨x, List.mem_append_right _ hx, hb⟩
end

theorem sideBlock_refs {x : Str} {ids : List Str} (h : x ∈ ids) (ht : x ++ sidebarSuffix ∈ ids) : RefsIn ids (sideBlock x) := by
  intro it hit s hs
  simp only [sideBlock, List.mem_cons, List.not_mem_nil, or_false] at hit
  rcases hit with rfl | rfl | rfl | rfl | rfl
  · exact Option.some.inj hs ▸ ht
  · exact Option.some.inj hs ▸ ht
  · exact Option.some.inj hs ▸ ht
  · exact Option.some.inj hs ▸ h
  · cases hs

theorem sidebarItems_refs (n : NsD) : RefsIn (idsOf (sidebarItems n) ++ topTargets n) (sidebarItems n) := fun it hit =>
  let ⟨_, hx, hb⟩ := sidebarItems_blocks n it hit
  sideBlock_refs (List.mem_append_right _ hx) (List.mem_append_left _ (twins_in_sidebar n _ hx)) it hb

theorem sidebarItemsL_refs : ∀ l : List NsD, RefsIn (idsOf (sidebarItemsL l) ++ topTargetsL l) (sidebarItemsL l) := fun l it hit =>
  let ⟨_, hx, hb⟩ := sidebarItemsL_blocks l it hit
  sideBlock_refs (List.mem_append_right _ hx) (List.mem_append_left _ (twinsL_in_sidebar l _ hx)) it hb

theorem relLink_href {x h : Str} (e : Item.relLink (.href x) = some h) : h = x := by
  simp only [Item.relLink] at e
  by_cases hc : (isExternal x || x.head? == some '#') = true
  · rw [if_pos hc] at e; cases e
  · rw [if_neg hc] at e; exact (Option.some.inj e).symm

theorem relLink_frag (s : Str) : Item.relLink (.href ('#' :: s)) = none := by
  simp [Item.relLink]

/-- what is demanded of an item of the sidebar: `toggleCollapse` is called with the root `sidebar`; no relative link -/
def SideItem (it : Item) : Prop := (∀ r, it.rootRef = some r → r = "sidebar".toList) ∧ it.relLink = none

theorem sideBlock_side (x : Str) : ∀ it ∈ sideBlock x, SideItem it := by
  intro it hit
  simp only [sideBlock, List.mem_cons, List.not_mem_nil, or_false] at hit
  rcases hit with rfl | rfl | rfl | rfl | rfl
  · exact ⟨nofun, rfl⟩
  · exact ⟨fun _ e => (Option.some.inj e).symm, rfl⟩
  · exact ⟨nofun, rfl⟩
  · exact ⟨nofun, relLink_frag _⟩
  · exact ⟨nofun, rfl⟩

theorem sidebarItems_side (n : NsD) : ∀ it ∈ sidebarItems n, SideItem it := fun it hit =>
  let ⟨x, _, hb⟩ := sidebarItems_blocks n it hit
  sideBlock_side x it hb

theorem sidebarItemsL_side : ∀ l : List NsD, ∀ it ∈ sidebarItemsL l, SideItem it := fun l it hit =>
  let ⟨x, _, hb⟩ := sidebarItemsL_blocks l it hit
  sideBlock_side x it hb

/-- what is demanded of an item of the `namespaceinfo` part: its `toggleCollapse` uses the default root, and a relative
link it carries is the link of one of the types in `L` -/
def InfoItem (L : List CType) (up : Str) (it : Item) : Prop :=
  (∀ r, it.rootRef = some r → r = "namespaceinfo".toList) ∧
  (∀ h, it.relLink = some h → ∃ ct ∈ L, h = up ++ urlFromType ct)

theorem InfoItem.mono {L L' : List CType} {up : Str} {it : Item} (h : InfoItem L up it) (hs : ∀ c ∈ L, c ∈ L') : InfoItem L' up it :=
  ⟨h.1, fun x hx => let ⟨ct, hct, e⟩ := h.2 x hx; ⟨ct, hs ct hct, e⟩⟩

theorem InfoItem.of_noLink {L : List CType} {up : Str} {it : Item}
    (h1 : it.rootRef = none ∨ it.rootRef = some "namespaceinfo".toList) (h2 : it.relLink = none) : InfoItem L up it :=
  ⟨fun _ e => h1.elim (fun h => nomatch h ▸ e) (fun h => (Option.some.inj (h ▸ e)).symm), fun _ e => nomatch h2 ▸ e⟩

theorem ctl_info {v : String} (hv : v = "javascript:void" ∨ v = "javascript:void;") (i : Str) (L : List CType) (up : Str) :
    ∀ it ∈ ctl v i, InfoItem L up it := by
  intro it hit
  simp only [ctl, List.mem_cons, List.not_mem_nil, or_false] at hit
  rcases hit with rfl | rfl | rfl | rfl
  · exact .of_noLink (.inl rfl) (voidHref_inert hv).2
  · exact .of_noLink (.inl rfl) rfl
  · exact .of_noLink (.inr rfl) rfl
  · exact .of_noLink (.inl rfl) rfl

theorem id_info (s : Str) (L : List CType) (up : Str) : InfoItem L up (.id s) := .of_noLink (.inl rfl) rfl

theorem info_append {L₁ L₂ : List CType} {up : Str} {a b : List Item} (ha : ∀ it ∈ a, InfoItem L₁ up it)
    (hb : ∀ it ∈ b, InfoItem L₂ up it) : ∀ it ∈ a ++ b, InfoItem (L₁ ++ L₂) up it := fun it hit =>
  (List.mem_append.mp hit).elim (fun h => (ha it h).mono fun _ hc => List.mem_append_left _ hc)
    (fun h => (hb it h).mono fun _ hc => List.mem_append_right _ hc)

theorem entLink_info (up : Str) (nested : Bool) (ct : CType) :
    ∀ it ∈ entLink up nested ct, InfoItem (if nested && ct.shortName ≠ ['_'] then [ct] else []) up it := by
  intro it h
  unfold entLink at h
  split at h
  · rename_i hc
    obtain rfl := List.mem_singleton.mp h
    exact ⟨nofun, fun x hx => ⟨ct, by rw [if_pos hc]; exact List.mem_singleton_self _, relLink_href hx⟩⟩
  · cases h

def Source.linked : Source → List CType
  | .nestC ct => if ct.shortName ≠ ['_'] then [ct] else []
  | _ => []

theorem block_info (up : Str) (s : Source) (i : Str) : ∀ it ∈ s.block up i, InfoItem s.linked up it := by
  intro it hit
  simp only [Source.block, List.mem_append, List.mem_singleton] at hit
  rcases hit with (h | h) | rfl
  · exact ctl_info (by cases s <;> simp) i _ _ it h
  · cases s with
    | nestC ct => simpa [Source.linked] using entLink_info up true ct it h
    | _ => cases h
  · exact id_info _ _ _

theorem render_info (up : Str) (seen : List Str) (l : List Source) :
    ∀ it ∈ (render up seen l).1, InfoItem (l.flatMap Source.linked) up it := by
  induction l generalizing seen with
  | nil => exact fun _ h => nomatch h
  | cons s l ih => exact info_append (block_info up s _) (ih _)

mutual
theorem srcEnt_linked (nested : Bool) : ∀ e : Ent, (srcEnt nested e).flatMap Source.linked = linkedOf nested e
  | .comp ct sv attrs => by
    unfold srcEnt linkedOf
    rw [List.flatMap_cons, srcEnts_linked attrs]
    cases nested <;> simp [Source.linked]
  | .arr es el => by
    unfold srcEnt linkedOf
    rw [List.flatMap_cons, srcEnts_linked el]
    cases nested <;> rfl
theorem srcEnts_linked : ∀ es : List Ent, (srcEnts es).flatMap Source.linked = linkedOfL es
  | [] => rfl
  | e :: es => by rw [srcEnts, linkedOfL, List.flatMap_append, srcEnt_linked true e, srcEnts_linked es]
end

theorem srcTop_linked : ∀ es : List Ent, (srcTop es).flatMap Source.linked = linkedTop es
  | [] => rfl
  | e :: es => by
    rw [srcTop, linkedTop]
    split
    · rw [List.flatMap_append, srcEnt_linked, srcTop_linked es]
    · exact srcTop_linked es

mutual
theorem srcNs_linked : ∀ n : NsD, (srcNs n).flatMap Source.linked = linkedNs n
  | .node name types children => by
    rw [srcNs, linkedNs, List.flatMap_append, List.flatMap_cons, srcTop_linked, srcNsL_linked children]
    rfl
theorem srcNsL_linked : ∀ l : List NsD, (srcNsL l).flatMap Source.linked = linkedNsL l
  | [] => rfl
  | n :: l => by rw [srcNsL, linkedNsL, List.flatMap_append, srcNs_linked n, srcNsL_linked l]
end

theorem entsItems_info (up : Str) (seen : List Str) :
    ∀ es : List Ent, ∀ it ∈ (entsItems up seen es).1, InfoItem (linkedOfL es) up it :=
  fun es => entsItems_eq up seen es ▸ srcEnts_linked es ▸ render_info up seen _

theorem nsInfoItems_info (up : Str) (seen : List Str) : ∀ n : NsD, ∀ it ∈ (nsInfoItems up seen n).1, InfoItem (linkedNs n) up it :=
  fun n => nsInfoItems_eq up seen n ▸ srcNs_linked n ▸ render_info up seen _

theorem nsInfoItemsL_info (up : Str) (seen : List Str) : ∀ l : List NsD, ∀ it ∈ (nsInfoItemsL up seen l).1, InfoItem (linkedNsL l) up it :=
  fun l => nsInfoItemsL_eq up seen l ▸ srcNsL_linked l ▸ render_info up seen _

def refsInB (ids : List Str) (items : List Item) : Bool :=
  items.all fun it => match it.sameRef with
    | some s => ids.contains s
    | none => true

theorem refsIn_of_refsInB {ids : List Str} {items : List Item} (h : refsInB ids items = true) : RefsIn ids items := by
  intro it hit s hs
  have := List.all_eq_true.mp h it hit
  simp only [hs] at this
  simpa using this

def noRelLinkB (items : List Item) : Bool := items.all fun it => it.relLink.isNone && it.rootRef.isNone

theorem noRelLink_of_noRelLinkB {l : List Item} (h : noRelLinkB l = true) : ∀ it ∈ l, it.rootRef = none ∧ it.relLink = none := by
  intro it hm
  have := List.all_eq_true.mp h it hm
  simp only [Bool.and_eq_true, Option.isNone_iff_eq_none] at this
  exact ⟨this.2, this.1⟩

theorem page_consts :
    (refsInB (idsOf nsPageHead) nsPageHead = true ∧ noRelLinkB nsPageHead = true) ∧
    (refsInB [] nsPageMid = true ∧ noRelLinkB nsPageMid = true) ∧
    ("sidebar".toList ∈ idsOf nsPageHead ∧ "namespaceinfo".toList ∈ idsOf nsPageMid) ∧
    (pageConsts ++ pageMid).Nodup ∧ ∀ c ∈ pageConsts ++ pageMid, '_' ∉ c := by
  unfold pageConsts pageMid nsPageHead nsPageMid
  -- as lists of characters the literals cost the kernel nothing; left as they are it decodes each from its UTF-8 bytes
  repeat rw [String.toList_ofList]
  decide +kernel

theorem idsOf_nsPageItems (tr : NsD) :
    idsOf (nsPageItems tr) = idsOf nsPageHead ++ idsOf (sidebarItems tr) ++ idsOf nsPageMid ++
      idsOf (nsInfoItems (upPrefix (joinWith '.' tr.name)) [] tr).1 := by
  unfold nsPageItems
  simp [idsOf_append, idsOf]

theorem nsInfo_ids_sub (tr : NsD) : ∀ s ∈ idsOf (nsInfoItems (upPrefix (joinWith '.' tr.name)) [] tr).1, s ∈ idsOf (nsPageItems tr) := by
  intro s h; rw [idsOf_nsPageItems]; exact List.mem_append_right _ h

theorem sidebar_ids_sub (tr : NsD) : ∀ s ∈ idsOf (sidebarItems tr), s ∈ idsOf (nsPageItems tr) := by
  intro s h; rw [idsOf_nsPageItems]
  exact List.mem_append_left _ (List.mem_append_left _ (List.mem_append_right _ h))

theorem head_ids_sub (tr : NsD) : ∀ s ∈ idsOf nsPageHead, s ∈ idsOf (nsPageItems tr) := by
  intro s h; rw [idsOf_nsPageItems]
  exact List.mem_append_left _ (List.mem_append_left _ (List.mem_append_left _ h))

theorem mid_ids_sub (tr : NsD) : ∀ s ∈ idsOf nsPageMid, s ∈ idsOf (nsPageItems tr) := by
  intro s h; rw [idsOf_nsPageItems]
  exact List.mem_append_left _ (List.mem_append_right _ h)

theorem topTargets_sub (tr : NsD) : ∀ s ∈ topTargets tr, s ∈ idsOf (nsPageItems tr) :=
  fun s h => nsInfo_ids_sub tr s (topTargets_in_nsInfo _ _ tr s h)

theorem upPrefix_not_frag (n : Str) : ∀ s, upPrefix n ≠ '#' :: s := fun s h =>
  have hm : '#' ∈ upPrefix n := h ▸ List.mem_cons_self
  absurd (mem_repeatStr hm) (by decide)

theorem nsPageItems_refsSelf (tr : NsD) : RefsSelf (nsPageItems tr) := by
  obtain ⟨⟨hhead, _⟩, ⟨hmid, _⟩, _⟩ := page_consts
  have hside : RefsIn (idsOf (nsPageItems tr)) (sidebarItems tr) :=
    (sidebarItems_refs tr).mono fun s hs => (List.mem_append.mp hs).elim (sidebar_ids_sub tr s) (topTargets_sub tr s)
  have hjs : RefsIn (idsOf (nsPageItems tr)) [Item.jsSel (nsId tr.name)] := fun it hit s hs => by
    obtain rfl := List.mem_singleton.mp hit
    exact Option.some.inj hs ▸ topTargets_sub tr _ (topTargets_head tr)
  exact (((((refsIn_of_refsInB hhead).mono (head_ids_sub tr)).append hside).append
    ((refsIn_of_refsInB hmid).mono fun _ h => nomatch h)).append
    ((nsInfoItems_refsSelf _ (upPrefix_not_frag _) [] tr).mono (nsInfo_ids_sub tr))).append hjs

theorem assign_plain (seen : List Str) (l : List Str) : assign seen (l.map fun s => (false, s)) = (l, seen) := by
  induction l with
  | nil => rfl
  | cons a l ih => rw [List.map_cons, assign_cons_false, ih]

theorem page_ids_assign (tr : NsD) : idsOf (nsPageItems tr) = (assign [] (pageEntries tr)).1 := by
  rw [idsOf_nsPageItems, (nsInfoItems_assign _ [] tr).1, sidebar_ids]
  unfold pageEntries
  rw [assign_append, assign_plain]
  simp [pageConsts, pageMid, List.append_assoc]

theorem page_ids_perm (tr : NsD) : (idsOf (nsPageItems tr)).Perm
    ((pageConsts ++ pageMid) ++ ((topTargets tr).map (· ++ sidebarSuffix) ++ topTargets tr) ++
      uniqs [] ((srcNs tr).filterMap Source.nested)) := by
  have h := render_ids_perm (upPrefix (joinWith '.' tr.name)) (srcNs tr) []
  rw [srcNs_plain] at h
  rw [idsOf_nsPageItems, sidebar_ids, nsInfoItems_eq]
  refine (h.append_left _).trans ?_
  simp only [pageConsts, pageMid, List.append_assoc]
  exact (List.perm_append_comm_assoc _ _ _).append_left _

theorem nsPageItems_shape (tr : NsD) : ∀ it ∈ nsPageItems tr,
    (∀ r, it.rootRef = some r → r = "sidebar".toList ∨ r = "namespaceinfo".toList) ∧
    (∀ h, it.relLink = some h → ∃ ct ∈ linkedNs tr, h = typeHref tr.name ct) := by
  intro it hit
  obtain ⟨⟨_, hhead⟩, ⟨_, hmid⟩, _⟩ := page_consts
  unfold nsPageItems at hit
  simp only [List.mem_append, List.mem_cons, List.not_mem_nil, or_false] at hit
  rcases hit with (((h | h) | h) | h) | rfl
  · have := noRelLink_of_noRelLinkB hhead it h
    exact ⟨fun _ e => (nomatch this.1 ▸ e), fun _ e => (nomatch this.2 ▸ e)⟩
  · have := sidebarItems_side tr it h
    exact ⟨fun r hr => .inl (this.1 r hr), fun _ e => nomatch this.2 ▸ e⟩
  · have := noRelLink_of_noRelLinkB hmid it h
    exact ⟨fun _ e => (nomatch this.1 ▸ e), fun _ e => (nomatch this.2 ▸ e)⟩
  · have := nsInfoItems_info _ _ tr it h
    exact ⟨fun r hr => .inr (this.1 r hr), this.2⟩
  · exact ⟨nofun, nofun⟩

theorem nsPageItems_rootRef (tr : NsD) : ∀ it ∈ nsPageItems tr, ∀ r, it.rootRef = some r → r ∈ idsOf (nsPageItems tr) := by
  intro it hit r hr
  obtain ⟨_, _, ⟨hs, hn⟩, _⟩ := page_consts
  rcases (nsPageItems_shape tr it hit).1 r hr with rfl | rfl
  · exact head_ids_sub tr _ hs
  · exact mid_ids_sub tr _ hn

theorem backHref_resolves (t : CType) :
    resolve (typePagePath t) (backHref t) = some (nsPagePath t.comps.dropLast, nsId t.comps.dropLast) := by
  have e : backHref t = indexPage ++ '#' :: nsId t.comps.dropLast := rfl
  unfold resolve
  have ⟨h0, h1, h2, h4⟩ : '#' ∉ indexPage ∧ indexPage ≠ [] ∧ splitOn '/' indexPage = [indexPage] ∧ indexPage ≠ ['.', '.'] := by
    decide +kernel
  rw [e, splitFragment_append h0]
  simp [h1, h2, h4, resolveSegs, typePagePath, nsPagePath]

theorem subtrees_self (n : NsD) : n ∈ subtrees n := by
  cases n with
  | node name types children => simp [subtrees]

def nsFiles (m : NsD) : List (List Str × List Item) := (nsPagePath m.name, nsPageItems m) :: typePagesOf m.types

mutual
theorem pages_eq : ∀ n : NsD, pages n = (subtrees n).flatMap nsFiles
  | .node name types children => by
    unfold pages subtrees
    rw [List.flatMap_cons, pagesL_eq children]
    rfl
theorem pagesL_eq : ∀ l : List NsD, pagesL l = (subtreesL l).flatMap nsFiles
  | [] => rfl
  | n :: l => by
    unfold pagesL subtreesL
    rw [List.flatMap_append, pages_eq n, pagesL_eq l]
end

theorem mem_flatMap_nsFiles {S : List NsD} {f : List Str × List Item} : f ∈ S.flatMap nsFiles ↔
    (∃ m ∈ S, f = (nsPagePath m.name, nsPageItems m)) ∨ (∃ m ∈ S, f ∈ typePagesOf m.types) := by
  simp only [List.mem_flatMap, nsFiles, List.mem_cons]
  constructor
  · rintro ⟨m, hm, h | h⟩
    · exact .inl ⟨m, hm, h⟩
    · exact .inr ⟨m, hm, h⟩
  · rintro (⟨m, hm, h⟩ | ⟨m, hm, h⟩)
    · exact ⟨m, hm, .inl h⟩
    · exact ⟨m, hm, .inr h⟩

theorem pages_of_subtree (n : NsD) : ∀ m ∈ subtrees n, (nsPagePath m.name, nsPageItems m) ∈ pages n :=
  fun m hm => pages_eq n ▸ mem_flatMap_nsFiles.mpr (.inl ⟨m, hm, rfl⟩)

theorem pagesL_of_subtree : ∀ l : List NsD, ∀ m ∈ subtreesL l, (nsPagePath m.name, nsPageItems m) ∈ pagesL l :=
  fun l m hm => pagesL_eq l ▸ mem_flatMap_nsFiles.mpr (.inl ⟨m, hm, rfl⟩)

theorem pages_cases (n : NsD) : ∀ f ∈ pages n,
    (∃ m ∈ subtrees n, f = (nsPagePath m.name, nsPageItems m)) ∨ (∃ m ∈ subtrees n, f ∈ typePagesOf m.types) :=
  fun _ hf => mem_flatMap_nsFiles.mp (pages_eq n ▸ hf)

theorem pagesL_cases : ∀ l : List NsD, ∀ f ∈ pagesL l,
    (∃ m ∈ subtreesL l, f = (nsPagePath m.name, nsPageItems m)) ∨ (∃ m ∈ subtreesL l, f ∈ typePagesOf m.types) :=
  fun l _ hf => mem_flatMap_nsFiles.mp (pagesL_eq l ▸ hf)

mutual
theorem linkedNs_of_subtree : ∀ n : NsD, ∀ m ∈ subtrees n, ∀ ct ∈ linkedNs m, ct ∈ linkedNs n
  | .node name types children, m, hm, ct, hct => by
    unfold subtrees at hm
    rcases List.mem_cons.mp hm with rfl | h
    · exact hct
    · unfold linkedNs
      exact List.mem_append_right _ (linkedNsL_of_subtree children m h ct hct)
theorem linkedNsL_of_subtree : ∀ l : List NsD, ∀ m ∈ subtreesL l, ∀ ct ∈ linkedNs m, ct ∈ linkedNsL l
  | [], m, hm, _, _ => by simp [subtreesL] at hm
  | n :: l, m, hm, ct, hct => by
    unfold subtreesL at hm
    unfold linkedNsL
    rcases List.mem_append.mp hm with h | h
    · exact List.mem_append_left _ (linkedNs_of_subtree n m h ct hct)
    · exact List.mem_append_right _ (linkedNsL_of_subtree l m h ct hct)
end

mutual
theorem wf_of_subtree : ∀ n : NsD, n.wf = true → ∀ m ∈ subtrees n, m.wf = true
  | .node name types children, hwf, m, hm => by
    unfold subtrees at hm
    rcases List.mem_cons.mp hm with rfl | h
    · exact hwf
    · unfold NsD.wf at hwf
      simp only [Bool.and_eq_true] at hwf
      exact wfL_of_subtree name children hwf.2 m h
theorem wfL_of_subtree (parent : List Str) : ∀ l : List NsD, wfL parent l = true → ∀ m ∈ subtreesL l, m.wf = true
  | [], _, m, hm => by simp [subtreesL] at hm
  | n :: l, hwf, m, hm => by
    unfold wfL at hwf
    simp only [Bool.and_eq_true] at hwf
    unfold subtreesL at hm
    rcases List.mem_append.mp hm with h | h
    · exact wf_of_subtree n hwf.1.2 m h
    · exact wfL_of_subtree parent l hwf.2 m h
end

theorem wf_type_namespace {m : NsD} (hwf : m.wf = true) {ct : CType} {sv : Bool} {attrs : List Ent}
    (he : Ent.comp ct sv attrs ∈ m.types) : ct.comps.dropLast = m.name := by
  cases m with
  | node name types children =>
    unfold NsD.wf at hwf
    simp only [Bool.and_eq_true, List.all_eq_true] at hwf
    have := hwf.1 _ he
    simp only [Bool.and_eq_true, beq_iff_eq] at this
    exact this.1

theorem mem_typePagesOf {f : List Str × List Item} {l : List Ent} (h : f ∈ typePagesOf l) :
    ∃ ct sv attrs, Ent.comp ct sv attrs ∈ l ∧ f = (typePagePath ct, if sv then [] else typePageItems ct) := by
  fun_induction typePagesOf l with
  | case1 => cases h
  | case2 ct sv attrs l ih =>
    rcases List.mem_cons.mp h with rfl | h
    · exact ⟨ct, sv, attrs, List.mem_cons_self, rfl⟩
    · obtain ⟨ct', sv', attrs', hm, e⟩ := ih h
      exact ⟨ct', sv', attrs', List.mem_cons_of_mem _ hm, e⟩
  | case3 es el l ih =>
    obtain ⟨ct', sv', attrs', hm, e⟩ := ih h
    exact ⟨ct', sv', attrs', List.mem_cons_of_mem _ hm, e⟩

mutual
theorem listedTypes_targets : ∀ n : NsD, ∀ t ∈ listedTypes n, tagId t ∈ topTargets n
  | .node name types children, t, ht => by
    unfold listedTypes at ht
    unfold topTargets
    rcases List.mem_append.mp ht with h | h
    · obtain ⟨e, he, hc⟩ := List.mem_filterMap.mp h
      refine List.mem_append_left _ (List.mem_cons_of_mem _ (List.mem_map.mpr ⟨e, he, ?_⟩))
      cases e with
      | comp ct sv attrs => simp [Ent.ctype?] at hc; simp [Ent.tag, hc]
      | arr es el => simp [Ent.ctype?] at hc
    · exact List.mem_append_right _ (listedTypesL_targets children t h)
theorem listedTypesL_targets : ∀ l : List NsD, ∀ t ∈ listedTypesL l, tagId t ∈ topTargetsL l
  | [], t, ht => by simp [listedTypesL] at ht
  | n :: l, t, ht => by
    unfold listedTypesL at ht
    unfold topTargetsL
    rcases List.mem_append.mp ht with h | h
    · exact List.mem_append_left _ (listedTypes_targets n t h)
    · exact List.mem_append_right _ (listedTypesL_targets l t h)
end

/-- What the front end guarantees of one run: the tree is laid out by names, every namespace name is non-empty and consists of
valid components.  (That the root of a run has a one-component name is not asked here; `Closed` asks it of the runs that are linked to.) -/
structure RunOk (run : NsD) : Prop where
  wf : run.wf = true
  names : ∀ m ∈ subtrees run, m.name ≠ [] ∧ ∀ c ∈ m.name, ValidComp c

/-- The runs that write into one output directory are closed under reference: the entry that documents a linked type
(the type itself, or its service for a request / response type) is a listed type of the run of the type's root namespace. -/
def Closed (runs : List NsD) : Prop :=
  ∀ run ∈ runs, ∀ ct ∈ linkedNs run, ValidComp ct.rootNamespace ∧
    ∃ tgt ∈ runs, tgt.name = [ct.rootNamespace] ∧ ct.entry ∈ listedTypes tgt

theorem validCompB_iff {c : Str} : validCompB c = true ↔ ValidComp c := by
  simp [validCompB, ValidComp, List.all_eq_true]

theorem runOk_of_runOkB {run : NsD} (h : runOkB run = true) : RunOk run := by
  simp only [runOkB, Bool.and_eq_true, List.all_eq_true, Bool.not_eq_true', List.isEmpty_eq_false_iff] at h
  exact ⟨h.1, fun m hm => ⟨(h.2 m hm).1, fun c hc => validCompB_iff.mp ((h.2 m hm).2 c hc)⟩⟩

theorem closed_of_closedB {runs : List NsD} (h : closedB runs = true) : Closed runs := by
  intro run hrun ct hct
  simp only [closedB, List.all_eq_true, Bool.and_eq_true, List.any_eq_true, beq_iff_eq] at h
  obtain ⟨hv, tgt, htgt, hname, hmem⟩ := h run hrun ct hct
  exact ⟨validCompB_iff.mp hv, tgt, htgt, hname, by simpa using hmem⟩

def IdentLike (s : Str) : Prop := ∃ c r, s = c :: r ∧ (c.isAlpha = true ∨ c = '_') ∧ ∀ d ∈ r, isNameChar d = true

theorem isCssIdent_of_identLike {s : Str} (h : IdentLike s) : isCssIdent s = true := by
  obtain ⟨c, r, rfl, hc, hr⟩ := h
  have h2 : (r.all fun d => d.isAlphanum || decide (d = '_') || decide (d = '-')) = true := by
    rw [List.all_eq_true]
    intro d hd
    have := hr d hd
    simp only [isNameChar, Bool.or_eq_true, decide_eq_true_eq] at this
    rcases this with h | h <;> simp [h]
  simp only [isCssIdent, Bool.and_eq_true]
  refine ⟨?_, h2⟩
  rcases hc with hc | hc <;> simp [hc]

theorem IdentLike.append {s t : Str} (h : IdentLike s) (ht : ∀ d ∈ t, isNameChar d = true) : IdentLike (s ++ t) := by
  obtain ⟨c, r, rfl, hc, hr⟩ := h
  refine ⟨c, r ++ t, rfl, hc, ?_⟩
  intro d hd
  rcases List.mem_append.mp hd with h | h
  · exact hr d h
  · exact ht d h

theorem alpha_nameChar {c : Char} (h : c.isAlpha = true ∨ c = '_') : isNameChar c = true := by
  rcases h with h | h <;> simp [isNameChar, Char.isAlphanum, h]

/-- the root component starts with a letter or an underscore (the front end rejects a leading digit) -/
def FirstOk (comps : List Str) : Prop := ∃ c r rest, comps = (c :: r) :: rest ∧ (c.isAlpha = true ∨ c = '_')

theorem nsId_identLike {name : List Str} (hv : ∀ c ∈ name, ValidComp c) (hf : FirstOk name) : IdentLike (nsId name) := by
  obtain ⟨c, r, rest, rfl, hc⟩ := hf
  -- the first character is no dot, so the flattening keeps it
  have e : nsId ((c :: r) :: rest) = c :: replaceChar '.' ['_'] (r ++ rest.flatMap ('.' :: ·)) := by
    simp [nsId, joinWith_cons, replaceChar, nameChar_not_dot (alpha_nameChar hc)]
  exact ⟨c, _, e, hc, fun d hd => nsId_nameChars hv d (e ▸ List.mem_cons_of_mem _ hd)⟩

theorem tagId_identLike {t : CType} (hv : ∀ c ∈ t.comps, ValidComp c) (hf : FirstOk t.comps) : IdentLike (tagId t) :=
  (nsId_identLike hv hf).append (versionSuffix_nameChars _ _)

theorem sidebar_facts : sidebarSuffix = '_' :: "sidebar".toList ∧ '_' ∉ "sidebar".toList ∧
    (∀ d ∈ sidebarSuffix, isNameChar d = true) := by decide +kernel

theorem sidebarSuffix_nameChars : ∀ d ∈ sidebarSuffix, isNameChar d = true := sidebar_facts.2.2

theorem array_facts : "_array".toList = '_' :: "array".toList ∧ '_' ∉ "array".toList ∧
    (∀ d ∈ "_array".toList, isNameChar d = true) := by decide +kernel

theorem asciiCodes : '0'.val.toNat = 48 ∧ '9'.val.toNat = 57 ∧ 'A'.val.toNat = 65 ∧ 'Z'.val.toNat = 90 ∧ 'a'.val.toNat = 97 ∧
    'z'.val.toNat = 122 ∧ ('a'.val - 'A'.val).toNat = 32 := by decide

theorem toLower_alpha (c : Char) (h : c.isAlpha = true) : c.toLower.isAlpha = true := by
  unfold Char.toLower
  split
  · rename_i hu
    obtain ⟨_, _, hA, hZ, ha, hz, hd⟩ := asciiCodes
    simp only [Char.isAlpha, Char.isUpper, Char.isLower, Bool.or_eq_true, Bool.and_eq_true, decide_eq_true_eq, ge_iff_le]
    right
    obtain ⟨h1, h2⟩ := hu
    simp only [UInt32.le_iff_toNat_le, ge_iff_le] at h1 h2 ⊢
    show 'a'.val.toNat ≤ (c.val + ('a'.val - 'A'.val)).toNat ∧ (c.val + ('a'.val - 'A'.val)).toNat ≤ 'z'.val.toNat
    rw [UInt32.toNat_add, hd]
    omega
  · exact h

theorem alpha_not_digit {c : Char} (h : c.isAlpha = true) : c.isDigit = false := by
  simp only [Char.isAlpha, Char.isUpper, Char.isLower, Bool.or_eq_true, Bool.and_eq_true, decide_eq_true_eq, ge_iff_le] at h
  simp only [Char.isDigit, Bool.and_eq_false_iff, decide_eq_false_iff_not, ge_iff_le]
  obtain ⟨h0, h9, hA, hZ, ha, hz, _⟩ := asciiCodes
  simp only [UInt32.le_iff_toNat_le] at h ⊢
  omega

theorem toLower_of_not_upper {c : Char} (h : c.isUpper = false) : c.toLower = c := by
  unfold Char.toLower
  split
  · rename_i hu
    have : c.isUpper = true := by unfold Char.isUpper; exact decide_eq_true hu
    rw [this] at h; cases h
  · rfl

theorem digit_not_upper {c : Char} (h : c.isDigit = true) : c.isUpper = false := by
  simp only [Char.isDigit, Bool.and_eq_true, decide_eq_true_eq, ge_iff_le] at h
  simp only [Char.isUpper, Bool.and_eq_false_iff, decide_eq_false_iff_not, ge_iff_le, Bool.decide_and]
  obtain ⟨h0, h9, hA, hZ, _⟩ := asciiCodes
  simp only [UInt32.le_iff_toNat_le] at h ⊢
  omega

theorem toLower_nameChar {c : Char} (h : isNameChar c = true) : isNameChar c.toLower = true := by
  simp only [isNameChar, Char.isAlphanum, Bool.or_eq_true, decide_eq_true_eq] at h
  rcases h with (h | h) | h
  · simp [isNameChar, Char.isAlphanum, toLower_alpha c h]
  · rw [toLower_of_not_upper (digit_not_upper h)]; simp [isNameChar, Char.isAlphanum, h]
  · subst h; decide

theorem lowerFirst_nameChars {s : Str} (h : ∀ d ∈ s, isNameChar d = true) : ∀ d ∈ lowerFirst s, isNameChar d = true := by
  cases s with
  | nil => simp [lowerFirst]
  | cons c r =>
    intro d hd
    simp only [lowerFirst, List.mem_cons] at hd
    rcases hd with rfl | hd
    · exact toLower_nameChar (h c (by simp))
    · exact h d (by simp [hd])

theorem escCharStd_of_nameChar {c : Char} (h : isNameChar c = true) : escCharStd c = [c] := by
  obtain ⟨h1, h2, h3, h4, h5, _⟩ := nameOrDot_not_special (nameChar_nameOrDot h)
  simp [escCharStd, h1, h2, h3, h4, h5]

theorem escapeStd_of_nameChars {s : Str} (h : ∀ c ∈ s, isNameChar c = true) : escapeStd s = s :=
  (escapeStd_eq_flatMap s).trans (flatMap_eq_self fun c hc => escCharStd_of_nameChar (h c hc))

def uniqTok (b : Str) : Str := escapeStd (lowerFirst b)

theorem makeUnique_eq (seen : List Str) (b : Str) :
    makeUnique seen b = (uniqTok b ++ dec (seen.count (uniqTok b)), uniqTok b :: seen) := rfl

theorem uniqTok_of_nameChars {s : Str} (h : ∀ d ∈ s, isNameChar d = true) : uniqTok s = lowerFirst s :=
  escapeStd_of_nameChars (lowerFirst_nameChars h)

theorem makeUnique_identLike {base : Str} (h : IdentLike base) (seen : List Str) : IdentLike (makeUnique seen base).1 := by
  obtain ⟨c, r, rfl, hc, hr⟩ := h
  rw [makeUnique_eq, uniqTok_of_nameChars (List.forall_mem_cons.mpr ⟨alpha_nameChar hc, hr⟩)]
  refine IdentLike.append ⟨c.toLower, r, rfl, ?_, hr⟩ (dec_nameChars _)
  exact hc.elim (fun h => .inl (toLower_alpha c h)) (fun h => .inr (by subst h; decide))

theorem arrayFlat_nameChars {u : Str} (hu : ∀ ch ∈ u, isNameOrDot ch = true ∨ ch = ' ') :
    ∀ d ∈ replaceChar ' ' ['_'] (replaceChar '.' ['_'] u), isNameChar d = true := by
  intro d hd
  rcases mem_replaceChar hd with hd | ⟨hd, hb⟩
  · obtain rfl := List.mem_singleton.mp hd; decide
  · rcases mem_replaceChar hd with hd | ⟨hd, hdot⟩
    · obtain rfl := List.mem_singleton.mp hd; decide
    · rcases hu d hd with h | h
      · simpa [isNameOrDot, hdot] using h
      · exact absurd h hb

/-- `filter_tag_id` of an array: `str(element_type)` is a dotted name with version (`ns.T.1.0`) or a cast mode, a blank and
a primitive name (`saturated uint8`) -/
theorem tagIdArray_identLike {es : Str} (hs : ∀ ch ∈ es, isNameOrDot ch = true ∨ ch = ' ')
    (hfirst : ∃ c t, es = c :: t ∧ (c.isAlpha = true ∨ c = '_')) : IdentLike (tagIdArray es) := by
  obtain ⟨c, t, rfl, hc⟩ := hfirst
  have hblank : c ≠ ' ' := by
    intro e; subst e; rcases hc with h | h
    · revert h; decide
    · revert h; decide
  have e : replaceChar ' ' ['_'] (replaceChar '.' ['_'] (c :: t)) = c :: replaceChar ' ' ['_'] (replaceChar '.' ['_'] t) := by
    simp [replaceChar, nameChar_not_dot (alpha_nameChar hc), hblank]
  unfold tagIdArray
  rw [e]
  exact IdentLike.append ⟨c, _, rfl, hc, arrayFlat_nameChars (fun ch h => hs ch (by simp [h]))⟩ array_facts.2.2

def linkChar (c : Char) : Bool := isNameOrDot c || c = '/' || c = '#'

theorem linkChar_props {c : Char} (h : linkChar c = true) : urlSafeChar c = true ∧ escChar c = [c] ∧ c ≠ ':' ∧ c ≠ '%' ∧ c ≠ '?' := by
  simp only [linkChar, Bool.or_eq_true, decide_eq_true_eq] at h
  rcases h with (h | rfl) | rfl
  · refine ⟨?_, escChar_of_nameOrDot h, ?_, ?_, ?_⟩
    · simp only [isNameOrDot, isNameChar, Bool.or_eq_true, decide_eq_true_eq] at h
      rcases h with (h | h) | h <;> simp [urlSafeChar, h]
    · intro e; subst e; revert h; decide
    · intro e; subst e; revert h; decide
    · intro e; subst e; revert h; decide
  · decide
  · decide

theorem nameChar_linkChar {c : Char} (h : isNameChar c = true) : linkChar c = true := by simp [linkChar, isNameOrDot, h]

theorem linkConsts_linkChars : (∀ c ∈ "../".toList, linkChar c = true) ∧ ∀ c ∈ indexPage, linkChar c = true := by
  decide +kernel

theorem upPrefix_linkChars (n : Str) : ∀ c ∈ upPrefix n, linkChar c = true :=
  fun c hc => linkConsts_linkChars.1 c (mem_repeatStr hc)

theorem urlFromType_linkChars {t : CType} (hv : ∀ c ∈ t.comps, ValidComp c) : ∀ c ∈ urlFromType t, linkChar c = true := by
  intro c hc
  rw [urlFromType_eq] at hc
  simp only [List.mem_append, List.mem_cons, List.not_mem_nil, or_false] at hc
  rcases hc with ((hc | hc) | rfl) | rfl | hc
  · exact linkConsts_linkChars.1 c hc
  · cases hcs : t.comps with
    | nil => simp [CType.rootNamespace, hcs] at hc
    | cons a l =>
      simp only [CType.rootNamespace, hcs, List.headD_cons] at hc
      exact nameChar_linkChar ((hv a (by simp [hcs])).2 c hc)
  · decide
  · decide
  · exact nameChar_linkChar (tagId_nameChars (fun c h => hv c (entry_comps_sub t c h)) c hc)

theorem allLinkChars_props {s : Str} (h : ∀ c ∈ s, linkChar c = true) :
    urlSafe s = true ∧ escape s = s ∧ ':' ∉ s ∧ '%' ∉ s ∧ '?' ∉ s := by
  refine ⟨?_, ?_, ?_, ?_, ?_⟩
  · unfold urlSafe; rw [List.all_eq_true]; exact fun c hc => (linkChar_props (h c hc)).1
  · exact (escape_eq_flatMap s).trans (flatMap_eq_self fun c hc => (linkChar_props (h c hc)).2.1)
  · exact fun hm => (linkChar_props (h _ hm)).2.2.1 rfl
  · exact fun hm => (linkChar_props (h _ hm)).2.2.2.1 rfl
  · exact fun hm => (linkChar_props (h _ hm)).2.2.2.2 rfl

theorem backHref_linkChars {t : CType} (hv : ∀ c ∈ t.comps, ValidComp c) : ∀ c ∈ backHref t, linkChar c = true := by
  intro c hc
  simp only [backHref, List.mem_append, List.mem_cons] at hc
  rcases hc with hc | rfl | hc
  · exact linkConsts_linkChars.2 c hc
  · decide
  · exact nameChar_linkChar (nsId_nameChars (fun c h => hv c (List.dropLast_subset _ h)) c hc)

theorem uniqs_mem : ∀ (N : List Str) (seen : List Str), ∀ x ∈ uniqs seen N,
    ∃ b ∈ N, ∃ k, x = uniqTok b ++ dec k ∧ seen.count (uniqTok b) ≤ k
  | [], _, x, hx => nomatch hx
  | b :: N, seen, x, hx => by
    rcases List.mem_cons.mp hx with rfl | hx
    · exact ⟨b, List.mem_cons_self, _, rfl, Nat.le_refl _⟩
    · obtain ⟨b₁, hb₁, k, hk, hle⟩ := uniqs_mem N _ x hx
      exact ⟨b₁, List.mem_cons_of_mem _ hb₁, k, hk, Nat.le_trans List.count_le_count_cons hle⟩

theorem uniqs_nodup : ∀ (N : List Str) (seen : List Str),
    (∀ b₁ ∈ N, ∀ b₂ ∈ N, ∀ k₁ k₂, uniqTok b₁ ++ dec k₁ = uniqTok b₂ ++ dec k₂ → uniqTok b₁ = uniqTok b₂ ∧ k₁ = k₂) →
    (uniqs seen N).Nodup
  | [], _, _ => List.nodup_nil
  | b :: N, seen, h => by
    refine List.nodup_cons.mpr ⟨fun hm => ?_,
      uniqs_nodup N _ fun b₁ hb₁ b₂ hb₂ => h b₁ (List.mem_cons_of_mem _ hb₁) b₂ (List.mem_cons_of_mem _ hb₂)⟩
    -- a later request for the same token finds a larger count
    obtain ⟨b₁, hb₁, k, hk, hle⟩ := uniqs_mem N (uniqTok b :: seen) _ hm
    obtain ⟨ht, hkk⟩ := h b List.mem_cons_self b₁ (List.mem_cons_of_mem _ hb₁) (seen.count (uniqTok b)) k hk
    rw [← ht, List.count_cons_self] at hle
    omega

theorem lowerFirst_append {x : Str} (y : Str) (h : x ≠ []) : lowerFirst (x ++ y) = lowerFirst x ++ y := by
  cases x with
  | nil => exact absurd rfl h
  | cons c r => rfl

/-- The kind of a `_`-separated group of an id: 0 the `sidebar` of a twin, 1 one digit (a minor version), 2 several digits (a minor
version with the counter of `make_unique` behind it), 3 `array<digits>`, 4 anything else (a name component). -/
def gkind (g : Str) : Nat :=
  if g = "sidebar".toList then 0
  else if g.all Char.isDigit then (if g.length = 1 then 1 else 2)
  else if isArrayGroup g then 3 else 4

def HasGroup (s : Str) (k : Nat) : Prop := ∃ a g, s = a ++ '_' :: g ∧ '_' ∉ g ∧ gkind g = k

theorem HasGroup.unique {s : Str} {k k' : Nat} (h : HasGroup s k) (h' : HasGroup s k') : k = k' := by
  obtain ⟨a, g, rfl, hg, rfl⟩ := h
  obtain ⟨a', g', e, hg', rfl⟩ := h'
  rw [(split_last hg hg' e).2]

theorem HasGroup.mem {s : Str} {k : Nat} (h : HasGroup s k) : '_' ∈ s := by
  obtain ⟨a, g, rfl, _, _⟩ := h; simp

theorem gkind_sidebar : gkind "sidebar".toList = 0 := if_pos rfl

theorem all_digit_dec (n : Nat) : (dec n).all Char.isDigit = true := by
  rw [List.all_eq_true]; exact fun c hc => dec_isDigit hc

theorem dec_of_lt_ten {m : Nat} (h : m < 10) : dec m = [Nat.digitChar m] := Nat.toDigits_of_lt_base h

theorem dec_lt_ten {m : Nat} (h : m < 10) : (dec m).length = 1 := by rw [dec_of_lt_ten h]; rfl

theorem digits_ne_sidebar {g : Str} (h : g.all Char.isDigit = true) : g ≠ "sidebar".toList := by
  intro e; subst e; revert h; decide

theorem gkind_minor {m : Nat} (h : m < 10) : gkind (dec m) = 1 := by
  unfold gkind
  rw [if_neg (digits_ne_sidebar (all_digit_dec m)), if_pos (all_digit_dec m), if_pos (dec_lt_ten h)]

theorem gkind_minor_counter {m : Nat} (h : m < 10) (k : Nat) : gkind (dec m ++ dec k) = 2 := by
  have hall : (dec m ++ dec k).all Char.isDigit = true := by simp [List.all_append, all_digit_dec]
  have hlen : (dec m ++ dec k).length ≠ 1 := by
    have := List.length_pos_iff.mpr (dec_ne_nil k)
    rw [List.length_append, dec_lt_ten h]; omega
  unfold gkind
  rw [if_neg (digits_ne_sidebar hall), if_pos hall, if_neg hlen]

theorem gkind_array (k : Nat) : gkind ("array".toList ++ dec k) = 3 := by
  have ha : "array".toList = ['a', 'r', 'r', 'a', 'y'] ∧ "sidebar".toList = ['s', 'i', 'd', 'e', 'b', 'a', 'r'] := by
    decide +kernel
  unfold gkind isArrayGroup
  rw [ha.1, ha.2]
  simp [all_digit_dec]

theorem gkind_nsComp {g : Str} (h : nsCompOk g = true) : gkind g = 4 := by
  simp only [nsCompOk, plainComp, Bool.and_eq_true, bne_iff_ne, ne_eq, Bool.not_eq_true'] at h
  obtain ⟨⟨⟨_, hhead⟩, hns⟩, harr⟩ := h
  have hdig : g.all Char.isDigit = false := by
    cases g with
    | nil => simp at hhead
    | cons d r => simp only [List.all_cons, alpha_not_digit hhead, Bool.false_and]
  unfold gkind
  rw [if_neg hns, if_neg (by rw [hdig]; decide), if_neg (by rw [harr]; decide)]

theorem counter_group {p g : Str} (hg : '_' ∉ g) (k : Nat) : HasGroup ((p ++ '_' :: g) ++ dec k) (gkind (g ++ dec k)) :=
  ⟨p, g ++ dec k, by simp, fun hm => (List.mem_append.mp hm).elim hg (underscore_not_mem_dec k), rfl⟩

theorem counter_decode {p₁ p₂ g₁ g₂ : Str} (h₁ : '_' ∉ g₁) (h₂ : '_' ∉ g₂) (hl : g₁.length = g₂.length) {k₁ k₂ : Nat}
    (e : (p₁ ++ '_' :: g₁) ++ dec k₁ = (p₂ ++ '_' :: g₂) ++ dec k₂) : p₁ ++ '_' :: g₁ = p₂ ++ '_' :: g₂ ∧ k₁ = k₂ := by
  have hus : ∀ {g : Str} (k : Nat), '_' ∉ g → '_' ∉ g ++ dec k := fun k h hm =>
    (List.mem_append.mp hm).elim h (underscore_not_mem_dec k)
  rw [List.append_assoc, List.append_assoc, List.cons_append, List.cons_append] at e
  obtain ⟨hp, hg⟩ := split_last (hus k₁ h₁) (hus k₂ h₂) e
  obtain ⟨hG, hk⟩ := List.append_inj hg hl
  exact ⟨by rw [hp, hG], dec_inj hk⟩

theorem plainComp_valid {c : Str} (h : plainComp c = true) : ValidComp c ∧ '_' ∉ c := by
  simp only [plainComp, Bool.and_eq_true, List.all_eq_true] at h
  obtain ⟨hall, hhead⟩ := h
  refine ⟨⟨?_, fun ch hc => by simp [isNameChar, hall ch hc]⟩, ?_⟩
  · intro e; subst e; simp at hhead
  · intro hm; have := hall _ hm; revert this; decide

theorem nsOk_props {n : List Str} (h : Source.ok (.ns n) = true) :
    n ≠ [] ∧ (∀ c ∈ n, nsCompOk c = true) ∧ nsId n ∉ pageConsts ++ pageMid := by
  simp only [Source.ok, Bool.and_eq_true, Bool.not_eq_true', List.all_eq_true, List.isEmpty_eq_false_iff] at h
  refine ⟨h.1.1, h.1.2, ?_⟩
  intro hm
  have := h.2
  simp [hm] at this

theorem nsCompOk_plain {c : Str} (h : nsCompOk c = true) : plainComp c = true := by
  simp only [nsCompOk, Bool.and_eq_true] at h; exact h.1.1

theorem nsOk_valid {n : List Str} (h : Source.ok (.ns n) = true) : ∀ c ∈ n, ValidComp c ∧ '_' ∉ c :=
  fun c hc => plainComp_valid (nsCompOk_plain ((nsOk_props h).2.1 c hc))

theorem shape_ns {n : List Str} (h : Source.ok (.ns n) = true) : '_' ∉ nsId n ∨ HasGroup (nsId n) 4 := by
  obtain ⟨hne, hcomps, _⟩ := nsOk_props h
  have hv := nsOk_valid h
  rw [nsId_eq_join (fun c hc => validComp_noDot (hv c hc).1)]
  obtain ⟨init, last, rfl⟩ : ∃ init last, n = init ++ [last] :=
    ⟨n.dropLast, n.getLast hne, (List.dropLast_concat_getLast hne).symm⟩
  cases init with
  | nil => exact .inl (hv last (by simp)).2
  | cons a init =>
    exact .inr ⟨_, last, join_snoc '_' last (List.cons_ne_nil a init), (hv last (by simp)).2, gkind_nsComp (hcomps last (by simp))⟩

theorem ctOk_props {ct : CType} (h : ctOk ct = true) :
    ct.comps ≠ [] ∧ (∀ c ∈ ct.comps, ValidComp c ∧ '_' ∉ c) ∧ ct.minor < 10 := by
  simp only [ctOk, Bool.and_eq_true, Bool.not_eq_true', List.all_eq_true, List.isEmpty_eq_false_iff, decide_eq_true_eq] at h
  exact ⟨h.1.1, fun c hc => plainComp_valid (h.1.2 c hc), h.2⟩

theorem topOk_props {ct : CType} (h : Source.ok (.top ct) = true) :
    (∀ c ∈ ct.comps, ValidComp c ∧ '_' ∉ c) ∧ ct.minor < 10 ∧ ct.hasParentService = false := by
  have h' : (ctOk ct && !ct.hasParentService) = true := h
  rw [Bool.and_eq_true] at h'
  exact ⟨(ctOk_props h'.1).2.1, (ctOk_props h'.1).2.2, by simpa using h'.2⟩

theorem tagId_split (ct : CType) : tagId ct = (nsId ct.comps ++ '_' :: dec ct.major) ++ '_' :: dec ct.minor := by
  simp [tagId, nsId, CType.fullName, versionSuffix]

theorem shape_top {ct : CType} (hm : ct.minor < 10) : HasGroup (tagId ct) 1 :=
  ⟨_, _, tagId_split ct, underscore_not_mem_dec _, gkind_minor hm⟩

theorem shape_twin (x : Str) : HasGroup (x ++ sidebarSuffix) 0 :=
  ⟨x, "sidebar".toList, by rw [sidebar_facts.1], sidebar_facts.2.1, gkind_sidebar⟩

theorem flat_nameChars {comps : List Str} (h : ∀ c ∈ comps, plainComp c = true) : ∀ d ∈ nsId comps, isNameChar d = true :=
  nsId_nameChars fun c hc => (plainComp_valid (h c hc)).1

theorem uniqTok_tagId {ct : CType} (h : ctOk ct = true) :
    uniqTok (tagId ct) = (lowerFirst (nsId ct.comps) ++ '_' :: dec ct.major) ++ '_' :: dec ct.minor := by
  obtain ⟨hne, hc, _⟩ := ctOk_props h
  have hv : ∀ c ∈ ct.comps, ValidComp c := fun c h => (hc c h).1
  rw [uniqTok_of_nameChars (tagId_nameChars hv), tagId_split, List.append_assoc, lowerFirst_append _ (nsId_ne_nil hv hne),
    List.append_assoc]

theorem shape_nestC {ct : CType} (h : ctOk ct = true) (k : Nat) : HasGroup (uniqTok (tagId ct) ++ dec k) 2 := by
  rw [uniqTok_tagId h]
  exact gkind_minor_counter (ctOk_props h).2.2 k ▸ counter_group (underscore_not_mem_dec _) k

theorem esOk_props {es : Str} (h : Source.ok (.nestA es) = true) : ∀ ch ∈ es, isNameOrDot ch = true ∨ ch = ' ' := by
  simp only [Source.ok, List.all_eq_true, Bool.or_eq_true, decide_eq_true_eq] at h
  exact h

theorem uniqTok_tagIdArray {es : Str} (h : ∀ ch ∈ es, isNameOrDot ch = true ∨ ch = ' ') :
    ∃ X, uniqTok (tagIdArray es) = X ++ '_' :: "array".toList := by
  have hall : ∀ d ∈ tagIdArray es, isNameChar d = true := fun d hd =>
    (List.mem_append.mp hd).elim (arrayFlat_nameChars h d) (array_facts.2.2 d)
  rw [uniqTok_of_nameChars hall]
  unfold tagIdArray
  rw [array_facts.1]
  by_cases hf : replaceChar ' ' ['_'] (replaceChar '.' ['_'] es) = []
  · rw [hf]; exact ⟨[], by simp [lowerFirst]⟩
  · exact ⟨_, lowerFirst_append _ hf⟩

theorem shape_nestA {es : Str} (h : ∀ ch ∈ es, isNameOrDot ch = true ∨ ch = ' ') (k : Nat) :
    HasGroup (uniqTok (tagIdArray es) ++ dec k) 3 := by
  obtain ⟨X, hX⟩ := uniqTok_tagIdArray h
  rw [hX]
  exact gkind_array k ▸ counter_group array_facts.2.1 k

theorem top_cases {s : Source} (hok : s.ok = true) {x : Str} (hx : s.plain = some x) :
    (∃ n, s = .ns n ∧ x = nsId n) ∨ (∃ ct, s = .top ct ∧ x = tagId ct) := by
  cases s with
  | ns n => exact .inl ⟨n, rfl, (Option.some.inj hx).symm⟩
  | top ct => exact .inr ⟨ct, rfl, (Option.some.inj hx).symm⟩
  | topA es => cases hok
  | nestC ct => cases hx
  | nestA es => cases hx

theorem nested_cases {s : Source} {b : Str} (hb : s.nested = some b) :
    (∃ ct, s = .nestC ct ∧ b = tagId ct) ∨ (∃ es, s = .nestA es ∧ b = tagIdArray es) := by
  cases s with
  | nestC ct => exact .inl ⟨ct, rfl, (Option.some.inj hb).symm⟩
  | nestA es => exact .inr ⟨es, rfl, (Option.some.inj hb).symm⟩
  | ns n => cases hb
  | top ct => cases hb
  | topA es => cases hb

theorem top_shape {s : Source} (hok : s.ok = true) {x : Str} (hx : s.plain = some x) :
    x ∉ pageConsts ++ pageMid ∧ ('_' ∉ x ∨ HasGroup x 4 ∨ HasGroup x 1) := by
  rcases top_cases hok hx with ⟨n, rfl, rfl⟩ | ⟨ct, rfl, rfl⟩
  · exact ⟨(nsOk_props hok).2.2, (shape_ns hok).elim .inl (fun h => .inr (.inl h))⟩
  · have hg := shape_top (topOk_props hok).2.1
    exact ⟨fun hmem => page_consts.2.2.2.2 _ hmem hg.mem, .inr (.inr hg)⟩

theorem nested_shape {s : Source} (hok : s.ok = true) {b : Str} (hb : s.nested = some b) (k : Nat) :
    HasGroup (uniqTok b ++ dec k) 2 ∨ HasGroup (uniqTok b ++ dec k) 3 := by
  rcases nested_cases hb with ⟨ct, rfl, rfl⟩ | ⟨es, rfl, rfl⟩
  · exact .inl (shape_nestC hok k)
  · exact .inr (shape_nestA (esOk_props hok) k)

/-- A `make_unique` result of a composite determines token and counter: the minor version is one digit, so in the last group
`<minor><counter>` the counter starts after the first character. -/
theorem nestC_decode {c₁ c₂ : CType} (h₁ : ctOk c₁ = true) (h₂ : ctOk c₂ = true) {k₁ k₂ : Nat}
    (e : uniqTok (tagId c₁) ++ dec k₁ = uniqTok (tagId c₂) ++ dec k₂) :
    uniqTok (tagId c₁) = uniqTok (tagId c₂) ∧ k₁ = k₂ := by
  rw [uniqTok_tagId h₁, uniqTok_tagId h₂] at e ⊢
  exact counter_decode (underscore_not_mem_dec _) (underscore_not_mem_dec _)
    (by rw [dec_lt_ten (ctOk_props h₁).2.2, dec_lt_ten (ctOk_props h₂).2.2]) e

theorem nestA_decode {es₁ es₂ : Str} (h₁ : ∀ ch ∈ es₁, isNameOrDot ch = true ∨ ch = ' ')
    (h₂ : ∀ ch ∈ es₂, isNameOrDot ch = true ∨ ch = ' ') {k₁ k₂ : Nat}
    (e : uniqTok (tagIdArray es₁) ++ dec k₁ = uniqTok (tagIdArray es₂) ++ dec k₂) :
    uniqTok (tagIdArray es₁) = uniqTok (tagIdArray es₂) ∧ k₁ = k₂ := by
  obtain ⟨X₁, hX₁⟩ := uniqTok_tagIdArray h₁
  obtain ⟨X₂, hX₂⟩ := uniqTok_tagIdArray h₂
  rw [hX₁, hX₂] at e ⊢
  exact counter_decode array_facts.2.1 array_facts.2.1 rfl e

theorem nestC_ne_nestA {ct : CType} (hc : ctOk ct = true) {es : Str} (he : ∀ ch ∈ es, isNameOrDot ch = true ∨ ch = ' ')
    (k k' : Nat) : uniqTok (tagId ct) ++ dec k ≠ uniqTok (tagIdArray es) ++ dec k' :=
  fun e => absurd ((e ▸ shape_nestC hc k).unique (shape_nestA he k')) (by decide)

theorem nested_decode {s₁ s₂ : Source} (h₁ : s₁.ok = true) (h₂ : s₂.ok = true) {b₁ b₂ : Str}
    (hb₁ : s₁.nested = some b₁) (hb₂ : s₂.nested = some b₂) {k₁ k₂ : Nat}
    (e : uniqTok b₁ ++ dec k₁ = uniqTok b₂ ++ dec k₂) : uniqTok b₁ = uniqTok b₂ ∧ k₁ = k₂ := by
  rcases nested_cases hb₁ with ⟨c₁, rfl, rfl⟩ | ⟨es₁, rfl, rfl⟩
  · rcases nested_cases hb₂ with ⟨c₂, rfl, rfl⟩ | ⟨es₂, rfl, rfl⟩
    · exact nestC_decode h₁ h₂ e
    · exact absurd e (nestC_ne_nestA h₁ (esOk_props h₂) _ _)
  · rcases nested_cases hb₂ with ⟨c₂, rfl, rfl⟩ | ⟨es₂, rfl, rfl⟩
    · exact absurd e.symm (nestC_ne_nestA h₂ (esOk_props h₁) _ _)
    · exact nestA_decode (esOk_props h₁) (esOk_props h₂) e

theorem CType.eq_of_fields {a b : CType} (h1 : a.comps = b.comps) (h2 : a.major = b.major) (h3 : a.minor = b.minor)
    (h4 : a.hasParentService = b.hasParentService) : a = b := by
  cases a; cases b; simp only [CType.mk.injEq]; exact ⟨h1, h2, h3, h4⟩

theorem nsId_ne_tagId {n : List Str} (hn : Source.ok (.ns n) = true) {ct : CType} (hm : ct.minor < 10) : nsId n ≠ tagId ct := by
  intro e
  have g := shape_top hm
  rw [← e] at g
  rcases shape_ns hn with h | h
  · exact h g.mem
  · exact absurd (h.unique g) (by decide)

theorem top_inj {s₁ s₂ : Source} (h₁ : s₁.ok = true) (h₂ : s₂.ok = true) {x : Str}
    (hx₁ : s₁.plain = some x) (hx₂ : s₂.plain = some x) : s₁ = s₂ := by
  rcases top_cases h₁ hx₁ with ⟨n, rfl, rfl⟩ | ⟨ct, rfl, rfl⟩
  · rcases top_cases h₂ hx₂ with ⟨n', rfl, e⟩ | ⟨ct', rfl, e⟩
    · rw [nsId_inj (nsOk_valid h₁) (nsOk_valid h₂) e]
    · exact absurd e (nsId_ne_tagId h₁ (topOk_props h₂).2.1)
  · obtain ⟨hc₁, hm₁, hp₁⟩ := topOk_props h₁
    rcases top_cases h₂ hx₂ with ⟨n', rfl, e⟩ | ⟨ct', rfl, e⟩
    · exact absurd e.symm (nsId_ne_tagId h₂ hm₁)
    · obtain ⟨hc₂, _, hp₂⟩ := topOk_props h₂
      obtain ⟨e1, e2, e3⟩ := (tagId_eq_iff ct ct').mp e
      rw [CType.eq_of_fields (nsId_inj hc₁ hc₂ e1) e2 e3 (hp₁.trans hp₂.symm)]

theorem dropLast_getLastD_inj {a b : List Str} (ha : a ≠ []) (hb : b ≠ []) (h1 : a.dropLast = b.dropLast)
    (h2 : a.getLastD [] = b.getLastD []) : a = b := by
  rw [← List.dropLast_concat_getLast ha, ← List.dropLast_concat_getLast hb, h1]
  congr 2
  rw [List.getLastD_eq_getLast?, List.getLastD_eq_getLast?, List.getLast?_eq_some_getLast ha, List.getLast?_eq_some_getLast hb] at h2
  simpa using h2

theorem typePagePath_inj {a b : CType} (ha : a.comps ≠ []) (hb : b.comps ≠ []) (h : typePagePath a = typePagePath b) :
    a.comps = b.comps ∧ a.major = b.major ∧ a.minor = b.minor := by
  obtain ⟨hd, hf⟩ := List.append_singleton_inj.mp h
  obtain ⟨e1, e2, e3⟩ := versionSuffix_inj (List.append_cancel_right hf)
  exact ⟨dropLast_getLastD_inj ha hb hd e1, e2, e3⟩

theorem typePagePath_ne_nsPagePath (t : CType) (ns : List Str) : typePagePath t ≠ nsPagePath ns := by
  intro h
  have h2 := (List.append_singleton_inj.mp h).2
  -- "…_<minor>.html" = "index.html": cancel ".html", the left side contains '_'
  have ⟨e, hus⟩ : indexPage = "index".toList ++ ".html".toList ∧ '_' ∉ "index".toList := by decide +kernel
  rw [e] at h2
  exact hus (by rw [← List.append_cancel_right h2]; simp [versionSuffix])

theorem readFile_writeFile_same {α : Type} (fs : OutDir α) (p : List Str) (c : α) : readFile (writeFile fs p c) p = some c := by
  simp [readFile, writeFile]

theorem readFile_writeFile_other {α : Type} (fs : OutDir α) {p q : List Str} (c : α) (h : p ≠ q) :
    readFile (writeFile fs q c) p = readFile fs p := by
  have hq : (q == p) = false := by simpa using fun e => h e.symm
  simp only [readFile, writeFile, List.find?_cons, hq, List.find?_filter]
  -- looking for `p` among the files other than `q` is looking for `p`
  congr 2
  funext f
  by_cases hf : f.1 = p <;> simp [hf, h]

theorem readFile_writeAll_other {α : Type} : ∀ (files : List (List Str × α)) (fs : OutDir α) (p : List Str),
    (∀ f ∈ files, f.1 ≠ p) → readFile (writeAll fs files) p = readFile fs p
  | [], _, _, _ => rfl
  | f :: fl, fs, p, h => by
    show readFile (writeAll (writeFile fs f.1 f.2) fl) p = _
    rw [readFile_writeAll_other fl _ p (fun g hg => h g (List.mem_cons_of_mem _ hg)),
      readFile_writeFile_other fs f.2 (fun e => h f (by simp) e.symm)]

theorem readFile_writeAll {α : Type} : ∀ (files : List (List Str × α)) (fs : OutDir α),
    (files.map (·.1)).Nodup → ∀ f ∈ files, readFile (writeAll fs files) f.1 = some f.2
  | [], _, _, f, hf => by simp at hf
  | g :: fl, fs, hnd, f, hf => by
    simp only [List.map_cons, List.nodup_cons] at hnd
    show readFile (writeAll (writeFile fs g.1 g.2) fl) f.1 = _
    rcases List.mem_cons.mp hf with rfl | hf
    · rw [readFile_writeAll_other fl _ _ (fun h hh e => hnd.1 (by rw [← e]; exact List.mem_map_of_mem hh)), readFile_writeFile_same]
    · exact readFile_writeAll fl _ hnd.2 f hf

end NunavutVerif.Html
