import NunavutVerif.Lemmas.GenPyTy
import NunavutVerif.Lemmas.BitsPyDe
import NunavutVerif.Lemmas.DsdlBitsBridge
import NunavutVerif.Lemmas.DsdlDecode
/-!
The deserializer's buffer read as the specification's bit list: the bits in front of the cursor (`bitsAt`), the
zero-extended field of the C14 contracts as `readNat`, Python's sign conversion as `signExtend`.  In these terms each
emitted fetch of a primitive field or of a bulk array returns what `deBits` prescribes, and whatever `deBits` returns
passes the element store into a NumPy array and the setter checks.
-/
namespace NunavutVerif.GenPy
open NunavutVerif.Dsdl
open NunavutVerif.Bits (Buf Err bitAt WF)
open NunavutVerif.Bits.Py

/-- only the buffer's bits: reads beyond them are zero in both worlds (`bitAt`, `bitOf`) -/
def bitsAt (d : De) : List Bool := (unpackBytes d.buf).drop d.off

theorem bitOf_bitsAt (d : De) (i : Nat) : bitOf (bitsAt d) i = bitAt d.buf (d.off + i) := by
  unfold bitsAt; rw [bitOf_drop, bitOf_unpackBytes]

theorem deField_eq (d : De) (n : Nat) : deField d n = readNat n (bitsAt d) := by
  apply Nat.eq_of_testBit_eq
  intro i
  unfold deField
  rw [Bits.testBit_fieldOf, testBit_readNat, bitOf_bitsAt]

theorem signOf_eq_signExtend (u n : Nat) : signOf u n = signExtend n u := by
  simp only [signOf, signExtend, ge_iff_le, ← Nat.not_lt, ite_not]

theorem deInt_spec (al signed : Bool) (n : Nat) (d : De) (hw : WF d.buf) (hal : al = true → d.off % 8 = 0)
    (hn1 : 1 ≤ n) (hs : signed = true → 2 ≤ n) :
    deInt al signed n d = .ok
      (if signed then signExtend n (readNat n (bitsAt d)) else (readNat n (bitsAt d) : Int), ⟨d.buf, d.off + n⟩) := by
  have hsg : (if (deField d n).testBit (n - 1) then (deField d n : Int) - 2 ^ n else (deField d n : Int))
      = signExtend n (readNat n (bitsAt d)) := by
    rw [← deField_eq d]
    exact signExtend_of_testBit (Bits.fieldOf_lt _ _)
  rcases intPath_cases al n with ⟨hp, hstd, ha⟩ | ⟨hp, ha⟩ | hp <;> simp only [deInt, hp] <;> cases signed
  · simp only [Bool.false_eq_true, if_false, fetchAlignedU_spec n d (isStd_cases hstd) (hal ha) hw, asInt, lift,
      deField_eq d]
  · simp only [if_true, fetchAlignedI_spec n d (isStd_cases hstd) (hal ha) hw, hsg, lift]
  · simp only [Bool.false_eq_true, if_false, fetchAlignedUnsigned_spec d n hw hn1 (hal ha), asInt, lift,
      deField_eq d]
  · simp only [if_true, fetchAlignedSigned_spec d n hw (hs rfl) (hal ha), hsg, lift]
  · simp only [Bool.false_eq_true, if_false, fetchUnalignedUnsigned_spec d n hw hn1, asInt, lift, deField_eq d]
  · simp only [if_true, fetchUnalignedSigned_spec d n hw (hs rfl), hsg, lift]

theorem deInt_unsigned_spec (al : Bool) (n : Nat) (d : De) (hw : WF d.buf) (hal : al = true → d.off % 8 = 0)
    (hn1 : 1 ≤ n) :
    deInt al false n d = .ok ((readNat n ((unpackBytes d.buf).drop d.off) : Int), ⟨d.buf, d.off + n⟩) := by
  have h := deInt_spec al false n d hw hal hn1 (by intro h; cases h)
  simpa only [Bool.false_eq_true, if_false, bitsAt] using h

theorem deFloat_spec (env : Env) (hf : FloatSound env) (al : Bool) (n : Nat) (d : De) (hw : WF d.buf)
    (hal : al = true → d.off % 8 = 0) (hn : n = 16 ∨ n = 32 ∨ n = 64) :
    deFloat env al n d = .ok (.float (widen n (readNat n (bitsAt d))), ⟨d.buf, d.off + n⟩) := by
  have h8 : 8 * (n / 8) = n := by rcases hn with rfl | rfl | rfl <;> rfl
  have key : ∀ bs : Buf, WF bs → (∀ i, bitAt bs i = (decide (i < 8 * (n / 8)) && bitAt d.buf (d.off + i))) →
      Bits.leLoad bs = readNat n (bitsAt d) := by
    intro bs hwb hb
    apply Nat.eq_of_testBit_eq
    intro i
    rw [Bits.testBit_leLoad bs i hwb, hb, testBit_readNat, bitOf_bitsAt d, h8]
  have hoff : d.off + n / 8 * 8 = d.off + n := by omega
  simp only [deFloat]
  cases al with
  | true =>
    obtain ⟨bs, h1, _, hwb, hb⟩ := fetchAlignedBytes_spec d (n / 8) (hal rfl)
    simp only [if_true, h1, lift, bind, Except.bind, key bs (hwb hw) hb, hoff,
      hf.unpack n _ hn (readNat_lt n _)]
  | false =>
    obtain ⟨bs, h1, _, hwb, hb⟩ := fetchUnalignedBytes_spec d (n / 8) hw
    simp only [Bool.false_eq_true, if_false, h1, lift, bind, Except.bind, key bs hwb hb, hoff,
      hf.unpack n _ hn (readNat_lt n _)]

theorem deBool_spec (d : De) :
    deBoolVal d = .ok (.bool (readNat 1 (bitsAt d) == 1), ⟨d.buf, d.off + 1⟩) := by
  simp only [deBoolVal, fetchUnalignedBit_spec, lift, readNat_one, bitOf_bitsAt d, Nat.add_zero]

theorem deAll_bool (c : Nat) (bs : List Bool) :
    deAllWith (deBits .bool) c bs = .ok ((List.range c).map (fun i => Val.bool (bitOf bs i)), c) := by
  rw [deAll_prim (t := .bool) (w := 1) (f := fun bs => .bool (readNat 1 bs == 1)) (fun _ => rfl)]
  simp only [readNat_one, bitOf_drop, Nat.mul_one, Nat.add_zero]

theorem deBitArray_spec (al : Bool) (count : Nat) (d : De) (hw : WF d.buf) (hal : al = true → d.off % 8 = 0) :
    ∃ vs, deAllWith (deBits .bool) count (bitsAt d) = .ok (vs, count) ∧
      deBitArray al count d = .ok (.arr vs, ⟨d.buf, d.off + count⟩) := by
  refine ⟨_, deAll_bool count (bitsAt d), ?_⟩
  have e : ((List.range count).map (fun i => bitAt d.buf (d.off + i))).map Val.bool
      = (List.range count).map (fun i => Val.bool (bitOf (bitsAt d) i)) := by
    rw [List.map_map]
    apply List.map_congr_left
    intro i _
    simp [bitOf_bitsAt d]
  simp only [deBitArray]
  cases al with
  | true => simp only [if_true, fetchAlignedArrayOfBits_spec d count (hal rfl), lift, bind, Except.bind, e]
  | false =>
    simp only [Bool.false_eq_true, if_false, fetchUnalignedArrayOfBits_spec d count hw, lift, bind, Except.bind, e]

theorem deBits_stdPrim {t : Ty} (h : isStdPrim t = true) :
    ∃ g : Nat → Val, ∀ bs, deBits t bs = .ok (g (readNat (primBits t) bs), primBits t) := by
  cases t with
  | uint n m => exact ⟨fun x => .int x, fun _ => rfl⟩
  | sint n m => exact ⟨fun x => .int (signExtend n x), fun _ => rfl⟩
  | float n m => exact ⟨fun x => .float (widen n x), fun _ => rfl⟩
  | _ => simp [isStdPrim] at h

theorem deAll_stdPrim {t : Ty} (h : isStdPrim t = true) (c : Nat) (bs : List Bool) :
    ∃ vs, deAllWith (deBits t) c bs = .ok (vs, c * primBits t) ∧
      ∀ bs', (∀ i, i < c * primBits t → bitOf bs i = bitOf bs' i) → deAllWith (deBits t) c bs' = .ok (vs, c * primBits t) := by
  obtain ⟨g, hg⟩ := deBits_stdPrim h
  refine ⟨_, deAll_prim hg c bs, fun bs' hb => ?_⟩
  rw [deAll_prim hg c bs']
  congr 2
  refine (List.map_congr_left fun i hi => congrArg g (readNat_congr_bitOf fun j hj => ?_)).symm
  rw [bitOf_drop, bitOf_drop]
  have := Nat.mul_le_mul_right (primBits t) (Nat.succ_le_of_lt (List.mem_range.1 hi))
  exact hb _ (by rw [Nat.succ_mul] at this; omega)

theorem deStdArray_spec (env : Env) (hnp : NpSound env) (al : Bool) (t : Ty) (count : Nat) (d : De) (hw : WF d.buf)
    (hal : al = true → d.off % 8 = 0) (hstd : isStdPrim t = true) (hwt : wf t = true) :
    ∃ vs, deAllWith (deBits t) count (bitsAt d) = .ok (vs, count * primBits t) ∧
      deStdArray env al t count d = .ok (.arr vs, ⟨d.buf, d.off + count * primBits t⟩) := by
  obtain ⟨_, h8, h8le⟩ := stdPrim_facts hstd hwt
  -- any `k = count * W / 8` bytes holding the zero-extended bits at the cursor decode like the stream itself
  have key : ∀ (k : Nat) (bs : Buf), k = count * (primBits t / 8) → WF bs → bs.length = k →
      (∀ i, bitAt bs i = (decide (i < 8 * k) && bitAt d.buf (d.off + i))) →
      deAllWith (deBits t) count (bitsAt d) = .ok (env.fromBuffer t bs count, count * primBits t) ∧
      (env.fromBuffer t bs count).length = count ∧ d.off + k * 8 = d.off + count * primBits t ∧ count ≤ k := by
    intro k bs hk hwb hlen hb
    have hfb := hnp.frombuffer t bs count hstd hwt hwb (hlen.trans hk)
    have hl8 : 8 * k = count * primBits t := by rw [hk, Nat.mul_left_comm, h8]
    obtain ⟨vs, h1, h2⟩ := deAll_stdPrim hstd count (unpackBytes bs)
    rw [h2 (bitsAt d) fun i hi => by
      rw [bitOf_bitsAt d, bitOf_unpackBytes bs, hb, decide_eq_true (by omega), Bool.true_and], ← h1]
    exact ⟨hfb, deAll_length _ _ _ _ hfb, by omega, hk ▸ Nat.le_mul_of_pos_right _ (by omega)⟩
  simp only [deStdArray]
  cases al with
  | true =>
    have ha := hal rfl
    obtain ⟨bs, h1, h2, hwb, hb⟩ := slice_at_cursor d (count * (primBits t / 8)) ha
    obtain ⟨k1, k2, k3, _⟩ := key _ bs rfl (hwb hw) h2 hb
    exact ⟨_, k1, by
      simp only [if_true, assertAligned, ha, lift, bind, Except.bind, h1, assertThat_beq k2, h2, k3]⟩
  | false =>
    obtain ⟨bs, h1, h2, hwb, hb⟩ := fetchUnalignedBytes_spec d (primBits t / 8 * count) hw
    obtain ⟨k1, _, k3, k4⟩ := key _ bs (Nat.mul_comm _ _) hwb h2 hb
    exact ⟨_, k1, by
      simp only [Bool.false_eq_true, if_false, lift, bind, Except.bind, h1, h2, assertThat_decide k4, k3]⟩

theorem npStore_of_deBits {t : Ty} (hw : wf t = true) {bs : List Bool} {v : Val} {n : Nat}
    (h : deBits t bs = .ok (v, n)) : npStore t v = .ok v := by
  cases t with
  | uint k m =>
    simp only [wf, decide_eq_true_eq] at hw
    simp only [deBits, Except.ok.injEq, Prod.mk.injEq] at h
    obtain ⟨rfl, _⟩ := h
    have h1 := readNat_lt k bs
    have h2 := pow_storage_le k hw.2
    have e := two_pow_cast k
    simp only [npStore]
    rw [if_pos ⟨by omega, by omega⟩]
  | sint k m =>
    simp only [wf, decide_eq_true_eq] at hw
    simp only [deBits, Except.ok.injEq, Prod.mk.injEq] at h
    obtain ⟨rfl, _⟩ := h
    have hr := signExtend_range hw.1 (readNat_lt k bs)
    have hs := storageBits_ge k hw.2
    have hp : (2 : Int) ^ (k - 1) ≤ (2 : Int) ^ (storageBits k - 1) := two_pow_le_int (by omega)
    simp only [npStore]
    rw [if_pos ⟨by omega, by omega⟩]
  | _ => rfl

theorem ctorOK_of_deBits (env : Env) (hf : FloatSound env) {t : Ty} (hw : wf t = true) {bs : List Bool} {v : Val}
    {n : Nat} (h : deBits t bs = .ok (v, n)) : ctorOK env t v = true := by
  cases t with
  | uint k m =>
    simp only [deBits, Except.ok.injEq, Prod.mk.injEq] at h
    obtain ⟨rfl, _⟩ := h
    have h1 := readNat_lt k bs
    have e := two_pow_cast k
    simp only [ctorOK, PyObj.intLo, PyObj.intHi]
    simp only [Bool.false_eq_true, if_false]
    apply decide_eq_true
    constructor <;> omega
  | sint k m =>
    simp only [wf, decide_eq_true_eq] at hw
    simp only [deBits, Except.ok.injEq, Prod.mk.injEq] at h
    obtain ⟨rfl, _⟩ := h
    have hr := signExtend_range hw.1 (readNat_lt k bs)
    simp only [ctorOK, PyObj.intLo, PyObj.intHi, if_true]
    apply decide_eq_true
    constructor <;> omega
  | float k m =>
    simp only [wf, decide_eq_true_eq] at hw
    simp only [deBits, Except.ok.injEq, Prod.mk.injEq] at h
    obtain ⟨rfl, _⟩ := h
    exact hf.ctor k _ hw (readNat_lt k bs)
  | arr t c =>
    obtain ⟨vs, hd, rfl⟩ := deBits_arr_ok h
    simp [ctorOK, deAll_length _ _ _ _ hd]
  | varr t cap =>
    obtain ⟨hk, vs, used, hd, rfl, _⟩ := deBits_varr_ok h
    simp only [ctorOK, deAll_length _ _ _ _ hd, decide_eq_true_eq]
    omega
  | _ => cases v <;> rfl

end NunavutVerif.GenPy
