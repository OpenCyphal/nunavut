import NunavutVerif.Lemmas.DsdlBitsBridge
import NunavutVerif.Lemmas.DsdlLen
import NunavutVerif.Lemmas.BitsC
import NunavutVerif.Lemmas.GenCOff
/-!
What one emitted serialization site may assume of the buffer (`Fits`) and what it does to it (`Wrote`), for every
path of every primitive field macro, from the C14 contracts of the primitives.
-/
namespace NunavutVerif.GenC
open NunavutVerif.Dsdl NunavutVerif.Bits
open NunavutVerif.Bits.Py (bitOf bitOf_append)

/-- Nothing is said of what lies above the new bits: the generated code may overrun it up to the next byte boundary, by
design. -/
structure Wrote (buf buf' : Buf) (off : Nat) (bits : List Bool) : Prop where
  len : buf'.length = buf.length
  wf : WF buf → WF buf'
  pre : ∀ i, i < off → bitAt buf' i = bitAt buf i
  new : ∀ i, i < bits.length → bitAt buf' (off + i) = bitOf bits i

def SerStep (r : Except Err W) (buf : Buf) (off : Nat) (bits : List Bool) : Prop :=
  ∃ buf', r = .ok (buf', off + bits.length) ∧ Wrote buf buf' off bits

theorem Wrote.refl (buf : Buf) (off : Nat) : Wrote buf buf off [] :=
  ⟨rfl, id, fun _ _ => rfl, fun _ h => by simp at h⟩

theorem Wrote.append {b0 b2 : Buf} {off : Nat} {a c : List Bool} (len : b2.length = b0.length) (wf : WF b0 → WF b2)
    (pre : ∀ i, i < off → bitAt b2 i = bitAt b0 i) (ha : ∀ i, i < a.length → bitAt b2 (off + i) = bitOf a i)
    (hc : ∀ i, i < c.length → bitAt b2 (off + a.length + i) = bitOf c i) : Wrote b0 b2 off (a ++ c) := by
  refine ⟨len, wf, pre, fun i hi => ?_⟩
  rw [bitOf_append]
  by_cases h : i < a.length
  · rw [if_pos h, ha i h]
  · rw [if_neg h, ← hc (i - a.length) (by rw [List.length_append] at hi; omega), Nat.add_assoc,
      Nat.add_sub_cancel' (Nat.le_of_not_lt h)]

theorem Wrote.trans {b0 b1 b2 : Buf} {off : Nat} {a c : List Bool} (h1 : Wrote b0 b1 off a)
    (h2 : Wrote b1 b2 (off + a.length) c) : Wrote b0 b2 off (a ++ c) :=
  .append (h2.len.trans h1.len) (fun h => h2.wf (h1.wf h))
    (fun i hi => by rw [h2.pre i (Nat.lt_of_lt_of_le hi (Nat.le_add_right _ _)), h1.pre i hi])
    (fun i hi => by rw [h2.pre _ (Nat.add_lt_add_left hi off), h1.new i hi]) h2.new

theorem SerStep.trans {r : Except Err W} {b0 b1 : Buf} {off : Nat} {a c : List Bool}
    (h1 : Wrote b0 b1 off a) (h2 : SerStep r b1 (off + a.length) c) : SerStep r b0 off (a ++ c) := by
  obtain ⟨b2, hr, hw⟩ := h2
  refine ⟨b2, ?_, h1.trans hw⟩
  rw [hr, List.length_append, Nat.add_assoc]

/-- every path of a field macro is one store `x`, then `offset_bits += n` -/
theorem SerStep.of_wrote {x : Except Err Buf} {buf : Buf} {off n : Nat} {bits : List Bool} (hn : bits.length = n) :
    (∃ r, x = .ok r ∧ Wrote buf r off bits) →
    SerStep (match x with | .error e => .error e | .ok b => .ok (b, off + n)) buf off bits := by
  rintro ⟨r, rfl, hwr⟩
  exact ⟨r, by rw [hn], hwr⟩

/-- `n` may exceed `bits.length`: the C primitives overrun up to the next byte boundary -/
theorem Wrote.of_overwrites {buf r : Buf} {off n : Nat} {bits : List Bool} {f : Nat → Bool} (hl : r.length = buf.length)
    (hwf : WF buf → WF r) (h : Overwrites r buf off n f) (hn : bits.length ≤ n)
    (hf : ∀ i, i < bits.length → f i = bitOf bits i) : Wrote buf r off bits := by
  refine ⟨hl, hwf, ?_, ?_⟩
  · intro i hi
    rw [h i, if_neg (by omega)]
  · intro i hi
    rw [h (off + i), if_pos (by omega), Nat.add_sub_cancel_left, hf i hi]

/-- A nested call works on a window of the buffer (`bitspan::subspan`; in C, `&buffer[k]`: the window that reaches the
end): what it wrote there, it wrote to the buffer. -/
theorem wrote_window {data sub' : Buf} {k nb : Nat} {bits : List Bool} (hk : k + nb ≤ data.length)
    (hb : bits.length ≤ 8 * nb) (h : Wrote ((data.drop k).take nb) sub' 0 bits) :
    Wrote data (data.take k ++ sub' ++ data.drop (k + nb)) (8 * k) bits :=
  have ⟨hl, hwf, hbit⟩ := window_spec hk h.len h.wf
  .of_overwrites hl hwf hbit hb fun i hi => by simpa using h.new i hi

/-- What a serialization site may assume of its buffer: the bit positions below `e` lie within the capacity, and the
capacity within the buffer.  No step changes it (`after`); a site asks for the end it needs (`mono`). -/
structure Fits (buf : Buf) (cap e : Nat) : Prop where
  wf : WF buf
  room : e ≤ 8 * cap
  cap : cap ≤ buf.length

theorem Fits.mono {buf : Buf} {cap e e' : Nat} (h : Fits buf cap e) (he : e' ≤ e) : Fits buf cap e' :=
  ⟨h.wf, Nat.le_trans he h.room, h.cap⟩

theorem Fits.after {buf b1 : Buf} {cap e off : Nat} {bits : List Bool} (h : Fits buf cap e)
    (hw : Wrote buf b1 off bits) : Fits b1 cap e :=
  ⟨hw.wf h.wf, h.room, hw.len ▸ h.cap⟩

theorem Fits.length {buf : Buf} {cap e : Nat} (h : Fits buf cap e) : e ≤ 8 * buf.length :=
  Nat.le_trans h.room (Nat.mul_le_mul_left 8 h.cap)

theorem Fits.byte {buf : Buf} {cap off n : Nat} (h : Fits buf cap (off + n)) (h1 : 1 ≤ n) : off / 8 < buf.length :=
  Nat.div_lt_of_lt_mul (Nat.lt_of_lt_of_le (Nat.lt_add_of_pos_right h1) h.length)

theorem Fits.bytes {buf : Buf} {cap off n nb : Nat} (h : Fits buf cap (off + n)) (hnb : 8 * nb ≤ n + 7) :
    off / 8 + nb ≤ buf.length := by
  have := h.length
  omega

theorem chk_ok (r : Buf) : chk (.ok (0, r)) = .ok r := by simp [chk]

theorem setUxx_wrote (little : Bool) (buf : Buf) (cap off value n : Nat) (bits : List Bool)
    (hf : Fits buf cap (off + n)) (hn : n ≤ 64) (hb : bits.length = n)
    (hv : ∀ i, i < n → value.testBit i = bitOf bits i) :
    ∃ r, chk (setUxx little buf cap off value n) = .ok r ∧ Wrote buf r off bits := by
  obtain ⟨r, hr, hl, hwf, hbits⟩ := setUxx_spec little buf cap off value n hf.cap
    (Nat.not_lt.2 (Nat.mul_comm 8 cap ▸ hf.room))
  rw [Nat.min_eq_left hn] at hbits
  exact ⟨r, by rw [hr, chk_ok], .of_overwrites hl hwf hbits (Nat.le_of_eq hb) (fun i hi => hv i (hb ▸ hi))⟩

theorem store_wrote (buf : Buf) (off x : Nat) (bits : List Bool) (hal : off % 8 = 0) (hlt : off / 8 < buf.length)
    (hx : x < 256) (hb : bits.length ≤ 8) (hv : ∀ i, i < bits.length → x.testBit i = bitOf bits i) :
    ∃ r, liftP (set? buf (off / 8) x) = .ok r ∧ Wrote buf r off bits := by
  -- the whole byte is replaced
  have ho := Overwrites.set_byte (m := 0) (n := 8) (v := x) (bit := x.testBit) (get?_ok hlt) (Nat.le_refl 8)
    (fun j hj => by rw [if_pos ⟨Nat.zero_le j, by omega⟩]; rfl)
  rw [Nat.add_zero, mul_div_aligned hal] at ho
  exact ⟨_, by rw [set?_ok hlt]; rfl, .of_overwrites List.length_set (fun h => WF_set h hx) ho hb hv⟩

theorem memmove_wrote (buf src : Buf) (off nb : Nat) (bits : List Bool) (hal : off % 8 = 0)
    (hsrc : nb ≤ src.length) (hdst : off / 8 + nb ≤ buf.length) (hws : WF src) (hb : bits.length ≤ 8 * nb)
    (hv : ∀ i, i < bits.length → bitAt src i = bitOf bits i) :
    ∃ r, liftP (memmove buf (off / 8) src 0 nb) = .ok r ∧ Wrote buf r off bits := by
  obtain ⟨r, hr, hl, hwf, ho⟩ := memmove_bits nb buf (off / 8) src 0 (by omega) hdst
  rw [mul_div_aligned hal] at ho
  exact ⟨r, by rw [hr]; rfl,
    .of_overwrites hl (hwf hws) ho hb (fun i hi => by rw [Nat.mul_zero, Nat.zero_add]; exact hv i hi)⟩

theorem memset0_wrote (buf : Buf) (off nb n : Nat) (hal : off % 8 = 0) (hdst : off / 8 + nb ≤ buf.length)
    (hb : n ≤ 8 * nb) :
    ∃ r, liftP (memset0 buf (off / 8) nb) = .ok r ∧ Wrote buf r off (zeros n) := by
  obtain ⟨r, hr, hl, hwf, ho⟩ := memset0_bits nb buf (off / 8) hdst
  rw [mul_div_aligned hal] at ho
  exact ⟨r, by rw [hr]; rfl,
    .of_overwrites hl hwf ho (by rw [zeros_length]; exact hb) (fun i _ => (bitOf_zeros n i).symm)⟩

/-- the value the integer macro hands to the store (after the emitted saturation code, if any) -/
def satV (signed : Bool) (n : Nat) (sat : Bool) (v : Int) : Int :=
  if sat ∧ ¬ isStd n then satInt signed n v else v

theorem wide_wrote (o : Opts) (hs : o.Sound) (n k nb a b cap : Nat) (d : AOff) (buf : Buf) (off : Nat)
    (bits : List Bool) (hbl : bits.length = n) (ha : ∀ i, i < n → a.testBit i = bitOf bits i)
    (hb : ∀ i, i < n → b.testBit i = bitOf bits i) (hnb : n ≤ 8 * nb) (hnb' : 8 * nb ≤ n + 7) (hk : nb ≤ k)
    (hn64 : n ≤ 64) (hf : Fits buf cap (off + n)) (hd : AOff.Adm d off) :
    SerStep (if o.orc d = true ∧ o.little = true then
        match liftP (memmove buf (off / 8) (objRepLE a k) 0 nb) with
        | .error e => .error e
        | .ok r => .ok (r, off + n)
      else
        match chk (setUxx o.little buf cap off b n) with
        | .error e => .error e
        | .ok r => .ok (r, off + n)) buf off bits := by
  by_cases h2 : o.orc d = true ∧ o.little = true
  · have hal := hs.aligned hd h2.1
    rw [if_pos h2]
    exact .of_wrote hbl (memmove_wrote buf (objRepLE a k) off nb bits hal (by rw [length_objRepLE]; exact hk)
      (hf.bytes hnb') (WF_objRepLE _ _) (hbl ▸ hnb)
      (fun i hi => by
        rw [bitAt_objRepLE, ← ha i (hbl ▸ hi), decide_eq_true (show i < 8 * k by omega), Bool.true_and]))
  · rw [if_neg h2]
    exact .of_wrote hbl (setUxx_wrote o.little buf cap off b n bits hf hn64 hbl hb)

theorem serInt_wrote (o : Opts) (hs : o.Sound) (signed : Bool) (n Wd : Nat) (sat : Bool) (v : Int)
    (cap : Nat) (d : AOff) (buf : Buf) (off : Nat)
    (hn1 : 1 ≤ n) (hnW : n ≤ Wd) (hW : Wd % 8 = 0) (hW64 : Wd ≤ 64)
    (hf : Fits buf cap (off + n)) (hd : AOff.Adm d off) :
    SerStep (serInt o signed n Wd sat v cap d buf off) buf off (natToBits n (lowBits n (satV signed n sat v))) := by
  unfold serInt
  rw [show (if sat = true ∧ ¬ isStd n = true then satInt signed n v else v) = satV signed n sat v from rfl]
  generalize satV signed n sat v = z
  have hbits : ∀ k, n ≤ k → ∀ i, i < n → (lowBits k z).testBit i = bitOf (natToBits n (lowBits n z)) i := by
    intro k hk i hi
    rw [bitOf_natToBits_of_lt _ hi, testBit_lowBits hk hi]
  by_cases h1 : o.orc d = true ∧ n ≤ 8
  · -- aligned single byte store
    dsimp only
    rw [if_pos h1]
    exact .of_wrote (natToBits_length n _) (store_wrote buf off (lowBits 8 z) _ (hs.aligned hd h1.1)
      (hf.byte hn1) (lowBits_lt 8 z) (by rw [natToBits_length]; exact h1.2)
      (fun i hi => hbits 8 h1.2 i (natToBits_length n _ ▸ hi)))
  · dsimp only
    rw [if_neg h1, show (if signed = true then setIxx o.little buf cap off z n else setUxx o.little buf cap off (toU64 z) n)
        = setUxx o.little buf cap off (lowBits 64 z) n by cases signed <;> rfl]
    exact wide_wrote o hs n (Wd / 8) ((n + 7) / 8) (lowBits Wd z) (lowBits 64 z) cap d buf off _
      (natToBits_length _ _) (hbits Wd hnW) (hbits 64 (by omega)) (by omega) (by omega) (by omega) (by omega) hf hd

theorem natToBits_count (n x : Nat) : natToBits n (lowBits n (satV false n false (x : Int))) = natToBits n x := by
  rw [show satV false n false (x : Int) = (x : Int) from rfl, lowBits_natCast, natToBits_mod]

theorem serInt_nat_wrote (o : Opts) (hs : o.Sound) (n Wd x : Nat) (cap : Nat) (d : AOff) (buf : Buf) (off : Nat)
    (hn1 : 1 ≤ n) (hnW : n ≤ Wd) (hW : Wd % 8 = 0) (hW64 : Wd ≤ 64)
    (hf : Fits buf cap (off + n)) (hd : AOff.Adm d off) :
    SerStep (serInt o false n Wd false (x : Int) cap d buf off) buf off (natToBits n x) :=
  natToBits_count n x ▸ serInt_wrote o hs false n Wd false (x : Int) cap d buf off hn1 hnW hW hW64 hf hd

theorem serFloat_wrote (o : Opts) (hs : o.Sound) (n : Nat) (m : Cast) (x : Nat)
    (cap : Nat) (d : AOff) (buf : Buf) (off : Nat) (hn : n = 16 ∨ n = 32 ∨ n = 64)
    (hf : Fits buf cap (off + n)) (hd : AOff.Adm d off) :
    SerStep (serFloat o n m x cap d buf off) buf off (natToBits n (floatBits n m x)) := by
  have hbits : ∀ i, i < n → (floatBits n m x).testBit i = bitOf (natToBits n (floatBits n m x)) i := by
    intro i hi
    rw [bitOf_natToBits_of_lt _ hi]
  exact wide_wrote o hs n (n / 8) (n / 8) _ _ cap d buf off _ (natToBits_length _ _) hbits hbits (by omega)
    (by omega) (Nat.le_refl _) (by omega) hf hd

theorem serVoid_wrote (o : Opts) (hs : o.Sound) (n : Nat) (cap : Nat) (d : AOff) (buf : Buf) (off : Nat)
    (hn1 : 1 ≤ n) (hn64 : n ≤ 64) (hf : Fits buf cap (off + n)) (hd : AOff.Adm d off) :
    SerStep (serVoid o n cap d buf off) buf off (zeros n) := by
  have hz : ∀ i, i < (zeros n).length → (0 : Nat).testBit i = bitOf (zeros n) i :=
    fun i _ => by rw [bitOf_zeros, Nat.zero_testBit]
  unfold serVoid
  by_cases h1 : o.orc d = true
  · have hal := hs.aligned hd h1
    rw [if_pos h1]
    by_cases h8 : n ≤ 8
    · rw [if_pos h8]
      exact .of_wrote (zeros_length n) (store_wrote buf off 0 _ hal (hf.byte hn1) (by decide)
        ((zeros_length n).symm ▸ h8) hz)
    · rw [if_neg h8]
      exact .of_wrote (zeros_length n) (memset0_wrote buf off ((n + 7) / 8) n hal
        (hf.bytes (Nat.mul_div_le (n + 7) 8)) (by omega))
  · rw [if_neg h1]
    exact .of_wrote (zeros_length n) (setUxx_wrote o.little buf cap off 0 n _ hf hn64 (zeros_length n)
      (fun i hi => hz i ((zeros_length n).symm ▸ hi)))

theorem serBool_wrote (o : Opts) (hs : o.Sound) (v : Bool) (cap : Nat) (d : AOff) (buf : Buf) (off : Nat)
    (hf : Fits buf cap (off + 1)) (hd : AOff.Adm d off) :
    SerStep (serBool o v d buf off) buf off [v] := by
  have hroom := hf.byte (Nat.le_refl 1)
  unfold serBool
  by_cases h1 : o.orc d = true
  · rw [if_pos h1]
    exact .of_wrote rfl (store_wrote buf off (if v then 1 else 0) [v] (hs.aligned hd h1) hroom (by cases v <;> decide)
      (by simp) (by intro i hi; simp at hi; subst hi; cases v <;> simp [bitOf]))
  · rw [if_neg h1, get?_ok hroom]
    simp only [liftP]
    have hx : buf[off / 8] < 256 := WF_getElem hf.wf hroom
    have hold := get?_ok hroom
    generalize buf[off / 8] = x at hx hold
    have hk : off % 8 < 8 := Nat.mod_lt _ (by decide)
    generalize hke : off % 8 = k at hk
    -- the read-modify-write changes bit `k` of the byte and nothing else
    have hy : ∀ j, j < 8 →
        (if v = true then (x ||| 1 <<< k) % 256 else x &&& (1 <<< k ^^^ 255)).testBit j =
          if k ≤ j ∧ j < k + 1 then v else x.testBit j := by
      intro j hj
      have hc : (k ≤ j ∧ j < k + 1) ↔ k = j := ⟨fun h => by omega, fun h => by omega⟩
      simp only [hc]
      cases v
      · simp only [Bool.false_eq_true, if_false, Nat.testBit_and, Nat.testBit_xor, show (255 : Nat) = 2 ^ 8 - 1 by rfl,
          Nat.testBit_two_pow_sub_one, Nat.one_shiftLeft, Nat.testBit_two_pow]
        by_cases e : k = j <;> simp [e, hj]
      · simp only [if_true, show (256 : Nat) = 2 ^ 8 by rfl, Nat.testBit_mod_two_pow, Nat.testBit_or,
          Nat.one_shiftLeft, Nat.testBit_two_pow]
        by_cases e : k = j <;> simp [e, hj]
    have hylt : (if v = true then (x ||| 1 <<< k) % 256 else x &&& (1 <<< k ^^^ 255)) < 256 := by
      cases v
      · exact Nat.lt_of_le_of_lt Nat.and_le_left hx
      · exact Nat.mod_lt _ (by decide)
    generalize (if v = true then (x ||| 1 <<< k) % 256 else x &&& (1 <<< k ^^^ 255)) = y at hy hylt
    have ho := Overwrites.set_byte (n := 1) (bit := fun _ => v) hold (by omega) hy
    rw [← hke, Nat.div_add_mod] at ho
    exact .of_wrote rfl ⟨_, by rw [set?_ok hroom], .of_overwrites List.length_set (fun h => WF_set h hylt) ho
      (Nat.le_refl 1) (fun i hi => by rw [Nat.lt_one_iff.mp hi]; rfl)⟩

theorem padSer_wrote (o : Opts) (n : Nat) (cap : Nat) (buf : Buf) (off : Nat) (hn : n = 1 ∨ n = 8)
    (hf : Fits buf cap (padTo n off)) :
    SerStep (padSer o n cap buf off) buf off (zeros (padLen n off)) := by
  unfold padSer SerStep
  rw [zeros_length]
  rcases hn with rfl | rfl
  · simp [zeros, Wrote.refl]
  · by_cases h : off % 8 = 0
    · rw [if_neg (fun hc => hc.2 h), padLen_of_mod (Or.inr rfl) h]
      exact ⟨_, rfl, Wrote.refl _ _⟩
    · have hr := Nat.mod_lt off (show 0 < 8 by decide)
      have e8 : padLen 8 off = 8 - off % 8 := by
        rw [padLen_eight, Nat.mod_eq_of_lt (Nat.sub_lt (by decide) (Nat.pos_of_ne_zero h))]
      have hp0 : padLen 8 off > 0 := by rw [e8]; omega
      have hp : padLen 8 off ≤ 64 := by rw [e8]; omega
      have e1 : (8 - off % 8) % 256 = padLen 8 off := by rw [e8]; exact Nat.mod_eq_of_lt (by omega)
      obtain ⟨r, hr, hwr⟩ := setUxx_wrote o.little buf cap off 0 (padLen 8 off) (zeros (padLen 8 off)) hf
        hp (zeros_length _) (fun i _ => by rw [bitOf_zeros, Nat.zero_testBit])
      rw [if_pos ⟨by decide, h⟩]
      simp only [e1]
      rw [assertC_ok o hp0, hr]
      dsimp only
      rw [assertC_ok o (show (off + padLen 8 off) % 8 = 0 from padTo_mod (Or.inr rfl) off)]
      exact ⟨_, rfl, hwr⟩

/-- the `first` flag of the field loop is an optimisation: at offset 0 the padding does nothing -/
theorem padSer_first (o : Opts) (n cap : Nat) (buf : Buf) {first : Bool} {off : Nat} (h : first = true → off = 0) :
    (if first = true then (.ok (buf, off) : Except Err W) else padSer o n cap buf off) = padSer o n cap buf off := by
  cases first with
  | false => rfl
  | true => rw [h rfl, if_pos rfl, padSer, if_neg (fun hc => hc.2 (Nat.zero_mod n))]

end NunavutVerif.GenC
