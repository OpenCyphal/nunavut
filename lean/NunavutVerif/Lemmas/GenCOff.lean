import NunavutVerif.Model.GenC
/-!
Soundness of the static offset descriptors (`AOff`): every offset the code can be at is
admitted by the descriptor the template computed for that site.
-/
namespace NunavutVerif.GenC
open NunavutVerif.Dsdl

namespace AOff

def Adm (d : AOff) (x : Nat) : Prop := x % 8 ∈ d

theorem mem_norm {p : Nat → Bool} {r : Nat} : r ∈ norm p ↔ r < 8 ∧ p r = true := by
  simp [norm, List.mem_filter, List.mem_range]

theorem adm_zero {x : Nat} (h : x % 8 = 0) : Adm zero x := by simp [Adm, zero, h]

theorem adm_single (n : Nat) : Adm (single n) n := by simp [Adm, single]

theorem mem_add {a b : AOff} {r : Nat} : r ∈ add a b ↔ ∃ x ∈ a, ∃ y ∈ b, (x + y) % 8 = r := by
  unfold add
  rw [mem_norm]
  simp only [List.any_eq_true, beq_iff_eq]
  exact ⟨fun h => h.2, fun h => ⟨by obtain ⟨x, _, y, _, rfl⟩ := h; exact Nat.mod_lt _ (by decide), h⟩⟩

theorem mem_union {a b : AOff} {r : Nat} : r ∈ union a b ↔ r < 8 ∧ (r ∈ a ∨ r ∈ b) := by
  unfold union
  rw [mem_norm]
  simp only [Bool.or_eq_true, List.contains_iff_mem]

theorem adm_add {a b : AOff} {x y : Nat} (hx : Adm a x) (hy : Adm b y) : Adm (add a b) (x + y) :=
  mem_add.2 ⟨x % 8, hx, y % 8, hy, (Nat.add_mod x y 8).symm⟩

theorem adm_union {a b : AOff} {x : Nat} : Adm (union a b) x ↔ Adm a x ∨ Adm b x :=
  mem_union.trans (and_iff_right (Nat.mod_lt x (by decide)))

theorem adm_congr {d : AOff} {x y : Nat} (h : x % 8 = y % 8) (hx : Adm d x) : Adm d y := by
  unfold Adm at *; rw [← h]; exact hx

theorem adm_add_bytes {d : AOff} {x n : Nat} (hn : n % 8 = 0) (hx : Adm d x) : Adm d (x + n) :=
  adm_congr (by rw [Nat.add_mod, hn, Nat.add_zero, Nat.mod_mod]) hx

theorem aligned_of_adm {d : AOff} {x : Nat} (ha : d.isAligned = true) (hx : Adm d x) : x % 8 = 0 := by
  unfold isAligned at ha
  rw [List.all_eq_true] at ha
  simpa using ha _ hx

theorem adm_pad {d : AOff} {x al : Nat} (hal : al = 1 ∨ al = 8) (hx : Adm d x) :
    Adm (d.pad al) (padTo al x) := by
  unfold pad
  rcases hal with h | h
  · subst h
    have : padTo 1 x = x := by simp [padTo, padLen, Nat.mod_one]
    simpa [this] using hx
  · subst h
    simp only [if_true]
    apply adm_zero
    simp only [padTo, padLen]; omega

def SumsEq (s : AOff) (k : Nat) (x : Nat) : Prop :=
  ∃ lens : List Nat, lens.length = k ∧ (∀ l ∈ lens, Adm s l) ∧ lens.sum = x

def Sums (s : AOff) (k : Nat) (x : Nat) : Prop := ∃ j, j ≤ k ∧ SumsEq s j x

theorem sumsEq_zero (s : AOff) : SumsEq s 0 0 := ⟨[], rfl, by simp, rfl⟩

theorem sumsEq_step {s : AOff} {k x l : Nat} (h : SumsEq s k x) (hl : Adm s l) : SumsEq s (k + 1) (x + l) := by
  obtain ⟨lens, h1, h2, h3⟩ := h
  refine ⟨l :: lens, by simp [h1], ?_, by simp [h3]; omega⟩
  intro y hy
  rcases List.mem_cons.mp hy with e | e
  · subst e; exact hl
  · exact h2 y e

theorem sums_of_sumsEq {s : AOff} {k x : Nat} (h : SumsEq s k x) : Sums s k x := ⟨k, Nat.le_refl k, h⟩

theorem sums_zero (s : AOff) (k : Nat) : Sums s k 0 := ⟨0, Nat.zero_le k, sumsEq_zero s⟩

theorem sums_step {s : AOff} {k x l : Nat} (h : Sums s k x) (hl : Adm s l) : Sums s (k + 1) (x + l) :=
  let ⟨j, hj, h⟩ := h
  ⟨j + 1, Nat.succ_le_succ hj, sumsEq_step h hl⟩

theorem sums_mono {s : AOff} {k k' x : Nat} (h : Sums s k x) (hk : k ≤ k') : Sums s k' x :=
  let ⟨j, hj, h⟩ := h
  ⟨j, Nat.le_trans hj hk, h⟩

theorem adm_kfold {s acc : AOff} {x : Nat} : ∀ lens : List Nat, Adm acc x → (∀ l ∈ lens, Adm s l) →
    Adm (kfold s lens.length acc) (x + lens.sum)
  | [], hx, _ => hx
  | l :: rest, hx, hs => by
    rw [List.length_cons, kfold, List.sum_cons, ← Nat.add_assoc]
    exact adm_kfold rest (adm_add hx (hs l List.mem_cons_self)) fun y hy => hs y (List.mem_cons_of_mem _ hy)

theorem adm_kfold_zero {s : AOff} {k x : Nat} (h : SumsEq s k x) : Adm (kfold s k zero) x := by
  obtain ⟨lens, rfl, h2, rfl⟩ := h
  exact Nat.zero_add lens.sum ▸ adm_kfold lens (adm_zero rfl) h2

theorem sums_inv {s : AOff} {k x : Nat} (h : Sums s k x) :
    x = 0 ∨ ∃ k' y l, k = k' + 1 ∧ Sums s k' y ∧ Adm s l ∧ x = y + l := by
  obtain ⟨j, hj, lens, h1, h2, h3⟩ := h
  cases lens with
  | nil => exact Or.inl h3.symm
  | cons l rest =>
    obtain ⟨k', rfl⟩ : ∃ k', k = k' + 1 := ⟨k - 1, by rw [← h1, List.length_cons] at hj; omega⟩
    refine Or.inr ⟨k', rest.sum, l, rfl, ⟨rest.length, ?_, rest, rfl, fun y hy => h2 y (List.mem_cons_of_mem _ hy), rfl⟩,
      h2 l List.mem_cons_self, ?_⟩
    · rw [← h1, List.length_cons] at hj; omega
    · rw [← h3, List.sum_cons, Nat.add_comm]

theorem adm_rangeRep (s : AOff) : ∀ (k : Nat) (acc : AOff) (j : Nat),
    (∀ x, Sums s j x → Adm acc x) → ∀ x, Sums s (j + k) x → Adm (rangeRep s k acc) x := by
  intro k
  induction k with
  | zero => intro acc j h x hx; simpa [rangeRep] using h x hx
  | succ k ih =>
    intro acc j h x hx
    simp only [rangeRep]
    apply ih (union zero (add acc s)) (j + 1)
    · intro y hy
      rcases sums_inv hy with rfl | ⟨k', z, l, hk, hz, hl, rfl⟩
      · exact adm_union.2 (Or.inl (adm_zero rfl))
      · cases hk
        exact adm_union.2 (Or.inr (adm_add (h z hz) hl))
    · have : j + 1 + k = j + (k + 1) := by omega
      rw [this]; exact hx

theorem adm_rangeRep_zero {s : AOff} {k x : Nat} (h : Sums s k x) : Adm (rangeRep s k zero) x := by
  apply adm_rangeRep s k zero 0
  · intro y hy
    rcases sums_inv hy with rfl | ⟨k', z, l, hk, _⟩
    · exact adm_zero rfl
    · cases hk
  · simpa using h

/-! ### descriptors with one residue (what the Python templates' coarser analysis keeps of a descriptor) -/

def Only (d : AOff) (r : Nat) : Prop := ∀ x ∈ d, x = r % 8

theorem Only.add {a b : AOff} {c r : Nat} (ha : Only a c) (hb : Only b r) : Only (add a b) (c + r) := by
  intro x hx
  obtain ⟨u, hu, v, hv, rfl⟩ := mem_add.1 hx
  rw [ha u hu, hb v hv, ← Nat.add_mod]

theorem Only.union {a b : AOff} {r : Nat} (ha : Only a r) (hb : Only b r) : Only (union a b) r :=
  fun x hx => (mem_union.1 hx).2.elim (ha x) (hb x)

theorem only_zero : Only zero 0 := by
  intro x hx; simpa [zero] using hx

theorem only_single (n : Nat) : Only (single n) n := by
  intro x hx; simpa [single] using hx

theorem Only.congr {d : AOff} {r r' : Nat} (h : Only d r) (e : r % 8 = r' % 8) : Only d r' :=
  fun x hx => (h x hx).trans e

theorem Only.kfold {s : AOff} {r : Nat} (hs : Only s r) : ∀ (k : Nat) {acc : AOff} {c : Nat}, Only acc c →
    Only (kfold s k acc) (c + k * r)
  | 0, _, _, ha => by simpa [AOff.kfold] using ha
  | k + 1, _, _, ha => by
    rw [AOff.kfold]
    exact (Only.kfold hs k (ha.add hs)).congr (by rw [Nat.succ_mul, Nat.add_assoc, Nat.add_comm r])

theorem Only.rangeRep {s : AOff} (hs : Only s 0) : ∀ (k : Nat) {acc : AOff}, Only acc 0 → Only (rangeRep s k acc) 0
  | 0, _, ha => by simpa [AOff.rangeRep] using ha
  | k + 1, _, ha => by
    rw [AOff.rangeRep]
    exact Only.rangeRep hs k (only_zero.union (ha.add hs))

theorem Only.adm {d : AOff} {r x : Nat} (h : Only d r) (hx : Adm d x) : x % 8 = r % 8 := h _ hx

end AOff

theorem Opts.Sound.aligned {o : Opts} (hs : o.Sound) {d : AOff} {x : Nat} (hx : AOff.Adm d x)
    (ho : o.orc d = true) : x % 8 = 0 :=
  AOff.aligned_of_adm (hs d ho) hx

theorem assertC_ok {α : Type} (o : Opts) {c : Prop} [Decidable c] (h : c) (k : Except Err α) :
    assertC o c k = k := by
  unfold assertC
  rw [if_neg]
  intro h2
  exact h2.2 h

theorem anyGuard_ok {α : Type} (o : Opts) (hs : o.Sound) (t : Ty) (room : Option Nat) (d : AOff) (off : Nat)
    (k : Except Err α) (hal : off % align t = 0) (hd : AOff.Adm d off)
    (hroom : optLe (off + maxBits t) room = true) : anyGuard o t room d off k = k := by
  unfold anyGuard
  rw [assertC_ok o (fun _ => hal), assertC_ok o (fun ho => hs.aligned hd ho), assertC_ok o hroom]

theorem anyGuard_ser_ok {α : Type} (o : Opts) (hs : o.Sound) (t : Ty) (cap : Nat) (d : AOff) (off : Nat)
    (k : Except Err α) (hal : off % align t = 0) (hd : AOff.Adm d off) (hroom : off + maxBits t ≤ 8 * cap) :
    anyGuard o t (some (cap * 8)) d off k = k :=
  anyGuard_ok o hs t _ d off k hal hd (by rw [optLe, decide_eq_true_eq, Nat.mul_comm]; exact hroom)

end NunavutVerif.GenC
