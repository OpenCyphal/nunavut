import NunavutVerif.Lemmas.GenPyDePrim
import NunavutVerif.Lemmas.GenCSpec
/-!
What the lawfulness of the driver's environment `stdEnv` rests on (`C01_py_alignment_oracle_sound`,
`C01_py_numpy_oracles_lawful` in `Properties/C01RefinePy.lean`): `lenRes` (the residue analysis standing for PyDSDL's
`BitLengthSet`) against the C descriptors, and the NumPy oracles on arrays of standard-width primitives.
-/
namespace NunavutVerif.GenPy
open NunavutVerif.Dsdl
open NunavutVerif.Bits (Buf Err bitAt WF)
open NunavutVerif.Bits.Py

/-!
The C templates' static descriptors (`GenC.resBits`: the set of residues modulo 8 of a type's lengths) and `lenRes`
(one residue, or none) are one analysis at two precisions: where `lenRes` names a residue, `resBits` holds no other.
The descriptors are sound (`GenC.resOK`, `GenC.resOKD`), so `lenRes` is (`C01_py_alignment_oracle_sound`). -/

open NunavutVerif.GenC (resBits)
open NunavutVerif.GenC.AOff (Only only_zero only_single)

theorem lenRes_only : ∀ (t : Ty) {r : Nat}, lenRes t = some r → Only (resBits t) r := by
  intro t
  induction t using Ty.ind with
  | uint n m | sint n m | float n m | void n =>
    intro r hr; cases hr; exact (only_single n).congr (Nat.mod_mod _ _).symm
  | bool => intro r hr; cases hr; exact only_single 1
  | arr t n ih =>
    intro r hr
    simp only [lenRes] at hr
    split at hr
    · subst n; cases hr; exact only_zero
    · split at hr
      · cases hr
        exact (Only.kfold (ih ‹_›) n only_zero).congr (by rw [Nat.zero_add, Nat.mod_mod])
      · cases hr
  | varr t cap ih =>
    intro r hr
    simp only [lenRes] at hr
    split at hr
    · subst cap; cases hr; exact only_zero
    · split at hr
      · split at hr
        · cases hr
          exact Only.rangeRep ((ih ‹_›).congr (by rw [‹_ % 8 = 0›])) cap only_zero
        · cases hr
      · cases hr
  | struct fs _ | union fs _ | delim e inner _ => intro r hr; cases hr; exact only_zero

theorem stdPrim_ser {t : Ty} (hstd : isStdPrim t = true) {v : Val} (hd : inDom true t v = true) :
    ∃ bs, serBits t v = .ok bs ∧ bs.length = primBits t := by
  cases t with
  | uint n m | sint n m | float n m => cases v <;> simp [inDom] at hd; exact ⟨_, rfl, by simp [primBits]⟩
  | _ => simp [isStdPrim] at hstd

theorem stdArray_bits {t : Ty} (hstd : isStdPrim t = true) : ∀ (vs : List Val),
    (∀ v ∈ vs, inDom true t v = true) →
    ∃ bss, vs.mapM (elemBits t) = some bss ∧ bss.flatten.length = vs.length * primBits t ∧
      serAllWith (serBits t) vs = .ok bss.flatten := by
  intro vs
  induction vs with
  | nil => intro _; exact ⟨[], rfl, by simp, rfl⟩
  | cons v vs ih =>
    intro h
    obtain ⟨bss, hb, hl, hss⟩ := ih fun w hw => h w (List.mem_cons_of_mem _ hw)
    obtain ⟨bs, hs, hbl⟩ := stdPrim_ser hstd (h v List.mem_cons_self)
    refine ⟨bs :: bss, ?_, ?_, ?_⟩
    · rw [List.mapM_cons]; simp [elemBits, hs, hb]
    · simp [hl, hbl, Nat.succ_mul]; omega
    · simp only [serAllWith, hs, hss, List.flatten_cons]

end NunavutVerif.GenPy
