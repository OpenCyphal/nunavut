import NunavutVerif.Model.CLiteral
/-!
Lexing lemmas for `Model/CLiteral.lean`: what the number grammar `lexNumRaw` returns on the strings the filters produce
(digit strings of arbitrary numbers followed by the fixed suffixes), and the two steps from there to a token of `lex`,
for any text: the preprocessing number is taken whole (`lexNum_of_raw`), and `lex` takes a number where a digit stands
(`lex_num`).
-/
namespace NunavutVerif.CLiteral

def AllDigits (ds : Str) : Prop := ∀ c ∈ ds, c.isDigit = true

theorem natStr_allDigits (n : Nat) : AllDigits (natStr n) :=
  fun _ hc => Nat.isDigit_of_mem_toDigits (by decide) (by decide) hc

theorem natStr_ne_nil (n : Nat) : natStr n ≠ [] := Nat.toDigits_ne_nil

theorem digitsVal_natStr (n : Nat) : digitsVal (natStr n) = n := Nat.ofDigitChars_ten_toDigits

theorem natStr_inj {a b : Nat} (h : natStr a = natStr b) : a = b := by
  have := congrArg digitsVal h
  rwa [digitsVal_natStr, digitsVal_natStr] at this

theorem natStr_lt_ten {n : Nat} (h : n < 10) : natStr n = [Nat.digitChar n] := Nat.toDigits_of_lt_base h

theorem natStr_ge_ten {n : Nat} (h : 10 ≤ n) : natStr n = natStr (n / 10) ++ [Nat.digitChar (n % 10)] :=
  Nat.toDigits_of_base_le (by decide) h

theorem natStr_eq_zero_iff (n : Nat) : natStr n = ['0'] ↔ n = 0 :=
  ⟨fun h => natStr_inj (b := 0) h, fun h => by subst h; decide⟩

theorem natStr_head_ne_zero (n : Nat) (hn : n ≠ 0) : (natStr n).head? ≠ some '0' := by
  induction n using Nat.strongRecOn with
  | _ n ih =>
    by_cases h : n < 10
    · -- one digit: it is `0` only for `n = 0`
      intro e
      rw [natStr_lt_ten h, List.head?_cons, Option.some.injEq] at e
      exact hn ((natStr_eq_zero_iff n).1 (by rw [natStr_lt_ten h, e]))
    · rw [natStr_ge_ten (by omega)]
      have hq : n / 10 ≠ 0 := by omega
      have := ih (n / 10) (by omega) hq
      cases hs : natStr (n / 10) with
      | nil => exact absurd hs (natStr_ne_nil _)
      | cons c cs => rw [hs] at this; simpa using this

def DigitHead : Str → Prop
  | [] => False
  | c :: _ => c.isDigit = true

theorem DigitHead.append {s : Str} (h : DigitHead s) (t : Str) : DigitHead (s ++ t) := by
  cases s with
  | nil => cases h
  | cons c r => exact h

theorem natStr_digitHead (n : Nat) : DigitHead (natStr n) := by
  cases h : natStr n with
  | nil => exact absurd h (natStr_ne_nil n)
  | cons c cs => exact natStr_allDigits n c (by rw [h]; exact List.mem_cons_self)

def NoDigitHead : Str → Prop
  | [] => True
  | c :: _ => c.isDigit = false

theorem spanDigits_append {ds rest : Str} (hd : AllDigits ds) (hr : NoDigitHead rest) :
    spanDigits (ds ++ rest) = (ds, rest) := by
  induction ds with
  | nil =>
    cases rest with
    | nil => rfl
    | cons c r => simp only [List.nil_append, spanDigits]; rw [if_neg (by simpa [NoDigitHead] using hr)]
  | cons d ds ih =>
    have hdd : d.isDigit = true := hd d List.mem_cons_self
    have ih' := ih (fun c hc => hd c (List.mem_cons_of_mem _ hc))
    simp only [List.cons_append, spanDigits, hdd, if_true, ih']

theorem safeEnd_head {c : Char} {r : Str} (h : safeEnd (c :: r) = true) :
    c.isDigit = false ∧ c ≠ '.' ∧ c ≠ 'e' ∧ c ≠ 'E' ∧ c ≠ 'f' ∧ c ≠ 'F' ∧ c ≠ 'l' ∧ c ≠ 'L' ∧ c ≠ 'u' ∧ c ≠ 'U' := by
  simp only [safeEnd, isIdChar, Char.isAlphanum, Bool.not_eq_true', Bool.or_eq_false_iff, decide_eq_false_iff_not] at h
  obtain ⟨⟨⟨ha, hd⟩, _⟩, hdot⟩ := h
  refine ⟨hd, hdot, ?_, ?_, ?_, ?_, ?_, ?_, ?_, ?_⟩ <;> (intro e; subst e; revert ha; decide)

theorem safeEnd_noDigit {rest : Str} (h : safeEnd rest = true) : NoDigitHead rest := by
  cases rest with
  | nil => trivial
  | cons c r => exact (safeEnd_head h).1

/-- the integer token of a digit string (octal literals other than `0` are outside the fragment) -/
def intTok (ip : Str) (u : Bool) (l : Nat) : Option Tok :=
  if ip = ['0'] then some (.int 0 false u l)
  else if ip.head? = some '0' then none else some (.int (digitsVal ip) true u l)

/-- the suffix `filter_literal` appends to an integer (`integerLiteralRaw`) -/
def sfxStr (u : Bool) (l : Nat) : Str := (if u then ['U'] else []) ++ List.replicate l 'L'

theorem takeU_safe {rest : Str} (hr : safeEnd rest = true) : takeU rest = (false, rest) := by
  cases rest with
  | nil => rfl
  | cons c r => simp [takeU, isU, safeEnd_head hr]

theorem takeL_safe {rest : Str} (hr : safeEnd rest = true) : takeL rest = (0, rest) := by
  match rest, hr with
  | [], _ => rfl
  | [c], hr => simp [takeL, isL, safeEnd_head hr]
  | c :: c2 :: r, hr => simp [takeL, isL, safeEnd_head hr]

theorem takeL_one {rest : Str} (hr : safeEnd rest = true) : takeL ('L' :: rest) = (1, rest) := by
  cases rest with
  | nil => rfl
  | cons c r => simp [takeL, isL, safeEnd_head hr]

theorem takeL_two (rest : Str) : takeL ('L' :: 'L' :: rest) = (2, rest) := by simp [takeL]

theorem takeU_U (rest : Str) : takeU ('U' :: rest) = (true, rest) := by simp [takeU, isU]

theorem takeU_L (rest : Str) : takeU ('L' :: rest) = (false, 'L' :: rest) := by simp [takeU, isU]

theorem takeU_sfx (u : Bool) (l : Nat) {rest : Str} (hr : safeEnd rest = true) :
    takeU (sfxStr u l ++ rest) = (u, List.replicate l 'L' ++ rest) := by
  cases u
  · cases l
    · exact takeU_safe hr
    · exact takeU_L _
  · exact takeU_U _

theorem takeL_rep {l : Nat} (hl : l ≤ 2) {rest : Str} (hr : safeEnd rest = true) :
    takeL (List.replicate l 'L' ++ rest) = (l, rest) := by
  match l, hl with
  | 0, _ => exact takeL_safe hr
  | 1, _ => exact takeL_one hr
  | 2, _ => exact takeL_two rest

theorem lexIntSuffix_sfx (ip : Str) (u : Bool) (l : Nat) (hl : l ≤ 2) (rest : Str) (hr : safeEnd rest = true) :
    lexIntSuffix ip (sfxStr u l ++ rest) = (intTok ip u l).map (fun t => (t, rest)) := by
  have hu2 : (if u = true then (true, rest) else takeU rest) = (u, rest) := by
    cases u
    · exact takeU_safe hr
    · rfl
  simp only [lexIntSuffix, takeU_sfx u l hr, takeL_rep hl hr, hu2, hr, Bool.not_true, Bool.false_eq_true, if_false, intTok]
  split
  · rfl
  · split <;> rfl

theorem intTok_natStr (n : Nat) (u : Bool) (l : Nat) : intTok (natStr n) u l = some (.int n (decide (n ≠ 0)) u l) := by
  unfold intTok
  by_cases h : n = 0
  · subst h; simp [show natStr 0 = ['0'] by decide]
  · have h1 : natStr n ≠ ['0'] := fun e => h ((natStr_eq_zero_iff n).1 e)
    rw [if_neg h1, if_neg (natStr_head_ne_zero n h), digitsVal_natStr]
    simp [h]

def IntTail : Str → Prop
  | [] => True
  | c :: _ => c.isDigit = false ∧ c ≠ '.' ∧ c ≠ 'e' ∧ c ≠ 'E'

theorem intTail_of_safeEnd {rest : Str} (hr : safeEnd rest = true) : IntTail rest := by
  cases rest with
  | nil => trivial
  | cons c r =>
    obtain ⟨h0, h1, h2, h3, _⟩ := safeEnd_head hr
    exact ⟨h0, h1, h2, h3⟩

theorem intTail_sfx (u : Bool) (l : Nat) {rest : Str} (hr : safeEnd rest = true) : IntTail (sfxStr u l ++ rest) := by
  cases u
  · cases l
    · exact intTail_of_safeEnd hr
    · exact ⟨by decide, by decide, by decide, by decide⟩
  · exact ⟨by decide, by decide, by decide, by decide⟩

theorem lexNumRaw_intTail {ds tl : Str} (hd : AllDigits ds) (ht : IntTail tl) : lexNumRaw (ds ++ tl) = lexIntSuffix ds tl := by
  unfold lexNumRaw
  cases tl with
  | nil => simp only [spanDigits_append hd (rest := []) trivial]
  | cons c r =>
    obtain ⟨h0, h1, h2, h3⟩ := ht
    simp only [spanDigits_append hd (rest := c :: r) h0, h1, h2, h3, if_false, or_self]

theorem lexNumRaw_int (n : Nat) (u : Bool) (l : Nat) (hl : l ≤ 2) (rest : Str) (hr : safeEnd rest = true) :
    lexNumRaw (natStr n ++ (sfxStr u l ++ rest)) = some (.int n (decide (n ≠ 0)) u l, rest) := by
  rw [lexNumRaw_intTail (natStr_allDigits n) (intTail_sfx u l hr), lexIntSuffix_sfx _ u l hl rest hr, intTok_natStr]
  rfl

theorem lexFSuf_safe (mant : Nat) (e10 : Int) {rest : Str} (hr : safeEnd rest = true) :
    lexFSuf mant e10 rest = some (.flt mant e10 .none, rest) := by
  cases rest with
  | nil => rfl
  | cons c r => simp [lexFSuf, safeEnd_head hr, hr]

theorem lexExp_noexp (digs : Str) (nfrac : Nat) {rest : Str} (hr : safeEnd rest = true) :
    lexExp digs nfrac rest = some (.flt (digitsVal digs) (-(nfrac : Int)) .none, rest) := by
  cases rest with
  | nil => simp [lexExp, lexFSuf]
  | cons c r =>
    obtain ⟨_, _, he, hE, _⟩ := safeEnd_head hr
    simp only [lexExp, he, hE, or_self, if_false]
    exact lexFSuf_safe _ _ hr

theorem lexExp_exp (digs : Str) (nfrac : Nat) (neg : Bool) {ex : Str} (hex : AllDigits ex) (hne : ex ≠ [])
    {rest : Str} (hr : safeEnd rest = true) :
    lexExp digs nfrac ('e' :: (if neg then '-' else '+') :: (ex ++ rest)) =
      some (.flt (digitsVal digs) ((if neg then -(digitsVal ex : Int) else (digitsVal ex : Int)) - nfrac) .none, rest) := by
  have hs := spanDigits_append hex (safeEnd_noDigit hr)
  cases neg
  · simp only [lexExp, Bool.false_eq_true, if_false, true_or, if_true, show ('+' : Char) ≠ '-' by decide, hs, hne]
    exact lexFSuf_safe _ _ hr
  · simp only [lexExp, if_true, true_or, hs, hne, if_false]
    exact lexFSuf_safe _ _ hr

theorem lexNumRaw_frac {ip fp : Str} (hip : AllDigits ip) (hfp : AllDigits fp) {rest : Str} (hr : safeEnd rest = true) :
    lexNumRaw (ip ++ '.' :: (fp ++ rest)) = some (.flt (digitsVal (ip ++ fp)) (-(fp.length : Int)) .none, rest) := by
  unfold lexNumRaw
  simp only [spanDigits_append hip (show NoDigitHead ('.' :: _) from rfl), if_true,
    spanDigits_append hfp (safeEnd_noDigit hr)]
  exact lexExp_noexp _ _ hr

theorem lexNumRaw_frac_exp {ip fp ex : Str} (hip : AllDigits ip) (hfp : AllDigits fp) (neg : Bool)
    (hex : AllDigits ex) (hne : ex ≠ []) {rest : Str} (hr : safeEnd rest = true) :
    lexNumRaw (ip ++ '.' :: (fp ++ 'e' :: (if neg then '-' else '+') :: (ex ++ rest))) =
      some (.flt (digitsVal (ip ++ fp)) ((if neg then -(digitsVal ex : Int) else (digitsVal ex : Int)) - fp.length) .none, rest) := by
  unfold lexNumRaw
  simp only [spanDigits_append hip (show NoDigitHead ('.' :: _) from rfl), if_true,
    spanDigits_append hfp (show NoDigitHead ('e' :: _) from rfl)]
  exact lexExp_exp _ _ neg hex hne hr

theorem lexNumRaw_int_exp {ip ex : Str} (hip : AllDigits ip) (neg : Bool)
    (hex : AllDigits ex) (hne : ex ≠ []) {rest : Str} (hr : safeEnd rest = true) :
    lexNumRaw (ip ++ 'e' :: (if neg then '-' else '+') :: (ex ++ rest)) =
      some (.flt (digitsVal ip) ((if neg then -(digitsVal ex : Int) else (digitsVal ex : Int)) - (0 : Nat)) .none, rest) := by
  unfold lexNumRaw
  simp only [spanDigits_append hip (show NoDigitHead ('e' :: _) from rfl), show ('e' : Char) ≠ '.' by decide, if_false,
    true_or, if_true]
  exact lexExp_exp _ _ neg hex hne hr

theorem spanPP_safe {rest : Str} (hr : safeEnd rest = true) : spanPP false rest = ([], rest) := by
  cases rest with
  | nil => rfl
  | cons c r =>
    have : (isIdChar c || c = '.') = false := by simpa [safeEnd] using hr
    simp [spanPP, this]

theorem pp_append (b : Bool) (s t : Str) (h : ppAll b s = true) :
    ppAll b (s ++ t) = ppAll (ppFlag b s) t ∧ ppFlag b (s ++ t) = ppFlag (ppFlag b s) t ∧
      spanPP b (s ++ t) = (s ++ (spanPP (ppFlag b s) t).1, (spanPP (ppFlag b s) t).2) := by
  induction s generalizing b with
  | nil => exact ⟨rfl, rfl, rfl⟩
  | cons c cs ih =>
    simp only [ppAll] at h
    simp only [List.cons_append, ppAll, ppFlag, spanPP]
    split at h
    · rename_i hA
      simp only [if_pos hA]
      obtain ⟨i1, i2, i3⟩ := ih _ h
      exact ⟨i1, i2, by rw [i3]⟩
    · rename_i hA
      split at h
      · rename_i hB
        simp only [if_neg hA, if_pos hB]
        obtain ⟨i1, i2, i3⟩ := ih _ h
        exact ⟨i1, i2, by rw [i3]⟩
      · cases h

theorem digit_isIdChar {c : Char} (h : c.isDigit = true) : isIdChar c = true := by
  simp [isIdChar, Char.isAlphanum, h]

theorem digit_not_e {c : Char} (h : c.isDigit = true) : (c = 'e' || c = 'E') = false := by
  have h1 : c ≠ 'e' := by intro e; subst e; revert h; decide
  have h2 : c ≠ 'E' := by intro e; subst e; revert h; decide
  simp [h1, h2]

/-- `s` continues a preprocessing number to its end: all of it belongs to the number, and a sign after it would not. -/
def PPNum (s : Str) : Prop := ppAll false s = true ∧ ppFlag false s = false

theorem PPNum.digits {ds : Str} (h : AllDigits ds) : PPNum ds := by
  induction ds with
  | nil => exact ⟨rfl, rfl⟩
  | cons c cs ih =>
    have hc := h c List.mem_cons_self
    simp only [PPNum, ppAll, ppFlag, digit_isIdChar hc, Bool.true_or, if_true, digit_not_e hc]
    exact ih (fun x hx => h x (List.mem_cons_of_mem _ hx))

theorem PPNum.digits_append {ds t : Str} (hd : AllDigits ds) (ht : PPNum t) : PPNum (ds ++ t) := by
  have h := pp_append false ds t (PPNum.digits hd).1
  rw [(PPNum.digits hd).2] at h
  exact ⟨h.1.trans ht.1, h.2.1.trans ht.2⟩

theorem lexNum_of_raw {s rest : Str} {t : Tok} (hpp : PPNum s) (hr : safeEnd rest = true)
    (h : lexNumRaw s = some (t, [])) : lexNum (s ++ rest) = some (t, rest) := by
  unfold lexNum lexNumTok
  rw [(pp_append false s rest hpp.1).2.2, hpp.2, spanPP_safe hr]
  simp only [List.append_nil, h]

theorem sfxStr_pp (u : Bool) (l : Nat) (hl : l ≤ 2) : PPNum (sfxStr u l) := by
  have hl' : l = 0 ∨ l = 1 ∨ l = 2 := by omega
  rcases hl' with h | h | h <;> subst h <;> cases u <;> exact ⟨by decide, by decide⟩

theorem idChar_not_punct {c : Char} (h : isIdChar c = true) :
    c ≠ ' ' ∧ c ≠ '(' ∧ c ≠ ')' ∧ c ≠ '-' ∧ c ≠ '/' ∧ c ≠ '<' ∧ c ≠ '>' := by
  refine ⟨?_, ?_, ?_, ?_, ?_, ?_, ?_⟩ <;> (intro e; subst e; revert h; decide)

theorem lex_num {f : Nat} {cs : Str} {t : Tok} {rest : Str} (hd : DigitHead cs)
    (h : lexNum cs = some (t, rest)) : lex (f + 1) cs = (lex f rest).map (t :: ·) := by
  cases cs with
  | nil => cases hd
  | cons c r =>
    have hc : c.isDigit = true := hd
    simp only [lex, idChar_not_punct (digit_isIdChar hc), if_false, hc, if_true, h]

theorem lex_space (f : Nat) (cs : Str) : lex (f + 1) (' ' :: cs) = lex f cs := rfl
theorem lex_lp (f : Nat) (cs : Str) : lex (f + 1) ('(' :: cs) = (lex f cs).map (Tok.lp :: ·) := rfl
theorem lex_rp (f : Nat) (cs : Str) : lex (f + 1) (')' :: cs) = (lex f cs).map (Tok.rp :: ·) := rfl
theorem lex_minus (f : Nat) (cs : Str) : lex (f + 1) ('-' :: cs) = (lex f cs).map (Tok.minus :: ·) := rfl
theorem lex_slash (f : Nat) (cs : Str) : lex (f + 1) ('/' :: cs) = (lex f cs).map (Tok.slash :: ·) := rfl
theorem lex_lt (f : Nat) (cs : Str) : lex (f + 1) ('<' :: cs) = (lex f cs).map (Tok.lt :: ·) := rfl
theorem lex_gt (f : Nat) (cs : Str) : lex (f + 1) ('>' :: cs) = (lex f cs).map (Tok.gt :: ·) := rfl
theorem lex_nil (f : Nat) : lex (f + 1) [] = some [] := rfl

end NunavutVerif.CLiteral
