import NunavutVerif.Lemmas.GenPyDe
/-!
The deserializer's structures, unions, sealed and delimited nesting (the arrays are in `GenPyDe`): each combinator
against its clause of `deBits`, up to the induction over the type.
-/
namespace NunavutVerif.GenPy
open NunavutVerif.Dsdl
open NunavutVerif.Bits (Buf Err bitAt WF)
open NunavutVerif.Bits.Py

theorem deFields_spec (env : Env) (hs : EnvSound env) :
    ∀ (fs : List Ty), (∀ f ∈ fs, DeRef env f) → wfAll fs = true →
    ∀ (o : AOff) (d : De) (base off : Nat), d.off = base + off → base % 8 = 0 → WF d.buf → Sound o d.off →
      deFieldsPy env fs o d = deOut id d.buf base (deFields fs ((unpackBytes d.buf).drop base) off) := by
  intro fs
  induction fs with
  | nil =>
    intro _ _ o d base off hoff _ _ _
    simp only [deFields, deFieldsPy, deOut, id, ← hoff]
  | cons f fs ihf =>
    intro ih hw o d base off hoff hbase hwb hsound
    replace hw := wfAll_cons hw
    -- the specification pads relative to the start of the object, the cursor is absolute: the object starts on a byte
    have hpl : padLen (align f) d.off = padLen (align f) off := by
      rw [hoff]; exact padLen_add_base (align_cases f) hbase off
    have h1 := ih f (by simp) (o.pad (align f)) d hwb (hsound.pad (align_cases f))
    rw [hpl] at h1
    have hdrop : ((unpackBytes d.buf).drop base).drop (padTo (align f) off)
        = (unpackBytes d.buf).drop (d.off + padLen (align f) off) := by
      rw [List.drop_drop, hoff]; simp only [padTo, Nat.add_assoc]
    simp only [deFields, deFieldsPy, hdrop, h1]
    cases hd : deBits f ((unpackBytes d.buf).drop (d.off + padLen (align f) off)) with
    | error e => rfl
    | ok r =>
      obtain ⟨v, n⟩ := r
      have h2 := ihf (fun g hg => ih g (List.mem_cons_of_mem _ hg)) hw.2 ((o.pad (align f)).add (env.lr f))
        ⟨d.buf, d.off + padLen (align f) off + n⟩ base (padTo (align f) off + n)
        (by simp only [padTo]; omega) hbase hwb
        (by
          have := (hsound.pad (align_cases f)).add (l := env.lr f) (len := n)
            (fun r hr => (hs.lr f r hw.1 hr).2 _ _ _ hd)
          rw [hpl] at this
          exact this)
      simp only [deOut, id, h2]
      rcases deFields fs ((unpackBytes d.buf).drop base) (padTo (align f) off + n) with e | ⟨vs, e⟩ <;> rfl

theorem ctorFields_of_deFields (env : Env) (hf : FloatSound env) :
    ∀ (fs : List Ty), wfAll fs = true → ∀ bs off vs e, deFields fs bs off = .ok (vs, e) →
      ctorFields env fs vs = true := by
  intro fs
  induction fs with
  | nil => intro _ bs off vs e h; simp [deFields] at h; simp [ctorFields]
  | cons f fs ih =>
    intro hw bs off vs e h
    replace hw := wfAll_cons hw
    obtain ⟨v, n, vs', h1, h2, rfl⟩ := deFields_cons_ok h
    simp [ctorFields, ctorOK_of_deBits env hf hw.1 h1, ih hw.2 _ _ _ _ h2]

theorem deObjTail_spec (d : De) (hal : d.off % 8 = 0) (n lo : Nat) (hlo : lo ≤ padTo 8 n) (v : Val) :
    (do let d2 ← lift (dePadToAlignment ⟨d.buf, d.off + n⟩ 8)
        assertThat (decide (lo ≤ d2.off - d.off))
        .ok (v, d2)) = .ok (v, ⟨d.buf, d.off + padTo 8 n⟩) := by
  have hpl : padLen 8 (d.off + n) = padLen 8 n := padLen_add_base (Or.inr rfl) hal n
  rw [dePad8_spec, ok_bind, hpl, assertThat_decide (show lo ≤ d.off + n + padLen 8 n - d.off by
    simp only [padTo] at hlo; omega), ok_bind, padTo, Nat.add_assoc]

theorem structObj_de (env : Env) (hs : EnvSound env) (fs : List Ty) (ih : ∀ f ∈ fs, DeRef env f)
    (hw : wf (.struct fs) = true) : DeObjRef env (.struct fs) := by
  intro d hwb hal
  have hf := deFields_spec env hs fs ih hw (some 0) d d.off 0 rfl hal hwb (Sound.some_zero hal)
  simp only [deObj, deStructWith, deBits, assertThat_beq hal, ok_bind, hf]
  cases hdf : deFields fs ((unpackBytes d.buf).drop d.off) 0 with
  | error e => rfl
  | ok r =>
    obtain ⟨vs, e⟩ := r
    have hl := deLen (.struct fs) ((unpackBytes d.buf).drop d.off) (.struct vs) (padTo 8 e) (by
      simp only [deBits, hdf])
    simp only [deOut, id, ok_bind, ctorFields_of_deFields env hs.fl fs hw _ _ _ _ hdf, if_true,
      deObjTail_spec d hal e _ hl.1]

theorem deNthPy_eq (env : Env) {fs : List Ty} {k : Nat} (hk : k < fs.length) : deNthPy env fs k = deAny env fs[k] :=
  nth_eq (fun _ _ => rfl) (fun _ _ _ => rfl) hk

theorem ctorNth_eq (env : Env) {fs : List Ty} {k : Nat} (hk : k < fs.length) : ctorNth env fs k = ctorOK env fs[k] :=
  nth_eq (fun _ _ => rfl) (fun _ _ _ => rfl) hk

theorem deNth_spec (env : Env) (fs : List Ty) (ih : ∀ f ∈ fs, DeRef env f) (k : Nat) (o : AOff) (d : De)
    (hwb : WF d.buf) (hal : d.off % 8 = 0) (hsound : Sound o d.off) (hk : k < fs.length) :
    deNthPy env fs k o d = deOut id d.buf d.off (deNth fs k ((unpackBytes d.buf).drop d.off)) := by
  rw [deNthPy_eq env hk, deNth_eq hk]
  exact (ih fs[k] (List.getElem_mem hk)).aligned hwb (align_mod_of_mod8 _ hal) hsound

theorem ctorNth_of_deNth (env : Env) (hf : FloatSound env) {fs : List Ty} (hw : wfAll fs = true) {k : Nat}
    (hk : k < fs.length) {bs : List Bool} {v : Val} {n : Nat} (h : deNth fs k bs = .ok (v, n)) :
    ctorNth env fs k v = true := by
  rw [ctorNth_eq env hk]
  exact ctorOK_of_deBits env hf (wfAll_mem hw _ (List.getElem_mem hk)) (deNth_eq hk ▸ h)

theorem unionObj_de (env : Env) (hs : EnvSound env) (fs : List Ty) (ih : ∀ f ∈ fs, DeRef env f)
    (hw : wf (.union fs) = true) : DeObjRef env (.union fs) := by
  intro d hwb hal
  obtain ⟨⟨hn1, hn2⟩, hwa⟩ := wf_union hw
  have ht8 : tagBits fs.length % 8 = 0 := stdWidth_mod8 _
  have hint := deInt_unsigned_spec true (tagBits fs.length) d hwb (fun _ => hal)
    (by have := stdWidth_cases (fs.length - 1); unfold tagBits; omega)
  simp only [deObj, deUnionWith, deBits, assertThat_beq hal, ok_bind, hint]
  generalize hk : readNat (tagBits fs.length) ((unpackBytes d.buf).drop d.off) = k
  simp only [Int.toNat_natCast, show (0 : Int) ≤ (k : Int) by omega, true_and]
  by_cases hlt : k < fs.length
  · simp only [hlt, if_true, show ¬ k ≥ fs.length by omega, if_false]
    have h2 := deNth_spec env fs ih k (some (tagBits fs.length % 8)) ⟨d.buf, d.off + tagBits fs.length⟩ hwb
      (add_mod_zero hal ht8) (by rw [ht8]; exact Sound.some_zero (add_mod_zero hal ht8)) hlt
    simp only [← List.drop_drop] at h2
    simp only [h2]
    cases hdn : deNth fs k (((unpackBytes d.buf).drop d.off).drop (tagBits fs.length)) with
    | error e => rfl
    | ok r =>
      obtain ⟨v, used⟩ := r
      have hl := deLen (.union fs) ((unpackBytes d.buf).drop d.off) (.union k v)
        (padTo 8 (tagBits fs.length + used)) (by
          simp only [deBits, hk, hdn, show ¬ k ≥ fs.length by omega, if_false])
      have htail := deObjTail_spec d hal (tagBits fs.length + used) _ hl.1 (.union k v)
      rw [← Nat.add_assoc] at htail
      simp only [deOut, id, ok_bind, ctorNth_of_deNth env hs.fl hwa hlt hdn, if_true, htail]
  · simp only [hlt, if_false, show k ≥ fs.length by omega, if_true, deOut]

theorem deAny_composite (env : Env) {t : Ty} (hc : isComposite t = true) (o : AOff) (d : De) :
    deAny env t o d = deNested (deObj env t) d := by
  cases t with
  | struct fs | union fs => simp only [deAny]; rfl
  | _ => exact Bool.noConfusion hc

theorem nested_de (env : Env) (t : Ty) (hc : isComposite t = true) (hobj : DeObjRef env t) : DeRef env t := by
  intro o d hwb _
  have hal8 := align_of_isComposite hc
  rw [hal8]
  have hal0 : (d.off + padLen 8 d.off) % 8 = 0 := padTo_mod (Or.inr rfl) d.off
  simp only [deAny_composite env hc, deNested, dePad_spec 8 (Or.inr rfl), bind, Except.bind,
    hobj ⟨d.buf, d.off + padLen 8 d.off⟩ hwb hal0]
  cases hd : deBits t ((unpackBytes d.buf).drop (d.off + padLen 8 d.off)) with
  | error e => rfl
  | ok r =>
    obtain ⟨v, n⟩ := r
    have hl := deLen t _ _ _ hd
    rw [hal8] at hl
    simp only [deOut, id, assertThat_beq (add_mod_zero hal0 hl.2)]

theorem forkDe_spec (d : De) (h : Nat) (hwb : WF d.buf) (ha : d.off % 8 = 0)
    (hfit : h * 8 ≤ d.buf.length * 8 - d.off) :
    ∃ nb, forkDe d h = .ok ⟨nb, 0⟩ ∧ WF nb ∧ unpackBytes nb = ((unpackBytes d.buf).drop d.off).take (8 * h) := by
  refine ⟨(d.buf.drop (if h = 0 then min (d.off / 8) d.buf.length else d.off / 8)).take h, ?_,
    Bits.WF_take (Bits.WF_drop hwb _) _, ?_⟩
  · simp only [forkDe]
    rw [if_neg (by omega), if_neg (by omega), if_neg (by omega), if_neg (by split <;> omega)]
  · by_cases h0 : h = 0
    · subst h0; simp [unpackBytes]
    · rw [if_neg h0, unpackBytes_take, unpackBytes_drop, show 8 * (d.off / 8) = d.off by omega]

theorem delim_de (env : Env) (ext : Nat) (inner : Ty) (hobj : DeObjRef env inner) :
    DeRef env (.delim ext inner) := by
  intro o d hwb _
  simp only [align]
  have hal0 : (d.off + padLen 8 d.off) % 8 = 0 := padTo_mod (Or.inr rfl) d.off
  generalize hd0 : d.off + padLen 8 d.off = off0 at hal0 ⊢
  have hh := fetchAlignedU32_spec ⟨d.buf, off0⟩ hal0 hwb
  simp only [deField_eq ⟨d.buf, off0⟩, bitsAt] at hh
  simp only [deAny, deDelimWith, dePad_spec 8 (Or.inr rfl), hd0, ok_bind, hh, lift, deBits, headerBits,
    List.length_drop, unpackBytes_length]
  generalize readNat 32 ((unpackBytes d.buf).drop off0) = h
  -- the specification's comparison, written as the emitted one
  simp only [show (8 * h > 8 * d.buf.length - off0 - 32) = (h * 8 > d.buf.length * 8 - (off0 + 32)) by
    rw [Nat.mul_comm 8 h, Nat.mul_comm 8 d.buf.length, Nat.sub_sub]]
  by_cases hbig : h * 8 > d.buf.length * 8 - (off0 + 32)
  · simp only [hbig, if_true, deOut]
  · obtain ⟨nb, hfork, hwn, hview⟩ := forkDe_spec ⟨d.buf, off0 + 32⟩ h hwb (add_mod_zero hal0 rfl)
      (Nat.le_of_not_lt hbig)
    have h2 := hobj ⟨nb, 0⟩ hwn rfl
    simp only [List.drop_zero, hview, ← List.drop_drop] at h2
    simp only [hbig, if_false, hfork, ok_bind, deSkipBits, h2]
    rcases deBits inner ((((unpackBytes d.buf).drop off0).drop 32).take (8 * h)) with e | ⟨v, n⟩
    · rfl
    · simp only [deOut, id, ok_bind, Nat.add_assoc, Nat.mul_comm h 8, assertThat_beq
        (show (off0 + (32 + 8 * h)) % 8 = 0 from add_mod_zero hal0 (add_mod_zero rfl (Nat.mul_mod_right 8 h)))]

theorem deRef_prim {env : Env} {t : Ty} (ha : align t = 1)
    (h : ∀ (o : AOff) (d : De), WF d.buf → (o.isAligned = true → d.off % 8 = 0) →
      deAny env t o d = deOut id d.buf d.off (deBits t (bitsAt d))) : DeRef env t := by
  intro o d hwb hsound
  rw [ha, padLen_one, Nat.add_zero] at hsound ⊢
  exact h o d hwb hsound.aligned

theorem deRef_all (env : Env) (hs : EnvSound env) (t : Ty) :
    wf t = true → pyWf t = true → DeRef env t ∧ (isComposite t = true → DeObjRef env t) := by
  refine pyTy_ind (R := DeRef env) (O := DeObjRef env) ?uint ?sint ?float ?bool ?void
    (fun t n hw ih => fixedArr_de env hs t n hw ih) (fun t cap hw ih => varArr_de env hs t cap hw ih)
    (fun fs hw ih => structObj_de env hs fs ih hw) (fun fs hw ih => unionObj_de env hs fs ih hw)
    (fun t hc _ => nested_de env t hc) (fun e t _ => delim_de env e t) t
  case uint =>
    intro n m hw
    simp only [wf, decide_eq_true_eq] at hw
    refine deRef_prim rfl fun o d hwb hal => ?_
    simp only [deAny, deIntVal, deInt_unsigned_spec o.isAligned n d hwb hal hw.1, deBits, deOut, id, bitsAt]
  case sint =>
    intro n hw hn2
    simp only [wf, decide_eq_true_eq] at hw
    refine deRef_prim rfl fun o d hwb hal => ?_
    simp only [deAny, deIntVal, deInt_spec o.isAligned true n d hwb hal hw.1 (fun _ => hn2), deBits, deOut, id,
      if_true]
  case float =>
    intro n m hw
    simp only [wf, decide_eq_true_eq] at hw
    refine deRef_prim rfl fun o d hwb hal => ?_
    simp only [deAny, deFloat_spec env hs.fl o.isAligned n d hwb hal hw, deBits, deOut, id]
  case bool =>
    refine deRef_prim rfl fun o d hwb hal => ?_
    simp only [deAny, deBool_spec d, deBits, deOut, id]
  case void =>
    intro n
    refine deRef_prim rfl fun o d hwb hal => ?_
    simp only [deAny, deBits, deOut, id, deSkipBits]

end NunavutVerif.GenPy
