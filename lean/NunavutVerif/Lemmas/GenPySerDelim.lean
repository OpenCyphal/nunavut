import NunavutVerif.Lemmas.GenPySer
import NunavutVerif.Lemmas.BitsGlue
/-!
The serializer's delimited nesting (constant header for a fixed-length inner type; otherwise forked serializer on a view
of the parent's buffer, header reserved, nested call, header back-patched), and the induction over the type.
-/
namespace NunavutVerif.GenPy
open NunavutVerif.Dsdl
open NunavutVerif.Bits (Buf Err bitAt WF)
open NunavutVerif.Bits.Py

theorem forkSer_ok (s : Ser) (cap : Nat) (ha : s.off % 8 = 0) (hroom : s.off / 8 + cap + 1 ≤ s.buf.length) :
    forkSer s cap = .ok ⟨(s.buf.drop (s.off / 8)).take (cap + 1), 0⟩ := by
  simp only [forkSer, ha, ne_eq, not_true_eq_false, if_false, List.length_drop]
  rw [if_neg (by omega)]

theorem backpatch_appL {s s' : Ser} {a bits : List Bool} (v : Nat) (hs : s.off % 8 = 0)
    (hroom : Room s 32) (ha : a.length = 32) (h : AppL s s' (a ++ bits)) :
    ∃ buf', addAlignedU32 ⟨s'.buf, s.off⟩ (v : Int) = .ok ⟨buf', s.off + 32⟩ ∧
      AppL s ⟨buf', s'.off⟩ (natToBits 32 v ++ bits) := by
  have hlen : s'.buf.length = s.buf.length := h.len
  replace hroom : s.off / 8 + 4 ≤ s.buf.length := Nat.le_of_lt (hroom.bytes (Nat.le_refl (8 * 4)))
  have hb := h.2.2.2
  obtain ⟨hl4, hw4, hb4⟩ := bytesLoop_spec 4 v
  have hwb : Bits.Overwrites _ _ _ _ _ :=
    writeAll_overwrites (bytesLoop v 4) s'.buf (s.off / 8) (by rw [hl4, hlen]; exact hroom)
  simp only [Bits.Overwrites, hb4, hl4, show 8 * (s.off / 8) = s.off by omega] at hwb
  refine ⟨_, addAlignedU32_raw ⟨s'.buf, s.off⟩ v hs (by rw [hlen]; exact hroom), ?_⟩
  unfold AppL
  rw [h.off, List.length_append, List.length_append, ha, natToBits_length]
  refine Appends.of_bitAt (writeAll_WF _ _ _ h.inv.1 hw4) ((writeAll_length _ _ _).trans hlen) fun i => ?_
  rw [hwb, hb, List.length_append, ha, bitOf_append, bitOf_append, ha, natToBits_length, bitOf_natToBits]
  by_cases h1 : i < s.off
  · rw [if_neg (by omega), if_pos h1, if_pos h1]
  · rw [if_neg h1, if_neg h1]
    by_cases h2 : i < s.off + 32
    · rw [if_pos (by omega), if_pos (by omega)]
      simp [show i - s.off < 32 by omega, show i < s.off + (32 + bits.length) by omega]
    · rw [if_neg (by omega), if_neg (by omega), if_neg (by omega)]

theorem delim_spec (env : Env) (ext : Nat) (inner : Ty) (hw : wf (.delim ext inner) = true)
    (hobj : ObjRef env inner) : SerRef env (.delim ext inner) := by
  intro o s v b hinv _ hroom hdom
  obtain ⟨⟨hc, he8, hmax, _⟩, hwi⟩ := wf_delim hw
  have hmx8 := maxBits_composite_mod8 hc
  have hali := align_of_isComposite hc
  simp only [inDom] at hdom
  simp only [align, maxBits, headerBits] at hroom ⊢
  obtain ⟨s0, h0, happ0, hal0⟩ := serPad_spec 8 (Or.inr rfl) s hinv (hroom.mono (by omega))
  have hroom0 : Room s0 (32 + ext) := hroom.after happ0 (by simp)
  by_cases hfix : minBits inner = maxBits inner
  · -- fixed-length inner type: constant header, in-place call
    obtain ⟨s1, h1, happ1'⟩ := appL_natToBits (addAlignedU32_spec s0 ((maxBits inner / 8 : Nat) : Int) happ0.inv hal0
      (by omega) (by unfold Room at hroom0; omega))
    rw [Int.toNat_natCast] at happ1'
    have hoff1 : s1.off = s0.off + 32 := by simpa using happ1'.off
    simp only [serAny, serDelimWith, serBits, h0, ok_bind, hfix, ne_eq, not_true_eq_false, if_false, h1, headerBits]
    refine (hobj s1 v b happ1'.inv (by omega) (hroom0.after happ1' (by simp; omega)) hdom).bind_tail
      fun bits s2 hsb happ2 => ?_
    have hl := lenOK inner hwi v bits hsb
    have hlen : bits.length = maxBits inner := Nat.le_antisymm hl.2.1 (hfix ▸ hl.1)
    have hoff2 : s2.off = s1.off + maxBits inner := by rw [happ2.off, List.nil_append, hlen]
    have e1 : s2.off - s1.off = maxBits inner := by rw [hoff2, Nat.add_sub_cancel_left]
    have e2 : s2.off % 8 = 0 := by rw [hoff2, hoff1]; exact add_mod_zero (add_mod_zero hal0 rfl) hmx8
    exact ⟨s2, by simp only [assertThat_beq e1, assertThat_beq e2, pure, Except.pure, ok_bind], by
      simpa only [List.append_assoc, List.nil_append, hlen] using (happ0.trans happ1').trans happ2⟩
  · -- variable-length inner type: fork, reserve, nested call, back-patch
    have hcap : s0.off / 8 + ((maxBits inner + 32) / 8 + 1) ≤ s0.buf.length :=
      (hroom0.mono (Nat.add_comm 32 ext ▸ Nat.add_le_add_right hmax 32)).bytes (Nat.mul_div_le _ 8)
    -- the fork and `skip_bits(32)` on it succeed; the program is evaluated up to the method call on the fork
    simp only [serAny, serDelimWith, serBits, h0, ok_bind, hfix, ne_eq, not_false_eq_true, if_true, headerBits,
      forkSer_ok s0 _ hal0 (by omega), skipBits, Nat.zero_add, beq_self_eq_true, assertThat_true, pure, Except.pure]
    have hskip := skipBits_appL (fork_inv s0 ((maxBits inner + 32) / 8) happ0.inv hal0) 32
    -- room on the fork: by `hcap` the view holds the header, the largest object and the spare byte
    refine (hobj ⟨(s0.buf.drop (s0.off / 8)).take ((maxBits inner + 32) / 8 + 1), 32⟩ v b hskip.inv (by simp)
      (by unfold Room; simp only [List.length_take, List.length_drop]; omega) hdom).bind_tail
      fun bits n2 hsb happ2 => ?_
    simp only [List.nil_append] at happ2
    have hl := lenOK inner hwi v bits hsb
    rw [hali] at hl
    have hn2 : n2.off = 32 + bits.length := by simpa using happ2.off
    -- seen from the parent: 32 reserved zero bits, then the object; then the header is patched in
    have hj : AppL s0 ⟨(joinSer s0 n2).buf, s0.off + (zeros 32 ++ bits).length⟩ (zeros 32 ++ bits) :=
      fork_join_appends s0 n2 _ _ _ happ0.inv hal0 hcap (hskip.trans happ2)
    obtain ⟨buf', h3, hfin⟩ := backpatch_appL (bits.length / 8) hal0 (hroom0.mono (Nat.le_add_right 32 ext))
      (zeros_length 32) hj
    change addAlignedU32 (joinSer s0 n2) _ = _ at h3
    simp only [List.length_append, zeros_length] at hfin
    -- the emitted assertions: length within `[min, max]`, a whole number of bytes, final cursor byte aligned
    have hend : (s0.off + (32 + bits.length)) % 8 = 0 := add_mod_zero hal0 (add_mod_zero rfl hl.2.2)
    exact ⟨_, by simp only [ok_bind, hn2, Nat.add_sub_cancel_left, assertThat_decide (And.intro hl.1 hl.2.1),
      assertThat_beq hl.2.2, h3, lift, Nat.add_assoc, assertThat_beq hend], happ0.trans hfin⟩

theorem serRef_prim {env : Env} {t : Ty} (ha : align t = 1)
    (h : ∀ (o : AOff) (s : Ser) (v : Val) (b : Bool), s.Inv → (o.isAligned = true → s.off % 8 = 0) →
      Room s (maxBits t) → inDom b t v = true → Match (serAny env t o s v) s [] (serBits t v)) : SerRef env t := by
  intro o s v b hinv hsound hroom hdom
  rw [ha, padLen_one, Nat.add_zero] at hsound
  rw [ha, padLen_one, Nat.zero_add] at hroom
  rw [ha, padLen_one, zeros_zero]
  exact h o s v b hinv hsound.aligned hroom hdom

theorem serRef_all (env : Env) (hs : EnvSound env) (t : Ty) :
    wf t = true → pyWf t = true → SerRef env t ∧ (isComposite t = true → ObjRef env t) := by
  refine pyTy_ind (R := SerRef env) (O := ObjRef env) ?uint ?sint ?float ?bool ?void
    (fun t n hw ih => fixedArr_spec env hs t n hw ih) (fun t cap hw ih => varArr_spec env hs t cap hw ih)
    (fun fs hw ih => structObj_spec env hs fs ih hw) (fun fs hw ih => unionObj_spec env fs ih hw) (nested_spec env)
    (delim_spec env) t
  case uint =>
    intro n m hw
    simp only [wf, decide_eq_true_eq] at hw
    refine serRef_prim rfl fun o s v b hinv hal hroom hdom => ?_
    cases v with
    | int i =>
      simp only [inDom, decide_eq_true_eq] at hdom
      have hlt : i < (2 : Int) ^ storageBits n := by
        cases b with
        | true => simpa using hdom.2
        | false => have := pow_storage_le n hw.2; simp at hdom; omega
      exact serInt_unsigned_spec o.isAligned n m s i hinv hal hw.1 hroom hdom.1 hlt
    | _ => simp [inDom] at hdom
  case sint =>
    intro n hw hn2
    simp only [wf, decide_eq_true_eq] at hw
    refine serRef_prim rfl fun o s v b hinv hal hroom hdom => ?_
    cases v with
    | int i => exact serInt_signed_spec o.isAligned n s i hinv hal hn2 hw.2 hroom
    | _ => simp [inDom] at hdom
  case float =>
    intro n m hw
    simp only [wf, decide_eq_true_eq] at hw
    refine serRef_prim rfl fun o s v b hinv hal hroom hdom => ?_
    cases v with
    | float x =>
      simp only [inDom, Bool.and_eq_true, decide_eq_true_eq] at hdom
      exact serFloat_spec env hs.fl o.isAligned n m s x hinv hal hw hdom.1 hroom
    | _ => simp [inDom] at hdom
  case bool =>
    refine serRef_prim rfl fun o s v b hinv hal hroom hdom => ?_
    cases v with
    | bool x => exact serBool_spec s x hinv hroom
    | _ => simp [inDom] at hdom
  case void =>
    intro n
    refine serRef_prim rfl fun o s v b hinv hal hroom hdom => ?_
    cases v with
    | void => exact ⟨skipBits s n, rfl, skipBits_appL hinv n⟩
    | _ => simp [inDom] at hdom

end NunavutVerif.GenPy
