import NunavutVerif.Model.Resolve
/-!
C16 (Model/Resolve.lean).  The stem → path dict is `List.find?` from the end (`tfind_eq_find`), so its lemmas are
core's.  The search agrees with `nearestAncestor` because the cache only ever holds right answers (`CacheOk`).  A
successful construction has put each of `filters` and `tests` through ONE `addAll`, built-in ++ user's ++ built-in
(`constructRest_ok`); `addAll_false_ok` says what such a run leaves, `addAll_false_insert` compares it with the run
without the user's part.
-/
namespace NunavutVerif.Resolve

theorem tfind_eq_find (t : Templates) (n : Name) : tfind t n = (t.reverse.find? (·.1 = n)).map (·.2) := by
  induction t with
  | nil => rfl
  | cons e t ih =>
    simp only [tfind, ih, List.reverse_cons, List.find?_append, List.find?_cons, List.find?_nil]
    cases List.find? _ t.reverse <;> by_cases h : e.1 = n <;> simp [h]

theorem tfind_append (a b : Templates) (n : Name) :
    tfind (a ++ b) n = match tfind b n with
      | some p => some p
      | none => tfind a n := by
  simp only [tfind_eq_find, List.reverse_append, List.find?_append]
  cases List.find? _ b.reverse <;> rfl

theorem tfind_merged (fs pkg : Option Templates) : tfind (merged fs pkg) = mfind fs pkg := by
  funext n
  unfold merged mfind
  rw [tfind_append]
  cases fs <;> cases pkg <;> simp [tfind, Option.bind] <;> rfl

theorem tfind_isSome_iff (t : Templates) (n : Name) : (tfind t n).isSome ↔ ∃ p, (n, p) ∈ t := by
  simp [tfind_eq_find, List.find?_isSome]

theorem tfind_some_of_mem {t : Templates} {n : Name} {p : Path} (h : (n, p) ∈ t) : ∃ q, tfind t n = some q :=
  Option.isSome_iff_exists.mp ((tfind_isSome_iff t n).mpr ⟨p, h⟩)

theorem tfind_mem {t : Templates} {n : Name} {p : Path} (h : tfind t n = some p) : (n, p) ∈ t := by
  rw [tfind_eq_find, Option.map_eq_some_iff] at h
  obtain ⟨e, he, rfl⟩ := h
  have hn := List.find?_some he
  rw [← of_decide_eq_true hn]
  exact List.mem_reverse.mp (List.mem_of_find?_eq_some he)

theorem tfind_of_mem {t : Templates} (hu : ∀ a ∈ t, ∀ b ∈ t, a.1 = b.1 → a.2 = b.2) {n : Name} {p : Path}
    (h : (n, p) ∈ t) : tfind t n = some p := by
  obtain ⟨q, hq⟩ := tfind_some_of_mem h
  rw [hq]
  exact congrArg some (hu _ (tfind_mem hq) _ h rfl)

theorem tfind_none_iff (t : Templates) (n : Name) : tfind t n = none ↔ ∀ p, (n, p) ∉ t := by
  rw [← Option.not_isSome_iff_eq_none, tfind_isSome_iff, not_exists]

theorem unambiguous_of_pairwise {α β : Type} {l : List (α × β)} (h : l.Pairwise fun a b => a.1 = b.1 → a.2 = b.2) :
    ∀ a ∈ l, ∀ b ∈ l, a.1 = b.1 → a.2 = b.2 := fun _ ha _ hb =>
  List.Pairwise.forall_of_forall_of_flip (fun _ _ _ => rfl) h (h.imp fun h e => (h e.symm).symm) ha hb

theorem tfind_some_iff_of_nodup {t : Templates} (hnd : (t.map Prod.fst).Nodup) (n : Name) (p : Path) :
    tfind t n = some p ↔ (n, p) ∈ t :=
  ⟨tfind_mem, tfind_of_mem (unambiguous_of_pairwise ((List.pairwise_map.mp hnd).imp fun h e => absurd e h))⟩

theorem tfind_perm {t t' : Templates} (hp : t.Perm t') (hnd : (t.map Prod.fst).Nodup) (n : Name) :
    tfind t n = tfind t' n := by
  have hnd' : (t'.map Prod.fst).Nodup := (hp.map Prod.fst).nodup_iff.mp hnd
  apply Option.ext
  intro p
  rw [tfind_some_iff_of_nodup hnd, tfind_some_iff_of_nodup hnd', hp.mem_iff]

theorem nearest_some {H : Hier} {find : Name → Option Path} : ∀ {cs : List Cls} {p : Path},
    nearest H find cs = some p → ∃ c ∈ cs, find (H.name c) = some p
  | [], _, h => by simp [nearest] at h
  | c :: cs, p, h => by
    unfold nearest at h
    cases hf : find (H.name c) with
    | some q => rw [hf] at h; cases h; exact ⟨c, by simp, hf⟩
    | none =>
      rw [hf] at h
      obtain ⟨c', h1, h2⟩ := nearest_some h
      exact ⟨c', List.mem_cons_of_mem _ h1, h2⟩

theorem chain_fuel {H : Hier} {rank : Cls → Nat} (hR : RankedBy H rank) :
    ∀ f g c, rank c < f → rank c < g → chain H f c = chain H g c := by
  intro f
  induction f with
  | zero => exact fun g c h => absurd h (Nat.not_lt_zero _)
  | succ f ih =>
    intro g c hf hg
    cases g with
    | zero => exact absurd hg (Nat.not_lt_zero _)
    | succ g =>
      simp only [chain]
      cases hb : H.bases c with
      | nil => rfl
      | cons b bs =>
        have below : ∀ {n}, rank c < n + 1 → rank b < n :=
          fun h => Nat.lt_of_lt_of_le (hR c b (by simp [hb])) (Nat.le_of_lt_succ h)
        simp only [List.cons.injEq, true_and]
        exact ih g b (below hf) (below hg)

theorem nearestAncestor_step {H : Hier} {rank : Cls → Nat} (hR : RankedBy H rank) (find : Name → Option Path)
    (c : Cls) :
    nearestAncestor H find rank c =
      match find (H.name c) with
      | some p => some p
      | none => match H.bases c with
        | [] => none
        | b :: _ => nearestAncestor H find rank b := by
  have hl : nearestAncestor H find rank c = nearest H find (c :: match H.bases c with
      | b :: _ => chain H (rank c) b
      | [] => []) := rfl
  rw [hl]
  simp only [nearest]
  cases find (H.name c) with
  | some p => rfl
  | none =>
    cases hb : H.bases c with
    | nil => rfl
    | cons b bs =>
      have := hR c b (by simp [hb])
      simp only
      rw [chain_fuel hR (rank c) (rank b + 1) b this (Nat.lt_succ_self _)]
      rfl

def CacheOk (H : Hier) (find : Name → Option Path) (rank : Cls → Nat) (cache : Cache) : Prop :=
  ∀ c p, cfind cache c = some p → nearestAncestor H find rank c = some p

/-- `d`, the classes discovered so far, all lie below `c` on the chain (subclasses: larger rank), so the one base of `c`
is never among them. -/
theorem bfs_spec {H : Hier} {rank : Cls → Nat} (hS : SingleInheritance H) (hR : RankedBy H rank) (tpl : Templates) :
    ∀ fuel cache c d, CacheOk H (tfind tpl) rank cache → (∀ x ∈ d, rank c < rank x) →
      (bfs H tpl fuel cache [c] d = none ∧ fuel ≤ rank c) ∨
      (∃ cache', bfs H tpl fuel cache [c] d = some (nearestAncestor H (tfind tpl) rank c, cache') ∧
        CacheOk H (tfind tpl) rank cache') := by
  intro fuel
  induction fuel with
  | zero => exact fun _ _ _ _ _ => Or.inl ⟨rfl, Nat.zero_le _⟩
  | succ fuel ih =>
    intro cache c d hC hd
    simp only [bfs]
    cases hc : cfind cache c with
    | some p => exact Or.inr ⟨cache, by rw [hC c p hc], hC⟩
    | none =>
      rw [nearestAncestor_step hR]
      cases ht : tfind tpl (H.name c) with
      | some p =>
        refine Or.inr ⟨(c, p) :: cache, rfl, fun c' p' h' => ?_⟩
        simp only [cfind] at h'
        split at h'
        · next he => cases h'; rw [← he, nearestAncestor_step hR, ht]
        · exact hC c' p' h'
      | none =>
        simp only
        cases hb : H.bases c with
        | nil => exact Or.inr ⟨cache, by simp [pushBases, bfs], hC⟩
        | cons b bs =>
          have hbs : bs = [] := by have := hS c; rw [hb] at this; simpa using this
          subst hbs
          have hrb : rank b < rank c := hR c b (by simp [hb])
          have hnb : d.contains b = false :=
            Bool.eq_false_iff.mpr fun hm => Nat.lt_asymm hrb (hd b (List.contains_iff_mem.mp hm))
          simp only [pushBases, hnb, List.nil_append, Bool.false_eq_true, if_false]
          have hd' : ∀ x ∈ (if d.contains c = true then d else c :: d), rank b < rank x := by
            intro x hx
            split at hx
            · exact Nat.lt_trans hrb (hd x hx)
            · rcases List.mem_cons.mp hx with rfl | h1
              · exact hrb
              · exact Nat.lt_trans hrb (hd x h1)
          rcases ih cache b _ hC hd' with ⟨h1, h2⟩ | h
          · exact Or.inl ⟨h1, Nat.lt_of_le_of_lt h2 hrb⟩
          · exact Or.inr h

theorem reachable_cacheOk {H : Hier} {rank : Cls → Nat} (hS : SingleInheritance H) (hR : RankedBy H rank)
    (fs pkg : Option Templates) {cache : Cache} (h : Reachable H fs pkg cache) :
    CacheOk H (mfind fs pkg) rank cache := by
  induction h with
  | empty => exact fun c p h => by simp [cfind] at h
  | @step cache fuel c r cache' _ hl ih =>
    unfold lookup at hl
    rw [← tfind_merged] at ih ⊢
    rcases bfs_spec hS hR (merged fs pkg) fuel cache c [] ih (by simp) with ⟨h1, _⟩ | ⟨cache'', h1, h2⟩
    · rw [h1] at hl; cases hl
    · rw [h1] at hl; cases hl; exact h2

theorem lookup_spec {H : Hier} {rank : Cls → Nat} (hS : SingleInheritance H) (hR : RankedBy H rank)
    (fs pkg : Option Templates) {cache : Cache} (hc : Reachable H fs pkg cache) (c : Cls) (fuel : Nat) :
    (lookup H fuel cache fs pkg c = none ∧ fuel ≤ rank c) ∨
    ∃ cache', lookup H fuel cache fs pkg c = some (nearestAncestor H (mfind fs pkg) rank c, cache') ∧
      Reachable H fs pkg cache' := by
  have hC := reachable_cacheOk hS hR fs pkg hc
  rw [← tfind_merged] at hC ⊢
  rcases bfs_spec hS hR (merged fs pkg) fuel cache c [] hC (by simp) with h | ⟨cache', h1, _⟩
  · exact Or.inl h
  · exact Or.inr ⟨cache', h1, Reachable.step hc h1⟩

theorem cget_cset (m : Coll) (n k : Name) (v : Owner) :
    cget (cset m n v) k = if n = k then some v else cget m k := by
  induction m with
  | nil => simp [cset, cget]
  | cons e m ih =>
    obtain ⟨a, w⟩ := e
    by_cases ha : a = n
    · subst ha
      simp only [cset, if_true, cget]
      by_cases hk : a = k <;> simp [hk]
    · simp only [cset, ha, if_false, cget, ih]
      by_cases hk : a = k
      · subst hk; simp [Ne.symm ha]
      · simp [hk]

theorem addToEnv_false_taken {m : Coll} {n : Name} {v w : Owner} (h : cget m n = some w) :
    addToEnv false m n v = .error (.alreadyDefined n) := by
  simp [addToEnv, h]

theorem addToEnv_true (m : Coll) (n : Name) (v : Owner) : addToEnv true m n v = .ok (cset m n v) := by
  unfold addToEnv
  cases cget m n <;> rfl

theorem addToEnv_ok {allow : Bool} {m m' : Coll} {n : Name} {v : Owner} (h : addToEnv allow m n v = .ok m') :
    m' = cset m n v ∧ (allow = false → cget m n = none) := by
  unfold addToEnv at h
  cases hc : cget m n <;> cases allow <;> simp [hc] at h ⊢ <;> exact h.symm

theorem addAll_cons_ok {allow : Bool} {m m' : Coll} {n : Name} {v : Owner} {xs : List (Name × Owner)}
    (h : addAll allow m ((n, v) :: xs) = .ok m') :
    addAll allow (cset m n v) xs = .ok m' ∧ (allow = false → cget m n = none) := by
  simp only [addAll] at h
  cases h1 : addToEnv allow m n v with
  | error x => simp [h1] at h
  | ok m1 =>
    obtain ⟨rfl, hfree⟩ := addToEnv_ok h1
    exact ⟨by simpa [h1] using h, hfree⟩

theorem addAll_ok {allow : Bool} {xs : List (Name × Owner)} {m m' : Coll} (h : addAll allow m xs = .ok m') :
    m' = setAll m xs := by
  induction xs generalizing m with
  | nil => cases h; rfl
  | cons e xs ih => exact ih (addAll_cons_ok h).1

theorem addAll_false_ok {xs : List (Name × Owner)} {m m' : Coll} (h : addAll false m xs = .ok m') :
    (∀ k v, cget m k = some v → cget m' k = some v) ∧
    (∀ e ∈ xs, cget m' e.1 = some e.2) ∧
    (∀ k v, cget m' k = some v → cget m k = some v ∨ (k, v) ∈ xs) ∧
    (∀ e ∈ xs, cget m e.1 = none) ∧ (xs.map Prod.fst).Nodup := by
  induction xs generalizing m with
  | nil => cases h; simp
  | cons e xs ih =>
    obtain ⟨n, v⟩ := e
    obtain ⟨h', hfree⟩ := addAll_cons_ok h
    have hfree := hfree rfl
    obtain ⟨hM, hN, hD, hF, hU⟩ := ih h'
    simp only [cget_cset] at hM hD hF
    have hne : ∀ e ∈ xs, n ≠ e.1 ∧ cget m e.1 = none := fun e he => by
      have := hF e he
      split at this
      · cases this
      · next hn => exact ⟨hn, this⟩
    refine ⟨fun k w hk => hM k w ?_, ?_, fun k w hk => ?_, ?_, ?_⟩
    · rw [if_neg fun e => by rw [← e, hfree] at hk; cases hk]
      exact hk
    · exact List.forall_mem_cons.mpr ⟨hM n v (if_pos rfl), hN⟩
    · rcases hD k w hk with h1 | h1
      · split at h1
        · next hn => cases h1; exact Or.inr (hn ▸ List.mem_cons_self)
        · exact Or.inl h1
      · exact Or.inr (List.mem_cons_of_mem _ h1)
    · exact List.forall_mem_cons.mpr ⟨hfree, fun e he => (hne e he).2⟩
    · refine List.nodup_cons.mpr ⟨fun hmem => ?_, hU⟩
      obtain ⟨e, he, hen⟩ := List.mem_map.mp hmem
      exact (hne e he).1 hen.symm

theorem exists_error_of_forall_ne_ok {ε α : Type} {r : Except ε α} (h : ∀ a, r ≠ .ok a) : ∃ x, r = .error x := by
  cases r with
  | error x => exact ⟨x, rfl⟩
  | ok a => exact absurd rfl (h a)

theorem addAll_false_collision (xs : List (Name × Owner)) (m : Coll) (e : Name × Owner) (he : e ∈ xs)
    (w : Owner) (hw : cget m e.1 = some w) : ∃ x, addAll false m xs = .error x :=
  exists_error_of_forall_ne_ok fun m' h => by
    have := (addAll_false_ok h).2.2.2.1 e he
    rw [hw] at this; cases this

theorem addAll_false_insert {a b c : List (Name × Owner)} {m m₀ m' : Coll}
    (h₀ : addAll false m (a ++ c) = .ok m₀) (h : addAll false m (a ++ b ++ c) = .ok m') :
    (∀ k v, cget m₀ k = some v → cget m' k = some v) ∧ (∀ e ∈ b, cget m' e.1 = some e.2) ∧
    (∀ e ∈ b, cget m₀ e.1 = none) := by
  obtain ⟨M, N, _, F, U⟩ := addAll_false_ok h
  obtain ⟨_, _, D₀, _, _⟩ := addAll_false_ok h₀
  have hb : ∀ e ∈ b, e ∈ a ++ b ++ c := fun e he => List.mem_append_left _ (List.mem_append_right _ he)
  refine ⟨fun k v hk => ?_, fun e he => N e (hb e he), fun e he => ?_⟩
  · rcases D₀ k v hk with h1 | h1
    · exact M k v h1
    · refine N (k, v) ?_
      rcases List.mem_append.mp h1 with h2 | h2
      · exact List.mem_append_left _ (List.mem_append_left _ h2)
      · exact List.mem_append_right _ h2
  · cases hw : cget m₀ e.1 with
    | none => rfl
    | some w =>
      -- the name would be free in `m` and occur only once among the additions
      rw [List.map_append, List.map_append, List.nodup_append, List.nodup_append] at U
      rcases D₀ _ _ hw with h1 | h1
      · rw [F e (hb e he)] at h1; cases h1
      · rcases List.mem_append.mp h1 with h2 | h2
        · exact absurd rfl (U.1.2.2 _ (List.mem_map_of_mem (f := Prod.fst) h2) e.1 (List.mem_map_of_mem he))
        · exact absurd rfl (U.2.2 e.1 (List.mem_append_right _ (List.mem_map_of_mem he)) _
            (List.mem_map_of_mem (f := Prod.fst) (a := (e.1, w)) h2))

theorem addAll_append (allow : Bool) (xs ys : List (Name × Owner)) (m : Coll) :
    addAll allow m (xs ++ ys) = match addAll allow m xs with
      | .ok m' => addAll allow m' ys
      | .error e => .error e := by
  induction xs generalizing m with
  | nil => simp [addAll]
  | cons e xs ih =>
    obtain ⟨n, v⟩ := e
    simp only [List.cons_append, addAll]
    cases addToEnv allow m n v with
    | ok m1 => simp only [ih]
    | error x => rfl

def lastOf : List (Name × Owner) → Name → Option Owner
  | [], _ => none
  | (n, v) :: rest, k =>
    match lastOf rest k with
    | some w => some w
    | none => if n = k then some v else none

theorem cget_setAll (xs : List (Name × Owner)) (m : Coll) (k : Name) :
    cget (setAll m xs) k = match lastOf xs k with
      | some w => some w
      | none => cget m k := by
  induction xs generalizing m with
  | nil => simp [setAll, lastOf]
  | cons e xs ih =>
    obtain ⟨n, v⟩ := e
    simp only [setAll, lastOf, ih, cget_cset]
    cases lastOf xs k with
    | some w => rfl
    | none => by_cases hnk : n = k <;> simp [hnk]

theorem cget_setAll_mono {xs : List (Name × Owner)} {g g' : Coll} {k : Name} {v : Owner}
    (hmono : cget g k = some v → cget g' k = some v) :
    cget (setAll g xs) k = some v → cget (setAll g' xs) k = some v := by
  rw [cget_setAll, cget_setAll]
  cases lastOf xs k with
  | none => exact hmono
  | some w => exact id

theorem setAll_append (m : Coll) (xs ys : List (Name × Owner)) : setAll m (xs ++ ys) = setAll (setAll m xs) ys := by
  induction xs generalizing m with
  | nil => rfl
  | cons e xs ih => obtain ⟨n, v⟩ := e; simp only [List.cons_append, setAll, ih]

theorem lastOf_append (xs ys : List (Name × Owner)) (k : Name) :
    lastOf (xs ++ ys) k = match lastOf ys k with
      | some w => some w
      | none => lastOf xs k := by
  induction xs with
  | nil => cases h : lastOf ys k <;> simp [lastOf, h]
  | cons e xs ih =>
    obtain ⟨n, v⟩ := e
    simp only [List.cons_append, lastOf, ih]
    cases lastOf ys k <;> rfl

theorem lastOf_map_reserved (ns : List Name) (k : Name) :
    lastOf (ns.map fun n => (n, Owner.reserved)) k = if k ∈ ns then some Owner.reserved else none := by
  induction ns with
  | nil => simp [lastOf]
  | cons a ns ih =>
    simp only [List.map_cons, lastOf, ih, List.mem_cons]
    by_cases h1 : k ∈ ns
    · simp [h1]
    · by_cases h2 : a = k
      · subst h2; simp [h1]
      · have : ¬ k = a := fun e => h2 e.symm
        simp [h1, h2, this]

theorem builtinGlobals_eq_setAll (cfg : EnvCfg) (g : Coll) :
    builtinGlobals cfg g =
      setAll g (cfg.reservedNs.map (fun n => (n, Owner.reserved)) ++ (nowUtc, .reserved) :: cfg.langGlobals) := by
  rw [setAll_append]
  rfl

theorem cget_builtinGlobals (cfg : EnvCfg) (g : Coll) (k : Name) :
    cget (builtinGlobals cfg g) k =
      match lastOf cfg.langGlobals k with
      | some v => some v
      | none => if nowUtc = k then some Owner.reserved
                else if k ∈ cfg.reservedNs then some Owner.reserved else cget g k := by
  unfold builtinGlobals
  rw [cget_setAll, cget_cset, cget_setAll, lastOf_map_reserved]
  cases lastOf cfg.langGlobals k with
  | some v => rfl
  | none =>
    by_cases h1 : nowUtc = k
    · simp [h1]
    · by_cases h2 : k ∈ cfg.reservedNs <;> simp [h1, h2]

theorem cget_builtinGlobals_congr (cfg : EnvCfg) (g g' : Coll) (k : Name) (h : cget g k = cget g' k) :
    cget (builtinGlobals cfg g) k = cget (builtinGlobals cfg g') k := by
  rw [cget_builtinGlobals, cget_builtinGlobals, h]

theorem addGlobals_ok {reserved : List Name} {allow : Bool} {xs : List (Name × Owner)} {g g' : Coll}
    (h : addGlobals reserved allow g xs = .ok g') : addAll allow g xs = .ok g' ∧ ∀ e ∈ xs, e.1 ∉ reserved := by
  induction xs generalizing g with
  | nil => exact ⟨h, by simp⟩
  | cons e xs ih =>
    obtain ⟨n, v⟩ := e
    simp only [addGlobals, List.contains_iff_mem] at h
    by_cases hr : n ∈ reserved
    · simp [hr] at h
    · simp only [hr, if_false] at h
      simp only [addAll]
      cases h1 : addToEnv allow g n v with
      | error x => simp [h1] at h
      | ok g1 =>
        simp only [h1] at h ⊢
        obtain ⟨h2, h3⟩ := ih h
        exact ⟨h2, List.forall_mem_cons.mpr ⟨hr, h3⟩⟩

theorem addGlobalsBeforeFix_eq (reserved : List Name) (xs : List (Name × Owner)) (g : Coll) :
    addGlobalsBeforeFix reserved g xs = addGlobals reserved true g xs := by
  induction xs generalizing g with
  | nil => rfl
  | cons e xs ih => simp only [addGlobalsBeforeFix, addGlobals, addToEnv_true, ih]

def postOf (k : Kind) (post : List (Kind × Name × Owner)) : List (Name × Owner) :=
  post.filterMap fun e => if e.1 = k then some e.2 else none

theorem addPost_ok {allow : Bool} {post : List (Kind × Name × Owner)} {e e' : Env} (h : addPost allow e post = .ok e') :
    addAll allow e.filters (postOf .filter post) = .ok e'.filters ∧
    addAll allow e.tests (postOf .test post) = .ok e'.tests ∧ e'.globals = e.globals := by
  induction post generalizing e with
  | nil => cases h; simp [postOf, addAll]
  | cons a post ih =>
    obtain ⟨k, n, v⟩ := a
    cases k with
    | filter =>
      simp only [addPost] at h
      cases h1 : addToEnv allow e.filters n v with
      | error x => simp [h1] at h
      | ok f =>
        simp only [h1] at h
        simpa [postOf, addAll, h1] using ih h
    | test =>
      simp only [addPost] at h
      cases h1 : addToEnv allow e.tests n v with
      | error x => simp [h1] at h
      | ok t =>
        simp only [h1] at h
        simpa [postOf, addAll, h1] using ih h

theorem constructRest_ok {cfg : EnvCfg} {allow : Bool} {g : Coll} {uf ut : List (Name × Owner)} {env : Env}
    (h : constructRest cfg allow g uf ut = .ok env) :
    addAll allow cfg.jinjaFilters (cfg.preFilters ++ conv uf ++ postOf .filter cfg.post) = .ok env.filters ∧
    addAll allow cfg.jinjaTests (cfg.preTests ++ conv ut ++ postOf .test cfg.post) = .ok env.tests ∧
    env.globals = builtinGlobals cfg g := by
  unfold constructRest at h
  simp only [addAll_append]
  cases hf1 : addAll allow cfg.jinjaFilters cfg.preFilters with
  | error x => simp [hf1] at h
  | ok f1 =>
    cases ht1 : addAll allow cfg.jinjaTests cfg.preTests with
    | error x => simp [hf1, ht1] at h
    | ok t1 =>
      simp only [hf1, ht1] at h ⊢
      cases hf2 : addAll allow f1 (conv uf) with
      | error x => simp [hf2] at h
      | ok f2 =>
        cases ht2 : addAll allow t1 (conv ut) with
        | error x => simp [hf2, ht2] at h
        | ok t2 =>
          simp only [hf2, ht2] at h ⊢
          exact addPost_ok h

theorem construct_ok {cfg : EnvCfg} {allow : Bool} {ug uf ut : List (Name × Owner)} {env : Env}
    (h : construct cfg allow ug uf ut = .ok env) :
    ∃ g, (addAll allow cfg.jinjaGlobals ug = .ok g ∧ ∀ e ∈ ug, e.1 ∉ cfg.reservedNs ++ cfg.reservedNames) ∧
      constructRest cfg allow g uf ut = .ok env := by
  unfold construct at h
  cases hg : addGlobals (cfg.reservedNs ++ cfg.reservedNames) allow cfg.jinjaGlobals ug with
  | error x => simp [hg] at h
  | ok g => exact ⟨g, addGlobals_ok hg, by simpa [hg] using h⟩

theorem constructBeforeFix_ok {cfg : EnvCfg} {allow : Bool} {ug uf ut : List (Name × Owner)} {env : Env}
    (h : constructBeforeFix cfg allow ug uf ut = .ok env) :
    (∀ e ∈ ug, e.1 ∉ cfg.reservedNs ++ cfg.reservedNames) ∧
      constructRest cfg allow (setAll cfg.jinjaGlobals ug) uf ut = .ok env := by
  unfold constructBeforeFix at h
  rw [addGlobalsBeforeFix_eq] at h
  cases hg : addGlobals (cfg.reservedNs ++ cfg.reservedNames) true cfg.jinjaGlobals ug with
  | error x => simp [hg] at h
  | ok g =>
    obtain ⟨hs, hr⟩ := addGlobals_ok hg
    cases addAll_ok hs
    exact ⟨hr, by simpa [hg] using h⟩

theorem singleInheritance_ofTable {t : Table} (stops : List Name) (h : ∀ e ∈ t, e.2.length ≤ 1) :
    SingleInheritance (Hier.ofTable t stops) := by
  intro c
  simp only [Hier.ofTable]
  cases hc : t[c]? with
  | none => simp
  | some e =>
    simp only
    split
    · simp
    · exact Nat.le_trans (List.length_filterMap_le _ _) (h e (List.mem_of_getElem? hc))

theorem rankedBy_ofTable {t : Table} {stops : List Name}
    (h : ∀ c, c < t.length → ∀ b ∈ (Hier.ofTable t stops).bases c, b < c) : RankedBy (Hier.ofTable t stops) id := by
  intro c b hb
  by_cases hc : c < t.length
  · exact h c hc b hb
  · have : t[c]? = none := List.getElem?_eq_none (Nat.le_of_not_lt hc)
    simp [Hier.ofTable, this] at hb

theorem ofTable_name {t : Table} {stops : List Name} {i : Nat} {e : Name × List Name} (h : t[i]? = some e) :
    (Hier.ofTable t stops).name i = e.1 := by
  simp only [Hier.ofTable, h]

theorem ofTable_bases {t : Table} {stops : List Name} {i : Nat} {e : Name × List Name} (h : t[i]? = some e) :
    (Hier.ofTable t stops).bases i = if stops.contains e.1 then [] else e.2.filterMap (indexOf t) := by
  simp only [Hier.ofTable, h]

theorem table_getElem {t : Table} (hN : (t.map Prod.fst).Nodup) :
    ∀ {i : Nat} {e : Name × List Name}, t[i]? = some e → indexOf t e.1 = some i ∧ basesOf t e.1 = e.2 := by
  induction t with
  | nil => intro i e h; cases h
  | cons r t ih =>
    intro i e h
    obtain ⟨hr, hN⟩ := List.nodup_cons.mp hN
    cases i with
    | zero => cases h; simp [indexOf, basesOf]
    | succ i =>
      have hne : r.1 ≠ e.1 := fun he => hr (he ▸ List.mem_map_of_mem (List.mem_of_getElem? h))
      simp [indexOf, basesOf, hne, ih hN h]

theorem indexOf_some {n : Name} : ∀ {t : Table} {b : Nat}, indexOf t n = some b → ∃ bs, t[b]? = some (n, bs)
  | (m, bs) :: t, b, h => by
    unfold indexOf at h
    split at h
    · next hm => cases h; exact ⟨bs, by rw [hm]; rfl⟩
    · obtain ⟨b', hb', rfl⟩ := Option.map_eq_some_iff.mp h
      exact (indexOf_some hb').imp fun _ h => h

theorem isSub_mono {t : Table} {r : Name} {f g : Nat} {c : Name} (hfg : f ≤ g) (h : isSub t f c r = true) :
    isSub t g c r = true := by
  induction f generalizing g c with
  | zero => cases g <;> simp_all [isSub]
  | succ f ih =>
    cases g with
    | zero => exact absurd hfg (Nat.not_succ_le_zero f)
    | succ g =>
      rw [isSub, Bool.or_eq_true, List.any_eq_true] at h ⊢
      exact h.imp id fun ⟨b, hb, h⟩ => ⟨b, hb, ih (Nat.le_of_succ_le_succ hfg) h⟩

/-- `hstop`: no class the search stops at is a proper subclass of the ancestor asked for (row `j`); the name-based
`issubclass` does not stop there.  The two fuels are matched, so the table need not be acyclic. -/
theorem isSub_eq_chain_contains {t : Table} {stops : List Name} (hN : (t.map Prod.fst).Nodup)
    (hW : ∀ e ∈ t, ∀ b ∈ e.2, (indexOf t b).isSome = true) (hS : ∀ e ∈ t, e.2.length ≤ 1)
    {j : Nat} {r : Name × List Name} (hj : t[j]? = some r) {F : Nat}
    (hstop : ∀ s ∈ stops, s ≠ r.1 → isSub t F s r.1 = false) :
    ∀ f, f ≤ F → ∀ i e, t[i]? = some e →
      isSub t f e.1 r.1 = (chain (Hier.ofTable t stops) (f + 1) i).contains j := by
  have hij : ∀ {i e}, t[i]? = some e → decide (e.1 = r.1) = (j == i) := fun {i e} hi => by
    rw [Bool.eq_iff_iff, decide_eq_true_iff, beq_iff_eq]
    exact ⟨fun h => Option.some.inj ((table_getElem hN hj).1.symm.trans (h ▸ (table_getElem hN hi).1)),
      fun h => by subst h; rw [hi] at hj; cases hj; rfl⟩
  intro f
  induction f with
  | zero =>
    intro _ i e hi
    simp only [isSub, chain, hij hi]
    split <;> simp only [List.contains_cons, List.contains_nil, Bool.or_false]
  | succ f ih =>
    intro hf i e hi
    rw [isSub, chain, (table_getElem hN hi).2, hij hi, List.contains_cons, ofTable_bases hi]
    cases hji : j == i with
    | true => rfl
    | false =>
      have he := List.mem_of_getElem? hi
      -- `hS`: at most one base, so the match is complete with these two cases
      match h2 : e.2, hS e he with
      | [], _ => simp
      | [bn], _ =>
        obtain ⟨b, hbn⟩ := Option.isSome_iff_exists.mp (hW e he bn (by simp [h2]))
        obtain ⟨bs, hbs⟩ := indexOf_some hbn
        simp only [List.any_cons, List.any_nil, Bool.or_false, List.filterMap_cons, hbn, List.filterMap_nil,
          Bool.false_or]
        by_cases hs : stops.contains e.1 = true
        · -- the search stops here; by `hstop` the name-based test finds nothing further up either
          rw [if_pos hs]
          refine Bool.eq_false_iff.mpr fun h => ?_
          have hne : e.1 ≠ r.1 := fun h => by simp [← hij hi, h] at hji
          have := hstop e.1 (List.contains_iff_mem.mp hs) hne
          rw [isSub_mono hf (by rw [isSub, (table_getElem hN hi).2, h2]; simp [h])] at this
          cases this
        · rw [if_neg hs]
          exact ih (Nat.le_of_succ_le hf) b _ hbs

theorem genTable_single : ∀ e ∈ genTable, e.2.length ≤ 1 := by decide +kernel

theorem testClass_eq_tfind : testClass = tfind := by
  funext l n
  induction l with
  | nil => rfl
  | cons e l ih => simp only [testClass, tfind, ih]; cases tfind l n <;> rfl

theorem evalTest_of_testClass {tests : List (Name × Name)} {n root : Name} (h : testClass tests n = some root)
    (t : Table) (redirect vcls : Name) (dt : Option Name) :
    evalTest t tests redirect n vcls dt = fieldIsInstance t redirect root vcls dt := by
  unfold evalTest
  rw [h]

theorem genTests_agree_with_code : genTests.isSome = true ∧
    (∀ e ∈ genTests.getD [], e ∈ genCodeTests) ∧ (∀ e ∈ genCodeTests, e ∈ genTests.getD []) := by
  decide +kernel

theorem rfindAux_append (ch : Char) (a b : List Char) (i : Nat) (acc : Option Nat) :
    rfindAux ch (a ++ b) i acc = rfindAux ch b (i + a.length) (rfindAux ch a i acc) := by
  induction a generalizing i acc with
  | nil => simp [rfindAux]
  | cons c a ih =>
    simp only [List.cons_append, rfindAux, ih, List.length_cons]
    have : i + 1 + a.length = i + (a.length + 1) := by omega
    rw [this]

theorem rfindAux_absent (ch : Char) (x : List Char) (hx : ch ∉ x) (i : Nat) (acc : Option Nat) :
    rfindAux ch x i acc = acc := by
  induction x generalizing i with
  | nil => rfl
  | cons c x ih =>
    have h1 : c ≠ ch := fun e => hx (by simp [e])
    have h2 : ch ∉ x := fun e => hx (List.mem_cons_of_mem _ e)
    simp [rfindAux, h1, ih h2]

theorem splitExt_last_suffix (s x : List Char) (hs : s ≠ []) (hx : x ≠ []) (hdot : '.' ∉ x) :
    splitExt (s ++ '.' :: x) = (s, '.' :: x) := by
  unfold splitExt
  rw [rfindAux_append]
  simp only [rfindAux, if_true, Nat.zero_add]
  rw [rfindAux_absent '.' x hdot]
  have h1 : 0 < s.length := List.length_pos_iff.mpr hs
  have h2 : 0 < x.length := List.length_pos_iff.mpr hx
  have h3 : s.length + 1 < (s ++ '.' :: x).length := by simp; omega
  simp only [h1, h3, and_self, if_true]
  simp

end NunavutVerif.Resolve
