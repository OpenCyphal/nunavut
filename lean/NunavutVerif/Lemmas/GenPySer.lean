import NunavutVerif.Lemmas.GenPySerPrim
import NunavutVerif.Lemmas.DsdlRoundTrip
/-!
The serializer's arrays (three element paths), structures, unions, sealed nesting: each combinator of `Model/GenPy.lean`
against its clause of `serBits`, given the claim for the components.
-/
namespace NunavutVerif.GenPy
open NunavutVerif.Dsdl
open NunavutVerif.Bits (Buf Err bitAt WF)
open NunavutVerif.Bits.Py

def Match (r : Except Exc Ser) (s : Ser) (pre : List Bool) (spec : Except SerErr (List Bool)) : Prop :=
  match spec with
  | .ok bs => ∃ s', r = .ok s' ∧ AppL s s' (pre ++ bs)
  | .error e => r = .error (excOf e)

/-- refinement claim for `_serialize_any(t, …)` at an arbitrary cursor -/
def SerRef (env : Env) (t : Ty) : Prop :=
  ∀ (o : AOff) (s : Ser) (v : Val) (b : Bool), s.Inv → Sound o (s.off + padLen (align t) s.off) →
    Room s (padLen (align t) s.off + maxBits t) → inDom b t v = true →
    Match (serAny env t o s v) s (zeros (padLen (align t) s.off)) (serBits t v)

/-- refinement claim for the method `_serialize_` of the class of `t` at a byte-aligned cursor -/
def ObjRef (env : Env) (t : Ty) : Prop :=
  ∀ (s : Ser) (v : Val) (b : Bool), s.Inv → s.off % 8 = 0 → Room s (maxBits t) → inDom b t v = true →
    Match (serObj env t s v) s [] (serBits t v)

theorem Match.cases {r : Except Exc Ser} {s : Ser} {pre : List Bool} {spec : Except SerErr (List Bool)}
    (h : Match r s pre spec) :
    (∃ e, spec = .error e ∧ r = .error (excOf e)) ∨
    (∃ bs s', spec = .ok bs ∧ r = .ok s' ∧ AppL s s' (pre ++ bs)) := by
  cases spec with
  | error e => exact .inl ⟨e, rfl, h⟩
  | ok bs => obtain ⟨s', hr, ha⟩ := h; exact .inr ⟨bs, s', rfl, hr, ha⟩

theorem Match.of_ok {r : Except Exc Ser} {s : Ser} {spec : Except SerErr (List Bool)} {bs : List Bool}
    (hs : spec = .ok bs) (h : ∃ s', r = .ok s' ∧ AppL s s' bs) : Match r s [] spec := hs ▸ h

theorem Match.prepend {r : Except Exc Ser} {s s0 : Ser} {pre : List Bool} {spec : Except SerErr (List Bool)}
    (h0 : AppL s s0 pre) (h : Match r s0 [] spec) : Match r s pre spec := by
  cases spec with
  | error e => exact h
  | ok bs => obtain ⟨s', hr, ha⟩ := h; exact ⟨s', hr, h0.trans ha⟩

/-- One turn of a loop.  Both sides are written as the `cons` clauses unfold: the program as `serElemsWith` /
`serFieldsPy`, the specification as `serAllWith` (`pre = []`) / `serFields` (`pre` = the field's padding). -/
theorem Match.seq {r1 : Except Exc Ser} {k : Ser → Except Exc Ser} {s : Ser} {pre : List Bool}
    {spec1 : Except SerErr (List Bool)} {spec2 : List Bool → Except SerErr (List Bool)} :
    Match r1 s pre spec1 →
    (∀ a s1, spec1 = .ok a → AppL s s1 (pre ++ a) → Match (k s1) s1 [] (spec2 a)) →
    Match (match r1 with | .error e => .error e | .ok s1 => k s1) s []
      (match spec1 with
        | .error e => .error e
        | .ok a => match spec2 a with
          | .error e => .error e
          | .ok b => .ok (pre ++ a ++ b)) := by
  intro h1 h2
  rcases h1.cases with ⟨e, rfl, rfl⟩ | ⟨a, s1, rfl, rfl, happ1⟩
  · rfl
  · rcases ((h2 a s1 rfl happ1).prepend happ1).cases with ⟨e, hse, hre⟩ | ⟨b, s2, hsb, hr2, happ2⟩
    · simp only [hse, hre, Match]
    · simp only [hsb, Match, List.nil_append]
      exact ⟨s2, hr2, happ2⟩

theorem Match.bind_tail {r1 : Except Exc Ser} {k : Ser → Except Exc Ser} {s0 s : Ser} {pre0 pre : List Bool}
    {spec1 : Except SerErr (List Bool)} {g : List Bool → List Bool} (h1 : Match r1 s0 pre0 spec1)
    (h2 : ∀ a s1, spec1 = .ok a → AppL s0 s1 (pre0 ++ a) → ∃ s2, k s1 = .ok s2 ∧ AppL s s2 (pre ++ g a)) :
    Match (r1 >>= k) s pre (spec1.map g) := by
  rcases h1.cases with ⟨e, rfl, rfl⟩ | ⟨a, s1, rfl, rfl, happ1⟩
  · rfl
  · exact h2 a s1 rfl happ1

theorem Match.bind_same {r1 : Except Exc Ser} {k : Ser → Except Exc Ser} {s : Ser} {pre : List Bool}
    {spec : Except SerErr (List Bool)} (h1 : Match r1 s pre spec)
    (h2 : ∀ a s1, spec = .ok a → AppL s s1 (pre ++ a) → k s1 = .ok s1) : Match (r1 >>= k) s pre spec := by
  rcases h1.cases with ⟨e, rfl, rfl⟩ | ⟨a, s1, rfl, rfl, happ1⟩
  · rfl
  · exact ⟨s1, h2 a s1 rfl happ1, happ1⟩

theorem Match.map_prefix {r : Except Exc Ser} {s : Ser} {pre p : List Bool} {spec : Except SerErr (List Bool)}
    (h : Match r s (pre ++ p) spec) : Match r s pre (spec.map (p ++ ·)) := by
  cases spec with
  | error e => exact h
  | ok bs => obtain ⟨s', hr, ha⟩ := h; exact ⟨s', hr, by rwa [List.append_assoc] at ha⟩

@[simp] theorem assertThat_true : assertThat true = .ok () := rfl
@[simp] theorem assertThat_false : assertThat false = .error .assertion := rfl

theorem error_bind {α β : Type} (e : Exc) (f : α → Except Exc β) : (Except.error e >>= f) = .error e := rfl

theorem SerRef.aligned {env : Env} {t : Ty} (ih : SerRef env t) {o : AOff} {s : Ser} {v : Val} {b : Bool}
    (hinv : s.Inv) (hal : s.off % align t = 0) (hsound : Sound o s.off) (hroom : Room s (maxBits t))
    (hdom : inDom b t v = true) : Match (serAny env t o s v) s [] (serBits t v) := by
  have hpad : padLen (align t) s.off = 0 := padLen_of_mod (align_cases t) hal
  have h := ih o s v b hinv (by rwa [hpad]) (by rwa [hpad, Nat.zero_add]) hdom
  rwa [hpad, zeros_zero] at h

theorem serElems_spec (env : Env) (t : Ty) (oe : AOff) (hw : wf t = true) (ih : SerRef env t) :
    ∀ (vs : List Val) (s : Ser), s.Inv → s.off % align t = 0 → ElemClaims t oe s.off vs.length →
      Room s (vs.length * maxBits t) → (∀ v ∈ vs, inDom true t v = true) →
      Match (serElemsWith (serAny env t oe) s vs) s [] (serAllWith (serBits t) vs) := by
  intro vs
  induction vs with
  | nil =>
    intro s hinv _ _ _ _
    exact ⟨s, rfl, AppL.refl hinv⟩
  | cons v vs ihv =>
    intro s hinv hal hc hroom hdom
    have hroom' : Room s (maxBits t + vs.length * maxBits t) := by
      simpa [Nat.succ_mul, Nat.add_comm] using hroom
    refine (ih.aligned hinv hal (hc.1 (Nat.succ_ne_zero _)) (hroom'.mono (by omega)) (hdom v (by simp))).seq
      fun a s1 hsa happ1 => ?_
    simp only [List.nil_append] at happ1
    have hl := lenOK t hw v a hsa
    exact ihv s1 happ1.inv (by rw [happ1.off]; exact add_mod_zero hal hl.2.2)
      (happ1.off ▸ hc.step fun hb => hb.1 v a hsa) (hroom'.after happ1 (by omega))
      (fun w hw' => hdom w (List.mem_cons_of_mem _ hw'))

theorem all_inDom {t : Ty} {vs : List Val} (h : vs.all (inDom true t) = true) : ∀ v ∈ vs, inDom true t v = true := by
  simpa [List.all_eq_true] using h

theorem serArrBody_spec (env : Env) (hnp : NpSound env) (t : Ty) (hw : wf t = true) (ih : SerRef env t)
    (oa oe : AOff) (s : Ser) (vs : List Val) (hinv : s.Inv) (hal : s.off % align t = 0)
    (hoa : Sound oa s.off) (hoe : ElemClaims t oe s.off vs.length)
    (hroom : Room s (vs.length * maxBits t)) (hdom : ∀ v ∈ vs, inDom true t v = true) :
    Match (serArrBody env (serAny env t oe) t oa.isAligned s vs) s [] (serAllWith (serBits t) vs) := by
  by_cases hb : isBoolTy t = true
  · have hp : arrPath t = .bits := by simp [arrPath, hb]
    have := isBoolTy_eq hb
    subst this
    obtain ⟨bits, h1, h2⟩ := serBitArray_spec oa.isAligned s vs hinv hoa.aligned hdom
      (by simpa [maxBits] using hroom)
    simp only [serArrBody, hp]
    exact .of_ok h1 h2
  · by_cases hs : isStdPrim t = true
    · have hp : arrPath t = .std := by simp [arrPath, hb, hs]
      obtain ⟨bits, h1, h2⟩ := serStdArray_spec env hnp oa.isAligned t s vs hinv hoa.aligned
        hs hw hdom ((stdPrim_facts hs hw).1 ▸ hroom)
      simp only [serArrBody, hp]
      exact .of_ok h1 h2
    · have hp : arrPath t = .loop := by simp [arrPath, hb, hs]
      simp only [serArrBody, hp]
      exact serElems_spec env t oe hw ih vs s hinv hal hoe hroom hdom

theorem serPad_noop (a : Nat) (ha : a = 1 ∨ a = 8) (s : Ser) (hal : s.off % a = 0) : serPad a s = .ok s := by
  rcases ha with rfl | rfl
  · simp [serPad]
  · simp [serPad, padToAlignment, padLoop, hal, lift]

theorem serArrTail_spec (env : Env) (hnp : NpSound env) (t : Ty) (hw : wf t = true) (ih : SerRef env t)
    (oa oe : AOff) (s : Ser) (vs : List Val) (hinv : s.Inv) (hal : s.off % align t = 0)
    (hoa : Sound oa s.off) (hoe : ElemClaims t oe s.off vs.length)
    (hroom : Room s (vs.length * maxBits t)) (hdom : ∀ v ∈ vs, inDom true t v = true) :
    Match (serArrBody env (serAny env t oe) t oa.isAligned s vs >>= serPad (align t)) s []
      (serAllWith (serBits t) vs) :=
  (serArrBody_spec env hnp t hw ih oa oe s vs hinv hal hoa hoe hroom hdom).bind_same fun bits s1 hsb happ =>
    serPad_noop (align t) (align_cases t) s1 (by
      rw [happ.off]; exact add_mod_zero hal (serAll_len (lenOK t hw) vs bits hsb).2.2)

theorem fixedArr_spec (env : Env) (hs : EnvSound env) (t : Ty) (n : Nat) (hw : wf t = true) (ih : SerRef env t) :
    SerRef env (.arr t n) := by
  intro o s v b hinv hsound hroom hdom
  cases v with
  | arr vs =>
    simp only [inDom, Bool.and_eq_true, beq_iff_eq] at hdom
    obtain ⟨rfl, hall⟩ := hdom
    simp only [align, maxBits] at hsound hroom ⊢
    obtain ⟨s0, h0, happ0, hal0⟩ := serPad_spec (align t) (align_cases t) s hinv (hroom.mono (by omega))
    have hs0 : Sound o s0.off := by rw [happ0.off, zeros_length]; exact hsound
    have htail := serArrTail_spec env hs.np t hw ih o _ s0 vs happ0.inv hal0 hs0 (ElemClaims.arr hs.lr hw hs0 _)
      (hroom.after happ0 (by simp)) (all_inDom hall)
    simp only [serAny, serArrWith, h0, ok_bind, beq_self_eq_true, assertThat_true, serBits, if_true]
    exact htail.prepend happ0
  | _ => simp [inDom] at hdom

theorem varArr_spec (env : Env) (hs : EnvSound env) (t : Ty) (cap : Nat) (hw : wf (.varr t cap) = true)
    (ih : SerRef env t) : SerRef env (.varr t cap) := by
  intro o s v b hinv hsound hroom hdom
  obtain ⟨hcap, hwt⟩ := wf_varr hw
  cases v with
  | arr vs =>
    simp only [inDom] at hdom
    simp only [align, maxBits] at hsound hroom ⊢
    obtain ⟨s0, h0, happ0, hal0⟩ := serPad_spec (align t) (align_cases t) s hinv (hroom.mono (by omega))
    have hs0 : Sound o s0.off := by rw [happ0.off, zeros_length]; exact hsound
    by_cases hlen : vs.length > cap
    · -- `assert len(x) <= cap` fails
      simp only [serBits, serAny, serVarrWith, h0, bind, Except.bind, hlen, if_true, Match, excOf,
        show decide (vs.length ≤ cap) = false by simp; omega, assertThat_false]
    · have hpc : prefixBits cap = 8 ∨ prefixBits cap = 16 ∨ prefixBits cap = 32 ∨ prefixBits cap = 64 :=
        stdWidth_cases cap
      have hplt : vs.length < 2 ^ prefixBits cap := by have := lt_two_pow_stdWidth hcap; unfold prefixBits; omega
      have hroom0 : Room s0 (prefixBits cap + cap * maxBits t) := hroom.after happ0 (by simp)
      obtain ⟨s1, h1, happ1⟩ := serInt_nat_spec o.isAligned hpc s0 vs.length happ0.inv hs0.aligned
        (hroom0.mono (by omega)) hplt
      have hoff1 : s1.off = s0.off + prefixBits cap := by simpa using happ1.off
      have htail := serArrTail_spec env hs.np t hwt ih (o.add (some (prefixBits cap))) _ s1 vs happ1.inv
        (by rw [hoff1]; exact add_mod_zero hal0 (stdWidth_mod_align cap t)) (by rw [hoff1]; exact hs0.add_some _)
        (by rw [hoff1]; exact ElemClaims.varr hs.lr hw hs0 (Nat.le_of_not_lt hlen))
        (hroom0.after happ1 (by
          have := Nat.mul_le_mul_right (maxBits t) (show vs.length ≤ cap by omega)
          simp only [natToBits_length]; omega))
        (all_inDom hdom)
      simp only [serAny, serVarrWith, h0, ok_bind, assertThat_decide (Nat.le_of_not_lt hlen), h1, serBits, hlen,
        if_false]
      exact (htail.prepend (happ0.trans happ1)).map_prefix
  | _ => simp [inDom] at hdom

theorem serFields_spec (env : Env) (hs : EnvSound env) :
    ∀ (fs : List Ty), (∀ f ∈ fs, SerRef env f) → wfAll fs = true →
    ∀ (vs : List Val) (o : AOff) (s : Ser) (base off : Nat), s.off = base + off → base % 8 = 0 → s.Inv →
      Sound o s.off → base + maxFields fs off + 8 ≤ 8 * s.buf.length → inDomFields fs vs = true →
      Match (serFieldsPy env fs o s vs) s [] (serFields fs vs off) := by
  intro fs
  induction fs with
  | nil =>
    intro _ _ vs o s base off _ _ hinv _ _ hdom
    cases vs with
    | nil => exact ⟨s, by simp [serFieldsPy], AppL.refl hinv⟩
    | cons _ _ => simp [inDomFields] at hdom
  | cons f fs ihf =>
    intro ih hw vs o s base off hoff hbase hinv hsound hroom hdom
    replace hw := wfAll_cons hw
    cases vs with
    | nil => simp [inDomFields] at hdom
    | cons v vs =>
      simp only [inDomFields, Bool.and_eq_true] at hdom
      -- the specification pads relative to the start of the object, the cursor is absolute: the object starts on a byte
      have hpl : padLen (align f) s.off = padLen (align f) off := by
        rw [hoff]; exact padLen_add_base (align_cases f) hbase off
      have hmf : padTo (align f) off + maxBits f ≤ maxFields (f :: fs) off := by
        simp only [maxFields]; exact maxFields_ge fs _
      have h1 := ih f (by simp) (o.pad (align f)) s v false hinv (hsound.pad (align_cases f))
        (by unfold Room; rw [hpl]; simp only [padTo] at hmf; omega) hdom.1
      rw [hpl] at h1
      refine h1.seq fun a s1 hsa happ1 => ?_
      have hl := lenOK f hw.1 v a hsa
      have hoff1 : s1.off = base + (padTo (align f) off + a.length) := by
        rw [happ1.off, hoff]; simp [padTo]; omega
      have hmono := maxFields_mono fs (show padTo (align f) off + a.length ≤ padTo (align f) off + maxBits f by omega)
      exact ihf (fun g hg => ih g (List.mem_cons_of_mem _ hg)) hw.2 vs
        ((o.pad (align f)).add (env.lr f)) s1 base (padTo (align f) off + a.length) hoff1 hbase happ1.inv
        (by
          have hs1 : s1.off = (s.off + padLen (align f) s.off) + a.length := by
            rw [happ1.off, hpl]; simp; omega
          rw [hs1]
          exact (hsound.pad (align_cases f)).add (fun r hr => (hs.lr f r hw.1 hr).1 v a hsa))
        (by rw [happ1.len]; simp only [maxFields] at hroom; omega) hdom.2

theorem objTail_spec {s s1 : Ser} {bits : List Bool} {lo hi : Nat} (hal : s.off % 8 = 0) (happ : AppL s s1 bits)
    (hroom : Room s hi) (hlo : lo ≤ bits.length + padLen 8 bits.length)
    (hhi : bits.length + padLen 8 bits.length ≤ hi) :
    ∃ s2, (do let s2 ← lift (padToAlignment s1 8)
              assertThat (decide (lo ≤ s2.off - s.off ∧ s2.off - s.off ≤ hi))
              .ok s2) = .ok s2 ∧ AppL s s2 (bits ++ zeros (padLen 8 bits.length)) := by
  have hp1 : padLen 8 s1.off = padLen 8 bits.length := by
    rw [happ.off]; exact padLen_add_base (Or.inr rfl) hal _
  obtain ⟨s2, h2, happ2, _⟩ := serPad_spec 8 (Or.inr rfl) s1 happ.inv (hroom.after happ (by rw [hp1]; omega))
  rw [hp1] at happ2
  have hoff2 : s2.off - s.off = bits.length + padLen 8 bits.length := by
    rw [happ2.off, happ.off, zeros_length]; omega
  refine ⟨s2, ?_, happ.trans happ2⟩
  rw [show lift (padToAlignment s1 8) = serPad 8 s1 from (if_pos (by decide)).symm, h2, ok_bind, hoff2,
    assertThat_decide (And.intro hlo hhi), ok_bind]

theorem structObj_spec (env : Env) (hs : EnvSound env) (fs : List Ty) (ih : ∀ f ∈ fs, SerRef env f)
    (hw : wf (.struct fs) = true) : ObjRef env (.struct fs) := by
  intro s v b hinv hal hroom hdom
  cases v with
  | struct vs =>
    simp only [inDom] at hdom
    have hmx : maxFields fs 0 ≤ maxBits (.struct fs) := by simp only [maxBits]; exact padTo_ge 8 _
    simp only [serObj, serStructWith, serBits, assertThat_beq hal, ok_bind]
    refine (serFields_spec env hs fs ih hw vs (some 0) s s.off 0 rfl hal hinv (Sound.some_zero hal)
      (by unfold Room at hroom; omega) hdom).bind_tail fun bits s1 hsb happ1 => ?_
    have hl := lenOK (.struct fs) hw (.struct vs) (bits ++ zeros (padLen 8 bits.length)) (by
      simp only [serBits, hsb, Except.map])
    simp only [List.length_append, zeros_length] at hl
    exact objTail_spec hal happ1 hroom hl.1 hl.2.1
  | _ => simp [inDom] at hdom

theorem serNthPy_eq (env : Env) {fs : List Ty} {k : Nat} (hk : k < fs.length) : serNthPy env fs k = serAny env fs[k] :=
  nth_eq (fun _ _ => rfl) (fun _ _ _ => rfl) hk

theorem inDomNth_eq {fs : List Ty} {k : Nat} (hk : k < fs.length) : inDomNth fs k = inDom false fs[k] :=
  nth_eq (fun _ _ => rfl) (fun _ _ _ => rfl) hk

theorem serNth_spec (env : Env) (fs : List Ty) (ih : ∀ f ∈ fs, SerRef env f) (k : Nat) (o : AOff) (s : Ser) (v : Val)
    (hinv : s.Inv) (hal : s.off % 8 = 0) (hsound : Sound o s.off) (hroom : Room s (maxOpts fs))
    (hdom : inDomNth fs k v = true) (hk : k < fs.length) :
    Match (serNthPy env fs k o s v) s [] (serNth fs k v) := by
  rw [serNthPy_eq env hk, serNth_eq hk]
  exact (ih fs[k] (List.getElem_mem hk)).aligned hinv (align_mod_of_mod8 _ hal) hsound
    (hroom.mono (by have := (opts_bounds hk).2; omega)) (inDomNth_eq hk ▸ hdom)

theorem unionObj_spec (env : Env) (fs : List Ty) (ih : ∀ f ∈ fs, SerRef env f)
    (hw : wf (.union fs) = true) : ObjRef env (.union fs) := by
  intro s v b hinv hal hroom hdom
  obtain ⟨⟨hn1, hn2⟩, hwa⟩ := wf_union hw
  cases v with
  | union k v =>
    simp only [inDom] at hdom
    by_cases hk : k < fs.length
    · have htc : tagBits fs.length = 8 ∨ tagBits fs.length = 16 ∨ tagBits fs.length = 32 ∨ tagBits fs.length = 64 :=
        stdWidth_cases (fs.length - 1)
      have hklt : k < 2 ^ tagBits fs.length := lt_two_pow_tagBits hk hn2
      have hmx : tagBits fs.length + maxOpts fs ≤ maxBits (.union fs) := by simp only [maxBits]; exact padTo_ge 8 _
      obtain ⟨s1, h1, happ1⟩ := serInt_nat_spec true htc s k hinv (fun _ => hal) (hroom.mono (by omega)) hklt
      have ht8 : tagBits fs.length % 8 = 0 := stdWidth_mod8 _
      have hal1 : s1.off % 8 = 0 := by rw [happ1.off, natToBits_length]; exact add_mod_zero hal ht8
      have hge : ¬ k ≥ fs.length := by omega
      simp only [serObj, serUnionWith, serBits, assertThat_beq hal, ok_bind, hk, if_true, hge, if_false, h1]
      refine (serNth_spec env fs ih k (some (tagBits fs.length % 8)) s1 v happ1.inv hal1
        (by rw [ht8]; exact Sound.some_zero hal1) (hroom.after happ1 (by simp; omega)) hdom hk).bind_tail
        fun bits s2 hsb happ2 => ?_
      have hl := lenOK (.union fs) hw (.union k v)
        ((natToBits (tagBits fs.length) k ++ bits) ++
          zeros (padLen 8 (natToBits (tagBits fs.length) k ++ bits).length)) (by
        simp only [serBits, hge, if_false, hsb, Except.map])
      rw [List.length_append, zeros_length] at hl
      exact objTail_spec hal (happ1.trans happ2) hroom hl.1 hl.2.1
    · simp only [serObj, serUnionWith, serBits, assertThat_beq hal, ok_bind, hk, if_false, show k ≥ fs.length by omega,
        if_true, error_bind, Match, excOf]
  | _ => simp [inDom] at hdom

theorem serAny_composite (env : Env) {t : Ty} (hc : isComposite t = true) (o : AOff) (s : Ser) (v : Val) :
    serAny env t o s v = serNested (serObj env t) s v := by
  cases t with
  | struct fs | union fs => simp only [serAny]; rfl
  | _ => exact Bool.noConfusion hc

theorem nested_spec (env : Env) (t : Ty) (hc : isComposite t = true) (hw : wf t = true) (hobj : ObjRef env t) :
    SerRef env t := by
  intro o s v b hinv _ hroom hdom
  have hal8 := align_of_isComposite hc
  rw [hal8] at hroom ⊢
  obtain ⟨s0, h0, happ0, hal0⟩ := serPad_spec 8 (Or.inr rfl) s hinv (hroom.mono (by omega))
  simp only [serAny_composite env hc, serNested, h0, ok_bind]
  refine ((hobj s0 v b happ0.inv hal0 (hroom.after happ0 (by simp)) hdom).prepend happ0).bind_same
    fun bits s1 hsb happ1 => ?_
  have hl := lenOK t hw v bits hsb
  rw [hal8] at hl
  have : s1.off % 8 = 0 := by
    rw [happ1.off, List.length_append, ← Nat.add_assoc, ← happ0.off]; exact add_mod_zero hal0 hl.2.2
  simp only [assertThat_beq this, ok_bind]

end NunavutVerif.GenPy
