import NunavutVerif.Model.PyObj
import NunavutVerif.Lemmas.Core
/-!
Lemmas for C18 about `Model/PyObj.lean`.  What the setters store is derived from the three laws of `NumPy` alone,
which the concrete oracle `npArray` satisfies (`numpy`); the `to_builtin` / `update_from_builtin` round trip is one
structural induction over the nested type (`rt_all`, motives `RT1` / `RT2`).
-/
namespace NunavutVerif.PyObj

theorem pure_ok {ε α : Type} {a b : α} : (pure a : Except ε α) = .ok b ↔ a = b := by
  simp [pure, Except.pure]

theorem throw_ok {ε α : Type} {e : ε} {b : α} : (throw e : Except ε α) = .ok b ↔ False := by
  simp [throw, throwThe, MonadExceptOf.throw]

theorem guard_ok {ε α : Type} {c : Prop} [Decidable c] {a b : α} {e : ε} :
    (if c then pure a else throw e : Except ε α) = .ok b ↔ c ∧ a = b := by
  split <;> simp [pure_ok, throw_ok, *]

theorem roundMag_of_dvd (p qmin b : Nat) (hb : b ≠ 0)
    (hd : 2 ^ (max (b.log2 + 1 - p) qmin) ∣ b) : roundMag p qmin b = b := by
  unfold roundMag
  simp only [hb, if_false, Nat.mod_eq_zero_of_dvd hd]
  rw [if_neg (by have := Nat.two_pow_pos (max (b.log2 + 1 - p) qmin); omega)]
  exact Nat.div_mul_cancel hd

theorem roundMag_form (p qmin a : Nat) (ha : a ≠ 0) :
    ∃ q n, roundMag p qmin a = n * 2 ^ q ∧ qmin ≤ q ∧ n ≤ 2 ^ p := by
  unfold roundMag
  simp only [ha, if_false]
  generalize hq : max (a.log2 + 1 - p) qmin = q
  refine ⟨q, _, rfl, hq ▸ Nat.le_max_right _ _, ?_⟩
  -- `a < 2 ^ (a.log2 + 1) ≤ 2 ^ (p + q)`, so the quotient is below `2 ^ p` and rounding up reaches at most `2 ^ p`
  have hn : a / 2 ^ q < 2 ^ p := by
    rw [Nat.div_lt_iff_lt_mul (Nat.two_pow_pos q), ← Nat.pow_add]
    exact Nat.lt_of_lt_of_le Nat.lt_log2_self
      (Nat.pow_le_pow_right (by decide) (Nat.sub_le_iff_le_add'.1 (hq ▸ Nat.le_max_left _ _)))
  split
  · exact hn
  · exact Nat.le_of_lt hn

theorem roundMag_idem (p qmin a : Nat) (hp : 1 ≤ p) :
    roundMag p qmin (roundMag p qmin a) = roundMag p qmin a := by
  by_cases ha : a = 0
  · subst ha; rfl
  obtain ⟨q, n, hb, hq, hn⟩ := roundMag_form p qmin a ha
  rw [hb]
  by_cases hz : n * 2 ^ q = 0
  · rw [hz]; rfl
  apply roundMag_of_dvd _ _ _ hz
  rcases Nat.lt_or_eq_of_le hn with hlt | rfl
  · -- n < 2^p: the exponent does not grow
    have hlog : (n * 2 ^ q).log2 < p + q := by
      rw [Nat.log2_lt hz, Nat.pow_add]
      exact Nat.mul_lt_mul_of_pos_right hlt (Nat.two_pow_pos _)
    exact Nat.dvd_trans (Nat.pow_dvd_pow 2 (Nat.max_le.2 ⟨Nat.sub_le_iff_le_add'.2 hlog, hq⟩))
      (Nat.dvd_mul_left _ _)
  · -- n = 2^p: the value is the power of two 2^(p+q)
    rw [← Nat.pow_add, Nat.log2_two_pow]
    exact Nat.pow_dvd_pow 2 (Nat.max_le.2 ⟨by omega, by omega⟩)

theorem ffmt_p_pos (w : Nat) : 1 ≤ (ffmt w).p := by
  unfold ffmt; split
  · decide
  · split <;> decide

theorem roundF_idem (w : Nat) (f : F) : roundF w (roundF w f) = roundF w f := by
  cases f with
  | fin neg a =>
    by_cases h : roundMag (ffmt w).p (ffmt w).qmin a < 2 ^ (ffmt w).emax1
    · simp only [roundF, h, if_true, roundMag_idem _ _ _ (ffmt_p_pos w)]
    · simp only [roundF, h, if_false]
  | inf n => rfl
  | nan => rfl

theorem mapM_ok_forall {α β : Type} {ε : Type} (f : α → Except ε β) (P : β → Prop) :
    ∀ (xs : List α) (ys : List β), xs.mapM f = .ok ys → (∀ x ∈ xs, ∀ y, f x = .ok y → P y) → ∀ y ∈ ys, P y := by
  intro xs
  induction xs with
  | nil => intro ys h _ y hy; cases pure_ok.1 h; cases hy
  | cons x xs ih =>
    intro ys h hP y hy
    rw [List.mapM_cons] at h
    obtain ⟨b, hx, h⟩ := bind_eq_ok.1 h
    obtain ⟨bs, hr, h⟩ := bind_eq_ok.1 h
    cases pure_ok.1 h
    rcases List.mem_cons.1 hy with rfl | hm
    · exact hP x List.mem_cons_self _ hx
    · exact ih bs hr (fun x' hx' => hP x' (List.mem_cons_of_mem _ hx')) y hm

theorem mapM_map_of_forall {α β : Type} {ε : Type} (f : α → Except ε β) (g : β → α) :
    ∀ (ys : List β), (∀ y ∈ ys, f (g y) = .ok y) → (ys.map g).mapM f = .ok ys := by
  intro ys
  induction ys with
  | nil => intro _; rfl
  | cons y ys ih =>
    intro h
    rw [List.map_cons, List.mapM_cons, h y List.mem_cons_self, ih (fun y' hy' => h y' (List.mem_cons_of_mem _ hy'))]
    rfl

theorem mapM_id_of_forall {α : Type} {ε : Type} (f : α → Except ε α) (xs : List α) (h : ∀ x ∈ xs, f x = .ok x) :
    xs.mapM f = .ok xs := by
  simpa using mapM_map_of_forall f id xs h

theorem mapM_roundtrip {α β ε : Type} (f : α → Except ε β) (g : β → Except ε α) :
    ∀ (xs : List α), (∀ x ∈ xs, ∃ b, f x = .ok b ∧ g b = .ok x) →
      ∃ bs, xs.mapM f = .ok bs ∧ bs.mapM g = .ok xs := by
  intro xs
  induction xs with
  | nil => intro _; exact ⟨[], rfl, rfl⟩
  | cons x xs ih =>
    intro h
    obtain ⟨b, hf, hg⟩ := h x List.mem_cons_self
    obtain ⟨bs, hfs, hgs⟩ := ih (fun x' hx' => h x' (List.mem_cons_of_mem _ hx'))
    refine ⟨b :: bs, ?_, ?_⟩
    · rw [List.mapM_cons, hf, hfs]; rfl
    · rw [List.mapM_cons, hg, hgs]; rfl

theorem intLo_le_zero (s : Bool) (w : Nat) : intLo s w ≤ 0 := by
  cases s
  · exact Int.le_refl 0
  · exact Int.neg_nonpos_of_nonneg (Int.le_of_lt (two_pow_pos_int _))

theorem zero_le_intHi (s : Bool) (w : Nat) : 0 ≤ intHi s w := by
  cases s
  · exact Int.le_sub_one_iff.2 (two_pow_pos_int w)
  · exact Int.le_sub_one_iff.2 (two_pow_pos_int (w - 1))

theorem intRange_mono (s : Bool) {w w' : Nat} (h : w ≤ w') : intLo s w' ≤ intLo s w ∧ intHi s w ≤ intHi s w' := by
  cases s
  · exact ⟨Int.le_refl 0, Int.sub_le_sub_right (two_pow_le_int h) 1⟩
  · have := two_pow_le_int (Nat.sub_le_sub_right h 1)
    exact ⟨Int.neg_le_neg this, Int.sub_le_sub_right this 1⟩

theorem intHi_lt (s : Bool) {w w' : Nat} (h1 : 1 ≤ w) (h : w < w') : intHi s w < intHi s w' := by
  cases s
  · exact Int.sub_lt_sub_right (Int.pow_lt_pow_of_lt (by decide) h) 1
  · exact Int.sub_lt_sub_right (Int.pow_lt_pow_of_lt (by decide) (Nat.sub_lt_sub_right h1 h)) 1

theorem le_pickWidth (w : Nat) (h : w ≤ 64) : w ≤ pickWidth w := by
  unfold pickWidth
  repeat' split
  all_goals assumption

theorem inDT_u_iff {w : Nat} {i : Int} : inDT (.u w) (.int i) = true ↔ 0 ≤ i ∧ i < (2 : Int) ^ w := by
  show (decide _ && decide _) = true ↔ _
  rw [Bool.and_eq_true, decide_eq_true_iff, decide_eq_true_iff]

theorem inDT_i_iff {w : Nat} {i : Int} :
    inDT (.i w) (.int i) = true ↔ -((2 : Int) ^ (w - 1)) ≤ i ∧ i < (2 : Int) ^ (w - 1) := by
  show (decide _ && decide _) = true ↔ _
  rw [Bool.and_eq_true, decide_eq_true_iff, decide_eq_true_iff]

theorem inDT_int_iff (s : Bool) (w : Nat) (c : Bool) (i : Int) :
    inDT (dtypeOf (.int s w c)) (.int i) = true ↔ intLo s (pickWidth w) ≤ i ∧ i ≤ intHi s (pickWidth w) := by
  cases s <;>
    simp only [dtypeOf, inDT_u_iff, inDT_i_iff, intLo, intHi, if_true, Bool.false_eq_true, if_false, Int.le_sub_one_iff]

theorem inDT_inv {dt : DType} {e : Py} : inDT dt e = true →
    match dt with
    | .bool => ∃ b, e = .bool b
    | .u w => ∃ i, e = .int i ∧ 0 ≤ i ∧ i < (2 : Int) ^ w
    | .i w => ∃ i, e = .int i ∧ -((2 : Int) ^ (w - 1)) ≤ i ∧ i < (2 : Int) ^ (w - 1)
    | .f w => ∃ f, e = .float f ∧ roundF w f = f
    | .obj => True := by
  intro h
  cases dt with
  | bool => cases e with
    | bool b => exact ⟨b, rfl⟩
    | _ => cases h
  | u w => cases e with
    | int i => exact ⟨i, rfl, inDT_u_iff.1 h⟩
    | _ => cases h
  | i w => cases e with
    | int i => exact ⟨i, rfl, inDT_i_iff.1 h⟩
    | _ => cases h
  | f w => cases e with
    | float f => exact ⟨f, rfl, of_decide_eq_true h⟩
    | _ => cases h
  | obj => trivial

theorem inDT_int_inv {s : Bool} {w : Nat} {c : Bool} {y : Py} (h : inDT (dtypeOf (.int s w c)) y = true) :
    ∃ i, y = .int i ∧ intLo s (pickWidth w) ≤ i ∧ i ≤ intHi s (pickWidth w) := by
  cases s
  all_goals
    obtain ⟨i, rfl, _⟩ := inDT_inv h
    exact ⟨i, rfl, (inDT_int_iff _ w c i).1 h⟩

theorem inDT_byte (b : Nat) : inDT (.u 8) (.int ((b % 256 : Nat) : Int)) = true :=
  inDT_u_iff.2 (by omega)

theorem inDT_round (w : Nat) (f : F) : inDT (.f w) (.float (roundF w f)) = true :=
  decide_eq_true (roundF_idem w f)

theorem inDT_wrapU (w : Nat) (i : Int) : inDT (.u w) (.int (wrapU w i)) = true :=
  inDT_u_iff.2 ⟨Int.emod_nonneg i (Int.ne_of_gt (two_pow_pos_int w)), Int.emod_lt_of_pos i (two_pow_pos_int w)⟩

theorem inDT_wrapI (w : Nat) (i : Int) : inDT (.i w) (.int (wrapI w i)) = true := by
  have hp := two_pow_pos_int w
  have h1 := Int.emod_nonneg (i + (2 : Int) ^ (w - 1)) (Int.ne_of_gt hp)
  have h2 := Int.emod_lt_of_pos (i + (2 : Int) ^ (w - 1)) hp
  have h3 : (2 : Int) ^ w ≤ 2 * (2 : Int) ^ (w - 1) := by
    cases w with
    | zero => decide
    | succ k => rw [Int.pow_succ, Nat.add_sub_cancel]; omega
  rw [inDT_i_iff, wrapI]
  omega

theorem npElem_sound (dt : DType) (s e : Py) (h : npElem dt s = .ok e) : inDT dt e = true := by
  cases dt with
  | bool => obtain ⟨b, _, rfl⟩ := map_eq_ok.1 h; rfl
  | u w | i w =>
    simp only [npElem, bind_eq_ok, guard_ok] at h
    obtain ⟨i, _, hr, rfl⟩ := h
    simpa only [inDT_u_iff, inDT_i_iff] using hr
  | f w =>
    dsimp only [npElem] at h
    split at h
    · cases pure_ok.1 h; rfl
    · obtain ⟨f, _, h⟩ := bind_eq_ok.1 h
      cases pure_ok.1 h
      exact inDT_round w f
  | obj => cases e <;> rfl

theorem npCast_sound (dt : DType) (x e : Py) (h : npCast dt x = .ok e) : inDT dt e = true := by
  unfold npCast at h
  split at h <;> simp only [pure_ok, throw_ok] at h <;> subst h <;>
    first | simp only [inDT_wrapU, inDT_wrapI, inDT_round] | rfl

theorem npArray_sound (dt : DType) (x : Py) (xs : List Py) (h : npArray dt x = .ok xs) :
    ∀ e ∈ xs, inDT dt e = true := by
  have single : ∀ s, (npElem dt s).map (fun e => [e]) = .ok xs → ∀ e ∈ xs, inDT dt e = true := by
    intro s hs
    obtain ⟨e0, he, rfl⟩ := map_eq_ok.1 hs
    intro e hm
    cases List.mem_singleton.1 hm
    exact npElem_sound dt s _ he
  cases x with
  | list ys =>
    dsimp only [npArray] at h
    split at h
    · exact mapM_ok_forall (npElem dt) (fun e => inDT dt e = true) ys xs h (fun x _ y hy => npElem_sound dt x y hy)
    · cases h
  | nd dt' ys =>
    dsimp only [npArray] at h
    split at h
    · split at h
      · rename_i hall
        cases h
        exact fun e he => List.all_eq_true.1 hall e he
      · cases h
    · split at h
      · cases h
      · exact mapM_ok_forall (npCast dt) (fun e => inDT dt e = true) ys xs h (fun x _ y hy => npCast_sound dt x y hy)
  | dict _ _ => cases h
  | missing => cases h
  | _ => exact single _ h

theorem inDT_scalarLike (dt : DType) (e : Py) (h : inDT dt e = true) (ho : dt = .obj → isObj e = true) :
    scalarLike e = true := by
  cases dt with
  | bool => obtain ⟨b, rfl⟩ := inDT_inv h; rfl
  | u w | i w | f w => obtain ⟨_, rfl, _⟩ := inDT_inv h; rfl
  | obj => cases e <;> first | rfl | cases ho rfl

theorem npElem_builtin (dt : DType) (e : Py) (h : inDT dt e = true) : npElem dt e = .ok e := by
  cases dt with
  | bool => obtain ⟨b, rfl⟩ := inDT_inv h; rfl
  | u w | i w =>
    obtain ⟨i, rfl, hr⟩ := inDT_inv h
    simp only [npElem, bind_eq_ok, guard_ok]
    exact ⟨i, rfl, hr, rfl⟩
  | f w =>
    obtain ⟨f, rfl, hf⟩ := inDT_inv h
    simp only [npElem, bind_eq_ok, pure_ok]
    exact ⟨f, rfl, by rw [hf]⟩
  | obj => rfl

theorem npArray_builtin (dt : DType) (xs : List Py)
    (h : ∀ e ∈ xs, inDT dt e = true ∧ (dt = .obj → isObj e = true)) : npArray dt (.list xs) = .ok xs := by
  have hall : xs.all scalarLike = true :=
    List.all_eq_true.2 (fun e he => inDT_scalarLike dt e (h e he).1 (h e he).2)
  simp only [npArray, hall, if_true]
  exact mapM_id_of_forall (npElem dt) xs (fun e he => npElem_builtin dt e (h e he).1)

theorem npArray_same (dt : DType) (xs : List Py) (h : ∀ e ∈ xs, inDT dt e = true) :
    npArray dt (.nd dt xs) = .ok xs := by
  have hall : xs.all (inDT dt) = true := List.all_eq_true.2 h
  simp [npArray, hall]

/-- The oracle the driver runs is a lawful `NumPy`. -/
def numpy : NumPy := ⟨npArray, npArray_sound, npArray_builtin, npArray_same⟩

theorem setField_bool_iff {np : Oracle} {x v : Py} :
    setField np .bool x = .ok v ↔ ∃ b, pyBool x = .ok b ∧ .bool b = v := by
  simp only [setField, map_eq_ok]

theorem setField_int_iff {np : Oracle} {s : Bool} {w : Nat} {c : Bool} {x v : Py} :
    setField np (.int s w c) x = .ok v ↔ ∃ i, pyInt x = .ok i ∧ (intLo s w ≤ i ∧ i ≤ intHi s w) ∧ .int i = v := by
  simp only [setField, bind_eq_ok, guard_ok]

theorem setField_float_iff {np : Oracle} {w : Nat} {c : Bool} {x v : Py} :
    setField np (.float w c) x = .ok v ↔ ∃ f, pyFloat x = .ok f ∧ floatOK w f = true ∧ .float f = v := by
  simp only [setField, bind_eq_ok, guard_ok]

theorem setField_comp_ok (np : Oracle) (cls : Nat) (u : Bool) (fs : List Ty) (x v : Py)
    (h : setField np (.comp cls u fs) x = .ok v) : ∃ slots, x = .obj cls slots ∧ v = x := by
  dsimp only [setField] at h
  split at h
  · obtain ⟨rfl, rfl⟩ := guard_ok.1 h
    exact ⟨_, rfl, rfl⟩
  · cases throw_ok.1 h

theorem slowPath_iff {np : Oracle} {fixed : Bool} {cap : Nat} {dt : DType} {x v : Py} :
    slowPath np fixed cap dt x = .ok v ↔ ∃ xs, np dt x = .ok xs ∧ lenOK fixed cap xs.length = true ∧ .nd dt xs = v := by
  simp only [slowPath, bind_eq_ok, guard_ok]

theorem fastPath_ok (np : Oracle) (fixed : Bool) (cap : Nat) (dt : DType) (x v : Py)
    (h : fastPath np fixed cap dt x = .ok v) :
    ∃ xs, v = .nd dt xs ∧ lenOK fixed cap xs.length = true ∧ (x = .nd dt xs ∨ np dt x = .ok xs) := by
  unfold fastPath at h
  split at h
  · split at h
    · rename_i hc
      cases pure_ok.1 h
      exact ⟨_, rfl, hc.2, .inl (by rw [hc.1])⟩
    · obtain ⟨xs, hx, hl, rfl⟩ := slowPath_iff.1 h
      exact ⟨xs, rfl, hl, .inr hx⟩
  · obtain ⟨xs, hx, hl, rfl⟩ := slowPath_iff.1 h
    exact ⟨xs, rfl, hl, .inr hx⟩

theorem assignCore_ok (np : Oracle) (fixed : Bool) (cap : Nat) (e : Ty) (x v : Py)
    (h : assignCore np fixed cap e x = .ok v) :
    ∃ xs, v = .nd (dtypeOf e) xs ∧ lenOK fixed cap xs.length = true ∧
      ((x = .nd (dtypeOf e) xs ∨ np (dtypeOf e) x = .ok xs) ∨
        (byteLike e = true ∧ ∃ bs : List Nat, xs = bs.map fun b => .int ((b % 256 : Nat) : Int))) := by
  unfold assignCore at h
  split at h
  · rename_i hb
    split at h
    · rename_i bs
      obtain ⟨hl, rfl⟩ := guard_ok.1 h
      exact ⟨_, rfl, by simpa using hl, .inr ⟨hb, bs, rfl⟩⟩
    · obtain ⟨xs, hv, hl, hs⟩ := fastPath_ok _ _ _ _ _ _ h
      exact ⟨xs, hv, hl, .inl hs⟩
  · obtain ⟨xs, hv, hl, hs⟩ := fastPath_ok _ _ _ _ _ _ h
    exact ⟨xs, hv, hl, .inl hs⟩

theorem setField_not_none (np : Oracle) (t : Ty) (x v : Py) (h : setField np t x = .ok v) : isNone v = false := by
  cases t with
  | bool => obtain ⟨b, _, rfl⟩ := setField_bool_iff.1 h; rfl
  | int s w c => obtain ⟨i, _, _, rfl⟩ := setField_int_iff.1 h; rfl
  | float w c => obtain ⟨f, _, _, rfl⟩ := setField_float_iff.1 h; rfl
  | comp cls u fs => obtain ⟨slots, rfl, rfl⟩ := setField_comp_ok _ _ _ _ _ _ h; rfl
  | arr fixed cap e => obtain ⟨xs, rfl, _⟩ := assignCore_ok _ _ _ _ _ _ h; rfl

theorem byteLike_dtype (e : Ty) (h : byteLike e = true) : dtypeOf e = .u 8 := by
  cases e with
  | int s w c =>
    cases s with
    | true => cases h
    | false => exact congrArg DType.u (if_pos (of_decide_eq_true h))
  | _ => cases h

theorem ndOK_encodeStr (fixed : Bool) (e : Ty) (x : Py) (h : ndOK x = true) : ndOK (encodeStr fixed e x) = true := by
  unfold encodeStr
  split
  · split
    · rfl
    · exact h
  · exact h

theorem assignArray_stored (np : NumPy) (fixed : Bool) (cap : Nat) (e : Ty) (x v : Py) (hnd : ndOK x = true)
    (h : assignArray np.array fixed cap e x = .ok v) :
    ∃ xs, v = .nd (dtypeOf e) xs ∧ lenOK fixed cap xs.length = true ∧ ∀ y ∈ xs, inDT (dtypeOf e) y = true := by
  obtain ⟨xs, rfl, hl, hs⟩ := assignCore_ok _ _ _ _ _ _ h
  refine ⟨xs, rfl, hl, ?_⟩
  rcases hs with (hs | hs) | ⟨hb, bs, rfl⟩
  · have := ndOK_encodeStr fixed e x hnd
    rw [hs] at this
    exact List.all_eq_true.1 this
  · exact np.sound _ _ _ hs
  · rw [byteLike_dtype e hb]
    intro y hy
    obtain ⟨b, _, rfl⟩ := List.mem_map.1 hy
    exact inDT_byte b

theorem encodeStr_of_not_str (fixed : Bool) (e : Ty) (x : Py) (h : ∀ bs, x ≠ .str bs) : encodeStr fixed e x = x := by
  unfold encodeStr
  split
  · split
    · exact absurd rfl (h _)
    · rfl
  · rfl

theorem encodeStr_str {fixed : Bool} {e : Ty} (bs : List Nat) (hs : strLike fixed e = true) :
    encodeStr fixed e (.str bs) = .bytes false bs :=
  if_pos hs

theorem assignArray_nd_same (np : Oracle) (fixed : Bool) (cap : Nat) (e : Ty) (xs : List Py)
    (hl : lenOK fixed cap xs.length = true) :
    assignArray np fixed cap e (.nd (dtypeOf e) xs) = .ok (.nd (dtypeOf e) xs) := by
  simp only [assignArray, assignCore, encodeStr_of_not_str fixed e (.nd (dtypeOf e) xs) (fun _ h => nomatch h)]
  split <;> simp [fastPath, hl, pure, Except.pure]

theorem assignArray_list (np : NumPy) (fixed : Bool) (cap : Nat) (e : Ty) (xs : List Py)
    (hall : ∀ y ∈ xs, inDT (dtypeOf e) y = true ∧ (dtypeOf e = .obj → isObj y = true))
    (hl : lenOK fixed cap xs.length = true) :
    assignArray np.array fixed cap e (.list xs) = .ok (.nd (dtypeOf e) xs) := by
  have hslow : slowPath np.array fixed cap (dtypeOf e) (.list xs) = .ok (.nd (dtypeOf e) xs) :=
    slowPath_iff.2 ⟨xs, np.builtin _ xs hall, hl, rfl⟩
  simp only [assignArray, assignCore, encodeStr_of_not_str fixed e (.list xs) (fun _ h => nomatch h)]
  split <;> exact hslow

theorem strLike_byteLike (fixed : Bool) (e : Ty) (h : strLike fixed e = true) : byteLike e = true := by
  unfold strLike at h
  split at h
  · rfl
  · cases h

theorem assignArray_str (np : Oracle) (fixed : Bool) (cap : Nat) (e : Ty) (bs : List Nat)
    (hs : strLike fixed e = true) (hl : lenOK fixed cap bs.length = true) :
    assignArray np fixed cap e (.str bs) = .ok (fromBuffer (.u 8) bs) := by
  have hb := strLike_byteLike fixed e hs
  have hd := byteLike_dtype e hb
  simp [assignArray, assignCore, encodeStr_str bs hs, hb, hl, hd, pure, Except.pure]

/-! The equations of `hasTy` and `hasTyU` stated here hold by `rfl`; the proofs rewrite with them, since `simp` with the
generated equations of the mutual definition is slow to check. -/

theorem hasTy_nd (strict fixed : Bool) (cap : Nat) (e : Ty) (dt : DType) (xs : List Py) :
    hasTy strict (.arr fixed cap e) (.nd dt xs) =
      (decide (dt = dtypeOf e) && lenOK fixed cap xs.length && xs.all (inDT dt) &&
        (primNonInt e || (isInt e && !strict) || xs.all (hasTy strict e))) :=
  rfl

theorem hasTyU_cons (strict : Bool) (f : Ty) (fs : List Ty) (s : Py) (ss : List Py) :
    hasTyU strict (f :: fs) (s :: ss) =
      if isNone s then hasTyU strict fs ss else hasTy strict f s && ss.all isNone && decide (ss.length = fs.length) :=
  rfl

theorem hasTy_int_iff {strict s : Bool} {w : Nat} {c : Bool} {i : Int} :
    hasTy strict (.int s w c) (.int i) = true ↔ intLo s w ≤ i ∧ i ≤ intHi s w := by
  show (decide _ && decide _) = true ↔ _
  rw [Bool.and_eq_true, decide_eq_true_iff, decide_eq_true_iff]

theorem hasTy_int_inv {strict s : Bool} {w : Nat} {c : Bool} {v : Py} (h : hasTy strict (.int s w c) v = true) :
    ∃ i, v = .int i ∧ intLo s w ≤ i ∧ i ≤ intHi s w := by
  cases v with
  | int i => exact ⟨i, rfl, hasTy_int_iff.1 h⟩
  | _ => cases h

theorem hasTy_float_inv {strict : Bool} {w : Nat} {c : Bool} {v : Py} (h : hasTy strict (.float w c) v = true) :
    ∃ f, v = .float f ∧ floatOK w f = true := by
  cases v with
  | float f => exact ⟨f, rfl, h⟩
  | _ => cases h

theorem hasTy_arr_iff {strict fixed : Bool} {cap : Nat} {e : Ty} {v : Py} :
    hasTy strict (.arr fixed cap e) v = true ↔
      ∃ xs, v = .nd (dtypeOf e) xs ∧ lenOK fixed cap xs.length = true ∧ (∀ y ∈ xs, inDT (dtypeOf e) y = true) ∧
        (primNonInt e || (isInt e && !strict) || xs.all (hasTy strict e)) = true := by
  constructor
  · intro h
    cases v with
    | nd dt xs =>
      rw [hasTy_nd] at h
      simp only [Bool.and_eq_true, decide_eq_true_eq, List.all_eq_true] at h
      obtain ⟨⟨⟨rfl, hl⟩, hall⟩, hel⟩ := h
      exact ⟨xs, rfl, hl, hall, by simpa using hel⟩
    | _ => cases h
  · rintro ⟨xs, rfl, hl, hall, hel⟩
    rw [hasTy_nd, hl, List.all_eq_true.2 hall, hel]
    simp

theorem hasTy_comp_inv {strict : Bool} {cls : Nat} {union : Bool} {fs : List Ty} {v : Py}
    (h : hasTy strict (.comp cls union fs) v = true) :
    ∃ slots, v = .obj cls slots ∧ (if union = true then hasTyU strict fs slots else hasTyS strict fs slots) = true := by
  cases v with
  | obj c slots =>
    obtain ⟨hc, hs⟩ := Bool.and_eq_true_iff.1 h
    cases of_decide_eq_true hc
    exact ⟨slots, rfl, hs⟩
  | _ => cases h

theorem hasTy_none (strict : Bool) (t : Ty) : hasTy strict t Py.none = false := by
  cases t <;> rfl

theorem eq_none_of_isNone {s : Py} (h : isNone s = true) : s = .none := by
  cases s <;> first | rfl | cases h

theorem all_isNone_nones {α : Type} (fs : List α) : (fs.map (fun _ => Py.none)).all isNone = true := by
  simp [isNone]

theorem eq_nones_of_all_isNone {ss : List Py} (h : ss.all isNone = true) : ss = ss.map (fun _ => Py.none) := by
  rw [List.map_const']
  exact List.eq_replicate_iff.2 ⟨rfl, fun s hs => eq_none_of_isNone (List.all_eq_true.1 h s hs)⟩

theorem isNone_of_hasTy {strict : Bool} (t : Ty) (s : Py) (h : hasTy strict t s = true) : isNone s = false := by
  cases hs : isNone s with
  | false => rfl
  | true => rw [eq_none_of_isNone hs, hasTy_none] at h; cases h

theorem hasTy_comp_isObj {strict : Bool} (e : Ty) (x : Py) (hc : isComp e = true) (h : hasTy strict e x = true) :
    isObj x = true := by
  cases e with
  | comp cls u fs => obtain ⟨slots, rfl, _⟩ := hasTy_comp_inv h; rfl
  | _ => cases hc

theorem wf_arr_int {fixed : Bool} {cap : Nat} {s : Bool} {w : Nat} {c : Bool}
    (h : wf (.arr fixed cap (.int s w c)) = true) : 1 ≤ w ∧ w ≤ 64 := by
  obtain ⟨h1, h2⟩ := Bool.and_eq_true_iff.1 (Bool.and_eq_true_iff.1 h).2
  exact ⟨of_decide_eq_true h1, of_decide_eq_true h2⟩

theorem inDT_hasTy_int {strict : Bool} (s : Bool) (w : Nat) (c : Bool) (y : Py) (hw : pickWidth w = w)
    (h : inDT (dtypeOf (.int s w c)) y = true) : hasTy strict (.int s w c) y = true := by
  obtain ⟨i, rfl, hr⟩ := inDT_int_inv h
  exact hasTy_int_iff.2 (hw ▸ hr)

theorem hasTy_int_inDT {strict : Bool} (s : Bool) (w : Nat) (c : Bool) (y : Py) (hw : w ≤ 64)
    (h : hasTy strict (.int s w c) y = true) : inDT (dtypeOf (.int s w c)) y = true := by
  obtain ⟨i, rfl, h1, h2⟩ := hasTy_int_inv h
  have := intRange_mono s (le_pickWidth w hw)
  exact (inDT_int_iff s w c i).2 ⟨Int.le_trans this.1 h1, Int.le_trans h2 this.2⟩

theorem isComp_dtype (e : Ty) (h : isComp e = true) : dtypeOf e = .obj := by
  cases e <;> first | rfl | cases h

theorem floatOK_zero (w : Nat) : floatOK w (.fin false 0) = true := by
  simp [floatOK]

theorem inDT_zero (e : Ty) : inDT (dtypeOf e) (zeroOf (dtypeOf e)) = true := by
  cases e with
  | bool => rfl
  | int s w c => cases s <;> exact (inDT_int_iff _ w c 0).2 ⟨intLo_le_zero _ _, zero_le_intHi _ _⟩
  | float w c => exact decide_eq_true (if_pos (Nat.two_pow_pos _))
  | arr _ _ _ => rfl
  | comp _ _ _ => rfl

theorem default_arr_ok (fixed : Bool) (cap : Nat) (e : Ty) :
    ∃ xs, defaultVal (.arr fixed cap e) = .nd (dtypeOf e) xs ∧ lenOK fixed cap xs.length = true ∧
      ∀ y ∈ xs, inDT (dtypeOf e) y = true := by
  cases fixed with
  | false => exact ⟨[], by simp [defaultVal], by simp [lenOK], by simp⟩
  | true =>
    by_cases hc : isComp e = true
    · refine ⟨List.replicate cap (defaultVal e), by simp [defaultVal, hc, isComp_dtype e hc], by simp [lenOK], ?_⟩
      intro y _; rw [isComp_dtype e hc]; cases y <;> rfl
    · refine ⟨List.replicate cap (zeroOf (dtypeOf e)), by simp [defaultVal, hc], by simp [lenOK], ?_⟩
      intro y hy; rw [(List.mem_replicate.1 hy).2]; exact inDT_zero e

theorem ndOK_default (t : Ty) : ndOK (defaultVal t) = true := by
  cases t with
  | arr fixed cap e =>
    obtain ⟨xs, h, _, hall⟩ := default_arr_ok fixed cap e
    rw [h]; exact List.all_eq_true.2 hall
  | bool => rfl
  | int _ _ _ => rfl
  | float _ _ => rfl
  | comp _ _ _ => rfl

theorem setField_default (np : Oracle) (t : Ty) : setField np t (defaultVal t) = .ok (defaultVal t) := by
  cases t with
  | bool => rfl
  | int s w c => exact setField_int_iff.2 ⟨0, rfl, ⟨intLo_le_zero s w, zero_le_intHi s w⟩, rfl⟩
  | float w c => exact setField_float_iff.2 ⟨.fin false 0, rfl, floatOK_zero w, rfl⟩
  | comp cls u fs => simp [setField, defaultVal, pure, Except.pure]
  | arr fixed cap e =>
    obtain ⟨xs, h, hl, _⟩ := default_arr_ok fixed cap e
    rw [h]
    exact assignArray_nd_same np fixed cap e xs hl

theorem ctorStruct_no_args (np : Oracle) : ∀ fs : List Ty, ctorStruct np fs [] = .ok (defaultS fs)
  | [] => rfl
  | f :: fs => by
    show setField np f (defaultVal f) >>= _ = _
    rw [setField_default]
    show ctorStruct np fs [] >>= _ = _
    rw [ctorStruct_no_args np fs]
    rfl

theorem default_not_none (t : Ty) : isNone (defaultVal t) = false :=
  -- the setter stores its default under every oracle (`setField_default`), so any oracle will do
  setField_not_none (fun _ _ => .error .other) t _ _ (setField_default _ t)

theorem hasTy_default (t : Ty) : wf t = true → hasTy false t (defaultVal t) = true := by
  refine Ty.rec
    (motive_1 := fun t => wf t = true → hasTy false t (defaultVal t) = true)
    (motive_2 := fun fs => wfs fs = true →
      hasTyS false fs (defaultS fs) = true ∧ (fs ≠ [] → hasTyU false fs (defaultU fs) = true))
    ?_ ?_ ?_ ?_ ?_ ?_ ?_ t
  · intro _; rfl
  · intro s w c _
    exact hasTy_int_iff.2 ⟨intLo_le_zero s w, zero_le_intHi s w⟩
  · intro w c _; exact floatOK_zero w
  · intro fixed cap e ih hw
    obtain ⟨hna, hwe⟩ := Bool.and_eq_true_iff.1 hw
    obtain ⟨xs, hd, hl, hall⟩ := default_arr_ok fixed cap e
    refine hasTy_arr_iff.2 ⟨xs, hd, hl, hall, ?_⟩
    -- composite elements are defaults of the element type; for the others the dtype range is all that is asked
    cases e with
    | comp cls u fs =>
      cases fixed with
      | false => cases hd; rfl
      | true =>
        cases hd
        exact List.all_eq_true.2 fun y hy => by rw [(List.mem_replicate.1 hy).2]; exact ih hwe
    | arr _ _ _ => cases hna
    | _ => rfl
  · intro cls union fs ih hw
    obtain ⟨hne, hwf⟩ := Bool.and_eq_true_iff.1 hw
    obtain ⟨hS, hU⟩ := ih hwf
    cases union with
    | false => exact Bool.and_eq_true_iff.2 ⟨decide_eq_true rfl, hS⟩
    | true => exact Bool.and_eq_true_iff.2 ⟨decide_eq_true rfl, hU fun h => by subst h; cases hne⟩
  · intro _; exact ⟨rfl, fun h => absurd rfl h⟩
  · intro f fs ihf ihfs hw
    obtain ⟨hf, hfs⟩ := Bool.and_eq_true_iff.1 hw
    refine ⟨?_, fun _ => ?_⟩
    · show (hasTy false f (defaultVal f) && hasTyS false fs (defaultS fs)) = true
      rw [ihf hf, (ihfs hfs).1]; rfl
    · show hasTyU false (f :: fs) (defaultVal f :: fs.map fun _ => Py.none) = true
      rw [hasTyU_cons, default_not_none, ihf hf, all_isNone_nones, List.length_map]
      simp

theorem length_oneHot : ∀ (slots : List Py) (i : Nat) (v : Py), (oneHot slots i v).length = slots.length := by
  intro slots
  induction slots with
  | nil => intro i v; rfl
  | cons s ss ih =>
    intro i v
    cases i with
    | zero => simp [oneHot]
    | succ k => simp [oneHot, ih]

theorem countSome_cons (s : Py) (ss : List Py) :
    countSome (s :: ss) = (if isNone s then 0 else 1) + countSome ss := by
  cases h : isNone s <;> simp [countSome, h, Nat.add_comm]

theorem countSome_nones (ss : List Py) : countSome (ss.map (fun _ => Py.none)) = 0 := by
  simp [countSome, isNone]

theorem countSome_append (a b : List Py) : countSome (a ++ b) = countSome a + countSome b := by
  simp [countSome, List.filter_append]

theorem countSome_single (v : Py) (h : isNone v = false) : countSome [v] = 1 := by
  rw [countSome_cons, h]; rfl

theorem countSome_oneHot : ∀ (slots : List Py) (i : Nat) (v : Py), i < slots.length → isNone v = false →
    countSome (oneHot slots i v) = 1 := by
  intro slots
  induction slots with
  | nil => intro i v h; cases h
  | cons s ss ih =>
    intro i v hi hv
    cases i with
    | zero =>
      show countSome (v :: ss.map fun _ => Py.none) = 1
      rw [countSome_cons, hv, countSome_nones]; rfl
    | succ k =>
      show countSome (Py.none :: oneHot ss k v) = 1
      rw [countSome_cons, ih k v (Nat.lt_of_succ_lt_succ hi) hv]; rfl

theorem ctorUnionLoop_inv (np : Oracle) : ∀ (fs : List Ty) (args : List Py) (i : Nat) (slots : List Py) (cnt : Nat)
    (slots' : List Py) (cnt' : Nat), i + fs.length ≤ slots.length →
    ctorUnionLoop np fs args i (slots, cnt) = .ok (slots', cnt') →
    slots'.length = slots.length ∧ cnt' = cnt + givenArgs fs.length args ∧
      (cnt < cnt' ∨ countSome slots = 1 → countSome slots' = 1) := by
  intro fs
  induction fs with
  | nil =>
    intro args i slots cnt slots' cnt' _ h
    cases pure_ok.1 h
    exact ⟨rfl, rfl, fun h => h.resolve_left (Nat.lt_irrefl _)⟩
  | cons f fs ih =>
    intro args i slots cnt slots' cnt' hi h
    have hi' : i + 1 + fs.length ≤ slots.length := Nat.succ_add i _ ▸ hi
    have hlt : i < slots.length := Nat.lt_of_lt_of_le (Nat.lt_add_of_pos_right fs.length.succ_pos) hi
    dsimp only [ctorUnionLoop] at h
    dsimp only [List.length_cons, givenArgs]
    split at h
    · rename_i hn
      rw [if_pos hn, Nat.zero_add]
      exact ih args.tail (i + 1) slots cnt slots' cnt' hi' h
    · rename_i hn
      obtain ⟨v, hv, h⟩ := bind_eq_ok.1 h
      have hlen := length_oneHot slots i v
      obtain ⟨h1, h2, h3⟩ := ih args.tail (i + 1) (oneHot slots i v) (cnt + 1) slots' cnt' (hlen ▸ hi') h
      rw [if_neg hn]
      -- this assignment leaves exactly one slot set, whatever was set before, and the rest of the loop keeps that
      exact ⟨h1.trans hlen, by rw [h2, Nat.add_assoc],
        fun _ => h3 (.inr (countSome_oneHot slots i v hlt (setField_not_none np f _ v hv)))⟩

theorem ctorUnionLoop_none_given (np : Oracle) : ∀ (fs : List Ty) (args : List Py) (i : Nat) (st : List Py × Nat),
    givenArgs fs.length args = 0 → ctorUnionLoop np fs args i st = .ok st := by
  intro fs
  induction fs with
  | nil => intro args i st _; rfl
  | cons f fs ih =>
    intro args i st hg
    obtain ⟨slots, cnt⟩ := st
    -- this argument is not given, nor is any later one
    have hg' : (if isNone (args.headD Py.none) = true then 0 else 1) + givenArgs fs.length args.tail = 0 := hg
    split at hg'
    · rename_i hn
      dsimp only [ctorUnionLoop]
      rw [if_pos hn]
      exact ih args.tail (i + 1) (slots, cnt) (by omega)
    · omega

theorem construct_union_ok (np : Oracle) (cls : Nat) (fs : List Ty) (args : List Py) (o : Py)
    (h : construct np (.comp cls true fs) args = .ok o) :
    ∃ slots, slots.length = fs.length ∧
      ((givenArgs fs.length args = 0 ∧ ∃ f0 rest v, fs = f0 :: rest ∧ setField np f0 (defaultVal f0) = .ok v ∧
          o = .obj cls (oneHot slots 0 v)) ∨
        (givenArgs fs.length args = 1 ∧ countSome slots = 1 ∧ o = .obj cls slots)) := by
  dsimp only [construct] at h
  obtain ⟨⟨slots, cnt⟩, hl, h⟩ := bind_eq_ok.1 h
  obtain ⟨hlen, hcnt, hone⟩ := ctorUnionLoop_inv np fs args 0 _ 0 slots cnt
    (by rw [Nat.zero_add, List.length_map]; exact Nat.le_refl _) hl
  rw [List.length_map] at hlen
  rw [Nat.zero_add] at hcnt
  refine ⟨slots, hlen, ?_⟩
  dsimp only at h
  split at h
  · rename_i hc
    cases fs with
    | nil => cases throw_ok.1 h
    | cons f0 rest =>
      obtain ⟨v, hv, h⟩ := bind_eq_ok.1 h
      exact .inl ⟨hcnt ▸ hc, f0, rest, v, rfl, hv, (pure_ok.1 h).symm⟩
  · split at h
    · rename_i hc
      exact .inr ⟨hcnt ▸ hc, hone (.inl (hc ▸ Nat.one_pos)), (pure_ok.1 h).symm⟩
    · cases throw_ok.1 h

/-! The equations of `toBuiltin`, `tbFields`, `updSlot`, `updS` and `updU` that the proofs below rewrite with; each holds
by `rfl` (`toBuiltin_comp` after a case split).  As with `hasTy`, `simp` with the generated equations of these mutual
definitions is slow to check. -/

theorem toBuiltin_arr (fixed : Bool) (cap : Nat) (e : Ty) (dt : DType) (xs : List Py) :
    toBuiltin (.arr fixed cap e) (.nd dt xs) =
      if strLike fixed e then
        match bytesOf xs with
        | some bs => if bs.all printable then pure (.str bs) else (xs.mapM (toBuiltin e)).map .list
        | none => .error .other
      else (xs.mapM (toBuiltin e)).map .list :=
  rfl

theorem toBuiltin_comp (cls : Nat) (u : Bool) (fs : List Ty) (c : Nat) (slots : List Py) :
    toBuiltin (.comp cls u fs) (.obj c slots) = (tbFields fs slots).map (fun vs => .dict vs false) := by
  cases fs <;> rfl

theorem tbFields_cons (f : Ty) (fs : List Ty) (s : Py) (ss : List Py) :
    tbFields (f :: fs) (s :: ss) =
      (if isNone s then pure Py.missing else toBuiltin f s) >>= fun v => tbFields fs ss >>= fun r => pure (v :: r) :=
  rfl

theorem updSlot_arr (np : Oracle) (fixed : Bool) (cap : Nat) (e : Ty) (cur v : Py) :
    updSlot np (.arr fixed cap e) cur v =
      if isComp e then
        match iterate v with
        | .ok ss => ss.mapM (updSlot np e Py.none) >>= fun objs => assignArray np fixed cap e (.list objs)
        | .error x => .error x
      else assignArray np fixed cap e v :=
  rfl

theorem updSlot_comp (np : Oracle) (cls : Nat) (union : Bool) (fs : List Ty) (cur v : Py) :
    updSlot np (.comp cls union fs) cur v =
      match (if isNone cur then defaultVal (.comp cls union fs) else cur), v with
      | .obj c slots, .dict vals extra =>
        (if union then updU np fs vals [] slots else updS np fs slots vals) >>= fun slots' =>
          if extra then throw .value else pure (.obj c slots')
      | .obj .., .missing => .error .unmodelled
      | .obj c slots, src =>
        positional union fs src >>= fun vals =>
          (if union then updU np fs vals [] slots else updS np fs slots vals) >>= fun slots' => pure (.obj c slots')
      | _, _ => .error .other :=
  rfl

theorem updS_cons (np : Oracle) (f : Ty) (fs : List Ty) (s v : Py) (ss vs : List Py) :
    updS np (f :: fs) (s :: ss) (v :: vs) =
      (if isMissing v then pure s else updSlot np f s v) >>= fun s' => updS np fs ss vs >>= fun rest => pure (s' :: rest) :=
  rfl

theorem updU_cons (np : Oracle) (f : Ty) (fs : List Ty) (s v : Py) (vs before after : List Py) :
    updU np (f :: fs) (v :: vs) before (s :: after) =
      if isMissing v then updU np fs vs (before ++ [s]) after
      else updSlot np f s v >>= fun nv =>
        updU np fs vs (before.map (fun _ => Py.none) ++ [nv]) (after.map (fun _ => Py.none)) :=
  rfl

theorem updSlot_comp_ok (np : Oracle) (cls : Nat) (union : Bool) (fs : List Ty) (cur v o : Py)
    (h : updSlot np (.comp cls union fs) cur v = .ok o) :
    ∃ c slots vals slots',
      (if isNone cur = true then defaultVal (.comp cls union fs) else cur) = .obj c slots ∧
      (v = .dict vals false ∨ ((∀ vs ex, v ≠ .dict vs ex) ∧ positional union fs v = .ok vals)) ∧
      (if union = true then updU np fs vals [] slots else updS np fs slots vals) = .ok slots' ∧ o = .obj c slots' := by
  rw [updSlot_comp] at h
  split at h
  · rename_i c slots vals extra hd
    obtain ⟨slots', hq, h⟩ := bind_eq_ok.1 h
    cases extra with
    | true => cases throw_ok.1 h
    | false => cases pure_ok.1 h; exact ⟨c, slots, vals, slots', hd, .inl rfl, hq, rfl⟩
  · cases h
  · rename_i c slots hd hnd _
    obtain ⟨vals, hp, h⟩ := bind_eq_ok.1 h
    obtain ⟨slots', hq, h⟩ := bind_eq_ok.1 h
    cases pure_ok.1 h
    exact ⟨c, slots, vals, slots', hd, .inr ⟨hnd, hp⟩, hq, rfl⟩
  · cases h

theorem updSlot_not_none (np : Oracle) (t : Ty) (cur v nv : Py) (h : updSlot np t cur v = .ok nv) :
    isNone nv = false := by
  cases t with
  | bool => exact setField_not_none np .bool v nv h
  | int s w c => exact setField_not_none np (.int s w c) v nv h
  | float w c => exact setField_not_none np (.float w c) v nv h
  | arr fixed cap e =>
    -- both branches end in `assign_array`
    rw [updSlot_arr] at h
    split at h
    · split at h
      · obtain ⟨objs, _, h⟩ := bind_eq_ok.1 h
        exact setField_not_none np (.arr fixed cap e) _ nv h
      · cases h
    · exact setField_not_none np (.arr fixed cap e) v nv h
  | comp cls union fs =>
    obtain ⟨c, slots, vals, slots', _, _, _, rfl⟩ := updSlot_comp_ok np cls union fs cur v nv h
    rfl

theorem updU_one (np : Oracle) : ∀ (fs : List Ty) (vs before after res : List Py),
    countSome (before ++ after) = 1 → updU np fs vs before after = .ok res →
    countSome res = 1 ∧ res.length = (before ++ after).length := by
  intro fs
  induction fs with
  | nil =>
    intro vs before after res h1 h
    cases pure_ok.1 h
    exact ⟨h1, rfl⟩
  | cons f fs ih =>
    intro vs before after res h1 h
    cases vs with
    | nil => cases pure_ok.1 h; exact ⟨h1, rfl⟩
    | cons v vs =>
      cases after with
      | nil => cases pure_ok.1 h; exact ⟨h1, rfl⟩
      | cons s after =>
        rw [updU_cons] at h
        split at h
        · -- key absent: the slot moves to the left part unchanged
          rw [List.append_cons] at h1 ⊢
          exact ih vs (before ++ [s]) after res h1 h
        · -- key present: the new value is the only slot that is not `None`
          obtain ⟨nv, hn, h⟩ := bind_eq_ok.1 h
          have hnn := updSlot_not_none np f s v nv hn
          obtain ⟨r1, r2⟩ := ih vs (before.map (fun _ => Py.none) ++ [nv]) (after.map (fun _ => Py.none)) res
            (by rw [countSome_append, countSome_append, countSome_nones, countSome_nones, countSome_single nv hnn]) h
          exact ⟨r1, by rw [r2]; simp⟩

theorem bytesOf_spec : ∀ (xs : List Py) (bs : List Nat), bytesOf xs = some bs →
    xs = bs.map (fun b => Py.int ((b % 256 : Nat) : Int)) ∧ bs.length = xs.length := by
  intro xs
  induction xs with
  | nil => intro bs h; cases h; exact ⟨rfl, rfl⟩
  | cons x xs ih =>
    intro bs h
    cases x with
    | int i =>
      dsimp only [bytesOf] at h
      split at h
      · rename_i hr
        obtain ⟨bs', hb, rfl⟩ := Option.map_eq_some_iff.1 h
        obtain ⟨h1, h2⟩ := ih bs' hb
        have : ((i.toNat % 256 : Nat) : Int) = i := by
          rw [Nat.mod_eq_of_lt (by omega), Int.toNat_of_nonneg hr.1]
        exact ⟨by rw [List.map_cons, this, ← h1], by rw [List.length_cons, List.length_cons, h2]⟩
      · cases h
    | _ => cases h

theorem bytesOf_some : ∀ (xs : List Py), (∀ y ∈ xs, inDT (.u 8) y = true) → ∃ bs, bytesOf xs = some bs := by
  intro xs
  induction xs with
  | nil => intro _; exact ⟨[], rfl⟩
  | cons x xs ih =>
    intro h
    obtain ⟨bs, hbs⟩ := ih (fun y hy => h y (List.mem_cons_of_mem _ hy))
    obtain ⟨i, rfl, h0, h256⟩ := inDT_inv (h x List.mem_cons_self)
    exact ⟨i.toNat :: bs, by simp [bytesOf, h0, (by omega : i < 256), hbs]⟩

theorem dtype_prim_ne_obj (e : Ty) (hp : isComp e = false) (ha : isArr e = false) : dtypeOf e ≠ .obj := by
  cases e with
  | int s w c => cases s <;> nofun
  | bool | float _ _ => nofun
  | arr _ _ _ => cases ha
  | comp _ _ _ => cases hp

theorem toBuiltin_elem (e : Ty) (x : Py) (hp : isComp e = false) (ha : isArr e = false)
    (h : inDT (dtypeOf e) x = true) : toBuiltin e x = .ok x := by
  cases e with
  | bool => obtain ⟨b, rfl⟩ := inDT_inv h; rfl
  | int s w c => obtain ⟨i, rfl, _⟩ := inDT_int_inv h; rfl
  | float w c => obtain ⟨f, rfl, _⟩ := inDT_inv h; rfl
  | arr _ _ _ => cases ha
  | comp _ _ _ => cases hp

theorem updU_all_missing (np : Oracle) : ∀ (fs : List Ty) (vs before after : List Py),
    (∀ v ∈ vs, isMissing v = true) → updU np fs vs before after = .ok (before ++ after) := by
  intro fs
  induction fs with
  | nil => intro vs before after _; rfl
  | cons f fs ih =>
    intro vs before after h
    cases vs with
    | nil => rfl
    | cons v vs =>
      cases after with
      | nil => rfl
      | cons s after =>
        rw [updU_cons, if_pos (h v List.mem_cons_self),
          ih vs (before ++ [s]) after (fun v' hv' => h v' (List.mem_cons_of_mem _ hv'))]
        simp

theorem tbFields_all_none : ∀ (fs : List Ty) (ss : List Py), ss.all isNone = true → ss.length = fs.length →
    tbFields fs ss = .ok (ss.map (fun _ => Py.missing)) := by
  intro fs
  induction fs with
  | nil => intro ss _ hl; cases ss with
    | nil => rfl
    | cons _ _ => simp at hl
  | cons f fs ih =>
    intro ss ha hl
    cases ss with
    | nil => simp at hl
    | cons s ss =>
      simp only [List.all_cons, Bool.and_eq_true] at ha
      rw [tbFields_cons, if_pos ha.1, ih ss ha.2 (by simpa using hl)]
      rfl

/-- `hasTyU` weakened to what holds of every tail of a destination's slot list, along which `updU` recurses (right of
the selected option all slots are `None`, which `hasTyU` rejects). -/
def slotsOK : List Ty → List Py → Bool
  | [], [] => true
  | f :: fs, d :: ds => (isNone d || hasTy false f d) && slotsOK fs ds
  | _, _ => false

theorem slotsOK_length : ∀ (fs : List Ty) (ds : List Py), slotsOK fs ds = true → ds.length = fs.length := by
  intro fs
  induction fs with
  | nil => intro ds h; cases ds <;> simp_all [slotsOK]
  | cons f fs ih =>
    intro ds h
    cases ds with
    | nil => simp [slotsOK] at h
    | cons d ds => simp only [slotsOK, Bool.and_eq_true] at h; simp [ih ds h.2]

theorem slotsOK_all_none : ∀ (fs : List Ty) (ds : List Py), ds.all isNone = true → ds.length = fs.length →
    slotsOK fs ds = true := by
  intro fs
  induction fs with
  | nil => intro ds _ hl; cases ds <;> simp_all [slotsOK]
  | cons f fs ih =>
    intro ds ha hl
    cases ds with
    | nil => simp at hl
    | cons d ds =>
      simp only [List.all_cons, Bool.and_eq_true] at ha
      simp [slotsOK, ha.1, ih ds ha.2 (by simpa using hl)]

theorem slotsOK_of_hasTyU : ∀ (fs : List Ty) (ds : List Py), hasTyU false fs ds = true → slotsOK fs ds = true := by
  intro fs
  induction fs with
  | nil => intro ds h; cases h
  | cons f fs ih =>
    intro ds h
    cases ds with
    | nil => cases h
    | cons d ds =>
      rw [hasTyU_cons] at h
      split at h
      · rename_i hn; simp [slotsOK, hn, ih ds h]
      · simp only [Bool.and_eq_true, decide_eq_true_eq] at h
        simp [slotsOK, h.1.1, slotsOK_all_none fs ds h.1.2 h.2]

/-- Motive of `rt_all` for one field type. -/
def RT1 (np : NumPy) (t : Ty) : Prop :=
  wf t = true → ∀ s, hasTy false t s = true →
    ∃ b, toBuiltin t s = .ok b ∧ isMissing b = false ∧
      ∀ cur, (isNone cur = true ∨ hasTy false t cur = true) → updSlot np.array t cur b = .ok s

/-- Motive of `rt_all` for a field list (structure part and union part). -/
def RT2 (np : NumPy) (fs : List Ty) : Prop :=
  wfs fs = true →
    (∀ ss, hasTyS false fs ss = true →
      ∃ bs, tbFields fs ss = .ok bs ∧ ∀ ds, hasTyS false fs ds = true → updS np.array fs ds bs = .ok ss) ∧
    (∀ ss, hasTyU false fs ss = true →
      ∃ bs, tbFields fs ss = .ok bs ∧ ∀ before ds, slotsOK fs ds = true →
        updU np.array fs bs before ds = .ok (before.map (fun _ => Py.none) ++ ss))

theorem rt_bool (np : NumPy) : RT1 np .bool := by
  intro _ s hs
  cases s with
  | bool b => exact ⟨.bool b, rfl, rfl, fun _ _ => rfl⟩
  | _ => cases hs

theorem rt_int (np : NumPy) (sg : Bool) (w : Nat) (c : Bool) : RT1 np (.int sg w c) := by
  intro _ s hs
  obtain ⟨i, rfl, hr⟩ := hasTy_int_inv hs
  exact ⟨.int i, rfl, rfl, fun _ _ => setField_int_iff.2 ⟨i, rfl, hr, rfl⟩⟩

theorem rt_float (np : NumPy) (w : Nat) (c : Bool) : RT1 np (.float w c) := by
  intro _ s hs
  obtain ⟨f, rfl, hf⟩ := hasTy_float_inv hs
  exact ⟨.float f, rfl, rfl, fun _ _ => setField_float_iff.2 ⟨f, rfl, hf, rfl⟩⟩

theorem rt_arr (np : NumPy) (fixed : Bool) (cap : Nat) (e : Ty) (ih : RT1 np e) : RT1 np (.arr fixed cap e) := by
  intro hw s hs
  obtain ⟨hna, hwe⟩ := Bool.and_eq_true_iff.1 hw
  have ha : isArr e = false := Bool.not_eq_true' _ ▸ hna
  obtain ⟨xs, rfl, hl, hall, hel⟩ := hasTy_arr_iff.1 hs
  by_cases hc : isComp e = true
  · -- array of composites: element-wise by the induction hypothesis
    obtain ⟨cls, u, fs, rfl⟩ : ∃ cls u fs, e = .comp cls u fs := by
      cases e <;> first | exact ⟨_, _, _, rfl⟩ | cases hc
    have hty : ∀ x ∈ xs, hasTy false (.comp cls u fs) x = true := List.all_eq_true.1 hel
    obtain ⟨bs, hf, hg⟩ := mapM_roundtrip (toBuiltin _) (updSlot np.array _ Py.none) xs (fun x hx => by
      obtain ⟨b, h1, _, h3⟩ := ih hwe x (hty x hx)
      exact ⟨b, h1, h3 Py.none (Or.inl rfl)⟩)
    refine ⟨.list bs, by rw [toBuiltin_arr, hf]; rfl, rfl, fun cur _ => ?_⟩
    rw [updSlot_arr, if_pos hc]
    show bs.mapM (updSlot np.array _ Py.none) >>= _ = _
    rw [hg]
    exact assignArray_list np fixed cap _ xs
      (fun y hy => ⟨hall y hy, fun _ => hasTy_comp_isObj _ y rfl (hty y hy)⟩) hl
  · -- array of primitives
    have hc' : isComp e = false := Bool.eq_false_iff.2 hc
    have hlist : (xs.mapM (toBuiltin e)).map Py.list = .ok (.list xs) := by
      rw [mapM_id_of_forall (toBuiltin e) xs (fun x hx => toBuiltin_elem e x hc' ha (hall x hx))]; rfl
    have hupd : ∀ cur, updSlot np.array (.arr fixed cap e) cur (.list xs) = .ok (.nd (dtypeOf e) xs) := by
      intro cur
      rw [updSlot_arr, if_neg hc]
      exact assignArray_list np fixed cap e xs
        (fun y hy => ⟨hall y hy, fun h => absurd h (dtype_prim_ne_obj e hc' ha)⟩) hl
    by_cases hs : strLike fixed e = true
    · have hd8 := byteLike_dtype e (strLike_byteLike fixed e hs)
      obtain ⟨bs, hbs⟩ := bytesOf_some xs (fun y hy => by rw [← hd8]; exact hall y hy)
      obtain ⟨hxs, hlen⟩ := bytesOf_spec xs bs hbs
      by_cases hp : bs.all printable = true
      · -- a printable string-like array travels as `str`
        refine ⟨.str bs, by rw [toBuiltin_arr, if_pos hs, hbs]; simp only [hp, if_true]; rfl, rfl, fun cur _ => ?_⟩
        rw [updSlot_arr, if_neg hc, assignArray_str np.array fixed cap e bs hs (by rw [hlen]; exact hl), hd8, fromBuffer,
          ← hxs]
      · exact ⟨.list xs, by rw [toBuiltin_arr, if_pos hs, hbs]; simp only [hp]; exact hlist, rfl, fun cur _ => hupd cur⟩
    · exact ⟨.list xs, by rw [toBuiltin_arr, if_neg hs]; exact hlist, rfl, fun cur _ => hupd cur⟩

theorem rt_comp (np : NumPy) (cls : Nat) (union : Bool) (fs : List Ty) (ih : RT2 np fs) :
    RT1 np (.comp cls union fs) := by
  intro hw s hs
  obtain ⟨ihS, ihU⟩ := ih (Bool.and_eq_true_iff.1 hw).2
  obtain ⟨slots, rfl, hslots⟩ := hasTy_comp_inv hs
  -- both kinds of field loop reproduce the slots
  obtain ⟨bs, htb, hupd⟩ : ∃ bs, tbFields fs slots = .ok bs ∧
      ∀ ds, (if union = true then hasTyU false fs ds else hasTyS false fs ds) = true →
        (if union = true then updU np.array fs bs [] ds else updS np.array fs ds bs) = .ok slots := by
    cases union with
    | false => exact ihS slots hslots
    | true =>
      obtain ⟨bs, htb, hupd⟩ := ihU slots hslots
      exact ⟨bs, htb, fun ds hd => hupd [] ds (slotsOK_of_hasTyU fs ds hd)⟩
  refine ⟨.dict bs false, by rw [toBuiltin_comp, htb]; rfl, rfl, fun cur hcur => ?_⟩
  -- the destination is `cur` or a fresh default, in both cases a well-typed instance
  have hty : hasTy false (.comp cls union fs) (if isNone cur = true then defaultVal (.comp cls union fs) else cur)
      = true := by
    split
    · exact hasTy_default _ hw
    · exact hcur.resolve_left ‹_›
  obtain ⟨dslots, hd, hdt⟩ := hasTy_comp_inv hty
  rw [updSlot_comp, hd]
  dsimp only
  rw [hupd dslots hdt]
  rfl

theorem rt_nil (np : NumPy) : RT2 np [] := by
  intro _
  constructor
  · intro ss hs
    cases ss with
    | nil =>
      refine ⟨[], rfl, fun ds hd => ?_⟩
      cases ds with
      | nil => rfl
      | cons _ _ => cases hd
    | cons _ _ => cases hs
  · intro ss hs; cases hs

theorem rt_cons (np : NumPy) (f : Ty) (fs : List Ty) (ihf : RT1 np f) (ihfs : RT2 np fs) : RT2 np (f :: fs) := by
  intro hw
  obtain ⟨hwf, hwfs⟩ := Bool.and_eq_true_iff.1 hw
  obtain ⟨ihS, ihU⟩ := ihfs hwfs
  constructor
  · intro ss hs
    cases ss with
    | nil => cases hs
    | cons s ss =>
      obtain ⟨hs1, hs2⟩ := Bool.and_eq_true_iff.1 hs
      obtain ⟨b, hb, hbm, hupd⟩ := ihf hwf s hs1
      obtain ⟨bs, hbs, hupds⟩ := ihS ss hs2
      refine ⟨b :: bs, by rw [tbFields_cons, isNone_of_hasTy f s hs1, hb, hbs]; rfl, fun ds hd => ?_⟩
      cases ds with
      | nil => cases hd
      | cons d ds =>
        obtain ⟨hd1, hd2⟩ := Bool.and_eq_true_iff.1 hd
        rw [updS_cons, hbm, hupd d (Or.inr hd1), hupds ds hd2]
        rfl
  · intro ss hs
    cases ss with
    | nil => cases hs
    | cons s ss =>
      rw [hasTyU_cons] at hs
      split at hs
      · -- this option is not the selected one
        rename_i hn
        cases eq_none_of_isNone hn
        obtain ⟨bs, hbs, hupds⟩ := ihU ss hs
        refine ⟨Py.missing :: bs, by rw [tbFields_cons, hbs]; rfl, fun before ds hd => ?_⟩
        cases ds with
        | nil => cases hd
        | cons d ds =>
          rw [updU_cons, if_pos (show isMissing Py.missing = true from rfl),
            hupds (before ++ [d]) ds (Bool.and_eq_true_iff.1 hd).2]
          simp
      · -- this is the selected option; everything to the right is None
        rename_i hn
        simp only [Bool.and_eq_true, decide_eq_true_eq] at hs
        obtain ⟨⟨hty, hnones⟩, hlen⟩ := hs
        obtain ⟨b, hb, hbm, hupd⟩ := ihf hwf s hty
        refine ⟨b :: ss.map (fun _ => Py.missing),
          by rw [tbFields_cons, if_neg hn, hb, tbFields_all_none fs ss hnones hlen]; rfl, fun before ds hd => ?_⟩
        cases ds with
        | nil => cases hd
        | cons d ds =>
          obtain ⟨hd1, hd2⟩ := Bool.and_eq_true_iff.1 hd
          rw [updU_cons, hbm, if_neg (by decide), hupd d (Bool.or_eq_true_iff.1 hd1)]
          show updU np.array fs _ _ _ = _
          rw [updU_all_missing np.array fs _ _ _ (fun v hv => by
            obtain ⟨_, _, rfl⟩ := List.mem_map.1 hv; rfl)]
          -- the destination's right part is overwritten with as many `None` as `ss` holds
          have hds : ds.map (fun _ => Py.none) = ss := by
            rw [eq_nones_of_all_isNone hnones, List.map_const', List.map_const', slotsOK_length fs ds hd2, hlen]
          rw [hds]
          simp

theorem rt_all (np : NumPy) (t : Ty) : RT1 np t :=
  Ty.rec (motive_1 := RT1 np) (motive_2 := RT2 np)
    (rt_bool np) (rt_int np) (rt_float np) (rt_arr np) (rt_comp np) (rt_nil np) (rt_cons np) t

theorem maxMinor_eq_max? : ∀ ms : List Nat, maxMinor ms = ms.max?
  | [] => rfl
  | m :: ms => by
    rw [maxMinor, maxMinor_eq_max? ms, List.max?_cons]
    cases ms.max? <;> rfl

theorem maxMinor_spec (ms : List Nat) (k : Nat) (h : maxMinor ms = some k) : k ∈ ms ∧ ∀ m ∈ ms, m ≤ k :=
  List.max?_eq_some_iff.1 (maxMinor_eq_max? ms ▸ h)

theorem maxMinor_some_of_mem (ms : List Nat) (m : Nat) (hm : m ∈ ms) : ∃ k, maxMinor ms = some k := by
  rw [maxMinor_eq_max?]
  exact Option.isSome_iff_exists.1 (List.isSome_max?_of_mem hm)

theorem doImport_strop (reserved : String → Bool) (ex : List String → Bool) :
    ∀ (comps pre : List String),
      (∀ a b c, comps = a ++ c :: b → ex (pre ++ a.map (strop reserved) ++ [strop reserved c]) = true) →
      (∀ a b c, comps = a ++ c :: b → reserved c = true → ex (pre ++ a.map (strop reserved) ++ [c]) = false) →
      doImport ex pre comps = some (pre ++ comps.map (strop reserved)) := by
  intro comps
  induction comps with
  | nil => intro pre _ _; simp [doImport]
  | cons c cs ih =>
    intro pre h1 h2
    have hex : ex (pre ++ [strop reserved c]) = true := by simpa using h1 [] cs c rfl
    -- either way the walk continues below the stropped name
    have hstep : doImport ex pre (c :: cs) = doImport ex (pre ++ [strop reserved c]) cs := by
      cases hr : reserved c with
      | false =>
        simp only [strop, hr, Bool.false_eq_true, if_false] at hex ⊢
        simp [doImport, hex]
      | true =>
        have hno : ex (pre ++ [c]) = false := by simpa using h2 [] cs c rfl hr
        simp only [strop, hr, if_true] at hex ⊢
        simp [doImport, hex, hno]
    rw [hstep, ih (pre ++ [strop reserved c])]
    · simp
    · intro a b c' hc
      simpa [List.append_assoc] using h1 (c :: a) b c' (congrArg (c :: ·) hc)
    · intro a b c' hc hr
      simpa [List.append_assoc] using h2 (c :: a) b c' (congrArg (c :: ·) hc) hr

/-- The candidate that defeats the setter of an array field outside `fullyChecked`: an ndarray of the element dtype
and of full length whose elements are `max + 1` of the (narrower) DSDL integer type, resp. the integer 1 for an
array of composites. -/
def unsoundWitness : Ty → Py
  | .arr _ cap (.int s w c) => .nd (dtypeOf (.int s w c)) (List.replicate cap (.int (intHi s w + 1)))
  | .arr _ cap e => .nd (dtypeOf e) (List.replicate cap (.int 1))
  | _ => .none

theorem inDT_hi_succ (s : Bool) (w : Nat) (c : Bool) (h1 : 1 ≤ w) (hlt : w < pickWidth w) :
    inDT (dtypeOf (.int s w c)) (.int (intHi s w + 1)) = true :=
  (inDT_int_iff s w c _).2
    ⟨Int.le_trans (intLo_le_zero s (pickWidth w)) (Int.le_add_one (zero_le_intHi s w)), intHi_lt s h1 hlt⟩

theorem lenOK_self (fixed : Bool) (cap : Nat) : lenOK fixed cap cap = true := by
  unfold lenOK; split <;> simp

theorem replicate_stored_ill_typed (np : Oracle) (fixed : Bool) (cap : Nat) (e : Ty) (y : Py) (hcap : 1 ≤ cap)
    (hin : inDT (dtypeOf e) y = true) (hbad : hasTy true e y = false) (hp : primNonInt e = false) :
    ndOK (.nd (dtypeOf e) (List.replicate cap y)) = true ∧
      setField np (.arr fixed cap e) (.nd (dtypeOf e) (List.replicate cap y))
        = .ok (.nd (dtypeOf e) (List.replicate cap y)) ∧
      hasTy true (.arr fixed cap e) (.nd (dtypeOf e) (List.replicate cap y)) = false := by
  obtain ⟨n, rfl⟩ : ∃ n, cap = n + 1 := ⟨cap - 1, by omega⟩
  refine ⟨by simp [ndOK, hin],
    assignArray_nd_same np fixed _ e _ (by rw [List.length_replicate]; exact lenOK_self _ _), ?_⟩
  simp [hasTy_nd, hp, List.replicate_succ, hbad]

theorem idxOf_inj {α : Type} [DecidableEq α] (l : List α) (a b : α) (ha : a ∈ l) (h : l.idxOf a = l.idxOf b) :
    a = b := by
  have hlt : l.idxOf a < l.length := List.idxOf_lt_length_iff.2 ha
  have hb : l.idxOf b < l.length := h ▸ hlt
  calc a = l[l.idxOf a] := (List.getElem_idxOf hlt).symm
    _ = l[l.idxOf b] := by simp only [h]
    _ = b := List.getElem_idxOf hb

end NunavutVerif.PyObj
