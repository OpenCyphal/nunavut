import NunavutVerif.Lemmas.GenCSpec
import NunavutVerif.Lemmas.DsdlBitsBridge
/-!
The bits a deserializer sees (`bitsOf`: the first `cap` bytes as the specification's bit list)
against the zero-extending reads of the C14 primitive models (`zbit`, `fieldOf`); what one emitted deserialization site
computes, for every path of every primitive field macro, from the C14 contracts of the getters; the relation between the
generated code's `offset_bits` and the specification's virtual offset.
-/
namespace NunavutVerif.GenC
open NunavutVerif.Dsdl NunavutVerif.Bits
open NunavutVerif.Bits.Py (bitOf bitOf_drop)
open AOff

def gb (bs : List Bool) (i : Nat) : Bool := bs.getD i false

theorem gb_singleton (b : Bool) (i : Nat) : gb [b] i = (decide (i = 0) && b) := by
  cases i <;> simp [gb]

def bitsOf (buf : Buf) (cap : Nat) : List Bool := unpackBytes (buf.take cap)

theorem bitsOf_length {buf : Buf} {cap : Nat} (h : cap ≤ buf.length) : (bitsOf buf cap).length = 8 * cap := by
  simp [bitsOf, unpackBytes_length, List.length_take, Nat.min_eq_left h]

theorem bitsOf_full (b : Buf) : bitsOf b b.length = unpackBytes b := by
  simp [bitsOf]

theorem bitOf_bitsOf (buf : Buf) (cap i : Nat) : bitOf (bitsOf buf cap) i = zbit buf cap i := by
  simp only [bitsOf, bitOf_unpackBytes, bitAt_take, zbit]
  congr 1
  by_cases h : i / 8 < cap
  · simp [h]; omega
  · simp [h]; omega

theorem readNat_bitsOf (buf : Buf) (cap off n : Nat) :
    readNat n ((bitsOf buf cap).drop off) = fieldOf (fun i => zbit buf cap (off + i)) n := by
  rw [readNat_eq_fieldOf]
  apply fieldOf_congr
  intro i _
  rw [bitOf_drop, bitOf_bitsOf]

theorem readNat_data (data : Buf) (off n : Nat) :
    readNat n ((bitsOf data data.length).drop off) = fieldOf (fun i => bitAt data (off + i)) n := by
  rw [readNat_bitsOf]
  apply fieldOf_congr
  intro i _
  exact zbit_length data _

theorem bitsOf_sub {buf : Buf} {cap k size : Nat} (h : size ≤ cap - k) :
    bitsOf (buf.drop k) size = ((bitsOf buf cap).drop (8 * k)).take (8 * size) := by
  unfold bitsOf
  rw [← unpackBytes_drop, ← unpackBytes_take, List.drop_take, List.take_take, Nat.min_eq_left h]

/-! After a sealed nested object that was cut short by the end of the buffer the generated code continues at
`capacity_bits`, the specification at the (larger) virtual offset: from there on both read zeros only. -/

/-- `c` = `offset_bits` of the generated code, `s` = offset of the specification, `cap` = `capacity_bytes` -/
def Rel (cap c s : Nat) : Prop := c ≤ s ∧ c % 8 = s % 8 ∧ (c = s ∨ 8 * cap ≤ c)

theorem Rel.refl (cap x : Nat) : Rel cap x x := ⟨Nat.le_refl _, rfl, Or.inl rfl⟩

theorem Rel.add {cap c s : Nat} (h : Rel cap c s) (n : Nat) : Rel cap (c + n) (s + n) := by
  obtain ⟨h1, h2, h3⟩ := h
  exact ⟨Nat.add_le_add_right h1 n, by rw [Nat.add_mod, h2, ← Nat.add_mod],
    h3.imp (fun e => by rw [e]) (fun e => Nat.le_trans e (Nat.le_add_right c n))⟩

theorem Rel.trans_add {cap a c s n : Nat} (h1 : Rel cap a (c + n)) (h2 : Rel cap c s) : Rel cap a (s + n) := by
  obtain ⟨a1, a2, a3⟩ := h1
  obtain ⟨b1, b2, b3⟩ := h2
  refine ⟨Nat.le_trans a1 (Nat.add_le_add_right b1 n), by rw [a2, Nat.add_mod, b2, ← Nat.add_mod], ?_⟩
  rcases a3 with e | e
  · rw [e]
    exact b3.imp (fun f => by rw [f]) (fun f => Nat.le_trans f (Nat.le_add_right c n))
  · exact Or.inr e

theorem Rel.pad {cap c s a : Nat} (ha : a = 1 ∨ a = 8) (h : Rel cap c s) : Rel cap (padTo a c) (padTo a s) := by
  obtain ⟨h1, h2, h3⟩ := h
  rcases ha with rfl | rfl
  · rw [padTo_one, padTo_one]; exact ⟨h1, h2, h3⟩
  · exact ⟨padTo_mono (Or.inr rfl) h1, by rw [padTo_mod (Or.inr rfl), padTo_mod (Or.inr rfl)],
      h3.imp (fun e => by rw [e]) (fun e => Nat.le_trans e (padTo_ge 8 c))⟩

theorem Rel.drop {buf : Buf} {cap c s : Nat} (hcap : cap ≤ buf.length) (h : Rel cap c s) :
    (bitsOf buf cap).drop c = (bitsOf buf cap).drop s := by
  obtain ⟨_, _, h3⟩ := h
  rcases h3 with e | e
  · rw [e]
  · have hl := bitsOf_length hcap
    rw [List.drop_eq_nil_of_le (by omega), List.drop_eq_nil_of_le (by omega)]

theorem Rel.min_eq {cap c s : Nat} (h : Rel cap c s) : min c (8 * cap) = min s (8 * cap) := by
  obtain ⟨h1, _, h3⟩ := h
  rcases h3 with e | e
  · rw [e]
  · rw [Nat.min_eq_right e, Nat.min_eq_right (Nat.le_trans e h1)]

theorem padDe_eq (a off : Nat) (ha : a = 1 ∨ a = 8) : padDe a off = padTo a off := by
  rcases ha with rfl | rfl
  · rw [padTo_one]; rfl
  · rw [padTo_eight]; rfl

/-- the `first` flag of the field loop is an optimisation: offset 0 is aligned -/
theorem padDe_first (n : Nat) {first : Bool} {off : Nat} (h : first = true → off = 0) :
    (if first = true then off else padDe n off) = padDe n off := by
  cases first with
  | false => rfl
  | true =>
    rw [h rfl, if_pos rfl, padDe]
    by_cases hn : n > 1
    · rw [if_pos hn, Nat.zero_add, Nat.div_eq_of_lt (Nat.sub_lt (Nat.lt_trans Nat.one_pos hn) Nat.one_pos), Nat.zero_mul]
    · rw [if_neg hn]

theorem deUint_spec (o : Opts) (hs : o.Sound) (n : Nat) (d : AOff) (buf : Buf) (cap off : Nat)
    (hn1 : 1 ≤ n) (hn64 : n ≤ 64) (hw : WF buf) (hcap : cap ≤ buf.length) (hd : Adm d off) :
    deUint o n d buf cap off = .ok (readNat n ((bitsOf buf cap).drop off)) := by
  rw [readNat_bitsOf]
  unfold deUint
  by_cases h1 : o.orc d = true ∧ n ≤ 8
  · have hal := hs.aligned hd h1.1
    simp only [h1, and_self, if_true]
    by_cases h2 : off + n ≤ cap * 8
    · -- one byte holds the whole field: `off = 8 * q`
      obtain ⟨q, rfl⟩ : ∃ q, off = 8 * q := ⟨off / 8, by omega⟩
      have hlt : q < buf.length := by omega
      rw [Nat.mul_div_cancel_left q (by decide)]
      simp only [h2, if_true, get?_ok hlt, liftP]
      congr 1
      apply Nat.eq_of_testBit_eq
      intro i
      rw [Nat.testBit_and, Nat.testBit_two_pow_sub_one, testBit_fieldOf]
      by_cases hi : i < n
      · have hi8 : i < 8 := Nat.lt_of_lt_of_le hi h1.2
        have hq : (8 * q + i) / 8 = q := by rw [Nat.mul_add_div (by decide), Nat.div_eq_of_lt hi8, Nat.add_zero]
        rw [zbit_eq_bitAt (Nat.lt_of_lt_of_le (Nat.add_lt_add_left hi _) h2), bitAt_of_lt (hq.symm ▸ hlt),
          decide_eq_true hi, Bool.and_true, Bool.true_and, Nat.mul_add_mod, Nat.mod_eq_of_lt hi8]
        simp only [hq]
      · rw [decide_eq_false hi, Bool.and_false, Bool.false_and]
    · simp only [h2, if_false]
      congr 1
      rw [← fieldOf_false n]
      apply fieldOf_congr
      intro i _
      exact (zbit_of_ge (by omega)).symm
  · simp only [h1, if_false]
    rw [getU_spec o.little (storW n) buf cap off n (storW_mod8 n) hcap hw, Nat.min_eq_left (storW_ge n hn64)]
    rfl

theorem deSint_spec (o : Opts) (n : Nat) (buf : Buf) (cap off : Nat)
    (hn1 : 1 ≤ n) (hn64 : n ≤ 64) (hw : WF buf) (hcap : cap ≤ buf.length) :
    deSint o n buf cap off = .ok (Dsdl.signExtend n (readNat n ((bitsOf buf cap).drop off))) := by
  rw [readNat_bitsOf]
  unfold deSint
  rw [getI_spec o.little (storW n) buf cap off n (storW_mod8 n) (storW_pos n) (storW_le n) hcap hw]
  simp only [liftP, Nat.min_eq_left (storW_ge n hn64)]
  congr 1
  exact signExtend_of_top hn1 (fieldOf_lt _ n)

theorem deBool_spec (o : Opts) (hs : o.Sound) (d : AOff) (buf : Buf) (cap off : Nat)
    (hcap : cap ≤ buf.length) (hd : Adm d off) :
    deBool o d buf cap off = .ok (readNat 1 ((bitsOf buf cap).drop off) == 1) := by
  rw [readNat_one, bitOf_drop, bitOf_bitsOf, Nat.add_zero]
  unfold deBool
  by_cases h : off < cap * 8
  · have hlt : off / 8 < buf.length := by omega
    simp only [h, if_true, get?_ok hlt, liftP]
    congr 1
    rw [zbit_eq_bitAt h, bitAt_of_lt hlt]
    by_cases h1 : o.orc d = true
    · have hal := hs.aligned hd h1
      simp only [h1, if_true]
      have := and_two_pow_ne_zero buf[off / 8] 0
      simp only [Nat.shiftLeft_zero] at this
      rw [this, hal]
    · simp only [h1, Bool.false_eq_true, if_false]
      exact and_two_pow_ne_zero _ _
  · simp only [h, if_false]
    rw [zbit_of_ge (by omega)]

theorem deFloat_spec (o : Opts) (n : Nat) (buf : Buf) (cap off : Nat) (hn : n = 16 ∨ n = 32 ∨ n = 64)
    (hw : WF buf) (hcap : cap ≤ buf.length) :
    deFloat o n buf cap off = .ok (widen n (readNat n ((bitsOf buf cap).drop off))) := by
  rw [readNat_bitsOf]
  unfold deFloat
  rw [getU_spec o.little n buf cap off n (by omega) hcap hw, Nat.min_self]
  rfl

end NunavutVerif.GenC
