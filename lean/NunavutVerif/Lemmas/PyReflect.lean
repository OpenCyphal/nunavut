import NunavutVerif.Model.PyReflect
/-!
Helper lemmas for the reflection part of C18 (`Model/PyReflect.lean`): cutting the `_MODEL_` blob into string literals
loses nothing; a run that returns has written each of its outputs and nothing else; the alias table of a package holds
the newest minor of each `(name, major)`; `get_model` of a package attribute follows the alias assignments and then the
import line.
-/
namespace NunavutVerif.PyReflect
open NunavutVerif.PyObj

theorem segmentsAux_flatten (n : Nat) (hn : 0 < n) : ∀ (fuel : Nat) (s : List Char), s.length ≤ fuel →
    (segmentsAux n fuel s).flatten = s := by
  intro fuel
  induction fuel with
  | zero => intro s h; cases s with
    | nil => rfl
    | cons _ _ => cases h
  | succ k ih =>
    intro s h
    cases s with
    | nil => rfl
    | cons c t =>
      -- a non-empty text: the first segment, then the rest, which is shorter because `0 < n`
      show (c :: t).take n ++ (segmentsAux n k ((c :: t).drop n)).flatten = c :: t
      have hlen : ((c :: t).drop n).length ≤ k := by
        rw [List.length_drop, List.length_cons] at *; omega
      rw [ih _ hlen, List.take_append_drop]

theorem segments_flatten (n : Nat) (hn : 0 < n) (s : List Char) : (segments n s).flatten = s :=
  segmentsAux_flatten n hn s.length s (Nat.le_refl _)

theorem segmentsAux_bound (n : Nat) (hn : 0 < n) : ∀ (fuel : Nat) (s : List Char), ∀ seg ∈ segmentsAux n fuel s,
    seg ≠ [] ∧ seg.length ≤ n := by
  intro fuel
  induction fuel with
  | zero => intro s seg h; cases h
  | succ k ih =>
    intro s seg h
    cases s with
    | nil => cases h
    | cons c t =>
      rcases List.mem_cons.1 h with rfl | h
      · obtain ⟨m, rfl⟩ : ∃ m, n = m + 1 := ⟨n - 1, by omega⟩
        exact ⟨List.cons_ne_nil _ _, List.length_take_le _ _⟩
      · exact ih _ _ h

theorem restoreConstant_filterPickle {M Y : Type} (pk : Stage M Y) (gz : Stage Y Y) (b85 : Stage Y (List Char)) (m : M) :
    restoreConstant pk gz b85 (filterPickle pk gz b85 m) = some m := by
  simp [restoreConstant, filterPickle, segments_flatten 100 (by decide), b85.inv, gz.inv, pk.inv]

/-- The blob pipeline of the Python target as a `Codec`: the reflection theorems hold for it. -/
def pipelineCodec {M Y : Type} (pk : Stage M Y) (gz : Stage Y Y) (b85 : Stage Y (List Char)) : Codec M (List (List Char)) :=
  ⟨filterPickle pk gz b85, restoreConstant pk gz b85, restoreConstant_filterPickle pk gz b85⟩

theorem write_same {B : Type} (fs : FS B) (p : Path) (f : File B) : write fs p f p = some f := by
  simp [write]

theorem write_other {B : Type} (fs : FS B) (p q : Path) (f : File B) (h : q ≠ p) : write fs p f q = fs q := by
  simp [write, h]

theorem writeAll_spec {B : Type} (allow : Bool) : ∀ (outs : List (Path × File B)) (fs fs' : FS B),
    (outs.map Prod.fst).Nodup → writeAll allow fs outs = .ok fs' →
    (∀ pf ∈ outs, fs' pf.1 = some pf.2) ∧ (∀ q, q ∉ outs.map Prod.fst → fs' q = fs q) := by
  intro outs
  induction outs with
  | nil =>
    intro fs fs' _ h
    simp [writeAll] at h
    subst h
    exact ⟨by simp, fun _ _ => rfl⟩
  | cons o rest ih =>
    intro fs fs' hnd h
    obtain ⟨p, f⟩ := o
    dsimp only [writeAll] at h
    split at h
    · simp at h
    · simp only [List.map_cons, List.nodup_cons] at hnd
      obtain ⟨hp, hrest⟩ := hnd
      obtain ⟨h1, h2⟩ := ih (write fs p f) fs' hrest h
      constructor
      · intro pf hpf
        rcases List.mem_cons.1 hpf with rfl | hin
        · rw [h2 p hp]; exact write_same fs p f
        · exact h1 pf hin
      · intro q hq
        simp only [List.map_cons, List.mem_cons, not_or] at hq
        rw [h2 q hq.2]; exact write_other fs p q f hq.1

theorem writeAll_allow {B : Type} : ∀ (outs : List (Path × File B)) (fs : FS B), ∃ fs', writeAll true fs outs = .ok fs' := by
  intro outs
  induction outs with
  | nil => intro fs; exact ⟨fs, rfl⟩
  | cons o rest ih =>
    intro fs
    obtain ⟨p, f⟩ := o
    simp only [writeAll, Bool.not_true, Bool.and_false, Bool.false_eq_true, if_false]
    exact ih _

theorem mem_dedup : ∀ (ps : List Path) (p : Path), p ∈ dedup ps ↔ p ∈ ps := by
  intro ps
  induction ps with
  | nil => intro p; simp [dedup]
  | cons q qs ih =>
    intro p
    dsimp only [dedup]
    split
    · rename_i hq
      rw [ih, List.mem_cons]
      constructor
      · exact Or.inr
      · rintro (rfl | h)
        · exact (ih p).1 hq
        · exact h
    · rw [List.mem_cons, List.mem_cons, ih]

theorem nodup_dedup : ∀ ps : List Path, (dedup ps).Nodup := by
  intro ps
  induction ps with
  | nil => simp [dedup]
  | cons q qs ih =>
    dsimp only [dedup]
    split
    · exact ih
    · rename_i hq
      exact List.nodup_cons.2 ⟨hq, ih⟩

theorem self_mem_prefixes : ∀ cs : List String, cs ≠ [] → cs ∈ prefixes cs := by
  intro cs
  induction cs with
  | nil => intro h; exact absurd rfl h
  | cons c cs ih =>
    intro _
    cases cs with
    | nil => simp [prefixes]
    | cons c' cs' =>
      simp only [prefixes, List.mem_cons, List.mem_map]
      right
      exact ⟨c' :: cs', by simpa [prefixes] using ih (by simp), rfl⟩

theorem outputs_paths {M B : Type} (c : Codec M B) (defs : List (Def M)) :
    (outputs c defs).map Prod.fst = defs.map modulePath ++ packages defs := by
  simp [outputs, List.map_append, Function.comp_def]

theorem outputs_nodup {M B : Type} (c : Codec M B) (defs : List (Def M))
    (hmods : (defs.map modulePath).Nodup) (hdisj : ∀ d ∈ defs, modulePath d ∉ packages defs) :
    ((outputs c defs).map Prod.fst).Nodup := by
  rw [outputs_paths]
  refine List.nodup_append.2 ⟨hmods, nodup_dedup _, ?_⟩
  intro a ha b hb hab
  obtain ⟨d, hd, rfl⟩ := List.mem_map.1 ha
  exact hdisj d hd (hab ▸ hb)

theorem generateAll_files {M B : Type} (c : Codec M B) (allow : Bool) (fs fs' : FS B) (defs : List (Def M))
    (hmods : (defs.map modulePath).Nodup) (hdisj : ∀ d ∈ defs, modulePath d ∉ packages defs)
    (h : generateAll c allow fs defs = .ok fs') (d : Def M) (hd : d ∈ defs) :
    fs' (modulePath d) = some (renderType c d) ∧ (d.ns ≠ [] → fs' d.ns = some (renderPackage defs d.ns)) := by
  have hspec := (writeAll_spec allow (outputs c defs) fs fs' (outputs_nodup c defs hmods hdisj) h).1
  refine ⟨hspec (modulePath d, renderType c d) ?_, fun hns => hspec (d.ns, renderPackage defs d.ns) ?_⟩
  · exact List.mem_append_left _ (List.mem_map.2 ⟨d, hd, rfl⟩)
  · refine List.mem_append_right _ (List.mem_map.2 ⟨d.ns, ?_, rfl⟩)
    simp only [packages, mem_dedup, List.mem_flatMap]
    exact ⟨d, hd, self_mem_prefixes d.ns hns⟩

theorem aliasesFrom_sound (all : List TyId) : ∀ (ts seen : List TyId) (u : TyId), u ∈ aliasesFrom all seen ts →
    newestMinor all u.name u.major = some u.minor := by
  intro ts
  induction ts with
  | nil => intro seen u h; simp [aliasesFrom] at h
  | cons t ts ih =>
    intro seen u h
    dsimp only [aliasesFrom] at h
    split at h
    · exact ih _ _ h
    · split at h
      · rename_i k hk
        rcases List.mem_cons.1 h with rfl | h
        · exact hk
        · exact ih _ _ h
      · exact ih _ _ h

theorem aliasesFrom_complete (all : List TyId) : ∀ (ts seen : List TyId) (t : TyId) (k : Nat), t ∈ ts →
    (∀ u ∈ seen, ¬ (u.name = t.name ∧ u.major = t.major)) → newestMinor all t.name t.major = some k →
    ⟨t.name, t.major, k, false⟩ ∈ aliasesFrom all seen ts := by
  intro ts
  induction ts with
  | nil => intro seen t k h; cases h
  | cons a ts ih =>
    intro seen t k ht hseen hk
    dsimp only [aliasesFrom]
    by_cases hsame : a.name = t.name ∧ a.major = t.major
    · rw [if_neg, hsame.1, hsame.2, hk]
      · exact List.mem_cons_self
      · -- `a` is the first of this (name, major)
        intro hc
        obtain ⟨u, hu, hd⟩ := List.any_eq_true.1 hc
        have hd := of_decide_eq_true hd
        exact hseen u hu ⟨hd.1.trans hsame.1, hd.2.trans hsame.2⟩
    · have hta : t ∈ ts := (List.mem_cons.1 ht).resolve_left fun h => hsame (h ▸ ⟨rfl, rfl⟩)
      split
      · exact ih seen t k hta hseen hk
      · have := ih (a :: seen) t k hta (List.forall_mem_cons.2 ⟨hsame, hseen⟩) hk
        split
        · exact List.mem_cons_of_mem _ this
        · exact this

theorem lookup_of_unique {β : Type} (key : String) (v : β) (l : List (String × β))
    (hex : ∃ e ∈ l, e.1 = key) (hall : ∀ e ∈ l, e.1 = key → e.2 = v) : l.lookup key = some v := by
  cases h : l.lookup key with
  | none =>
    obtain ⟨e, he, rfl⟩ := hex
    simpa using List.lookup_eq_none_iff.1 h e he
  | some b =>
    obtain ⟨l₁, l₂, rfl, _⟩ := List.lookup_eq_some_iff.1 h
    exact congrArg some (hall (key, b) (by simp) rfl)

theorem lookup_none_of_keys {β : Type} (key : String) (l : List (String × β)) (h : ∀ e ∈ l, e.1 ≠ key) :
    l.lookup key = none :=
  List.lookup_eq_none_iff.2 fun e he => by simpa using (h e he).symm

theorem mem_here {M : Type} {defs : List (Def M)} {d : Def M} (hd : d ∈ defs) :
    d ∈ defs.filter (fun e => e.ns = d.ns) :=
  List.mem_filter.2 ⟨hd, decide_eq_true rfl⟩

theorem find_import {M : Type} (defs : List (Def M)) (d : Def M) (hd : d ∈ defs) :
    ((defs.filter fun e => e.ns = d.ns).map fun e => (modulePath e, shortRef e)).find?
      (fun mc => mc.2 = shortRef d) = some (modulePath d, shortRef d) := by
  cases hf : ((defs.filter fun e => e.ns = d.ns).map fun e => (modulePath e, shortRef e)).find?
      (fun mc => mc.2 = shortRef d) with
  | none =>
    rw [List.find?_eq_none] at hf
    exact absurd (by simp) (hf (modulePath d, shortRef d) (List.mem_map.2 ⟨d, mem_here hd, rfl⟩))
  | some mc =>
    -- the hit may be another `e`, but one of `d`'s namespace and short name, hence of `d`'s module path
    have hp := List.find?_some hf
    have hm := List.mem_of_find?_eq_some hf
    obtain ⟨e, he, rfl⟩ := List.mem_map.1 hm
    obtain ⟨_, hens⟩ := List.mem_filter.1 he
    simp only [decide_eq_true_eq] at hens hp
    simp only [modulePath, hens, hp]

theorem getModelVia_package {M B : Type} (c : Codec M B) (fs' : FS B) (defs : List (Def M)) (d : Def M) (hd : d ∈ defs)
    (hpkg : fs' d.ns = some (renderPackage defs d.ns)) (attr : String)
    (hattr : (((aliasTable (defs.filter fun e => e.ns = d.ns)).filter fun a =>
        !((defs.filter fun e => e.ns = d.ns).map shortRef).contains a.1).lookup attr).getD attr = shortRef d) :
    getModelVia c fs' d.ns attr = classModel c fs' (modulePath d) [shortRef d] := by
  simp only [getModelVia, packageAttr, hpkg, renderPackage, hattr, find_import defs d hd, Option.bind_some]

end NunavutVerif.PyReflect
