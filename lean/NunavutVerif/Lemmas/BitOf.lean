import NunavutVerif.Model.BitsPy
/-!
What both halves of the Python primitives (`Lemmas/BitsPy.lean`, `Lemmas/BitsPyDe.lean`) and the bridge to the
specification (`Lemmas/DsdlBitsBridge.lean`) share, stated from `Model/BitsPy.lean` alone: `bitOf` (a bit list read at an
index, `false` beyond its end), the two argument guards, `padBits`.
-/
namespace NunavutVerif.Bits.Py

theorem bitOf_ge (x : List Bool) (i : Nat) (h : x.length ≤ i) : bitOf x i = false := by
  simp [bitOf, h]

@[simp] theorem bitOf_nil (i : Nat) : bitOf [] i = false := rfl

theorem bitOf_cons_zero (b : Bool) (bs : List Bool) : bitOf (b :: bs) 0 = b := rfl

theorem bitOf_cons_succ (b : Bool) (bs : List Bool) (i : Nat) : bitOf (b :: bs) (i + 1) = bitOf bs i := by
  simp [bitOf]

theorem bitOf_append (a b : List Bool) (i : Nat) :
    bitOf (a ++ b) i = if i < a.length then bitOf a i else bitOf b (i - a.length) := by
  unfold bitOf
  by_cases h : i < a.length
  · rw [if_pos h, List.getElem?_append_left h]
  · rw [if_neg h, List.getElem?_append_right (Nat.le_of_not_lt h)]

theorem bitOf_take (bs : List Bool) (n i : Nat) : bitOf (bs.take n) i = (decide (i < n) && bitOf bs i) := by
  unfold bitOf
  by_cases h : i < n
  · rw [List.getElem?_take_of_lt h, decide_eq_true h, Bool.true_and]
  · rw [List.getElem?_take_eq_none (Nat.le_of_not_lt h), decide_eq_false h, Bool.false_and]; rfl

theorem bitOf_drop (bs : List Bool) (k i : Nat) : bitOf (bs.drop k) i = bitOf bs (k + i) := by
  unfold bitOf; rw [List.getElem?_drop]

theorem bitOf_ext {a b : List Bool} (hl : a.length = b.length) (h : ∀ i, i < a.length → bitOf a i = bitOf b i) :
    a = b := by
  apply List.ext_getElem hl
  intro i h1 h2
  have := h i h1
  unfold bitOf at this
  rwa [List.getElem?_eq_getElem h1, List.getElem?_eq_getElem h2, Option.getD_some, Option.getD_some] at this

theorem assertAligned_ok {off : Nat} (h : off % 8 = 0) : assertAligned off = .ok () := if_pos h

theorem ensureNotNegative_ok {x : Int} (h : 0 ≤ x) : ensureNotNegative x = .ok x.toNat := if_neg (Int.not_lt.mpr h)

theorem padBits_zero (off n : Nat) (h : off % n = 0) : padBits off n = 0 := by
  unfold padBits; rw [h, Nat.sub_zero, Nat.mod_self]

theorem padBits_succ (off n : Nat) (hn : 0 < n) (h : off % n ≠ 0) : padBits (off + 1) n + 1 = padBits off n := by
  unfold padBits
  have hr : off % n < n := Nat.mod_lt _ hn
  rw [Nat.add_mod, Nat.mod_eq_of_lt (show 1 < n by omega), Nat.mod_eq_of_lt (show n - off % n < n by omega)]
  generalize off % n = r at h hr
  by_cases hl : r + 1 = n
  · rw [hl, Nat.mod_self, Nat.sub_zero, Nat.mod_self]; omega
  · rw [Nat.mod_eq_of_lt (show r + 1 < n by omega), Nat.mod_eq_of_lt (show n - (r + 1) < n by omega)]; omega

theorem padBits_lt (off n : Nat) (hn : 0 < n) : padBits off n < n := Nat.mod_lt _ hn

theorem padBits_aligned (off n : Nat) (hn : 0 < n) : (off + padBits off n) % n = 0 := by
  unfold padBits
  have hr : off % n < n := Nat.mod_lt _ hn
  rw [Nat.add_mod, Nat.mod_mod]
  generalize off % n = r at hr
  by_cases h : r = 0
  · subst h; rw [Nat.sub_zero, Nat.mod_self, Nat.zero_mod]
  · rw [Nat.mod_eq_of_lt (show n - r < n by omega), show r + (n - r) = n by omega, Nat.mod_self]

theorem padBits_eq_zero {off n : Nat} (hn : 0 < n) (h : padBits off n = 0) : off % n = 0 := by
  by_cases c : off % n = 0
  · exact c
  · have := padBits_succ off n hn c; omega

end NunavutVerif.Bits.Py
