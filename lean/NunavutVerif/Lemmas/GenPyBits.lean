import NunavutVerif.Model.GenPy
import NunavutVerif.Lemmas.BitsPy
import NunavutVerif.Lemmas.GenPyTy
import NunavutVerif.Lemmas.DsdlBitsBridge
import NunavutVerif.Lemmas.DsdlLen
/-!
The serializer's half of the bridge between the two vocabularies the refinement proof joins: C14's contracts
(`Model/BitsPy.lean`) say `Appends s s' n f` with the appended bits a function `f : Nat → Bool`, the specification
(`Model/Dsdl.lean`) produces bit lists.  `AppL s s' bs` is `Appends` of the list `bs` (read through `bitOf`); `Room` is
the capacity a call may count on; `serPad` appends the specification's padding.
-/
namespace NunavutVerif.GenPy
open NunavutVerif.Dsdl
open NunavutVerif.Bits (Buf Err bitAt WF)
open NunavutVerif.Bits.Py

theorem eq_of_bitOf {a b : List Bool} (hl : a.length = b.length) (h : ∀ i, i < a.length → bitOf a i = bitOf b i) :
    a = b := bitOf_ext hl h

def AppL (s s' : Ser) (bs : List Bool) : Prop := Appends s s' bs.length (bitOf bs)

theorem AppL.trans {s s1 s2 : Ser} {a b : List Bool} (h1 : AppL s s1 a) (h2 : AppL s1 s2 b) :
    AppL s s2 (a ++ b) := by
  have h := Appends.trans h1 h2
  unfold AppL
  rw [List.length_append]
  exact Appends.congr h fun i _ => by rw [bitOf_append]

theorem AppL.of_appends {s s' : Ser} {n : Nat} {f : Nat → Bool} {bs : List Bool} (h : Appends s s' n f)
    (hl : bs.length = n) (hf : ∀ i, i < n → f i = bitOf bs i) : AppL s s' bs := by
  unfold AppL; rw [hl]; exact Appends.congr h hf

theorem AppL.inv {s s' : Ser} {bs : List Bool} (h : AppL s s' bs) : s'.Inv := h.2.2.1
theorem AppL.off {s s' : Ser} {bs : List Bool} (h : AppL s s' bs) : s'.off = s.off + bs.length := h.1
theorem AppL.len {s s' : Ser} {bs : List Bool} (h : AppL s s' bs) : s'.buf.length = s.buf.length := h.2.1

theorem AppL.congr {s s' : Ser} {a b : List Bool} (h : AppL s s' a) (e : a = b) : AppL s s' b := e ▸ h

theorem skipBits_appL {s : Ser} (h : s.Inv) (n : Nat) : AppL s (skipBits s n) (zeros n) := by
  refine .of_appends (f := fun _ => false) (.of_bitAt h.1 rfl fun i => ?_) (zeros_length n) fun i _ => (bitOf_zeros n i).symm
  by_cases hi : i < s.off
  · rw [if_pos hi]
  · rw [if_neg hi, Bool.and_false, Inv_bit h (by omega)]

theorem AppL.refl {s : Ser} (h : s.Inv) : AppL s s [] := skipBits_appL h 0

/-- room: beyond the cursor the buffer has `n` bits plus the spare byte of `Serializer.new` -/
def Room (s : Ser) (n : Nat) : Prop := s.off + n + 8 ≤ 8 * s.buf.length

theorem Room.unaligned {s : Ser} {n : Nat} (h : Room s n) : s.off / 8 + (n + 7) / 8 < s.buf.length := by
  unfold Room at h; omega

theorem Room.aligned {s : Ser} {n : Nat} (h : Room s n) : s.off / 8 + (n + 7) / 8 ≤ s.buf.length :=
  Nat.le_of_lt h.unaligned

theorem Room.bytes {s : Ser} {n k : Nat} (h : Room s n) (hk : 8 * k ≤ n) : s.off / 8 + k < s.buf.length := by
  unfold Room at h; omega

theorem Room.mono {s : Ser} {n m : Nat} (h : Room s n) (hm : m ≤ n) : Room s m := by unfold Room at *; omega

theorem Room.after {s s' : Ser} {bs : List Bool} {n : Nat} (h : Room s n) (ha : AppL s s' bs)
    {m : Nat} (hm : bs.length + m ≤ n) : Room s' m := by
  unfold Room at *; rw [ha.off, ha.len]; omega

theorem serPad_spec (a : Nat) (ha : a = 1 ∨ a = 8) (s : Ser) (hinv : s.Inv) (hroom : Room s (padLen a s.off)) :
    ∃ s', serPad a s = .ok s' ∧ AppL s s' (zeros (padLen a s.off)) ∧ s'.off % a = 0 := by
  rcases ha with rfl | rfl
  · refine ⟨s, by simp [serPad], ?_, Nat.mod_one _⟩
    rw [padLen_one]; exact AppL.refl hinv
  · obtain ⟨s', h1, h2, h3⟩ := padToAlignment_spec s 8 (by omega) hinv (by
      intro hne; unfold Room at hroom; rw [padBits_eq_padLen] at hne ⊢; omega)
    refine ⟨s', by simp [serPad, h1, lift], ?_, h3⟩
    exact AppL.of_appends h2 (by simp [padBits_eq_padLen]) (fun i _ => by rw [bitOf_zeros])

end NunavutVerif.GenPy
