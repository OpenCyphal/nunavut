import NunavutVerif.Lemmas.BitsPy
import NunavutVerif.Model.BitsPyArgs
/-!
Helper lemmas for the argument-conversion layer of the Python serializer: on a well-formed argument each method over
`PyVal` is the method over the integer the argument denotes.  For the arbitrary-width methods the layer is `int(x)`; the
standard-width ones do their arithmetic in the argument's own type, which has to hold the constants (`AcceptsU`,
`AcceptsI`).
-/
namespace NunavutVerif.Bits.Py
open NunavutVerif.Bits

variable (np : NumPy)

/-- the integer is representable in the type an operation on the argument is carried out in (the argument's kind,
`int64` for `numpy.bool_`, unbounded for Python `int` / `bool`) -/
def PyVal.kindFits : PyVal → Int → Bool
  | .np k _, c => k.fits c
  | .npbool _, c => NpKind.i64.fits c
  | _, _ => true

theorem PyVal.toInt_denote (x : PyVal) (h : x.WF) : x.toInt np = x.denote := by
  cases x <;> simp [PyVal.toInt, PyVal.denote]
  exact np.toInt_exact _ _ h

theorem PyVal.lt0_denote (x : PyVal) (h : x.WF) : x.lt0 np = decide (x.denote < 0) := by
  cases x with
  | int v => rfl
  | bool b => cases b <;> simp [PyVal.lt0, PyVal.denote, b2i]
  | npbool b => cases b <;> simp [PyVal.lt0, PyVal.denote, b2i]
  | np k v => exact np.lt0_exact _ _ h

theorem PyVal.truth_denote (x : PyVal) (h : x.WF) : x.truth np = decide (x.denote ≠ 0) := by
  cases x with
  | int v => rfl
  | bool b => cases b <;> simp [PyVal.truth, PyVal.denote, b2i]
  | npbool b => cases b <;> simp [PyVal.truth, PyVal.denote, b2i]
  | np k v => exact np.truth_exact _ _ h

theorem NpKind.fits_iff (k : NpKind) (v : Int) : k.fits v = true ↔ k.lo ≤ v ∧ v ≤ k.hi := decide_eq_true_iff

theorem NpKind.lo_hi (k : NpKind) : k.lo ≤ 0 ∧ 127 ≤ k.hi := by cases k <;> decide

theorem NpKind.fits_between (k : NpKind) (c r : Int) (hc : k.fits c = true) (h0 : 0 ≤ r) (h1 : r ≤ c) :
    k.fits r = true := by
  rw [NpKind.fits_iff] at hc ⊢
  have := k.lo_hi
  omega

theorem NpKind.fits_small (k : NpKind) (c : Int) (h0 : 0 ≤ c) (h1 : c ≤ 127) : k.fits c = true := by
  rw [NpKind.fits_iff]
  have := k.lo_hi
  omega

theorem ensureNotNegativeV_ok (x : PyVal) (h : x.WF) (h0 : 0 ≤ x.denote) : ensureNotNegativeV np x = .ok () := by
  have : ¬ x.denote < 0 := by omega
  simp [ensureNotNegativeV, PyVal.lt0_denote np x h, this]

theorem ensureNotNegativeV_neg (x : PyVal) (h : x.WF) (h0 : x.denote < 0) : ensureNotNegativeV np x = .error .usage := by
  simp [ensureNotNegativeV, PyVal.lt0_denote np x h, h0]

theorem addAlignedUnsignedV_eq (s : Ser) (x : PyVal) (n : Nat) (h : x.WF) :
    addAlignedUnsignedV np s x n = addAlignedUnsigned s x.denote n := by
  unfold addAlignedUnsignedV
  rw [PyVal.toInt_denote np x h]
  by_cases ha : s.off % 8 = 0
  · by_cases h0 : x.denote < 0
    · simp [assertAligned, ha, ensureNotNegativeV_neg np x h h0, addAlignedUnsigned, ensureNotNegative, h0]
      rfl
    · simp [assertAligned, ha, ensureNotNegativeV_ok np x h (by omega)]
      rfl
  · simp [assertAligned, ha, addAlignedUnsigned]
    rfl

theorem addUnalignedUnsignedV_eq (s : Ser) (x : PyVal) (n : Nat) (h : x.WF) :
    addUnalignedUnsignedV np s x n = addUnalignedUnsigned s x.denote n := by
  unfold addUnalignedUnsignedV
  rw [PyVal.toInt_denote np x h]
  by_cases h0 : x.denote < 0
  · simp [ensureNotNegativeV_neg np x h h0, addUnalignedUnsigned, ensureNotNegative, h0]
    rfl
  · simp [ensureNotNegativeV_ok np x h (by omega)]
    rfl

theorem addAlignedSignedV_eq (s : Ser) (x : PyVal) (n : Nat) (h : x.WF) :
    addAlignedSignedV np s x n = addAlignedSigned s x.denote n := by
  by_cases hn : n < 2 <;> simp [addAlignedSignedV, addAlignedSigned, hn, PyVal.toInt_denote np x h]

theorem addUnalignedSignedV_eq (s : Ser) (x : PyVal) (n : Nat) (h : x.WF) :
    addUnalignedSignedV np s x n = addUnalignedSigned s x.denote n := by
  by_cases hn : n < 2 <;> simp [addUnalignedSignedV, addUnalignedSigned, hn, PyVal.toInt_denote np x h]

theorem b2i_fits_i64 (b : Bool) : NpKind.i64.fits (b2i b) = true := by cases b <;> decide

theorem PyVal.weak_ok (op : WOp) (x : PyVal) (c : Int) (hw : x.WF) (hc : x.kindFits c = true)
    (hr : x.kindFits (op.eval x.denote c) = true) :
    ∃ r, x.weak np op c = .ok r ∧ r.denote = op.eval x.denote c ∧ r.WF ∧
      (∀ c', x.kindFits c' = true → r.kindFits c' = true) := by
  cases x with
  | int v => exact ⟨_, rfl, rfl, trivial, fun _ _ => rfl⟩
  | bool b => exact ⟨_, rfl, rfl, trivial, fun _ _ => rfl⟩
  | npbool b =>
    refine ⟨.np .i64 (op.eval (b2i b) c), ?_, rfl, hr, fun c' h => h⟩
    simp [PyVal.weak, np.weak_exact op .i64 (b2i b) c (b2i_fits_i64 b) hc hr, Except.map]
  | np k v =>
    refine ⟨.np k (op.eval v c), ?_, rfl, hr, fun c' h => h⟩
    simp [PyVal.weak, np.weak_exact op k v c hw hc hr, Except.map]

theorem PyVal.kindFits_between (x : PyVal) (c r : Int) (hc : x.kindFits c = true) (h0 : 0 ≤ r) (h1 : r ≤ c) :
    x.kindFits r = true := by
  cases x with
  | int v => rfl
  | bool b => rfl
  | npbool b => exact NpKind.fits_between _ c r hc h0 h1
  | np k v => exact NpKind.fits_between _ c r hc h0 h1

theorem PyVal.kindFits_le_self (x : PyVal) (r : Int) (hw : x.WF) (h0 : 0 ≤ r) (h1 : r ≤ x.denote) :
    x.kindFits r = true := by
  cases x with
  | int v => rfl
  | bool b => rfl
  | npbool b => exact NpKind.fits_between _ (b2i b) r (b2i_fits_i64 b) h0 h1
  | np k v => exact NpKind.fits_between _ v r hw h0 h1

theorem PyVal.kindFits_small (x : PyVal) (c : Int) (h0 : 0 ≤ c) (h1 : c ≤ 127) : x.kindFits c = true := by
  cases x with
  | int v => rfl
  | bool b => rfl
  | npbool b => exact NpKind.fits_small _ c h0 h1
  | np k v => exact NpKind.fits_small _ c h0 h1

theorem addAlignedU8V_eq (s : Ser) (x : PyVal) (h : x.WF) (h0 : 0 ≤ x.denote) (h1 : x.denote < 256) :
    addAlignedU8V np s x = addAlignedU8 s x.denote := by
  unfold addAlignedU8V addAlignedU8
  have hs : x.store8 np = .ok x.denote.toNat := by
    cases x with
    | int v => simp [PyVal.store8, PyVal.denote] at h0 h1 ⊢; exact ⟨h0, h1⟩
    | bool b => cases b <;> simp [PyVal.store8, PyVal.denote, b2i]
    | npbool b => cases b <;> simp [PyVal.store8, PyVal.denote, b2i]
    | np k v => simp [PyVal.store8, PyVal.denote, np.store8_exact k v h h0 h1]
  have h256 : ¬ 256 ≤ x.denote.toNat := by omega
  by_cases ha : s.off % 8 = 0
  · simp [assertAligned_ok ha, ensureNotNegativeV_ok np x h h0, hs, ensureNotNegative_ok h0, h256, bind, Except.bind]
  · simp [assertAligned, ha, bind, Except.bind]

theorem band255_bounds (v : Int) : 0 ≤ WOp.eval .band v 255 ∧ WOp.eval .band v 255 ≤ 255 := by
  simp only [WOp.eval]
  have : v.toNat &&& (255 : Int).toNat ≤ 255 := by
    show v.toNat &&& 255 ≤ 255
    exact Nat.and_le_right
  constructor <;> omega

theorem shr_bounds (v c : Int) (h0 : 0 ≤ v) : 0 ≤ WOp.eval .shr v c ∧ WOp.eval .shr v c ≤ v := by
  simp only [WOp.eval]
  obtain ⟨n, rfl⟩ := Int.eq_ofNat_of_zero_le h0
  rw [← Int.natCast_shiftRight]
  exact ⟨Int.natCast_nonneg _, Int.ofNat_le.mpr (Nat.shiftRight_le n _)⟩

theorem toNat_shiftRight (x : Int) (hx : 0 ≤ x) (k : Nat) : (x >>> k).toNat = x.toNat >>> k := by
  obtain ⟨n, rfl⟩ := Int.eq_ofNat_of_zero_le hx
  rfl

theorem PyVal.band255_ok (x : PyVal) (hw : x.WF) (hk : x.kindFits 255 = true) :
    ∃ a, x.weak np .band 255 = .ok a ∧ a.denote = ((x.denote.toNat &&& 255 : Nat) : Int) ∧ a.WF ∧ a.denote < 256 := by
  obtain ⟨l, u⟩ := band255_bounds x.denote
  obtain ⟨a, h1, h2, h3, _⟩ := PyVal.weak_ok np .band x 255 hw hk (PyVal.kindFits_between x 255 _ hk l u)
  exact ⟨a, h1, h2, h3, by omega⟩

theorem PyVal.shr_ok (x : PyVal) (c : Nat) (hc : c ≤ 127) (hw : x.WF) (h0 : 0 ≤ x.denote) :
    ∃ y, x.weak np .shr c = .ok y ∧ y.denote = x.denote >>> c ∧ y.WF ∧ 0 ≤ y.denote ∧
      ∀ c', x.kindFits c' = true → y.kindFits c' = true := by
  obtain ⟨l, u⟩ := shr_bounds x.denote c h0
  obtain ⟨y, h1, h2, h3, h4⟩ := PyVal.weak_ok np .shr x c hw (PyVal.kindFits_small x c (by omega) (by omega))
    (PyVal.kindFits_le_self x _ hw l u)
  exact ⟨y, h1, h2, h3, h2 ▸ l, h4⟩

theorem addAlignedU16V_eq (s : Ser) (x : PyVal) (h : x.WF) (h0 : 0 ≤ x.denote) (hk : x.kindFits 255 = true) :
    addAlignedU16V np s x = addAlignedU16 s x.denote := by
  unfold addAlignedU16V addAlignedU16
  obtain ⟨a, ha1, ha2, ha3, ha4⟩ := PyVal.band255_ok np x h hk
  obtain ⟨y, (hy1 : x.weak np .shr 8 = .ok y), hy2, hy3, hy0, hy4⟩ := PyVal.shr_ok np x 8 (by decide) h h0
  obtain ⟨b, hb1, hb2, hb3, hb4⟩ := PyVal.band255_ok np y hy3 (hy4 255 hk)
  simp only [ensureNotNegativeV_ok np x h h0, ha1, hy1, hb1, ensureNotNegative_ok h0, bind, Except.bind]
  rw [addAlignedU8V_eq np s a ha3 (by omega) ha4, ha2]
  cases addAlignedU8 s ((x.denote.toNat &&& 255 : Nat) : Int) with
  | error e => rfl
  | ok s1 =>
    simp only []
    rw [addAlignedU8V_eq np s1 b hb3 (by omega) hb4, hb2, hy2, toNat_shiftRight x.denote h0 8]

theorem addDoubleV_eq (W : Nat) (hW : W ≤ 127) (fV : Ser → PyVal → Except Err Ser) (f : Ser → Int → Except Err Ser)
    (hf : ∀ s x, x.WF → 0 ≤ x.denote → x.kindFits 255 = true → fV s x = f s x.denote)
    (s : Ser) (x : PyVal) (h : x.WF) (h0 : 0 ≤ x.denote) (hk : x.kindFits 255 = true) :
    (do let s1 ← fV s x; let y ← x.weak np .shr (W : Int); fV s1 y) =
      (do let s1 ← f s x.denote; f s1 (x.denote >>> W)) := by
  obtain ⟨y, hy1, hy2, hy3, hy0, hy4⟩ := PyVal.shr_ok np x W hW h h0
  rw [hf s x h h0 hk]
  simp only [hy1, bind, Except.bind]
  cases f s x.denote with
  | error e => rfl
  | ok s1 =>
    simp only []
    rw [hf s1 y hy3 hy0 (hy4 255 hk), hy2]

theorem addAlignedU32V_eq (s : Ser) (x : PyVal) (h : x.WF) (h0 : 0 ≤ x.denote) (hk : x.kindFits 255 = true) :
    addAlignedU32V np s x = addAlignedU32 s x.denote :=
  addDoubleV_eq np 16 (by decide) _ _ (addAlignedU16V_eq np) s x h h0 hk

theorem addAlignedU64V_eq (s : Ser) (x : PyVal) (h : x.WF) (h0 : 0 ≤ x.denote) (hk : x.kindFits 255 = true) :
    addAlignedU64V np s x = addAlignedU64 s x.denote :=
  addDoubleV_eq np 32 (by decide) _ _ (addAlignedU32V_eq np) s x h h0 hk

/-- what `add_aligned_uW` needs from the argument's type: nothing for `W = 8`, otherwise the constant `0xFF` must be
representable in it (every type except `numpy.int8`) -/
def AcceptsU (W : Nat) (x : PyVal) : Prop := W = 8 ∨ x.kindFits 255 = true

/-- what `add_aligned_iW` needs: for a negative argument the constant `2**W` must be representable in its type (a
NumPy integer strictly wider than `W` bits, or a Python `int`), otherwise as `add_aligned_uW` -/
def AcceptsI (W : Nat) (x : PyVal) : Prop :=
  if x.denote < 0 then x.kindFits (2 ^ W) = true else AcceptsU W x

theorem addAlignedUV_eq (W : Nat) (s : Ser) (x : PyVal) (h : x.WF) (h0 : 0 ≤ x.denote) (hW8 : W = 8 → x.denote < 256)
    (hacc : AcceptsU W x) :
    (if W = 8 then addAlignedU8V np s x else if W = 16 then addAlignedU16V np s x
      else if W = 32 then addAlignedU32V np s x else if W = 64 then addAlignedU64V np s x else .error .usage) =
    (if W = 8 then addAlignedU8 s x.denote else if W = 16 then addAlignedU16 s x.denote
      else if W = 32 then addAlignedU32 s x.denote else if W = 64 then addAlignedU64 s x.denote else .error .usage) := by
  by_cases h8 : W = 8
  · simp [h8, addAlignedU8V_eq np s x h h0 (hW8 h8)]
  · have hk : x.kindFits 255 = true := by rcases hacc with h | h; exact absurd h h8; exact h
    simp [h8, addAlignedU16V_eq np s x h h0 hk, addAlignedU32V_eq np s x h h0 hk, addAlignedU64V_eq np s x h h0 hk]

theorem addAlignedIV_eq (W : Nat) (s : Ser) (x : PyVal) (hW : W = 8 ∨ W = 16 ∨ W = 32 ∨ W = 64) (h : x.WF)
    (hlo : -(2 ^ (W - 1)) ≤ x.denote) (hhi : x.denote < 2 ^ (W - 1)) (hacc : AcceptsI W x) :
    addAlignedIV np W s x = addAlignedI W s x.denote := by
  unfold addAlignedIV addAlignedI
  have hpow := two_pow_pred_int W (by omega)
  have hpos : (0 : Int) < 2 ^ (W - 1) := Int.pow_pos (by decide)
  have h256 : W = 8 → (2 : Int) ^ W = 256 := fun e => by rw [e]; rfl
  rw [PyVal.lt0_denote np x h]
  by_cases hneg : x.denote < 0
  · -- `2**W + x` is evaluated in the argument's type: it holds `2**W`, hence also the sum and `0xFF`
    have hk : x.kindFits (2 ^ W) = true := by simpa [AcceptsI, hneg] using hacc
    obtain ⟨u, hu1, (hu2 : u.denote = 2 ^ W + x.denote), hu3, hu4⟩ := PyVal.weak_ok np .addc x (2 ^ W) h hk
      (PyVal.kindFits_between x (2 ^ W) (2 ^ W + x.denote) hk (by omega) (by omega))
    have h255 : (255 : Int) ≤ 2 ^ W := by rcases hW with rfl | rfl | rfl | rfl <;> decide
    simp only [hneg, decide_true, if_true, hu1, bind, Except.bind]
    rw [addAlignedUV_eq np W s u hu3 (by omega) (fun h8 => by have := h256 h8; omega)
      (.inr (hu4 255 (PyVal.kindFits_between x (2 ^ W) 255 hk (by omega) h255))), hu2]
  · have hacc' : AcceptsU W x := by simpa [AcceptsI, hneg] using hacc
    simp only [hneg, decide_false, Bool.false_eq_true, if_false, bind, Except.bind]
    exact addAlignedUV_eq np W s x h (by omega) (fun h8 => by have := h256 h8; omega) hacc'

end NunavutVerif.Bits.Py
