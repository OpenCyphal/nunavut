import NunavutVerif.Lemmas.CLiteralLex
import NunavutVerif.Lemmas.CLiteralRound
/-!
Evaluation lemmas: `evalStr` as lexing, parsing and `eval`.  Lexing and parsing of the rendered shapes are put
together from their parts (`LexesAs`, `ParsesUnary`); the integer literals are typed through the three width classes
of the suffix rule.
-/
namespace NunavutVerif.CLiteral

theorem evalStr_of {d : Dialect} {s : Str} {ts : List Tok} {e : CExpr}
    (hl : lexStr s = some ts) (hs : (d = .c11 && usesStaticCast ts) = false) (hp : parseToks ts = some e) :
    evalStr d s = eval d e := by
  unfold evalStr
  rw [hl]
  simp only [hs, Bool.false_eq_true, if_false, hp]

theorem noStaticCast {ts : List Tok} (h : usesStaticCast ts = false) (d : Dialect) :
    (d = .c11 && usesStaticCast ts) = false := by rw [h, Bool.and_false]

def lOf (w : Nat) : Nat := (if 16 < w then 1 else 0) + (if 32 < w then 1 else 0)

theorem lOf_le (w : Nat) : lOf w ≤ 2 := by unfold lOf; split <;> split <;> omega

theorem suffixL_eq (w : Nat) : suffixL w = List.replicate (lOf w) 'L' := by
  unfold suffixL lOf
  by_cases h1 : 16 < w <;> by_cases h2 : 32 < w <;> simp [h1, h2, List.replicate]

theorem integerLiteralRaw_eq (unsigned : Bool) (w : Nat) (v : Int) :
    integerLiteralRaw unsigned w (.frac ⟨v, 1⟩) = intStr v ++ sfxStr unsigned (lOf w) := by
  unfold integerLiteralRaw sfxStr
  rw [List.append_assoc, suffixL_eq]
  simp [pyStr]

theorem filterLiteral_int {cfg : LangCfg} {fmt : List FmtPiece} (hcfg : cfg.castFormat = some fmt) (unsigned : Bool)
    (w : Nat) (v : Int) :
    filterLiteral cfg (.frac ⟨v, 1⟩) (if unsigned then .uint w else .sint w) =
      .ok (mostNegativeIntegerLiteral (intStr v ++ sfxStr unsigned (lOf w))) := by
  unfold filterLiteral
  rw [hcfg, ← integerLiteralRaw_eq]
  cases unsigned <;> rfl

theorem int64MinLiteral_eq : int64MinLiteral = '-' :: (natStr (2 ^ 63) ++ sfxStr false 2) := by
  unfold int64MinLiteral
  rw [String.toList_ofList]
  decide +kernel

theorem sfxStr_noDigit (u : Bool) (l : Nat) : NoDigitHead (sfxStr u l) := by
  cases u <;> cases l <;> simp [sfxStr, NoDigitHead, List.replicate]

theorem natStr_sfx_inj {n m : Nat} {u u' : Bool} {l l' : Nat}
    (h : natStr n ++ sfxStr u l = natStr m ++ sfxStr u' l') : n = m ∧ sfxStr u l = sfxStr u' l' := by
  have a := spanDigits_append (natStr_allDigits n) (sfxStr_noDigit u l)
  have b := spanDigits_append (natStr_allDigits m) (sfxStr_noDigit u' l')
  rw [h, b] at a
  injection a with a1 a2
  exact ⟨(natStr_inj a1).symm, a2.symm⟩

theorem mostNegative_nonneg (n : Nat) (u : Bool) (l : Nat) :
    mostNegativeIntegerLiteral (natStr n ++ sfxStr u l) = natStr n ++ sfxStr u l := by
  unfold mostNegativeIntegerLiteral
  rw [if_neg]
  -- the text starts with a digit, the minimum of int64 with `-`
  intro h
  have hd := (natStr_digitHead n).append (sfxStr u l)
  rw [h, int64MinLiteral_eq] at hd
  exact absurd hd (by decide : ¬ '-'.isDigit = true)

theorem mostNegative_neg (n : Nat) (u : Bool) (l : Nat) (h : ¬ (n = 2 ^ 63 ∧ u = false ∧ l = 2)) :
    mostNegativeIntegerLiteral ('-' :: (natStr n ++ sfxStr u l)) = '-' :: (natStr n ++ sfxStr u l) := by
  unfold mostNegativeIntegerLiteral
  rw [if_neg]
  rw [int64MinLiteral_eq]
  intro e
  injection e with _ e
  obtain ⟨h1, h2⟩ := natStr_sfx_inj e
  -- the suffixes agree: no `U` (first character), two `L`s (length)
  cases u
  · exact h ⟨h1, rfl, by simpa [sfxStr] using congrArg List.length h2⟩
  · simp [sfxStr, List.replicate] at h2

theorem mostNegative_min :
    mostNegativeIntegerLiteral ('-' :: (natStr (2 ^ 63) ++ sfxStr false 2)) = "(-9223372036854775807LL - 1)".toList := by
  unfold mostNegativeIntegerLiteral
  rw [← int64MinLiteral_eq, if_pos rfl]

/-- `k` is the fuel `lex` spends on `s`.  What follows must not continue a number or an identifier (`safeEnd`): both are
taken by maximal munch, so what `s` lexes to would otherwise depend on the text after it. -/
def LexesAs (s : Str) (ts : List Tok) (k : Nat) : Prop :=
  ∀ g rest, safeEnd rest = true → lex (g + k) (s ++ rest) = (lex g rest).map (ts ++ ·)

def SafeStart (s : Str) : Prop := ∀ rest, safeEnd (s ++ rest) = true

theorem LexesAs.nil : LexesAs [] [] 0 := by
  intro g rest _
  show lex g rest = _
  cases lex g rest <;> rfl

theorem LexesAs.cons {c : Char} {t : Tok} (hc : ∀ f cs, lex (f + 1) (c :: cs) = (lex f cs).map (t :: ·))
    {s : Str} {ts : List Tok} {k : Nat} (h : LexesAs s ts k) : LexesAs (c :: s) (t :: ts) (k + 1) := by
  intro g rest hr
  rw [List.cons_append, ← Nat.add_assoc, hc, h g rest hr]
  cases lex g rest <;> rfl

theorem LexesAs.space {s : Str} {ts : List Tok} {k : Nat} (h : LexesAs s ts k) : LexesAs (' ' :: s) ts (k + 1) := by
  intro g rest hr
  rw [List.cons_append, ← Nat.add_assoc, lex_space, h g rest hr]

theorem LexesAs.append {s1 s2 : Str} {t1 t2 : List Tok} {k1 k2 : Nat}
    (h1 : LexesAs s1 t1 k1) (h2 : LexesAs s2 t2 k2) (hs : SafeStart s2) : LexesAs (s1 ++ s2) (t1 ++ t2) (k1 + k2) := by
  intro g rest hr
  rw [List.append_assoc, show g + (k1 + k2) = (g + k2) + k1 by omega, h1 (g + k2) (s2 ++ rest) (hs rest), h2 g rest hr]
  cases lex g rest <;> simp

theorem lexesAs_lp : LexesAs ['('] [.lp] 1 := LexesAs.nil.cons lex_lp
theorem lexesAs_rp : LexesAs [')'] [.rp] 1 := LexesAs.nil.cons lex_rp
theorem lexesAs_slash : LexesAs ['/'] [.slash] 1 := LexesAs.nil.cons lex_slash
theorem lexesAs_lt : LexesAs ['<'] [.lt] 1 := LexesAs.nil.cons lex_lt
theorem lexesAs_gt : LexesAs ['>'] [.gt] 1 := LexesAs.nil.cons lex_gt
theorem lexesAs_space : LexesAs [' '] [] 1 := LexesAs.nil.space

theorem safeStart_cons {c : Char} (h : safeEnd [c] = true) (s : Str) : SafeStart (c :: s) := by
  intro rest
  simpa [safeEnd] using h

theorem LexesAs.rp {s : Str} {ts : List Tok} {k : Nat} (h : LexesAs s ts k) : LexesAs (s ++ [')']) (ts ++ [.rp]) (k + 1) :=
  h.append lexesAs_rp (safeStart_cons rfl [])

theorem LexesAs.macroBody {s : Str} {ts : List Tok} {k : Nat} (h : LexesAs s ts k) :
    LexesAs (cMacroBody s) (.lp :: (ts ++ [.rp])) (k + 1 + 1) :=
  h.rp.cons lex_lp

theorem lexStr_of_lexesAs {s : Str} {ts : List Tok} {k : Nat} (h : LexesAs s ts k) (hk : k ≤ 31) :
    lexStr s = some ts := by
  unfold lexStr
  have := h (s.length + 32 - k - 1 + 1) [] rfl
  rw [List.append_nil] at this
  rw [show s.length + 32 = s.length + 32 - k - 1 + 1 + k by omega, this, lex_nil]
  simp

def isIdent : Str → Bool
  | [] => false
  | c :: r => !c.isDigit && (c :: r).all isIdChar

theorem spanIdent_append {a rest : Str} (ha : ∀ x ∈ a, isIdChar x = true)
    (hrest : ∀ x xs, rest = x :: xs → isIdChar x = false) : spanIdent (a ++ rest) = (a, rest) := by
  induction a with
  | nil =>
    cases rest with
    | nil => rfl
    | cons x xs => simp [spanIdent, hrest x xs rfl]
  | cons x xs ih =>
    have := ih (fun y hy => ha y (List.mem_cons_of_mem _ hy))
    simp [spanIdent, ha x List.mem_cons_self, this]

theorem LexesAs.ident {id : Str} (hid : isIdent id = true) {c : Char} (hc : isIdChar c = false) {s : Str} {ts : List Tok}
    {k : Nat} (h : LexesAs (c :: s) ts k) : LexesAs (id ++ c :: s) (.ident id :: ts) (k + 1) := by
  intro g rest hr
  cases id with
  | nil => cases hid
  | cons a r =>
    simp only [isIdent, Bool.and_eq_true, Bool.not_eq_true', List.all_eq_true] at hid
    have hsp := spanIdent_append (rest := c :: s ++ rest) hid.2 (by intro x xs e; injection e with e1 _; rw [← e1]; exact hc)
    rw [List.append_assoc, ← Nat.add_assoc]
    simp only [List.cons_append] at hsp ⊢
    simp only [lex, idChar_not_punct (hid.2 a List.mem_cons_self), if_false, hid.1, Bool.false_eq_true,
      hid.2 a List.mem_cons_self, if_true, hsp]
    rw [← List.cons_append, h g rest hr]
    cases lex g rest <;> rfl

theorem lexesAs_num {s : Str} {t : Tok} (hd : DigitHead s) (hpp : PPNum s) (h : lexNumRaw s = some (t, [])) :
    LexesAs s [t] 1 :=
  fun _ rest hr => lex_num (hd.append rest) (lexNum_of_raw hpp hr h)

theorem lexesAs_int (n : Nat) (u : Bool) (l : Nat) (hl : l ≤ 2) :
    LexesAs (natStr n ++ sfxStr u l) [.int n (decide (n ≠ 0)) u l] 1 := by
  have hraw := lexNumRaw_int n u l hl [] rfl
  rw [List.append_nil] at hraw
  exact lexesAs_num ((natStr_digitHead n).append _) (.digits_append (natStr_allDigits n) (sfxStr_pp u l hl)) hraw

theorem lexesAs_dot0 (n : Nat) : LexesAs (natStr n ++ ['.', '0']) [.flt (10 * n) (-1) .none] 1 := by
  have h0 : AllDigits ['0'] := by intro c hc; simp at hc; subst hc; decide
  have hraw := lexNumRaw_frac (natStr_allDigits n) h0 (rest := []) rfl
  have e : digitsVal (natStr n ++ ['0']) = 10 * n := by
    have := digitsVal_natStr n
    unfold digitsVal at this ⊢
    rw [Nat.ofDigitChars_append, this]
    simp [Nat.ofDigitChars]
  rw [e] at hraw
  -- the dot continues the number and clears the flag
  exact lexesAs_num ((natStr_digitHead n).append _)
    (.digits_append (natStr_allDigits n) (t := ['.', '0']) (PPNum.digits (ds := ['0']) h0)) hraw

theorem usesStaticCast_cons (t : Tok) (ts : List Tok) :
    usesStaticCast (t :: ts) = (t == .ident "static_cast".toList || usesStaticCast ts) := rfl

theorem usesStaticCast_append (a b : List Tok) : usesStaticCast (a ++ b) = (usesStaticCast a || usesStaticCast b) :=
  List.any_append

theorem evalStr_both {s : Str} {ts : List Tok} {k : Nat} {e : CExpr} (hl : LexesAs s ts k) (hk : k ≤ 29)
    (hs : usesStaticCast ts = false) (hp : parseToks ts = some e) (hp' : parseToks (.lp :: (ts ++ [.rp])) = some e)
    (d : Dialect) : evalStr d s = eval d e ∧ evalStr d (cMacroBody s) = eval d e :=
  have hs' : usesStaticCast (.lp :: (ts ++ [.rp])) = false := by
    rw [usesStaticCast_cons, usesStaticCast_append, hs]; rfl
  ⟨evalStr_of (lexStr_of_lexesAs hl (by omega)) (noStaticCast hs d) hp,
    evalStr_of (lexStr_of_lexesAs hl.macroBody (by omega)) (noStaticCast hs' d) hp'⟩

theorem bestFit_ge {w fit : Nat} (h : bestFit w = .ok fit) : w ≤ fit := by
  unfold bestFit at h
  -- each branch returns the bound it has just compared `w` with; the last one is an error
  repeat' split at h
  all_goals cases h
  all_goals assumption

theorem width_class (w : Nat) :
    (w ≤ 16 ∧ lOf w = 0 ∧ ∀ u, expectedCType u w = if u then .uint else .int) ∨
    (16 < w ∧ w ≤ 32 ∧ lOf w = 1 ∧ ∀ u, expectedCType u w = if u then .ulong else .long) ∨
    (32 < w ∧ lOf w = 2 ∧ ∀ u, expectedCType u w = if u then .ullong else .llong) := by
  unfold lOf expectedCType
  by_cases h1 : w ≤ 16
  · exact .inl ⟨h1, by rw [if_neg (by omega), if_neg (by omega)], fun u => by rw [if_pos h1]⟩
  · by_cases h2 : w ≤ 32
    · exact .inr (.inl ⟨by omega, h2, by rw [if_pos (by omega), if_neg (by omega)], fun u => by rw [if_neg h1, if_pos h2]⟩)
    · exact .inr (.inr ⟨by omega, by rw [if_pos (by omega), if_pos (by omega)], fun u => by rw [if_neg h1, if_neg h2]⟩)

theorem expected_signed (unsigned : Bool) (w : Nat) : (expectedCType unsigned w).signed = !unsigned := by
  rcases width_class w with ⟨_, _, ht⟩ | ⟨_, _, _, ht⟩ | ⟨_, _, ht⟩ <;> rw [ht] <;> cases unsigned <;> rfl

theorem expected_promote (unsigned : Bool) (w : Nat) : promote (expectedCType unsigned w) = expectedCType unsigned w := by
  rcases width_class w with ⟨_, _, ht⟩ | ⟨_, _, _, ht⟩ | ⟨_, _, ht⟩ <;> rw [ht] <;> cases unsigned <;> rfl

/-- the range of `intInRange`, with the magnitude `2^(w-1)` of the signed minimum admitted as long as it is below
`2^63`: what the literal under a unary minus needs -/
def FitsWidth (unsigned : Bool) (w : Nat) (v : Int) : Prop :=
  if unsigned then 0 ≤ v ∧ v < (2 ^ w : Nat) else -(2 ^ (w - 1) : Nat) ≤ v ∧ v ≤ (2 ^ (w - 1) : Nat) ∧ v < (2 ^ 63 : Nat)

theorem fitsWidth_of_inRange {unsigned : Bool} {w : Nat} (hw : w ≤ 64) {v : Int} (hv : intInRange unsigned w v) :
    FitsWidth unsigned w v := by
  have : 2 ^ (w - 1) ≤ 2 ^ 63 := pow2_le (by omega)
  unfold intInRange at hv
  unfold FitsWidth
  cases unsigned
  · simp only [Bool.false_eq_true, if_false] at hv ⊢; omega
  · simpa using hv

theorem expectedCType_inRange (unsigned : Bool) (w : Nat) (hw : w ≤ 64) (v : Int) (hv : FitsWidth unsigned w v) :
    (expectedCType unsigned w).inRange v = true := by
  unfold FitsWidth at hv
  rcases width_class w with ⟨h, _, ht⟩ | ⟨_, h, _, ht⟩ | ⟨_, _, ht⟩ <;> rw [ht] <;> cases unsigned <;>
    simp only [Bool.false_eq_true, if_false, if_true] at hv ⊢ <;>
    simp [CType.inRange, CType.minVal, CType.maxVal, CType.signed, CType.bits]
  · have : 2 ^ (w - 1) ≤ 2 ^ 15 := pow2_le (by omega)
    omega
  · have : 2 ^ w ≤ 2 ^ 16 := pow2_le h
    omega
  · have : 2 ^ (w - 1) ≤ 2 ^ 31 := pow2_le (by omega)
    omega
  · have : 2 ^ w ≤ 2 ^ 32 := pow2_le h
    omega
  · have : 2 ^ (w - 1) ≤ 2 ^ 63 := pow2_le (by omega)
    omega
  · have : 2 ^ w ≤ 2 ^ 64 := pow2_le hw
    omega

theorem litCandidates_head (dec unsigned : Bool) (w : Nat) :
    ∃ rest, litCandidates dec unsigned (lOf w) = expectedCType unsigned w :: rest := by
  rcases width_class w with ⟨_, hl, ht⟩ | ⟨_, _, hl, ht⟩ | ⟨_, hl, ht⟩ <;> rw [hl, ht] <;> cases unsigned <;> cases dec <;>
    exact ⟨_, rfl⟩

theorem firstFit_expected (unsigned : Bool) (w : Nat) (hw : w ≤ 64) (n : Nat) (dec : Bool)
    (hn : FitsWidth unsigned w n) :
    firstFit n (litCandidates dec unsigned (lOf w)) = some (expectedCType unsigned w) := by
  obtain ⟨rest, e⟩ := litCandidates_head dec unsigned w
  rw [e, firstFit, if_pos (expectedCType_inRange unsigned w hw n hn)]

theorem eval_ilit {d : Dialect} {n : Nat} {dec u : Bool} {l : Nat} {t : CType}
    (h : firstFit n (litCandidates dec u l) = some t) : eval d (.ilit n dec u l) = .ok (.int t n) := by
  simp [eval, h]

theorem eval_neg_ilit {d : Dialect} {n : Nat} {dec : Bool} {w : Nat} (hw : w ≤ 64)
    (hn : n ≤ 2 ^ (w - 1) ∧ n < 2 ^ 63) :
    eval d (.neg (.ilit n dec false (lOf w))) = .ok (.int (expectedCType false w) (-(n : Int))) := by
  have hf := firstFit_expected false w hw n dec (by unfold FitsWidth; simp only [Bool.false_eq_true, if_false]; omega)
  have hin := expectedCType_inRange false w hw (-(n : Int))
    (by unfold FitsWidth; simp only [Bool.false_eq_true, if_false]; omega)
  simp only [eval, hf, bind, Except.bind, CVal.promoted, expected_promote]
  unfold intResult
  rw [expected_signed, hin]
  rfl

/-- `6` is the rate of `parseToks`, which runs `parseExpr` on `6 * ts.length + 8` units of fuel: a rule for a further shape
has to get by on six units for each token it adds. -/
def ParsesUnary (ts : List Tok) (e : CExpr) : Prop :=
  ∀ f r, 6 * ts.length ≤ f → parseUnary f (ts ++ r) = some (e, r)

theorem parseExpr_unary {ts : List Tok} {e : CExpr} (h : ParsesUnary ts e) {f : Nat} (hf : 6 * ts.length + 3 ≤ f)
    {r : List Tok} (hr : r = [] ∨ ∃ r', r = .rp :: r') : parseExpr f (ts ++ r) = some (e, r) := by
  obtain ⟨f, rfl⟩ : ∃ f', f = f' + 1 + 1 + 1 := ⟨f - 3, by omega⟩
  rw [parseExpr, parseMul, h _ r (by omega)]
  rcases hr with rfl | ⟨r', rfl⟩ <;> rfl

theorem parseToks_of_unary {ts : List Tok} {e : CExpr} (h : ParsesUnary ts e) : parseToks ts = some e := by
  have := parseExpr_unary h (f := 6 * ts.length + 8) (by omega) (.inl rfl)
  rw [List.append_nil] at this
  unfold parseToks
  rw [this]

/-- the type names a cast can have: what `_CFit.to_c_float` returns -/
def IsFloatTy (ty : Str) : Prop := ty = "float".toList ∨ ty = "double".toList

def tyOf (ty : Str) : CType := if ty = "float".toList then .float else .double

/-- The two names as lists of characters: a string literal left in a goal that the kernel evaluates is decoded there
from its UTF-8 bytes, which costs more than the evaluation itself. -/
theorem isFloatTy_chars {ty : Str} (hty : IsFloatTy ty) : ty = ['f', 'l', 'o', 'a', 't'] ∨ ty = ['d', 'o', 'u', 'b', 'l', 'e'] := by
  unfold IsFloatTy at hty
  repeat rw [String.toList_ofList] at hty
  exact hty

theorem typeName?_ty {ty : Str} (hty : IsFloatTy ty) : typeName? ty = some (tyOf ty) := by
  rcases isFloatTy_chars hty with rfl | rfl <;> decide +kernel

theorem ParsesUnary.cast {ty : Str} (hty : IsFloatTy ty) {ts : List Tok} {e : CExpr}
    (h : ParsesUnary ts e) : ParsesUnary (.lp :: .ident ty :: .rp :: ts) (.cast (tyOf ty) e) := by
  intro f r hf
  simp only [List.length_cons] at hf
  obtain ⟨f, rfl⟩ : ∃ f', f = f' + 1 := ⟨f - 1, by omega⟩
  rw [List.cons_append, List.cons_append, List.cons_append, parseUnary, typeName?_ty hty, h _ r (by omega)]

/-- parentheses around a unary expression that itself starts with a parenthesis (so they are not a cast) -/
theorem ParsesUnary.paren {ts : List Tok} {e : CExpr} (h : ParsesUnary (.lp :: ts) e) :
    ParsesUnary (.lp :: .lp :: (ts ++ [.rp])) e := by
  intro f r hf
  simp only [List.length_cons, List.length_append, List.length_nil] at hf
  obtain ⟨f, rfl⟩ : ∃ f', f = f' + 1 + 1 := ⟨f - 2, by omega⟩
  have hp : parseUnary (f + 1 + 1) (.lp :: .lp :: (ts ++ .rp :: r)) =
      match parseExpr f (.lp :: (ts ++ .rp :: r)) with
      | some (e, .rp :: r') => some (e, r')
      | _ => none := rfl
  have := parseExpr_unary h (f := f) (by simp only [List.length_cons]; omega) (.inr ⟨r, rfl⟩)
  rw [List.cons_append, List.cons_append, List.append_assoc, List.singleton_append, hp, ← List.cons_append, this]

theorem ParsesUnary.staticCast {ty : Str} (hty : IsFloatTy ty) {ts : List Tok} {e : CExpr}
    (h : ParsesUnary ts e) :
    ParsesUnary (.ident "static_cast".toList :: .lt :: .ident ty :: .gt :: .lp :: (ts ++ [.rp])) (.cast (tyOf ty) e) := by
  intro f r hf
  simp only [List.length_cons, List.length_append, List.length_nil] at hf
  obtain ⟨f, rfl⟩ : ∃ f', f = f' + 1 + 1 := ⟨f - 2, by omega⟩
  have hp : parseUnary (f + 1 + 1) (.ident "static_cast".toList :: .lt :: .ident ty :: .gt :: .lp :: (ts ++ .rp :: r)) =
      parsePostfix (f + 1) (.ident "static_cast".toList :: .lt :: .ident ty :: .gt :: .lp :: (ts ++ .rp :: r)) := rfl
  rw [List.cons_append, List.cons_append, List.cons_append, List.cons_append, List.cons_append, List.append_assoc,
    List.singleton_append, hp, parsePostfix, if_neg (by decide +kernel), if_neg (by decide +kernel), if_pos rfl]
  simp only [typeName?_ty hty, parseExpr_unary h (show 6 * ts.length + 3 ≤ f by omega) (.inr ⟨r, rfl⟩)]

def sfltToks (neg : Bool) (mant : Nat) (e10 : Int) : List Tok :=
  if neg then [.minus, .flt mant e10 .none] else [.flt mant e10 .none]
def sfltAst (neg : Bool) (mant : Nat) (e10 : Int) : CExpr :=
  if neg then .neg (.flit mant e10 .none) else .flit mant e10 .none

theorem parsesUnary_sflt (neg : Bool) (mant : Nat) (e10 : Int) :
    ParsesUnary (sfltToks neg mant e10) (sfltAst neg mant e10) := by
  intro f r hf
  have : 1 ≤ (sfltToks neg mant e10).length := by cases neg <;> exact Nat.succ_pos _
  obtain ⟨f, rfl⟩ : ∃ f', f = f' + 3 := ⟨f - 3, by omega⟩
  cases neg <;> rfl

theorem parsesUnary_quot (neg : Bool) (mant : Nat) (e10 : Int) (mant' : Nat) (e10' : Int) :
    ParsesUnary (.lp :: (sfltToks neg mant e10 ++ [.slash, .flt mant' e10' .none, .rp]))
      (.div (sfltAst neg mant e10) (.flit mant' e10' .none)) := by
  intro f r hf
  simp only [List.length_cons, List.length_append, List.length_nil] at hf
  obtain ⟨f, rfl⟩ : ∃ f', f = f' + 9 := ⟨f - 9, by omega⟩
  cases neg <;> rfl

theorem usesStaticCast_sflt (neg : Bool) (mant : Nat) (e10 : Int) : usesStaticCast (sfltToks neg mant e10) = false := by
  cases neg <;> rfl

def ReadsAs (E : Str) (e : CExpr) : Prop :=
  ∃ toks k, LexesAs E toks k ∧ k ≤ 8 ∧ usesStaticCast toks = false ∧ ParsesUnary toks e

/-- `cast_format` of the C language: `(({type}) {value})` -/
def cCast (ty val : Str) : Str := '(' :: '(' :: (ty ++ (')' :: ' ' :: (val ++ [')'])))
/-- `cast_format` of the C++ language: `static_cast<{type}>({value})` -/
def cppCast (ty val : Str) : Str := "static_cast".toList ++ '<' :: (ty ++ ('>' :: '(' :: (val ++ [')'])))

theorem isIdent_ty {ty : Str} (hty : IsFloatTy ty) : isIdent ty = true := by
  rcases isFloatTy_chars hty with rfl | rfl <;> decide +kernel

theorem ident_ty_ne {ty : Str} (hty : IsFloatTy ty) :
    (Tok.ident ty == Tok.ident "static_cast".toList) = false := by
  rw [String.toList_ofList]
  rcases isFloatTy_chars hty with rfl | rfl <;> decide +kernel

theorem evalStr_cCast {ty : Str} (hty : IsFloatTy ty) {E : Str} {e : CExpr}
    (h : ReadsAs E e) (d : Dialect) :
    evalStr d (cCast ty E) = eval d (.cast (tyOf ty) e) ∧ evalStr d (cMacroBody (cCast ty E)) = eval d (.cast (tyOf ty) e) := by
  obtain ⟨toks, k, hl, hk, hs, hp⟩ := h
  have hlex := (((hl.rp.space.cons lex_rp).ident (isIdent_ty hty) (by decide)).cons lex_lp).cons lex_lp
  have hsc : usesStaticCast (.lp :: .lp :: .ident ty :: .rp :: (toks ++ [.rp])) = false := by
    simp only [usesStaticCast_cons, usesStaticCast_append, hs, ident_ty_ne hty]
    rfl
  have hpar := (hp.cast hty).paren
  exact evalStr_both hlex (by omega) hsc (parseToks_of_unary hpar) (parseToks_of_unary hpar.paren) d

theorem evalStr_cppCast {ty : Str} (hty : IsFloatTy ty) {E : Str} {e : CExpr}
    (h : ReadsAs E e) : evalStr .cpp14 (cppCast ty E) = eval .cpp14 (.cast (tyOf ty) e) := by
  obtain ⟨toks, k, hl, hk, _, hp⟩ := h
  have hlex :=
    ((((hl.rp.cons lex_lp).cons lex_gt).ident (isIdent_ty hty) (by decide)).cons lex_lt).ident
      (id := "static_cast".toList) (by decide +kernel) (by decide)
  exact evalStr_of (lexStr_of_lexesAs hlex (by omega)) rfl (parseToks_of_unary (hp.staticCast hty))

theorem lexesAs_intStr_dot0 (num : Int) :
    ∃ k, k ≤ 2 ∧ LexesAs (intStr num ++ ['.', '0']) (sfltToks (decide (num < 0)) (10 * num.natAbs) (-1)) k := by
  cases num with
  | ofNat n => exact ⟨1, by decide, lexesAs_dot0 n⟩
  | negSucc k =>
    rw [show decide (Int.negSucc k < 0) = true from decide_eq_true (Int.negSucc_lt_zero k)]
    exact ⟨2, by decide, (lexesAs_dot0 (k + 1)).cons lex_minus⟩

/-- the expression `_float_literal_expression` renders when both operands are exact -/
def quotExpr (num : Int) (den : Nat) : Str :=
  if den = 1 then intStr num ++ ['.', '0']
  else '(' :: (intStr num ++ ['.', '0'] ++ (' ' :: '/' :: ' ' :: (natStr den ++ ['.', '0'] ++ [')'])))
def quotAst (num : Int) (den : Nat) : CExpr :=
  if den = 1 then sfltAst (decide (num < 0)) (10 * num.natAbs) (-1)
  else .div (sfltAst (decide (num < 0)) (10 * num.natAbs) (-1)) (.flit (10 * den) (-1) .none)

theorem readsAs_quotExpr (num : Int) (den : Nat) : ReadsAs (quotExpr num den) (quotAst num den) := by
  obtain ⟨k, hk, hn⟩ := lexesAs_intStr_dot0 num
  unfold quotExpr quotAst
  split
  · exact ⟨_, _, hn, by omega, usesStaticCast_sflt _ _ _, parsesUnary_sflt _ _ _⟩
  · refine ⟨_, _, (hn.append (((lexesAs_dot0 den).rp.space.cons lex_slash).space) (safeStart_cons rfl _)).cons lex_lp,
      by omega, ?_, parsesUnary_quot _ _ _ _ _⟩
    rw [usesStaticCast_cons, usesStaticCast_append, usesStaticCast_sflt]
    rfl

end NunavutVerif.CLiteral
