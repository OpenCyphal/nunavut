import NunavutVerif.Lemmas.Float16Spec
/-!
Rounding to nearest, at the level of the specification (no code here).  What follows from a bracket
`mid(r-1, r) ≤ |a| ≤ mid(r, r+1)` (nearest among all finite halves, monotone, a representable value is reproduced,
ties), and how one is established: the midpoint of two adjacent halves is `2^112` times the binary32 number with
pattern `r·8192 + 4096` (`mid_scaled`), so wherever `|a|·2^-112` is caught between the values of binary32 patterns
the bracket is a comparison of patterns (`bracket_scaled`).
-/
namespace NunavutVerif.Float16

/-- `r` is a nearest binary16 magnitude pattern for the binary32 magnitude pattern `a`:
`|a|` lies between the midpoints towards the two neighbours of `r`. -/
def Bracket (a r : Nat) : Prop :=
  (r = 0 ∨ F16.mag (r - 1) + F16.mag r ≤ 2 * F32.mag a) ∧ 2 * F32.mag a ≤ F16.mag r + F16.mag (r + 1)

def dist (a b : Nat) : Nat := (a - b) + (b - a)

theorem Bracket.above {a r : Nat} (hb : Bracket a r) (p : Nat) (hrp : r < p) (hp : p < 32768) :
    2 * F32.mag a ≤ F16.mag r + F16.mag p :=
  Nat.le_trans hb.2 (Nat.add_le_add_left (F16.mag_mono (r + 1) p hrp hp) _)

theorem Bracket.below {a r : Nat} (hb : Bracket a r) (p : Nat) (hpr : p < r) (hr : r < 32768) :
    F16.mag p + F16.mag r ≤ 2 * F32.mag a :=
  Nat.le_trans (Nat.add_le_add_right (F16.mag_mono p (r - 1) (by omega) (by omega)) _)
    (hb.1.resolve_left (by omega))

theorem nearest_of_bracket (a r p : Nat) (hb : Bracket a r) (hr : r < 31744) (hp : p < 31744) :
    dist (F16.mag r) (F32.mag a) ≤ dist (F16.mag p) (F32.mag a) := by
  unfold dist
  rcases Nat.lt_trichotomy p r with c | rfl | c
  · have b := hb.below p c (by omega)
    have m := F16.mag_mono p r (by omega) (by omega)
    omega
  · omega
  · have b := hb.above p c (by omega)
    have m := F16.mag_mono r p (by omega) (by omega)
    omega

theorem bracket_mono (a b r s : Nat) (hab : a < b) (hb : b < 2147483648) (hr : r < 32768)
    (ha' : Bracket a r) (hb' : Bracket b s) : r ≤ s := by
  refine Nat.le_of_not_lt fun c => ?_
  have lo := ha'.below s c hr
  have hi := hb'.above r c hr
  have st := F32.mag_strict a b hab hb
  omega

theorem eq_of_bracket (a r p : Nat) (hb : Bracket a r) (hr : r < 31744) (hp : p < 31744)
    (he : F32.mag a = F16.mag p) : r = p := by
  rcases Nat.lt_trichotomy r p with c | c | c
  · have b := hb.above p c (by omega)
    have s := F16.mag_strict r p c (by omega)
    omega
  · exact c
  · have b := hb.below p c (by omega)
    have s := F16.mag_strict p r c (by omega)
    omega

/-- Round-to-nearest with ties to even, as a bracket: in addition to `Bracket`, an odd result pattern is
never produced at a midpoint (both midpoint inequalities are strict). -/
def BracketEven (a r : Nat) : Prop :=
  Bracket a r ∧
  (r % 2 = 1 → F16.mag (r - 1) + F16.mag r < 2 * F32.mag a ∧ 2 * F32.mag a < F16.mag r + F16.mag (r + 1))

theorem even_of_bracketEven (a r p : Nat) (hb : BracketEven a r) (hr : r < 31744) (hp : p + 1 < 31744)
    (hmid : 2 * F32.mag a = F16.mag p + F16.mag (p + 1)) : r = if p % 2 = 0 then p else p + 1 := by
  obtain ⟨hb, hodd⟩ := hb
  -- `r` is `p` or `p + 1`: any other pattern is on the far side of one of the two
  have h1 : p ≤ r := Nat.le_of_not_lt fun c => by
    have b := hb.above p c (by omega)
    have s := F16.mag_strict r (p + 1) (by omega) (by omega)
    omega
  have h2 : r ≤ p + 1 := Nat.le_of_not_lt fun c => by
    have b := hb.below (p + 1) c (by omega)
    have s := F16.mag_strict p r (by omega) (by omega)
    omega
  have sp := F16.mag_strict p (p + 1) (by omega) (by omega)
  -- an odd result is excluded by the strict inequalities
  rcases (show r = p ∨ r = p + 1 by omega) with rfl | rfl
  · split
    · rfl
    · have := (hodd (by omega)).2; omega
  · split
    · have := (hodd (by omega)).1; rw [Nat.add_sub_cancel] at this; omega
    · rfl

/-- The two shifted patterns share a closed binade, inside which `F32.mag` is linear (`F32.mag_mid`); subnormal halves
are included, and the upper one may be the infinity pattern. -/
theorem mid_scaled (r : Nat) (h : r < 31744) :
    F16.mag r + F16.mag (r + 1) = 2 * F32.mag (r * 8192 + 4096) * 2 ^ 112 := by
  have hq := Nat.div_add_mod r 1024
  have hm := Nat.mod_lt r (show 0 < 1024 by omega)
  have hq2 : r / 1024 < 31 := by omega
  generalize r / 1024 = q at hq hq2
  generalize r % 1024 = m at hq hm
  rw [F16.mag_scaled r (by omega), F16.mag_scaled (r + 1) (by omega), ← Nat.add_mul,
    show r * 8192 = q * 8388608 + m * 8192 by omega,
    show (r + 1) * 8192 = q * 8388608 + (m * 8192 + 2 * 4096) by omega, Nat.add_assoc,
    F32.mag_mid q _ 4096 (by omega) (by omega)]

theorem mid_cmp (r c : Nat) (hr : r < 31744) (hc : c < 2147483648) :
    (2 * (F32.mag c * 2 ^ 112) ≤ F16.mag r + F16.mag (r + 1) ↔ c ≤ r * 8192 + 4096) ∧
    (F16.mag r + F16.mag (r + 1) ≤ 2 * (F32.mag c * 2 ^ 112) ↔ r * 8192 + 4096 ≤ c) := by
  have hp := Nat.two_pow_pos 112
  rw [mid_scaled r hr, ← Nat.mul_assoc, Nat.mul_le_mul_right_iff hp, Nat.mul_le_mul_right_iff hp,
    Nat.mul_le_mul_left_iff (by omega), Nat.mul_le_mul_left_iff (by omega),
    F32.mag_le_iff _ _ hc (by omega), F32.mag_le_iff _ _ (by omega) hc]
  exact ⟨Iff.rfl, Iff.rfl⟩

/-- `|a|·2^-112` lies between the values of two binary32 patterns `c ≤ c'`, both within half a step of `r·8192`.
Two patterns because `pack` sees `a` only through its key: there `c`, `c'` are the products of two adjacent keys;
`c = c' = a - (112 <<< 23)` for the normal range of `packRneC`. -/
theorem bracket_scaled (a c c' r : Nat) (hr : r < 31744) (hc : c < 2147483648) (hc' : c' < 2147483648)
    (lo : F32.mag c * 2 ^ 112 ≤ F32.mag a) (hi : F32.mag a ≤ F32.mag c' * 2 ^ 112)
    (h1 : r * 8192 ≤ c + 4096) (h2 : c' ≤ r * 8192 + 4096) :
    Bracket a r ∧
    (1 ≤ r → r * 8192 < c + 4096 → F16.mag (r - 1) + F16.mag r < 2 * F32.mag a) ∧
    (c' < r * 8192 + 4096 → 2 * F32.mag a < F16.mag r + F16.mag (r + 1)) := by
  have up := mid_cmp r c' hr hc'
  refine ⟨⟨?_, Nat.le_trans (Nat.mul_le_mul_left 2 hi) (up.1.2 h2)⟩, ?_, fun s =>
    Nat.lt_of_le_of_lt (Nat.mul_le_mul_left 2 hi) (Nat.lt_of_not_le (mt up.2.1 (Nat.not_le_of_lt s)))⟩
  -- the lower midpoint of `r = s + 1` is the upper one of `s`
  all_goals rcases r with _ | s
  · exact Or.inl rfl
  · exact Or.inr (Nat.le_trans ((mid_cmp s c (by omega) hc).2.2 (by lia)) (Nat.mul_le_mul_left 2 lo))
  · intro s; omega
  · exact fun _ s' => Nat.lt_of_lt_of_le (Nat.lt_of_not_le (mt (mid_cmp s c (by omega) hc).1.1 (by lia)))
      (Nat.mul_le_mul_left 2 lo)

/-- `855638016 = 102 <<< 23` is the pattern of `2^-25`, half the smallest subnormal half; up to there `|a|·2^-112` lies
between the patterns `0` and `4096`. -/
theorem bracket_zero (a : Nat) (h : a ≤ 855638016) : Bracket a 0 :=
  (bracket_scaled a 0 4096 0 (by omega) (by omega) (by omega) (Nat.zero_le _)
    (Nat.le_trans (F32.mag_mono a 855638016 h (by omega)) (by decide)) (by decide) (by decide)).1

end NunavutVerif.Float16
