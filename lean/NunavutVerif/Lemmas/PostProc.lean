import NunavutVerif.Lemmas.LineBuffer
import NunavutVerif.Model.PostProc
/-!
The built-in processor objects take a line through exactly the steps of the `PP` pipeline (`filterLine_toProc`); of other
objects only the documented contract of `reset` is assumed (`ResetAllTo`).
-/
namespace NunavutVerif.LineBuffer

theorem fileLinesAux_flatten (cur t : Str) : (fileLinesAux cur t).flatten = cur ++ t := by
  fun_induction fileLinesAux cur t <;> simp_all

theorem linewise_nil (t : Str) : linewise [] t = t := by
  rw [linewise, pipeLines_nil, write_specLines]

theorem trimStr_of_no_trailing_ws (s : Str) (h : ∀ c, s.getLast? = some c → isWs c = false) :
    trimStr s = s := by
  -- the whitespace `trimStr` cuts off is empty: its last character would be the last of `s`
  obtain ⟨ws, h1, h2, _⟩ := trimStr_spec s
  cases hw : ws.getLast? with
  | none =>
    rw [List.getLast?_eq_none_iff.mp hw, List.append_nil] at h1
    exact h1
  | some x =>
    have hx : s.getLast? = some x := by rw [← h1, List.getLast?_append, hw]; rfl
    exact absurd (h2 x (List.mem_of_getLast? hw)) (by simp [h x hx])

theorem limitObj_call_nat (n s : Nat) (l : Line) :
    LimitObj.call ⟨(n : Int), s⟩ l = ((limitStep n s l).1, ⟨(n : Int), (limitStep n s l).2⟩) := by
  simp only [LimitObj.call, limitStep, List.length_eq_zero_iff]
  -- both sides compute the same count; comparing it with the limit is the same in `Int` and in `Nat`
  generalize (if l.content = [] then s + 1 else 0) = c
  simp only [gt_iff_lt, Int.ofNat_lt]

theorem filterLine_toProc (pps : List PP) (ss : List Nat) (l : Line) :
    filterLine (pps.map PP.toProc) ss l = (some (pipeLine pps ss l).1, (pipeLine pps ss l).2) := by
  induction pps generalizing ss l with
  | nil => rfl
  | cons p ps ih =>
    cases ss with
    | nil => rfl
    | cons s ss =>
      cases p with
      | trim => exact congrArg (fun r => (r.1, s :: r.2)) (ih ss (trim l))
      | limit n =>
        simp only [List.map_cons, filterLine, PP.toProc, Proc.limit, limitObj_call_nat, ih, pipeLine, ppStep]

theorem writeLines_toProc (pps : List PP) (ss : List Nat) (ls : List Line) :
    (writeLines (pps.map PP.toProc) ss ls).1 = write (pipeLines pps ss ls) ∧
    (writeLines (pps.map PP.toProc) ss ls).2.1 = false := by
  induction ls generalizing ss with
  | nil => exact ⟨rfl, rfl⟩
  | cons l ls ih => simp only [writeLines, filterLine_toProc, pipeLines, write, ih, and_self]

/-- After `reset()` the limiters count from zero; a trimmer's slot keeps whatever it held. -/
theorem resetProcs_toProc (pps : List PP) (ss : List Nat) (h : ss.length = pps.length) :
    ProcState.limAgree pps (resetProcs (pps.map PP.toProc) ss) (List.replicate pps.length 0) := by
  induction pps generalizing ss with
  | nil => trivial
  | cons p ps ih =>
    cases ss with
    | nil => simp at h
    | cons s ss =>
      have hl : ss.length = ps.length := by simpa using h
      cases p with
      | trim => exact ih ss hl
      | limit n => exact ⟨rfl, ih ss hl⟩

theorem filterLine_length (ps : List Proc) (ss : List Nat) (l : Line) :
    (filterLine ps ss l).2.length = ss.length := by
  fun_induction filterLine ps ss l with
  | case1 => rfl
  | case2 p ps s ss l l' s' hc r ih => simp [r, ih]
  | case3 => rfl

theorem writeLines_length (ps : List Proc) (ss : List Nat) (ls : List Line) :
    (writeLines ps ss ls).2.2.length = ss.length := by
  fun_induction writeLines ps ss ls with
  | case1 => rfl
  | case2 ss l ls ss' hf =>
    have hl := filterLine_length ps ss l
    rw [hf] at hl
    exact hl
  | case3 ss l ls l' ss' hf r ih =>
    have hl := filterLine_length ps ss l
    rw [hf] at hl
    exact ih.trans hl

theorem genFilesP_cons (ps : List Proc) (ss : List Nat) (f : List Str) (fs : List (List Str)) :
    genFilesP ps ss (f :: fs) = ((genOutP ps ss f).1, (genOutP ps ss f).2.1) ::
      if (genOutP ps ss f).2.1 then [] else genFilesP ps (genOutP ps ss f).2.2 fs := by
  rw [genFilesP]
  cases (genOutP ps ss f).2.1 <;> simp

/-- Every processor of the list returns to its initial state on `reset` (the documented contract of `reset`). -/
def ResetAllTo : List Proc → List Nat → Prop
  | [], [] => True
  | p :: ps, i :: is => p.ResetsTo i ∧ ResetAllTo ps is
  | _, _ => False

theorem resetProcs_of_contract (ps : List Proc) (inits ss : List Nat) (hc : ResetAllTo ps inits)
    (hl : ss.length = ps.length) : resetProcs ps ss = inits := by
  fun_induction ResetAllTo ps inits generalizing ss with
  | case1 => exact List.length_eq_zero_iff.mp hl
  | case2 p ps i is ih =>
    cases ss with
    | nil => simp at hl
    | cons s ss => simp [resetProcs, hc.1 s, ih ss hc.2 (by simpa using hl)]
  | case3 => exact hc.elim

theorem ResetAllTo_length (ps : List Proc) (inits : List Nat) (hc : ResetAllTo ps inits) :
    inits.length = ps.length := by
  fun_induction ResetAllTo ps inits with
  | case1 => rfl
  | case2 p ps i is ih => simp [ih hc.2]
  | case3 => exact hc.elim

theorem copyHistory_append (resource : Str) (dst : Option Str) (a b : List CopyRun) :
    (copyHistory resource dst (a ++ b)).2 = (copyHistory resource (copyHistory resource dst a).2 b).2 := by
  induction a generalizing dst with
  | nil => simp [copyHistory]
  | cons r rs ih => simp [copyHistory, ih]

/-- A limiter is no trimmer, so the test for a trimmer may look at `l` alone, not at `l` with the limiter appended. -/
theorem assembleZ_some (l : List CItem) (cfgLimit : Option Int) (cfgTrim : Bool) :
    assembleZ (some l) cfgLimit cfgTrim = some (l ++
      (match cfgLimit with | some n => if l.any CItem.isLimit then [] else [.limit n] | none => []) ++
      (if cfgTrim ∧ l.any CItem.isTrim = false then [.trim] else [])) := by
  cases cfgLimit <;> cases cfgTrim <;> cases hl : l.any CItem.isLimit <;> cases ht : l.any CItem.isTrim <;>
    simp [assembleZ, hl, ht, CItem.isTrim]

theorem cliListZ_any_isLimit (a : PPArgs) : (cliListZ a).any CItem.isLimit = a.maxEmpty.isSome := by
  obtain ⟨tr, mx, pr, fm⟩ := a
  cases tr <;> cases mx <;> cases pr <;> rfl

theorem cliListZ_any_isTrim (a : PPArgs) : (cliListZ a).any CItem.isTrim = a.trim := by
  obtain ⟨tr, mx, pr, fm⟩ := a
  cases tr <;> cases mx <;> cases pr <;> rfl

theorem lineProcs_append (a b : List CItem) : lineProcs (a ++ b) = lineProcs a ++ lineProcs b := by
  induction a with
  | nil => rfl
  | cons i is ih => cases h : i.isLine <;> simp [lineProcs, h, ih]

theorem lineProcs_cliListZ (a : PPArgs) : lineProcs (cliListZ a) =
    (if a.trim then [CItem.trim] else []) ++ (match a.maxEmpty with | some n => [CItem.limit n] | none => []) := by
  obtain ⟨tr, mx, pr, fm⟩ := a
  cases tr <;> cases mx <;> cases pr <;> rfl

end NunavutVerif.LineBuffer
