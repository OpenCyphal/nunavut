import NunavutVerif.Model.StropGlue
import NunavutVerif.Lemmas.Strop
import NunavutVerif.Gen.StropGlue
/-!
The glue model (`Model/StropGlue.lean`): the heap is only appended to; an encoder's tables depend only on the list
objects its section refers to, so neither appended objects nor a shift of the addresses change them; the invariant `Inv`
of a process and the relation `Extends` that every step establishes; `load` at any point of a history is `standalone`,
shifted; for `filter_id`, `str()` of a non-string instance is not empty and an id type without entries of its own reads the
`all` entries only (`lookup_allOnly`); a sample history on the generated environment, evaluated once.
-/

namespace NunavutVerif.StropGlue
open NunavutVerif.Regex NunavutVerif.Strop

theorem aget_mem {α : Type} {m : List (Str × α)} {k : Str} {v : α} (h : aget m k = some v) : (k, v) ∈ m :=
  assoc_mem aget (fun _ => rfl) (fun _ _ _ _ => rfl) h

theorem aget_map {α β : Type} (f : α → β) (m : List (Str × α)) (k : Str) :
    aget (m.map (fun e => (e.1, f e.2))) k = (aget m k).map f := by
  induction m with
  | nil => rfl
  | cons e rest ih =>
    obtain ⟨k', v⟩ := e
    by_cases hk : k' = k
    · simp [aget, hk]
    · simp [aget, hk, ih]

theorem aget_dset {α : Type} (m : List (Str × α)) (k k2 : Str) (v : α) :
    aget (dset m k v) k2 = if k = k2 then some v else aget m k2 := by
  induction m with
  | nil => rfl
  | cons e rest ih =>
    obtain ⟨k', v'⟩ := e
    by_cases hk : k' = k
    · subst hk
      by_cases h2 : k' = k2 <;> simp [dset, aget, h2]
    · by_cases h2 : k = k2
      · subst h2; simp [dset, aget, hk, ih]
      · simp [dset, aget, hk, ih, h2]

theorem dset_map {α β : Type} (f : α → β) (m : List (Str × α)) (k : Str) (v : α) :
    (dset m k v).map (fun e => (e.1, f e.2)) = dset (m.map (fun e => (e.1, f e.2))) k (f v) := by
  induction m with
  | nil => simp [dset]
  | cons e rest ih =>
    obtain ⟨k', v'⟩ := e
    by_cases hk : k' = k
    · simp [dset, hk]
    · simp [dset, hk, ih]

theorem lt_of_getElem? {α : Type} {l : List α} {i : Nat} {a : α} (h : l[i]? = some a) : i < l.length :=
  (List.getElem?_eq_some_iff.mp h).1

theorem all_lt_mono {n m : Nat} {l : List Nat} (hnm : n ≤ m) (h : l.all (· < n) = true) : l.all (· < m) = true := by
  simp only [List.all_eq_true, decide_eq_true_eq] at h ⊢
  exact fun a ha => Nat.lt_of_lt_of_le (h a ha) hnm

theorem refs_dset {α : Type} (refs : α → List Nat) {n : Nat} {m : List (Str × α)} {k : Str} {v : α}
    (hm : (m.flatMap (fun e => refs e.2)).all (· < n) = true) (hv : (refs v).all (· < n) = true) :
    ((dset m k v).flatMap (fun e => refs e.2)).all (· < n) = true := by
  induction m with
  | nil => simpa [dset] using hv
  | cons e rest ih =>
    obtain ⟨k', v'⟩ := e
    simp only [List.flatMap_cons, List.all_append, Bool.and_eq_true] at hm
    by_cases hk : k' = k
    · simp [dset, hk, List.all_append, hv, hm.2]
    · simp [dset, hk, List.all_append, hm.1, ih hm.2]

def entriesWf (n : Nat) (es : List (Str × Leaf)) : Bool := (es.flatMap (fun e => leafRefs e.2)).all (· < n)

theorem entriesWf_cons {n : Nat} {k : Str} {l : Leaf} {es : List (Str × Leaf)} :
    entriesWf n ((k, l) :: es) = ((leafRefs l).all (· < n) && entriesWf n es) := by
  simp [entriesWf, List.all_append]

theorem entriesWf_mono {n m : Nat} {es : List (Str × Leaf)} (hnm : n ≤ m) (h : entriesWf n es = true) :
    entriesWf m es = true := all_lt_mono hnm h

theorem entriesWf_dset {n : Nat} {es : List (Str × Leaf)} {k : Str} {l : Leaf} (hs : entriesWf n es = true)
    (hv : (leafRefs l).all (· < n) = true) : entriesWf n (dset es k l) = true :=
  refs_dset leafRefs hs hv

theorem secWf_cons {n : Nat} {k : Str} {v : CVal} {sec : Section} :
    secWf n ((k, v) :: sec) = ((valRefs v).all (· < n) && secWf n sec) := by
  simp [secWf, secRefs, List.all_append]

theorem secWf_mono {n m : Nat} {sec : Section} (hnm : n ≤ m) (hwf : secWf n sec = true) : secWf m sec = true :=
  all_lt_mono hnm hwf

theorem secWf_dset {n : Nat} {sec : Section} {k : Str} {v : CVal} (hs : secWf n sec = true)
    (hv : (valRefs v).all (· < n) = true) : secWf n (dset sec k v) = true :=
  refs_dset valRefs hs hv

theorem aget_refs {sec : Section} {k : Str} {v : CVal} (h : aget sec k = some v) : ∀ a ∈ valRefs v, a ∈ secRefs sec :=
  fun _ ha => List.mem_flatMap.mpr ⟨(k, v), aget_mem h, ha⟩

theorem getDict_refs {sec : Section} {k : Str} {e : Str × Leaf} (he : e ∈ getDict sec k) :
    ∀ a ∈ leafRefs e.2, a ∈ secRefs sec := by
  unfold getDict at he
  split at he
  · rename_i es hg
    exact fun a ha => aget_refs hg a (List.mem_flatMap.mpr ⟨e, he, ha⟩)
  · cases he

theorem getList_refs {sec : Section} {k : Str} {a : Nat} (h : getList sec k = some a) : a ∈ secRefs sec := by
  unfold getList at h
  split at h
  · rename_i b hg
    cases h
    exact aget_refs hg a (List.mem_singleton_self a)
  · cases h

theorem getDict_wf {n : Nat} {sec : Section} (k : Str) (hwf : secWf n sec = true) : entriesWf n (getDict sec k) = true :=
  List.all_eq_true.mpr fun a ha => by
    obtain ⟨e, he, hae⟩ := List.mem_flatMap.mp ha
    exact List.all_eq_true.mp hwf a (getDict_refs he a hae)

def relocEntries (off : Nat) (es : List (Str × Leaf)) : List (Str × Leaf) := es.map (fun e => (e.1, relocLeaf off e.2))

theorem relocVal_dict (off : Nat) (es : List (Str × Leaf)) : relocVal off (.dict es) = .dict (relocEntries off es) := rfl

theorem relocEntries_cons (off : Nat) (k : Str) (l : Leaf) (es : List (Str × Leaf)) :
    relocEntries off ((k, l) :: es) = (k, relocLeaf off l) :: relocEntries off es := rfl

theorem relocLeaf_zero (l : Leaf) : relocLeaf 0 l = l := by
  cases l <;> rfl

theorem relocVal_zero (v : CVal) : relocVal 0 v = v := by
  cases v <;> simp [relocVal, relocLeaf_zero]

theorem relocSec_zero (sec : Section) : relocSec 0 sec = sec := by
  simp [relocSec, relocVal_zero]

theorem aget_relocSec (off : Nat) (sec : Section) (k : Str) : aget (relocSec off sec) k = (aget sec k).map (relocVal off) :=
  aget_map (relocVal off) sec k

theorem leafStr_reloc (off : Nat) (l : Leaf) : leafStr (relocLeaf off l) = leafStr l := by
  cases l <;> rfl

theorem getStr_reloc (off : Nat) (sec : Section) (k : Str) (d : Option Str) : getStr (relocSec off sec) k d = getStr sec k d := by
  unfold getStr
  rw [aget_relocSec]
  cases aget sec k with
  | none => rfl
  | some v =>
    cases v with
    | leaf l => simp [relocVal, leafStr_reloc]
    | dict es => simp [relocVal]

theorem readScalars_reloc (off : Nat) (sec : Section) : readScalars (relocSec off sec) = readScalars sec := by
  unfold readScalars getBool
  simp only [getStr_reloc]

theorem getList_reloc (off : Nat) (sec : Section) (k : Str) : getList (relocSec off sec) k = (getList sec k).map (· + off) := by
  unfold getList
  rw [aget_relocSec]
  cases aget sec k with
  | none => rfl
  | some v =>
    cases v with
    | dict es => simp [relocVal]
    | leaf l => cases l <;> simp [relocVal, relocLeaf]

theorem getDict_reloc (off : Nat) (sec : Section) (k : Str) : getDict (relocSec off sec) k = relocEntries off (getDict sec k) := by
  unfold getDict
  rw [aget_relocSec]
  cases aget sec k with
  | none => rfl
  | some v => cases v <;> rfl

theorem buildMap_reloc_of (compile : Str → Option Re) (h1 h2 : Heap) (off : Nat) (es : List (Str × Leaf))
    (m : List (Str × List Re)) (anyl : List Re)
    (hes : ∀ e ∈ es, ∀ a ∈ leafRefs e.2, h2[a + off]? = h1[a]?) :
    buildMap compile h2 (relocEntries off es) m anyl = buildMap compile h1 es m anyl := by
  induction es generalizing m anyl with
  | nil => rfl
  | cons e rest ih =>
    obtain ⟨k, l⟩ := e
    rw [relocEntries_cons]
    cases l with
    | list a =>
      have hrest := ih (hes := fun e he => hes e (List.mem_cons_of_mem _ he))
      simp only [relocLeaf, buildMap, hes _ List.mem_cons_self a (List.mem_singleton_self a)]
      cases h1[a]? with
      | none => rfl
      | some srcs =>
        simp only
        cases compileAll compile srcs with
        | none => rfl
        | some ps =>
          simp only
          split
          · rfl
          · exact hrest _ _
    | str _ | null | bool _ | num _ | other => rfl

theorem withAdditional_spec (h : Heap) (a : Nat) (base : List Str) (add : Option (List Str)) (ha : h[a]? = some base) :
    h <+: (withAdditional false h a base add).2 ∧
      (withAdditional false h a base add).2[(withAdditional false h a base add).1]? = some (base ++ add.getD []) := by
  cases add with
  | none => exact ⟨List.prefix_rfl, by simp [withAdditional, ha]⟩
  | some x => exact ⟨List.prefix_append _ _, by simp [withAdditional]⟩

theorem reservedObject_spec (h : Heap) (sec : Section) (add : Option (List Str)) :
    match reservedObject false h sec add with
    | .error e => resolvedReserved h sec add = .error e
    | .ok (a, h') => h <+: h' ∧ ∃ l, h'[a]? = some l ∧ resolvedReserved h sec add = .ok l := by
  unfold reservedObject resolvedReserved
  cases getList sec kReserved with
  | some b =>
    simp only
    cases hb : h[b]? with
    | none => rfl
    | some base =>
      obtain ⟨h1, h2⟩ := withAdditional_spec h b base add hb
      exact ⟨h1, _, h2, rfl⟩
  | none =>
    obtain ⟨h1, h2⟩ := withAdditional_spec (h ++ [[]]) h.length [] add (by simp)
    exact ⟨(List.prefix_append _ _).trans h1, _, h2, rfl⟩

theorem newEncoder_frame {compile : Str → Option Re} {h : Heap} {sec : Section} {lc : LangCode} {e : Enc} {h' : Heap}
    (hn : newEncoder compile h sec lc = .ok (e, h')) : h <+: h' ∧ e.reserved < h'.length := by
  unfold newEncoder newEncoderG at hn
  split at hn; · cases hn
  split at hn; · cases hn
  split at hn; · cases hn
  rename_i ra h1 hr
  split at hn; · cases hn
  simp only [Except.ok.injEq, Prod.mk.injEq] at hn
  obtain ⟨rfl, rfl⟩ := hn
  have hspec := reservedObject_spec h sec lc.additional
  rw [hr] at hspec
  obtain ⟨hext, _, hget, _⟩ := hspec
  exact ⟨hext, lt_of_getElem? hget⟩

theorem buildAll_append (compile : Str → Option Re) (h : Heap) (l : List (Section × LangCode)) :
    h <+: buildAll compile h l := by
  induction l generalizing h with
  | nil => exact List.prefix_rfl
  | cons e rest ih =>
    obtain ⟨sec, lc⟩ := e
    simp only [buildAll]
    cases hn : newEncoder compile h sec lc with
    | error x => exact ih h
    | ok r =>
      obtain ⟨enc, h'⟩ := r
      exact (newEncoder_frame hn).1.trans (ih h')

theorem assemble_eq_closed (space : List (Nat × Nat)) (compile : Str → Option Re) (h : Heap) (sec : Section) (lc : LangCode) :
    assemble space compile h sec lc = assembleClosed space compile h sec lc := by
  unfold assemble assembleClosed newEncoder newEncoderG
  cases buildMap compile h (getDict sec kPatterns) [] [] with
  | error e => rfl
  | ok pats =>
    cases buildMap compile h (getDict sec kRules) [] [] with
    | error e => rfl
    | ok rules =>
      simp only
      have hspec := reservedObject_spec h sec lc.additional
      cases hr : reservedObject false h sec lc.additional with
      | error e => rw [hr] at hspec; simp [hspec]
      | ok r =>
        obtain ⟨a, h'⟩ := r
        rw [hr] at hspec
        obtain ⟨_, l, hget, hl⟩ := hspec
        simp only [hl]
        cases readScalars sec with
        | error e => rfl
        | ok sc => simp [Enc.cfg, hget]

theorem resolvedReserved_reloc_of {h1 h2 : Heap} {off : Nat} {sec : Section}
    (hag : ∀ a ∈ secRefs sec, h2[a + off]? = h1[a]?) (add : Option (List Str)) :
    resolvedReserved h2 (relocSec off sec) add = resolvedReserved h1 sec add := by
  unfold resolvedReserved
  rw [getList_reloc]
  cases hg : getList sec kReserved with
  | none => rfl
  | some a => simp only [Option.map_some, hag a (getList_refs hg)]

theorem assemble_reloc_of {space : List (Nat × Nat)} {compile : Str → Option Re} {h1 h2 : Heap} {off : Nat}
    {sec : Section} {lc : LangCode} (hag : ∀ a ∈ secRefs sec, h2[a + off]? = h1[a]?) :
    assemble space compile h2 (relocSec off sec) lc = assemble space compile h1 sec lc := by
  rw [assemble_eq_closed, assemble_eq_closed]
  unfold assembleClosed
  rw [getDict_reloc, getDict_reloc, buildMap_reloc_of compile h1 h2 off _ _ _ fun e he a ha => hag a (getDict_refs he a ha),
    buildMap_reloc_of compile h1 h2 off _ _ _ fun e he a ha => hag a (getDict_refs he a ha),
    resolvedReserved_reloc_of hag, readScalars_reloc]

theorem assemble_append {space : List (Nat × Nat)} {compile : Str → Option Re} {h ext : Heap} {sec : Section}
    {lc : LangCode} (hwf : secWf h.length sec = true) :
    assemble space compile (h ++ ext) sec lc = assemble space compile h sec lc := by
  have := assemble_reloc_of (space := space) (compile := compile) (h2 := h ++ ext) (off := 0) (lc := lc)
    fun a ha => List.getElem?_append_left (of_decide_eq_true (List.all_eq_true.mp hwf a ha))
  rwa [relocSec_zero] at this

theorem assemble_reloc (space : List (Nat × Nat)) (compile : Str → Option Re) (pre h : Heap) (sec : Section) (lc : LangCode) :
    assemble space compile (pre ++ h) (relocSec pre.length sec) lc = assemble space compile h sec lc :=
  assemble_reloc_of fun a _ => by rw [List.getElem?_append_right (Nat.le_add_left _ _), Nat.add_sub_cancel]

theorem cfg_append {space : List (Nat × Nat)} {h ext : Heap} {e : Enc} (he : e.reserved < h.length) :
    e.cfg space (h ++ ext) = e.cfg space h := by
  simp [Enc.cfg, List.getElem?_append_left he]

def docWf (d : Doc) : Bool := d.sections.all (fun e => secWf d.cells.length e.2)

structure Inv (env : Env) (p : Proc) : Prop where
  secs : ∀ ctx ∈ p.ctxs, ∀ lang sec, aget ctx.sections lang = some sec → secWf p.heap.length sec = true
  encs : ∀ e ∈ p.encoders, e.reserved < p.heap.length
  /-- a cached `_token_encoder` shows the tables its section assembles to -/
  built : ∀ ctx ∈ p.ctxs, ∀ lang ei, aget ctx.encs lang = some ei →
    ∃ sec lc e, aget ctx.sections lang = some sec ∧ env.code lang = some lc ∧ p.encoders[ei]? = some e ∧
      assemble env.space env.compile p.heap sec lc = .ok (e.cfg env.space p.heap)
  /-- every entry of the lru cache is what `strop` answers now -/
  cache : ∀ ent ∈ p.lru, ∃ e, p.encoders[ent.1.1]? = some e ∧
    strop (e.cfg env.space p.heap) ent.1.2.1 ent.1.2.2 = .ok ent.2

theorem inv_init (env : Env) : Inv env Proc.init :=
  ⟨fun _ h => (List.not_mem_nil h).elim, fun _ h => (List.not_mem_nil h).elim, fun _ h => (List.not_mem_nil h).elim,
   fun _ h => (List.not_mem_nil h).elim⟩

theorem lruFind_mem {l : List (Key × Str)} {k : Key} {r : Str} (h : lruFind l k = some r) : (k, r) ∈ l :=
  assoc_mem lruFind (fun _ => rfl) (fun _ _ _ _ => rfl) h

theorem Inv.append {env : Env} {p : Proc} (hi : Inv env p) (ext : Heap) : Inv env { p with heap := p.heap ++ ext } := by
  refine ⟨?_, ?_, ?_, ?_⟩
  · exact fun ctx hc lang sec hs => secWf_mono (by simp) (hi.secs ctx hc lang sec hs)
  · exact fun e he => Nat.lt_of_lt_of_le (hi.encs e he) (by simp)
  · intro ctx hc lang ei hb
    obtain ⟨sec, lc, e, h1, h2, h3, h4⟩ := hi.built ctx hc lang ei hb
    refine ⟨sec, lc, e, h1, h2, h3, ?_⟩
    have he : e.reserved < p.heap.length := hi.encs e (List.mem_of_getElem? h3)
    simp only
    rw [assemble_append (hi.secs ctx hc lang sec h1), cfg_append he]
    exact h4
  · intro ent hent
    obtain ⟨e, h1, h2⟩ := hi.cache ent hent
    refine ⟨e, h1, ?_⟩
    have he : e.reserved < p.heap.length := hi.encs e (List.mem_of_getElem? h1)
    simp only
    rw [cfg_append he]
    exact h2

structure Extends (env : Env) (p p' : Proc) : Prop where
  inv : Inv env p'
  heap : p.heap <+: p'.heap
  ctxs : ∀ (ci : Nat) (ctx : Ctx), p.ctxs[ci]? = some ctx → ∃ ctx' : Ctx, p'.ctxs[ci]? = some ctx' ∧ ctx'.sections = ctx.sections

theorem Extends.refl {env : Env} {p : Proc} (hi : Inv env p) : Extends env p p :=
  ⟨hi, List.prefix_rfl, fun _ ctx h => ⟨ctx, h, rfl⟩⟩

theorem Extends.trans {env : Env} {p q r : Proc} (h1 : Extends env p q) (h2 : Extends env q r) : Extends env p r := by
  refine ⟨h2.inv, h1.heap.trans h2.heap, fun ci ctx hc => ?_⟩
  obtain ⟨c1, hc1, hs1⟩ := h1.ctxs ci ctx hc
  obtain ⟨c2, hc2, hs2⟩ := h2.ctxs ci c1 hc1
  exact ⟨c2, hc2, hs2.trans hs1⟩

theorem Extends.append {env : Env} {p : Proc} (hi : Inv env p) {h' : Heap} (hp : p.heap <+: h') :
    Extends env p { p with heap := h' } := by
  obtain ⟨ext, rfl⟩ := hp
  exact ⟨hi.append ext, List.prefix_append _ _, fun _ ctx h => ⟨ctx, h, rfl⟩⟩

theorem Extends.pushEncoder {env : Env} {p : Proc} (hi : Inv env p) (enc : Enc) (hlt : enc.reserved < p.heap.length) :
    Extends env p { p with encoders := p.encoders ++ [enc] } := by
  refine ⟨⟨hi.secs, ?_, ?_, ?_⟩, List.prefix_rfl, fun _ ctx h => ⟨ctx, h, rfl⟩⟩
  · intro e he
    rcases List.mem_append.mp he with he | he
    · exact hi.encs e he
    · rw [List.mem_singleton.mp he]; exact hlt
  · intro ctx hc lang ei hb
    obtain ⟨sec, lc, e, h1, h2, h3, h4⟩ := hi.built ctx hc lang ei hb
    exact ⟨sec, lc, e, h1, h2, (List.getElem?_append_left (lt_of_getElem? h3)).trans h3, h4⟩
  · intro ent hent
    obtain ⟨e, h1, h2⟩ := hi.cache ent hent
    exact ⟨e, (List.getElem?_append_left (lt_of_getElem? h1)).trans h1, h2⟩

theorem Extends.setEnc {env : Env} {p : Proc} (hi : Inv env p) {ci : Nat} {ctx : Ctx} (hc : p.ctxs[ci]? = some ctx)
    {lang : Str} {sec : Section} {lc : LangCode} {ei : Nat} {e : Enc} (hs : aget ctx.sections lang = some sec)
    (hl : env.code lang = some lc) (he : p.encoders[ei]? = some e)
    (hcfg : assemble env.space env.compile p.heap sec lc = .ok (e.cfg env.space p.heap)) :
    Extends env p { p with ctxs := p.ctxs.set ci { ctx with encs := dset ctx.encs lang ei } } := by
  have hmem := List.mem_of_getElem? hc
  refine ⟨⟨?_, hi.encs, ?_, hi.cache⟩, List.prefix_rfl, ?_⟩
  · intro c hcm lang' sec' hs'
    rcases List.mem_or_eq_of_mem_set hcm with hcm | rfl
    · exact hi.secs c hcm lang' sec' hs'
    · exact hi.secs ctx hmem lang' sec' hs'
  · intro c hcm lang' ei' hb'
    rcases List.mem_or_eq_of_mem_set hcm with hcm | rfl
    · exact hi.built c hcm lang' ei' hb'
    · simp only [aget_dset] at hb'
      split at hb'
      · rename_i hlang
        cases hlang
        cases hb'
        exact ⟨sec, lc, e, hs, hl, he, hcfg⟩
      · exact hi.built ctx hmem lang' ei' hb'
  · intro cj c hcj
    by_cases hij : ci = cj
    · subst hij
      rw [hc] at hcj; cases hcj
      exact ⟨{ ctx with encs := dset ctx.encs lang ei }, by simp [List.getElem?_set_self (lt_of_getElem? hc)], rfl⟩
    · exact ⟨c, by simp [List.getElem?_set_ne hij, hcj], rfl⟩

theorem Extends.pushCtx {env : Env} {p : Proc} (hi : Inv env p) (secs : List (Str × Section))
    (hs : ∀ lang sec, aget secs lang = some sec → secWf p.heap.length sec = true) :
    Extends env p { p with ctxs := p.ctxs ++ [⟨secs, []⟩] } := by
  refine ⟨⟨?_, hi.encs, ?_, hi.cache⟩, List.prefix_rfl, ?_⟩
  · intro c hcm lang sec h
    rcases List.mem_append.mp hcm with hcm | hcm
    · exact hi.secs c hcm lang sec h
    · rw [List.mem_singleton.mp hcm] at h; exact hs lang sec h
  · intro c hcm lang ei hb
    rcases List.mem_append.mp hcm with hcm | hcm
    · exact hi.built c hcm lang ei hb
    · rw [List.mem_singleton.mp hcm] at hb; simp [aget] at hb
  · intro ci c hc
    exact ⟨c, by simp [List.getElem?_append_left (lt_of_getElem? hc), hc], rfl⟩

theorem cachedStrop_spec {env : Env} {p : Proc} (hi : Inv env p) {ei : Nat} {enc : Enc} (he : p.encoders[ei]? = some enc)
    (raw ty : Str) :
    (cachedStrop env p ei enc raw ty).2.1 = strop (enc.cfg env.space p.heap) raw ty ∧
    Extends env p (cachedStrop env p ei enc raw ty).1 := by
  have hext : ∀ lru hits misses, (∀ ent ∈ lru, ∃ e, p.encoders[ent.1.1]? = some e ∧
        strop (e.cfg env.space p.heap) ent.1.2.1 ent.1.2.2 = .ok ent.2) →
      Extends env p { p with lru := lru, hits := hits, misses := misses } :=
    fun _ _ _ hc => ⟨⟨hi.secs, hi.encs, hi.built, hc⟩, List.prefix_rfl, fun _ ctx h => ⟨ctx, h, rfl⟩⟩
  cases hf : lruFind p.lru (ei, raw, ty) with
  | some r =>
    obtain ⟨e, h1, h2⟩ := hi.cache _ (lruFind_mem hf)
    simp only at h1 h2
    rw [he] at h1
    cases h1
    simp only [cachedStrop, hf]
    refine ⟨h2.symm, hext _ _ _ fun ent hent => ?_⟩
    rcases List.mem_cons.mp hent with rfl | hent
    · exact ⟨enc, he, h2⟩
    · exact hi.cache ent (List.mem_filter.mp hent).1
  | none =>
    simp only [cachedStrop, hf]
    split
    · rename_i hs
      exact ⟨hs.symm, hext _ _ _ hi.cache⟩
    · rename_i hs
      refine ⟨hs.symm, hext _ _ _ fun ent hent => ?_⟩
      rcases List.mem_cons.mp (List.mem_of_mem_take hent) with rfl | hent'
      · exact ⟨enc, he, hs⟩
      · exact hi.cache ent hent'

theorem getEncoder_spec {env : Env} {p : Proc} (hi : Inv env p) {ci : Nat} {ctx : Ctx} (hc : p.ctxs[ci]? = some ctx)
    {lang : Str} {sec : Section} {lc : LangCode} (hs : aget ctx.sections lang = some sec) (hl : env.code lang = some lc) :
    match getEncoder env p ci ctx lang sec lc with
    | .error x => assemble env.space env.compile p.heap sec lc = .error x
    | .ok (ei, p1, _) => Extends env p p1 ∧ ∃ e, p1.encoders[ei]? = some e ∧
        assemble env.space env.compile p.heap sec lc = .ok (e.cfg env.space p1.heap) := by
  have hmem : ctx ∈ p.ctxs := List.mem_of_getElem? hc
  unfold getEncoder
  cases hb : aget ctx.encs lang with
  | some ei =>
    obtain ⟨sec', lc', e, h1, h2, h3, h4⟩ := hi.built ctx hmem lang ei hb
    rw [hs] at h1; cases h1
    rw [hl] at h2; cases h2
    exact ⟨Extends.refl hi, e, h3, h4⟩
  | none =>
    simp only
    cases hn : newEncoder env.compile p.heap sec lc with
    | error x => simp [assemble, hn]
    | ok r =>
      obtain ⟨enc, h'⟩ := r
      -- the new objects, then the encoder, then its registration in the context
      obtain ⟨⟨ext, rfl⟩, hlt⟩ := newEncoder_frame hn
      have hcfg : assemble env.space env.compile p.heap sec lc = .ok (enc.cfg env.space (p.heap ++ ext)) := by
        simp [assemble, hn]
      have e1 := Extends.append hi (List.prefix_append _ ext)
      have e2 := Extends.pushEncoder e1.inv enc hlt
      have e3 := Extends.setEnc e2.inv (ei := p.encoders.length) (e := enc) hc hs hl (by simp)
        (by rw [assemble_append (hi.secs ctx hmem lang sec hs)]; exact hcfg)
      exact ⟨(e1.trans e2).trans e3, enc, by simp, hcfg⟩

theorem use_spec {env : Env} {p : Proc} (hi : Inv env p) (ci : Nat) (lang : Str) (inst : Inst) (ty : Str) :
    Extends env p (use env p ci lang inst ty).1 ∧
    ∀ ctx, p.ctxs[ci]? = some ctx →
      (use env p ci lang inst ty).2.result = pureAnswer env p.heap ctx.sections lang inst ty := by
  unfold use
  cases hc : p.ctxs[ci]? with
  | none => exact ⟨Extends.refl hi, by simp⟩
  | some ctx =>
    simp only [Option.some.injEq, forall_eq']
    unfold pureAnswer
    cases hs : aget ctx.sections lang with
    | none => exact ⟨Extends.refl hi, rfl⟩
    | some sec =>
      cases hl : env.code lang with
      | none => exact ⟨Extends.refl hi, rfl⟩
      | some lc =>
        simp only
        cases hst : lc.strops with
        | false => exact ⟨Extends.refl hi, rfl⟩
        | true =>
          simp only [Bool.not_true, Bool.false_eq_true, ↓reduceIte]
          have hg := getEncoder_spec hi hc hs hl
          cases hge : getEncoder env p ci ctx lang sec lc with
          | error x =>
            rw [hge] at hg
            rw [hg]
            exact ⟨Extends.refl hi, rfl⟩
          | ok r =>
            obtain ⟨ei, p1, b⟩ := r
            rw [hge] at hg
            obtain ⟨hext, e, he, hasm⟩ := hg
            obtain ⟨hres, hext1⟩ := cachedStrop_spec hext.inv he (rawName inst) ty
            simp only [he, hasm, ← hres]
            generalize cachedStrop env p1 ei e (rawName inst) ty = res at hext1
            obtain ⟨p2, r2, hit⟩ := res
            cases r2 <;> exact ⟨hext.trans hext1, rfl⟩

theorem mergeEntries_wf {n : Nat} (target src : List (Str × Leaf)) (ht : entriesWf n target = true)
    (hs : entriesWf n src = true) : entriesWf n (mergeEntries target src) = true := by
  induction src generalizing target with
  | nil => simpa [mergeEntries] using ht
  | cons e rest ih =>
    obtain ⟨k, l⟩ := e
    rw [entriesWf_cons, Bool.and_eq_true] at hs
    simp only [mergeEntries]
    exact ih _ (entriesWf_dset ht hs.1) hs.2

theorem allocEntries_frame (h : Heap) (es : List (Str × List Str)) :
    h <+: (allocEntries h es).1 ∧ entriesWf (allocEntries h es).1.length (allocEntries h es).2 = true := by
  induction es generalizing h with
  | nil => exact ⟨List.prefix_rfl, rfl⟩
  | cons e rest ih =>
    obtain ⟨k, xs⟩ := e
    obtain ⟨h1, h2⟩ := ih (h ++ [xs])
    refine ⟨(List.prefix_append _ _).trans h1, ?_⟩
    simp only [allocEntries, entriesWf_cons, Bool.and_eq_true]
    refine ⟨?_, h2⟩
    simpa [leafRefs, Nat.lt_iff_add_one_le] using h1.length_le

theorem applyOverride_dict (h : Heap) (sec : Section) (k : Str) (es : List (Str × List Str)) :
    applyOverride h sec k (.dict es) =
      ((allocEntries h es).1, dset sec k (.dict (mergeEntries (getDict sec k) (allocEntries h es).2))) := by
  simp only [applyOverride, getDict]
  cases aget sec k with
  | none => rfl
  | some v => cases v <;> rfl

theorem applyOverride_frame (h : Heap) (sec : Section) (k : Str) (v : OVal) (hwf : secWf h.length sec = true) :
    h <+: (applyOverride h sec k v).1 ∧
      secWf (applyOverride h sec k v).1.length (applyOverride h sec k v).2 = true := by
  cases v with
  | str _ | bool _ | num _ => exact ⟨List.prefix_rfl, secWf_dset hwf (by simp [valRefs, leafRefs])⟩
  | list xs =>
    refine ⟨List.prefix_append _ _, ?_⟩
    simp only [applyOverride]
    exact secWf_dset (secWf_mono (by simp) hwf) (by simp [valRefs, leafRefs])
  | dict es =>
    obtain ⟨h1, h2⟩ := allocEntries_frame h es
    have hwf' := secWf_mono h1.length_le hwf
    rw [applyOverride_dict]
    exact ⟨h1, secWf_dset hwf' (mergeEntries_wf _ _ (getDict_wf k hwf') h2)⟩

theorem applyOverrides_frame (h : Heap) (sec : Section) (ov : List (Str × OVal)) (hwf : secWf h.length sec = true) :
    h <+: (applyOverrides h sec ov).1 ∧
      secWf (applyOverrides h sec ov).1.length (applyOverrides h sec ov).2 = true := by
  induction ov generalizing h sec with
  | nil => exact ⟨List.prefix_rfl, hwf⟩
  | cons e rest ih =>
    obtain ⟨k, v⟩ := e
    obtain ⟨g1, g2⟩ := applyOverride_frame h sec k v hwf
    obtain ⟨g3, g4⟩ := ih _ _ g2
    exact ⟨g1.trans g3, g4⟩

theorem leafRefs_reloc (off : Nat) (l : Leaf) : leafRefs (relocLeaf off l) = (leafRefs l).map (· + off) := by
  cases l <;> rfl

theorem valRefs_reloc (off : Nat) (v : CVal) : valRefs (relocVal off v) = (valRefs v).map (· + off) := by
  cases v with
  | leaf l => exact leafRefs_reloc off l
  | dict es => simp [valRefs, relocVal, List.flatMap_map, List.map_flatMap, leafRefs_reloc]

theorem secRefs_reloc (off : Nat) (sec : Section) : secRefs (relocSec off sec) = (secRefs sec).map (· + off) := by
  simp [secRefs, relocSec, List.flatMap_map, List.map_flatMap, valRefs_reloc]

theorem relocSec_wf (off n : Nat) (sec : Section) (h : secWf n sec = true) : secWf (off + n) (relocSec off sec) = true := by
  simp only [secWf, secRefs_reloc, List.all_map, List.all_eq_true, decide_eq_true_eq, Function.comp_apply] at h ⊢
  exact fun a ha => by have := h a ha; omega

theorem docWf_get {d : Doc} (hd : docWf d = true) {k : Str} {sec : Section} (h : aget d.sections k = some sec) :
    secWf d.cells.length sec = true := by
  have hm := aget_mem h
  simp only [docWf, List.all_eq_true] at hd
  exact hd _ hm

theorem load_extends {env : Env} (hd : docWf env.doc = true) {p p' : Proc} (hi : Inv env p) (target : Str)
    (ov : List (Str × OVal)) (hl : load env p target ov = .ok p') : Extends env p p' := by
  unfold load at hl
  simp only at hl
  cases hg : aget (env.doc.sections.map (fun e => (e.1, relocSec p.heap.length e.2))) target with
  | none => simp [hg] at hl
  | some tsec =>
    simp only [hg, Except.ok.injEq] at hl
    subst hl
    have hrel : ∀ k sec, aget (env.doc.sections.map (fun e => (e.1, relocSec p.heap.length e.2))) k = some sec →
        secWf (p.heap ++ env.doc.cells).length sec = true := by
      intro k sec hk
      obtain ⟨e, he, heq⟩ := List.mem_map.mp (aget_mem hk)
      cases heq
      simpa using relocSec_wf p.heap.length _ e.2 (List.all_eq_true.mp hd e he)
    obtain ⟨g1, g2⟩ := applyOverrides_frame (p.heap ++ env.doc.cells) tsec ov (hrel target tsec hg)
    have e1 := Extends.append hi ((List.prefix_append _ _).trans g1)
    refine e1.trans (Extends.pushCtx e1.inv _ fun lang sec hs => ?_)
    rw [aget_dset] at hs
    split at hs
    · cases hs
      exact g2
    · exact secWf_mono g1.length_le (hrel lang sec hs)

theorem step_extends {env : Env} (hd : docWf env.doc = true) {p : Proc} (hi : Inv env p) (op : Op) :
    Extends env p (step env p op) := by
  cases op with
  | load t ov =>
    simp only [step]
    cases hl : load env p t ov with
    | ok p' => exact load_extends hd hi t ov hl
    | error e => exact Extends.refl hi
  | use ci lang inst ty => exact (use_spec hi ci lang inst ty).1

theorem run_extends {env : Env} (hd : docWf env.doc = true) (ops : List Op) {p : Proc} (hi : Inv env p) :
    Extends env p (run env p ops) := by
  induction ops generalizing p with
  | nil => exact Extends.refl hi
  | cons op rest ih =>
    have h1 := step_extends hd hi op
    exact h1.trans (ih h1.inv)

theorem relocSec_dset (off : Nat) (sec : Section) (k : Str) (v : CVal) :
    relocSec off (dset sec k v) = dset (relocSec off sec) k (relocVal off v) :=
  dset_map (relocVal off) sec k v

theorem relocEntries_dset (off : Nat) (es : List (Str × Leaf)) (k : Str) (l : Leaf) :
    relocEntries off (dset es k l) = dset (relocEntries off es) k (relocLeaf off l) :=
  dset_map (relocLeaf off) es k l

theorem mergeEntries_reloc (off : Nat) (target src : List (Str × Leaf)) :
    relocEntries off (mergeEntries target src) = mergeEntries (relocEntries off target) (relocEntries off src) := by
  induction src generalizing target with
  | nil => rfl
  | cons e rest ih =>
    obtain ⟨k, l⟩ := e
    simp only [relocEntries_cons, mergeEntries]
    rw [ih, relocEntries_dset]

theorem allocEntries_shift (pre h : Heap) (es : List (Str × List Str)) :
    allocEntries (pre ++ h) es = (pre ++ (allocEntries h es).1, relocEntries pre.length (allocEntries h es).2) := by
  induction es generalizing h with
  | nil => rfl
  | cons e rest ih =>
    obtain ⟨k, xs⟩ := e
    simp only [allocEntries]
    rw [List.append_assoc, ih (h ++ [xs])]
    simp [relocEntries, relocLeaf, Nat.add_comm]

theorem applyOverride_shift (pre h : Heap) (sec : Section) (k : Str) (v : OVal) :
    applyOverride (pre ++ h) (relocSec pre.length sec) k v =
      (pre ++ (applyOverride h sec k v).1, relocSec pre.length (applyOverride h sec k v).2) := by
  cases v with
  | str _ | bool _ | num _ => simp [applyOverride, relocSec_dset, relocVal, relocLeaf]
  | list xs => simp [applyOverride, relocSec_dset, relocVal, relocLeaf, Nat.add_comm]
  | dict es =>
    simp only [applyOverride_dict, allocEntries_shift, getDict_reloc, relocSec_dset, relocVal_dict, mergeEntries_reloc]

theorem applyOverrides_shift (pre h : Heap) (sec : Section) (ov : List (Str × OVal)) :
    applyOverrides (pre ++ h) (relocSec pre.length sec) ov =
      (pre ++ (applyOverrides h sec ov).1, relocSec pre.length (applyOverrides h sec ov).2) := by
  induction ov generalizing h sec with
  | nil => simp [applyOverrides]
  | cons e rest ih =>
    obtain ⟨k, v⟩ := e
    simp only [applyOverrides, applyOverride_shift]
    exact ih _ _

theorem load_eq_standalone (env : Env) (p : Proc) (target : Str) (ov : List (Str × OVal)) :
    (standalone env target ov = none ∧ load env p target ov = .error .keyError) ∨
    (∃ h0 s0, standalone env target ov = some (h0, s0) ∧
      load env p target ov = .ok (Proc.mk (p.heap ++ h0)
        (p.ctxs ++ [Ctx.mk (s0.map (fun e => (e.1, relocSec p.heap.length e.2))) []]) p.encoders p.lru p.hits p.misses)) := by
  unfold standalone load
  simp only [aget_map (relocSec p.heap.length)]
  cases aget env.doc.sections target with
  | none => exact Or.inl ⟨rfl, rfl⟩
  | some tsec =>
    refine Or.inr ⟨_, _, rfl, ?_⟩
    simp only [Option.map_some, applyOverrides_shift]
    rw [dset_map (relocSec p.heap.length)]

theorem pureAnswer_append (env : Env) (h ext : Heap) (secs : List (Str × Section)) (lang : Str) (inst : Inst) (ty : Str)
    (hwf : ∀ sec, aget secs lang = some sec → secWf h.length sec = true) :
    pureAnswer env (h ++ ext) secs lang inst ty = pureAnswer env h secs lang inst ty := by
  unfold pureAnswer
  cases hs : aget secs lang with
  | none => rfl
  | some sec =>
    cases env.code lang with
    | none => rfl
    | some lc =>
      simp only
      rw [assemble_append (hwf sec hs)]

theorem pureAnswer_reloc (env : Env) (pre h : Heap) (secs : List (Str × Section)) (lang : Str) (inst : Inst) (ty : Str) :
    pureAnswer env (pre ++ h) (secs.map (fun e => (e.1, relocSec pre.length e.2))) lang inst ty =
      pureAnswer env h secs lang inst ty := by
  unfold pureAnswer
  rw [aget_map (relocSec pre.length)]
  cases aget secs lang with
  | none => rfl
  | some sec =>
    simp only [Option.map_some]
    cases env.code lang with
    | none => rfl
    | some lc => simp only [assemble_reloc]

theorem decCore_ne_nil (fuel n : Nat) (acc : Str) (h : acc ≠ []) : decCore fuel n acc ≠ [] := by
  induction fuel generalizing n acc with
  | zero => simpa [decCore] using h
  | succ f ih =>
    simp only [decCore]
    split
    · simp
    · exact ih _ _ (by simp)

theorem decimal_ne_nil (n : Nat) : decimal n ≠ [] := by
  unfold decimal
  simp only [decCore]
  split
  · simp
  · exact decCore_ne_nil _ _ _ (by simp)

theorem atomStr_ne_nil (a : Atom) (h : ∀ s, a ≠ .text s) : atomStr a ≠ [] := by
  cases a with
  | text s => exact absurd rfl (h s)
  | int neg n =>
    simp only [atomStr]
    split
    · simp
    · exact decimal_ne_nil n
  | bool b => cases b <;> simp [atomStr, sTrue, sFalse]
  | none => simp [atomStr, sNone]

theorem lookup_allOnly (m : List (Str × List Re)) (k : Str) (hk : k = tyAll ∨ lookup m k = none) :
    lookup (match lookup m tyAll with | some v => [(tyAll, v)] | none => []) k = lookup m k := by
  cases ha : lookup m tyAll with
  | none =>
    rcases hk with rfl | hk
    · simp [lookup, ha]
    · simp [lookup, hk]
  | some v =>
    rcases hk with rfl | hk
    · simp [lookup, ha]
    · by_cases hka : tyAll = k
      · subst hka; rw [ha] at hk; cases hk
      · simp [lookup, hka, hk]

section sample
open NunavutVerif.Gen.StropGlue

def codes (x : String) : Str := x.toList.map Char.toNat

/-- two contexts, the second with an override; four calls, of which three build an encoder and the last is refused -/
def sampleHistory : List Op :=
  [.load (codes "c") [], .use 0 (codes "c") (.plain (.text (codes "for"))) (codes "any"),
   .load (codes "cpp") [(codes "stropping_suffix", .str (codes "_s"))],
   .use 1 (codes "cpp") (.named (.text (codes "std"))) (codes "any"),
   .use 0 (codes "cpp") (.plain (.int false 7)) (codes "any"), .use 0 (codes "c") (.plain (.text (codes "x"))) (codes "all")]

/-- What three calls after the sample history show: a cache hit in each context, and a miss that neither builds an
encoder nor sees the other context's override.  One statement, so that the history is evaluated once. -/
theorem sampleHistory_observed :
    (use env (run env Proc.init sampleHistory) 0 (codes "c") (.plain (.text (codes "for"))) (codes "any")).2
      = ⟨.ok (codes "_for"), false, true⟩ ∧
    (use env (run env Proc.init sampleHistory) 1 (codes "cpp") (.plain (.text (codes "std"))) (codes "any")).2
      = ⟨.ok (codes "_std_s"), false, true⟩ ∧
    (use env (run env Proc.init sampleHistory) 0 (codes "cpp") (.plain (.text (codes "std"))) (codes "any")).2
      = ⟨.ok (codes "_std"), false, false⟩ := by
  decide +kernel

end sample

end NunavutVerif.StropGlue
