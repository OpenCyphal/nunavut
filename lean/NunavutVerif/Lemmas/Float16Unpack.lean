import NunavutVerif.Lemmas.Float16Pack
/-!
`unpack` in arithmetic form: it factors through the sign and the magnitude `h % 2^15`; the scaling by `2^112` is
exact on every magnitude, and infinity / NaN patterns keep their mantissa under the all-ones exponent.  Hence every
packer that obeys `MagLaw` inverts it (`gen_roundtrip`).
-/
namespace NunavutVerif.Float16

/-- `unpack` on the magnitude `p = h % 2^15`. -/
def unpackMag (p : Nat) : Nat :=
  let o := f32mul (p * 8192) 0x77800000
  if 1199570944 ≤ o then o ||| 2139095040 else o

theorem unpackMag_lt (p : Nat) : unpackMag p < 2147483648 := by
  have := f32mul_le (p * 8192) 0x77800000
  simp only [unpackMag]
  split
  · exact Nat.or_lt_two_pow (n := 31) (by omega) (by omega)
  · omega

theorem unpack_eq (h : Nat) (hh : h < 65536) : unpack h = unpackMag (h % 32768) + h / 32768 * 2147483648 := by
  have e1 : h &&& 0x7FFF = h % 32768 := Nat.and_two_pow_sub_one_eq_mod h 15
  have e2 : h &&& 0x8000 = h / 32768 * 32768 := and_top_bit h 15 hh
  have e3 : h / 32768 * 32768 * 2 ^ 16 = h / 32768 * 2 ^ 31 := by omega
  simp only [unpack, e1, e2, Nat.shiftLeft_eq, e3, show (2:Nat) ^ 13 = 8192 from rfl, cond_eq_ite, Nat.ble_eq]
  exact or_high _ _ 31 (unpackMag_lt _)

theorem unpack_lt (h : Nat) (hh : h < 65536) : unpack h < 4294967296 := by
  have := unpackMag_lt (h % 32768)
  rw [unpack_eq h hh]; omega

theorem unpack_mod (h : Nat) (hh : h < 65536) : unpack h % 2147483648 = unpackMag (h % 32768) := by
  have := unpackMag_lt (h % 32768)
  rw [unpack_eq h hh]; omega

theorem unpack_div (h : Nat) (hh : h < 65536) : unpack h / 2147483648 = h / 32768 := by
  have := unpackMag_lt (h % 32768)
  rw [unpack_eq h hh]; omega

theorem unpack_neg (h : Nat) (hh : h < 65536) : F32.neg (unpack h) = F16.neg h := by
  have hd := unpack_div h hh
  rw [Bool.eq_iff_iff, F32.neg_iff _ (unpack_lt h hh), F16.neg_iff h hh]
  omega

theorem unpack_mul_mag (p : Nat) (hp : p < 32768) : F32.mag (f32mul (p * 8192) 0x77800000) = F16.mag p := by
  exact (f32mul_pow2_exact (p * 8192) 239 _ (by omega) (by omega) (by omega) (by omega)
    (by rw [F16.mag_scaled p hp, two_pow_merge _ 112 127 239 rfl])).2

theorem unpackMag_finite (p : Nat) (hp : p < 31744) : unpackMag p < 2139095040 ∧ F32.mag (unpackMag p) = F16.mag p := by
  have hm := unpack_mul_mag p (by omega)
  -- the product is below `65536.0f`, the value of the half pattern `0x7C00`
  have h3 : f32mul (p * 8192) 0x77800000 < 1199570944 := Nat.lt_of_not_le fun c => by
    have := (F32.mag_le_iff _ _ (by omega) (Nat.lt_of_le_of_lt (f32mul_le _ _) (by omega))).2 c
    rw [hm, show (1199570944 : Nat) = (31744 + 114688) * 8192 by decide, embed 31744 (by omega) (by omega)] at this
    exact Nat.not_le_of_lt (F16.mag_strict p 31744 hp (by omega)) this
  simp only [unpackMag, if_neg (Nat.not_le_of_lt h3)]
  exact ⟨by omega, hm⟩

/-- Infinity and NaNs: the product has the exponent field 143, which is contained in 255, and the mantissa passes. -/
theorem unpackMag_top (p : Nat) (h1 : 31744 ≤ p) (h2 : p < 32768) :
    unpackMag p = 2139095040 + (p - 31744) * 8192 := by
  have hm : f32mul (p * 8192) 0x77800000 = (p + 114688) * 8192 :=
    F32.mag_inj _ _ (Nat.lt_of_le_of_lt (f32mul_le _ _) (by omega)) (by omega)
      (by rw [unpack_mul_mag p h2, embed p (by omega) h2])
  simp only [unpackMag, hm]
  rw [if_pos (by omega)]
  have hb : (p - 31744) * 8192 < 2 ^ 23 := by omega
  rw [show (p + 114688) * 8192 = 2 ^ 23 * 143 + (p - 31744) * 8192 by omega, Nat.two_pow_add_eq_or_of_lt hb,
    Nat.or_assoc, Nat.or_comm _ 2139095040, ← Nat.or_assoc,
    show 2 ^ 23 * 143 ||| 2139095040 = 2 ^ 23 * 255 by decide, ← Nat.two_pow_add_eq_or_of_lt hb]

section
variable {f g : Nat → Nat} (P : Packs f g) (L : MagLaw g)
include P L

theorem gen_roundtrip (h : Nat) (hh : h < 65536) :
    (F16.isNaN h = false → f (unpack h) = h) ∧ (F16.isNaN h = true → F16.isNaN (f (unpack h)) = true) := by
  have hu := unpack_lt h hh
  have hm := unpack_mod h hh
  have hd := unpack_div h hh
  constructor
  · intro hn
    have hn' := (F16.isNaN_false_iff h).1 hn
    have hg : g (unpack h % 2147483648) = h % 32768 := by
      by_cases hi : h % 32768 = 31744
      · rw [hm, hi, unpackMag_top 31744 (by omega) (by omega)]; exact L.inf
      · refine gen_exact L _ _ (by omega) ?_
        rw [F32.mag_mod, hm]; exact (unpackMag_finite _ (by omega)).2
    rw [P _ hu, hg, hd]; omega
  · intro hn
    have hn' := (F16.isNaN_iff h).1 hn
    rw [gen_nan P L _ hu, F32.isNaN_iff, hm, unpackMag_top _ (by omega) (by omega)]
    omega

end
end NunavutVerif.Float16
