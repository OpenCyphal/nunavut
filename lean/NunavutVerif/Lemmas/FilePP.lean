import NunavutVerif.Model.FilePP
/-!
A call of a built-in file post-processor leaves the object as it was (`callReal_pure`), so the operations issued for a
file do not depend on the files before it; each of those operations is about that file (`EvAt`), so an in-place editor
leaves every other file alone (frame) and what becomes of the file depends on it and the protected paths only (locality).
Hence the file at `j.path` after a whole run is the file after generating `j` alone (`run_file_independent`).
-/
namespace NunavutVerif.FilePP
open NunavutVerif.LineBuffer (Str)

theorem callReal_pure (py : Str) (ren : Nat → Str → Str) : Sem.Pure (callReal py ren) := by
  intro o p
  cases o <;> rfl

theorem callAll_pure (sem : Sem) (h : Sem.Pure sem) (objs : List Obj) (p : Str) : (callAll sem objs p).2 = objs := by
  fun_induction callAll sem objs p with
  | case1 => rfl
  | case2 o os p hf r rest ih => simp [rest, r, ih, h o p]
  | case3 o os p hf rest ih => simp [rest, ih]

theorem fileEvents_pure (sem : Sem) (h : Sem.Pure sem) (objs : List Obj) (j : Job) :
    (fileEvents sem objs j).2 = objs := by
  unfold fileEvents
  cases j.kind <;> simp [callAll_pure sem h]

theorem runEvents_pure (sem : Sem) (h : Sem.Pure sem) (objs : List Obj) (jobs : List Job) :
    runEvents sem objs jobs = (jobs.map fun j => (fileEvents sem objs j).1, objs) := by
  induction jobs with
  | nil => rfl
  | cons j js ih =>
    unfold runEvents
    simp only [fileEvents_pure sem h, ih, List.map_cons]

section Interp
variable {prog : Prog} {ren : Nat → Str → Str} {dm : Nat}

theorem interp_append (w : World) (a b : List Event) :
    interp prog ren dm w (a ++ b) = interp prog ren dm (interp prog ren dm w a) b := by
  induction a generalizing w with
  | nil => rfl
  | cons e es ih => simp [interp, ih]

theorem step_err_sticky (w : World) (e : Event)
    (h : (step prog ren dm w e).err = none) : w.err = none := by
  cases hw : w.err with
  | none => rfl
  | some x => simp [step, hw] at h

theorem interp_err_sticky (w : World) (evs : List Event)
    (h : (interp prog ren dm w evs).err = none) : w.err = none := by
  induction evs generalizing w with
  | nil => exact h
  | cons e es ih => exact step_err_sticky w e (ih _ h)

/-- The operations the built-in post-processors issue for the file at `p`: everything is about `p`; a command line
names only `p` and paths of `keep`. -/
def EvAt (keep : List Str) (p : Str) : Event → Prop
  | .reset _ => True
  | .raiseUnknown => True
  | .overwrite q _ => q = p
  | .write q _ _ => q = p
  | .copy q _ _ => q = p
  | .chmod q _ => q = p
  | .exec argv _ => argv.getLast? = some p ∧ ∀ a ∈ argv.dropLast, a ∈ keep
  | .custom _ _ => False

theorem FS.set_ne {fs : FS} {p q : Str} {f : Option File} (h : q ≠ p) : (fs.set p f).get q = fs.get q := by
  simp [FS.set, h]

theorem FS.set_eq (fs : FS) (p : Str) (f : Option File) : (fs.set p f).get p = f := by
  simp [FS.set]

theorem step_frame (keep : List Str) (hF : prog.EditsLastOnly keep)
    (w : World) (e : Event) (p q : Str) (he : EvAt keep p e) (hq : q ≠ p) :
    (step prog ren dm w e).fs.get q = w.fs.get q := by
  unfold step
  cases hw : w.err with
  | some x => rfl
  | none =>
    cases e with
    | reset k => rfl
    | raiseUnknown => rfl
    | overwrite p' allow =>
      obtain rfl : p' = p := he
      simp only
      cases w.fs.get p' with
      | none => rfl
      | some f =>
        cases allow
        · rfl
        · exact FS.set_ne hq
    | write p' b l =>
      obtain rfl : p' = p := he
      exact FS.set_ne hq
    | copy p' b m =>
      obtain rfl : p' = p := he
      exact FS.set_ne hq
    | chmod p' m =>
      obtain rfl : p' = p := he
      simp only
      cases w.fs.get p' with
      | none => rfl
      | some f => exact FS.set_ne hq
    | exec argv chk => exact hF argv w.fs q he.2 (he.1 ▸ fun h => hq (Option.some.inj h))
    | custom k p' => exact he.elim

theorem interp_frame (keep : List Str) (hF : prog.EditsLastOnly keep)
    (evs : List Event) (w : World) (q : Str) (he : ∀ e ∈ evs, ∃ p, EvAt keep p e ∧ q ≠ p) :
    (interp prog ren dm w evs).fs.get q = w.fs.get q := by
  induction evs generalizing w with
  | nil => rfl
  | cons e es ih =>
    simp only [interp]
    rw [ih _ (fun e' h' => he e' (List.mem_cons_of_mem _ h'))]
    obtain ⟨p, hp, hne⟩ := he e List.mem_cons_self
    exact step_frame keep hF w e p q hp hne

theorem eq_last_or_mem_dropLast {α : Type} {l : List α} {p a : α} (hl : l.getLast? = some p) (ha : a ∈ l) :
    a = p ∨ a ∈ l.dropLast := by
  obtain ⟨ys, rfl⟩ := List.getLast?_eq_some_iff.mp hl
  simpa [or_comm] using ha

def Agree (keep : List Str) (p : Str) (w w' : World) : Prop :=
  w.err = w'.err ∧ ∀ q, (q = p ∨ q ∈ keep) → w.fs.get q = w'.fs.get q

theorem step_local (keep : List Str) (hF : prog.EditsLastOnly keep)
    (hL : prog.Local) (w w' : World) (e : Event) (p : Str) (he : EvAt keep p e) (h : Agree keep p w w') :
    Agree keep p (step prog ren dm w e) (step prog ren dm w' e) := by
  obtain ⟨herr, hfs⟩ := h
  -- off `p` the operation changes nothing in either world (`step_frame`): what is left is the error and the file at `p`
  suffices hs : (step prog ren dm w e).err = (step prog ren dm w' e).err ∧
      (step prog ren dm w e).fs.get p = (step prog ren dm w' e).fs.get p by
    refine ⟨hs.1, fun q hq => ?_⟩
    by_cases hqp : q = p
    · rw [hqp]; exact hs.2
    · rw [step_frame keep hF w e p q he hqp, step_frame keep hF w' e p q he hqp]
      exact hfs q hq
  have hp := hfs p (Or.inl rfl)
  unfold step
  rw [← herr]
  cases hw : w.err with
  | some x => exact ⟨herr, hp⟩
  | none =>
    cases e with
    | reset k => exact ⟨rfl, hp⟩
    | raiseUnknown => exact ⟨rfl, hp⟩
    | overwrite p' allow =>
      obtain rfl : p' = p := he
      simp only [← hp]
      cases w.fs.get p' with
      | none => exact ⟨rfl, hp⟩
      | some f => cases allow <;> simp [FS.set_eq, hp]
    | write p' b l =>
      obtain rfl : p' = p := he
      simp only [← hp, FS.set_eq, and_self]
    | copy p' b m =>
      obtain rfl : p' = p := he
      simp only [FS.set_eq, and_self]
    | chmod p' m =>
      obtain rfl : p' = p := he
      simp only [← hp]
      cases w.fs.get p' with
      | none => exact ⟨rfl, hp⟩
      | some f => simp only [FS.set_eq, and_self]
    | exec argv chk =>
      -- the program sees the same files under the names on its command line: `p` and protected paths
      obtain ⟨hl1, hl2⟩ := hL argv w.fs w'.fs fun a ha => hfs a ((eq_last_or_mem_dropLast he.1 ha).imp_right (he.2 a))
      exact ⟨by simp only [hl2], hl1 p (List.mem_of_getLast? he.1)⟩
    | custom k p' => exact he.elim

theorem interp_local (keep : List Str) (hF : prog.EditsLastOnly keep)
    (hL : prog.Local) (evs : List Event) (w w' : World) (p : Str) (he : ∀ e ∈ evs, EvAt keep p e)
    (h : Agree keep p w w') : Agree keep p (interp prog ren dm w evs) (interp prog ren dm w' evs) := by
  induction evs generalizing w w' with
  | nil => exact h
  | cons e es ih =>
    simp only [interp]
    exact ih _ _ (fun e' h' => he e' (List.mem_cons_of_mem _ h'))
      (step_local keep hF hL w w' e p (he e List.mem_cons_self) h)

theorem runArgs_cases (py : Str) (cmd : Argv) (p : Str) :
    runArgs py cmd p = (py :: cmd) ++ [p] ∨ runArgs py cmd p = cmd ++ [p] := by
  unfold runArgs
  simp only
  generalize (match (cmd ++ [p]).head? with | some a => endsWithPy a | none => false) = c
  cases c <;> simp

theorem runArgs_last (py : Str) (cmd : Argv) (p : Str) : (runArgs py cmd p).getLast? = some p := by
  rcases runArgs_cases py cmd p with h | h <;> rw [h] <;> exact List.getLast?_concat

theorem runArgs_dropLast (py : Str) (cmd : Argv) (p a : Str) (h : a ∈ (runArgs py cmd p).dropLast) :
    a = py ∨ a ∈ cmd := by
  rcases runArgs_cases py cmd p with h' | h' <;> rw [h', List.dropLast_concat] at h
  · simpa using h
  · exact Or.inr h

theorem callAll_builtin_events (py : Str) (ren : Nat → Str → Str) (keep : List Str) (objs : List Obj) (p : Str)
    (hb : builtinOnly objs = true) (hk : py :: cfgArgs objs ⊆ keep) :
    ∀ e ∈ (callAll (callReal py ren) objs p).1, EvAt keep p e := by
  induction objs with
  | nil => exact fun _ h => absurd h List.not_mem_nil
  | cons o os ih =>
    cases o with
    | line k => exact ih hb hk
    | setMode m => exact List.forall_mem_cons.mpr ⟨rfl, ih hb hk⟩
    | ext cmd chk =>
      -- the command line: interpreter and configured words, all protected, then `p`
      have ⟨hpy, hcfg⟩ := List.cons_subset.mp hk
      have ⟨hcmd, hos⟩ := List.append_subset.mp hcfg
      refine List.forall_mem_cons.mpr ⟨⟨runArgs_last py cmd p, fun a ha => ?_⟩, ih hb (List.cons_subset.mpr ⟨hpy, hos⟩)⟩
      rcases runArgs_dropLast py cmd p a ha with rfl | h
      · exact hpy
      · exact hcmd h
    | custom k => cases hb
    | unknown k => cases hb

theorem classify_events (keep : List Str) (p : Str) (objs : List Obj) : ∀ e ∈ classify objs, EvAt keep p e := by
  induction objs with
  | nil => exact fun _ h => absurd h List.not_mem_nil
  | cons o os ih =>
    cases o with
    | line k => exact List.forall_mem_cons.mpr ⟨trivial, ih⟩
    | unknown k => exact List.forall_mem_singleton.mpr trivial
    | setMode | ext | custom => exact ih

theorem fileEvents_builtin_events (py : Str) (ren : Nat → Str → Str) (objs : List Obj) (j : Job)
    (hb : builtinOnly objs = true) :
    ∀ e ∈ (fileEvents (callReal py ren) objs j).1, EvAt (py :: cfgArgs objs) j.path e := by
  have hc := callAll_builtin_events py ren _ objs j.path hb (List.Subset.refl _)
  have hcl := classify_events (py :: cfgArgs objs) j.path objs
  unfold fileEvents
  cases j.kind with
  | generate =>
    simp only [List.forall_mem_append, List.forall_mem_cons]
    exact ⟨⟨hcl, rfl, rfl, fun _ h => absurd h List.not_mem_nil⟩, hc⟩
  | copy m =>
    simp only [List.forall_mem_append, List.forall_mem_singleton]
    refine ⟨⟨⟨?_, rfl⟩, ?_⟩, hc⟩
    · -- the `raise` for an object of neither kind
      split
      · exact List.forall_mem_singleton.mpr trivial
      · exact fun _ h => absurd h List.not_mem_nil
    · -- a plain copy, or the resets and the write through the line post-processors
      split
      · exact List.forall_mem_singleton.mpr rfl
      · exact List.forall_mem_append.mpr ⟨List.forall_mem_map.mpr fun _ _ => trivial, List.forall_mem_singleton.mpr rfl⟩

theorem interp_jobs_frame (py : Str) (objs : List Obj)
    (hb : builtinOnly objs = true) (hF : prog.EditsLastOnly (py :: cfgArgs objs)) (js : List Job) (w : World) (q : Str)
    (hq : ∀ k ∈ js, k.path ≠ q) :
    (interp prog ren dm w (js.map fun k => (fileEvents (callReal py ren) objs k).1).flatten).fs.get q = w.fs.get q := by
  apply interp_frame _ hF
  intro e he
  obtain ⟨evs, hevs, hmem⟩ := List.mem_flatten.mp he
  obtain ⟨k, hk, rfl⟩ := List.mem_map.mp hevs
  exact ⟨k.path, fileEvents_builtin_events py ren objs k hb e hmem, (hq k hk).symm⟩

theorem run_file_independent (py : Str) (objs : List Obj)
    (hb : builtinOnly objs = true) (hF : prog.EditsLastOnly (py :: cfgArgs objs)) (hL : prog.Local)
    (pre post : List Job) (j : Job)
    (hout : ∀ k ∈ pre ++ j :: post, k.path ∉ py :: cfgArgs objs)
    (hd : ∀ k ∈ pre ++ post, k.path ≠ j.path)
    (fs fs' : FS) (hagree : ∀ q, (q = j.path ∨ q ∈ py :: cfgArgs objs) → fs.get q = fs'.get q)
    (hok : (runWorld prog ren dm (callReal py ren) objs (pre ++ j :: post) fs).err = none) :
    (runWorld prog ren dm (callReal py ren) objs (pre ++ j :: post) fs).fs.get j.path =
      (fileWorld prog ren dm (callReal py ren) objs j fs').fs.get j.path ∧
    (fileWorld prog ren dm (callReal py ren) objs j fs').err = none := by
  unfold runWorld fileWorld at *
  rw [runEvents_pure _ (callReal_pure py ren)] at hok ⊢
  simp only [List.map_append, List.map_cons, List.flatten_append, List.flatten_cons, interp_append] at hok ⊢
  -- three stages: the files before `j`, `j` itself, the files after it
  generalize hw1 : interp prog ren dm ⟨fs, [], none⟩
    (List.map (fun j => (fileEvents (callReal py ren) objs j).1) pre).flatten = w1 at hok ⊢
  generalize hw2 : interp prog ren dm w1 (fileEvents (callReal py ren) objs j).1 = w2 at hok ⊢
  have herr2 : w2.err = none := interp_err_sticky w2 _ hok
  have herr1 : w1.err = none := interp_err_sticky w1 _ (hw2 ▸ herr2)
  -- stage 1 leaves `j.path` and the protected paths alone, so stage 2 runs as it does from `fs'`
  have hag : Agree (py :: cfgArgs objs) j.path w1 ⟨fs', [], none⟩ := by
    refine ⟨herr1, fun q hq => ?_⟩
    rw [← hw1, interp_jobs_frame py objs hb hF pre _ q ?_]
    · exact hagree q hq
    · intro k hk e
      rcases hq with rfl | hq
      · exact hd k (List.mem_append_left _ hk) e
      · exact hout k (List.mem_append_left _ hk) (e ▸ hq)
  have hloc := interp_local (ren := ren) (dm := dm) _ hF hL _ w1 ⟨fs', [], none⟩ j.path
    (fileEvents_builtin_events py ren objs j hb) hag
  rw [hw2] at hloc
  -- stage 3 leaves `j.path` alone
  rw [interp_jobs_frame py objs hb hF post w2 j.path fun k hk => hd k (List.mem_append_right _ hk)]
  exact ⟨hloc.2 j.path (Or.inl rfl), hloc.1 ▸ herr2⟩

theorem builtinOnly_append (a b : List Obj) : builtinOnly (a ++ b) = (builtinOnly a && builtinOnly b) := by
  induction a with
  | nil => rfl
  | cons o os ih =>
    cases o with
    | line | setMode | ext => exact ih
    | custom | unknown => rfl

theorem callAll_append_builtin (py : Str) (ren : Nat → Str → Str) (a b : List Obj) (p : Str)
    (hb : builtinOnly a = true) :
    (callAll (callReal py ren) (a ++ b) p).1 = (callAll (callReal py ren) a p).1 ++ (callAll (callReal py ren) b p).1 := by
  induction a with
  | nil => rfl
  | cons o os ih =>
    cases o with
    | line k => exact ih hb
    | setMode m => exact congrArg (_ :: ·) (ih hb)
    | ext cmd chk => exact congrArg (_ :: ·) (ih hb)
    | custom k => cases hb
    | unknown k => cases hb

theorem fileEvents_setMode_last (py : Str) (ren : Nat → Str → Str) (front : List Obj) (mode : Nat) (j : Job)
    (hb : builtinOnly front = true) :
    ∃ evs, (fileEvents (callReal py ren) (front ++ [.setMode mode]) j).1 = evs ++ [.chmod j.path mode] := by
  have hc := callAll_append_builtin py ren front [.setMode mode] j.path hb
  have hlast : (callAll (callReal py ren) [.setMode mode] j.path).1 = [.chmod j.path mode] := rfl
  unfold fileEvents
  cases j.kind <;> simp only [hc, hlast] <;> exact ⟨_, (List.append_assoc _ _ _).symm⟩

theorem step_chmod_ok (prog : Prog) (ren : Nat → Str → Str) (dm : Nat) (w : World) (p : Str) (m : Nat)
    (h : (step prog ren dm w (.chmod p m)).err = none) :
    ((step prog ren dm w (.chmod p m)).fs.get p).map File.mode = some m := by
  have hw := step_err_sticky w _ h
  unfold step at h ⊢
  simp only [hw] at h ⊢
  cases hf : w.fs.get p with
  | none => simp [hf] at h
  | some f => simp [FS.set_eq]

end Interp

/-! ### The recording program of the tie is an in-place editor in the sense of the hypotheses (non-vacuity) -/

theorem stubEdit_ne (marker : Nat → Str) (fs : FS) (l q : Str) (h : q ≠ l) : (stubEdit marker fs l).get q = fs.get q := by
  unfold stubEdit
  cases fs.get l with
  | none => rfl
  | some f => exact FS.set_ne h

theorem stubProg_editsLastOnly (marker : Nat → Str) (failOn keep : List Str) :
    (stubProg marker false failOn).EditsLastOnly keep := by
  intro argv fs q _ hq
  unfold stubProg
  simp only [Bool.false_eq_true, if_false]
  cases hl : argv.getLast? with
  | none => rfl
  | some l =>
    rw [hl] at hq
    simp only [List.foldl]
    exact stubEdit_ne marker fs l q (fun h => hq (by rw [h]))

theorem stubProg_local (marker : Nat → Str) (failOn : List Str) : (stubProg marker false failOn).Local := by
  intro argv fs fs' hag
  unfold stubProg
  simp only [Bool.false_eq_true, if_false]
  cases hl : argv.getLast? with
  | none => exact ⟨fun p hp => hag p hp, trivial⟩
  | some l =>
    refine ⟨fun p hp => ?_, trivial⟩
    simp only [List.foldl]
    have hlmem : l ∈ argv := List.mem_of_getLast? hl
    by_cases hpl : p = l
    · subst hpl
      unfold stubEdit
      rw [← hag p hp]
      cases fs.get p with
      | none => simp [hag p hp]
      | some f => simp [FS.set_eq]
    · rw [stubEdit_ne marker fs l p hpl, stubEdit_ne marker fs' l p hpl]
      exact hag p hp

end NunavutVerif.FilePP
