import NunavutVerif.Lemmas.BitsC
/-!
The *footprint* of a buffer operation of `Model/Bits.lean`.  `memmove`, `memset0`, `copyLoop`, `nunavutCopyBits` and
`nunavutGetBits` are sequences of checked byte accesses whose indices do not depend on the data.  `Frame F nS nD` says
that `F src dst` (`src` read, `dst` read and written, the result the new `dst`) fails unless `src` has `nS` and `dst`
has `nD` bytes, never looks at `src` from byte `nS` on and leaves `dst` from byte `nD` on as it is; the footprint of a
sequence is the maximum of the footprints.  The first field is the *converse* of the size precondition
(`copyBits_ok_inv`: a successful copy of at least one bit touched the last byte of both ranges), which is what puts
the byte ranges `(off + len + 7) / 8` of the overlap assertions inside the two objects.  `Lemmas/BitsC.lean` says what a
primitive does when its precondition holds; this file says what follows from its having succeeded.  Only the address-
and override-aware transcription of the C target (`Lemmas/GenCXSim.lean` on) asks that, hence a module of its own.
-/
namespace NunavutVerif.Bits

theorem get?_ok_lt {b : Buf} {i x : Nat} (h : get? b i = .ok x) : i < b.length :=
  (List.getElem?_eq_some_iff.mp (get?_eq_ok.mp h)).1

theorem set?_ok_inv {b : Buf} {i v : Nat} {r : Buf} (h : set? b i v = .ok r) : i < b.length ∧ r.length = b.length := by
  unfold set? at h
  by_cases hi : i < b.length
  · rw [if_pos hi] at h
    cases h
    exact ⟨hi, List.length_set⟩
  · rw [if_neg hi] at h
    cases h

theorem get?_append_left {p x : Buf} {i : Nat} (h : i < p.length) : get? (p ++ x) i = get? p i := by
  simp [get?, List.getElem?_append_left h]

def appR (x : Buf) (r : Except Err Buf) : Except Err Buf :=
  match r with
  | .error e => .error e
  | .ok b => .ok (b ++ x)

theorem set?_append_left {q x : Buf} {i v : Nat} (h : i < q.length) : set? (q ++ x) i v = appR x (set? q i v) := by
  have h' : i < q.length + x.length := Nat.lt_add_right _ h
  simp [set?, h, h', appR, List.set_append_left _ _ h]

structure Frame (F : Buf → Buf → Except Err Buf) (nS nD : Nat) : Prop where
  inv : ∀ {src dst r}, F src dst = .ok r → r.length = dst.length ∧ nS ≤ src.length ∧ nD ≤ dst.length
  src : ∀ {p : Buf} (x y dst : Buf), nS ≤ p.length → F (p ++ x) dst = F (p ++ y) dst
  dst : ∀ (src : Buf) {q : Buf} (z : Buf), nD ≤ q.length → F src (q ++ z) = appR z (F src q)

namespace Frame
variable {F G : Buf → Buf → Except Err Buf} {a b a' b' : Nat}

theorem ok : Frame (fun _ dst => .ok dst) 0 0 :=
  ⟨fun h => (by cases h; exact ⟨rfl, Nat.zero_le _, Nat.zero_le _⟩), fun _ _ _ _ => rfl, fun _ _ _ _ => rfl⟩

theorem error (e : Err) (a b : Nat) : Frame (fun _ _ => .error e) a b :=
  ⟨(fun h => nomatch h), fun _ _ _ _ => rfl, fun _ _ _ _ => rfl⟩

theorem congr (h : Frame F a b) (ha : a = a') (hb : b = b') : Frame F a' b' := ha ▸ hb ▸ h

theorem seq (hF : Frame F a b) (hG : Frame G a' b') : Frame (fun s d => F s d >>= G s) (max a a') (max b b') where
  inv h := by
    obtain ⟨d1, hf, h⟩ := bind_eq_ok.mp h
    have h1 := hF.inv hf
    have h2 := hG.inv h
    exact ⟨h2.1.trans h1.1, Nat.max_le.mpr ⟨h1.2.1, h2.2.1⟩, Nat.max_le.mpr ⟨h1.2.2, h1.1 ▸ h2.2.2⟩⟩
  src {p} x y d hp := by
    show F _ d >>= _ = F _ d >>= _
    rw [hF.src x y d (Nat.le_trans (Nat.le_max_left _ _) hp)]
    cases F (p ++ y) d with
    | error e => rfl
    | ok d1 => exact hG.src x y d1 (Nat.le_trans (Nat.le_max_right _ _) hp)
  dst s {q} z hq := by
    show F s _ >>= _ = _
    rw [hF.dst s z (Nat.le_trans (Nat.le_max_left _ _) hq)]
    cases hf : F s q with
    | error e => rfl
    | ok d1 => exact hG.dst s z ((hF.inv hf).1 ▸ Nat.le_trans (Nat.le_max_right _ _) hq)

theorem get_src (i : Nat) {G : Nat → Buf → Buf → Except Err Buf} (hG : ∀ v, Frame (G v) a b) :
    Frame (fun s d => get? s i >>= fun v => G v s d) (max (i + 1) a) b where
  inv h := by
    obtain ⟨v, hg, h⟩ := bind_eq_ok.mp h
    have h2 := (hG v).inv h
    exact ⟨h2.1, Nat.max_le.mpr ⟨get?_ok_lt hg, h2.2.1⟩, h2.2.2⟩
  src {p} x y d hp := by
    have hi : i < p.length := Nat.le_trans (Nat.le_max_left _ _) hp
    show get? _ i >>= _ = get? _ i >>= _
    rw [get?_append_left hi, get?_append_left hi]
    cases get? p i with
    | error e => rfl
    | ok v => exact (hG v).src x y d (Nat.le_trans (Nat.le_max_right _ _) hp)
  dst s {q} z hq := by
    show get? s i >>= _ = _
    cases get? s i with
    | error e => rfl
    | ok v => exact (hG v).dst s z hq

theorem get_dst (j : Nat) {G : Nat → Buf → Buf → Except Err Buf} (hG : ∀ v, Frame (G v) a b) :
    Frame (fun s d => get? d j >>= fun v => G v s d) a (max (j + 1) b) where
  inv h := by
    obtain ⟨v, hg, h⟩ := bind_eq_ok.mp h
    have h2 := (hG v).inv h
    exact ⟨h2.1, h2.2.1, Nat.max_le.mpr ⟨get?_ok_lt hg, h2.2.2⟩⟩
  src {p} x y d hp := by
    show get? d j >>= _ = get? d j >>= _
    cases get? d j with
    | error e => rfl
    | ok v => exact (hG v).src x y d hp
  dst s {q} z hq := by
    have hj : j < q.length := Nat.le_trans (Nat.le_max_left _ _) hq
    show get? _ j >>= _ = _
    rw [get?_append_left hj]
    cases get? q j with
    | error e => rfl
    | ok v => exact (hG v).dst s z (Nat.le_trans (Nat.le_max_right _ _) hq)

theorem set_dst (j v : Nat) : Frame (fun _ d => set? d j v) 0 (j + 1) where
  inv h := ⟨(set?_ok_inv h).2, Nat.zero_le _, (set?_ok_inv h).1⟩
  src _ _ _ _ := rfl
  dst _ _ _ hq := set?_append_left hq

end Frame

/-- end of an access range that is empty for `n = 0` -/
def upTo (n e : Nat) : Nat := if n = 0 then 0 else e

theorem upTo_pos {n e : Nat} (h : 0 < n) : upTo n e = e := if_neg (Nat.ne_of_gt h)

theorem Frame.inv_upTo {F : Buf → Buf → Except Err Buf} {n eS eD : Nat} (hF : Frame F (upTo n eS) (upTo n eD))
    {src dst r : Buf} (h : F src dst = .ok r) : r.length = dst.length ∧ (0 < n → eS ≤ src.length ∧ eD ≤ dst.length) := by
  have := hF.inv h
  refine ⟨this.1, fun hn => ?_⟩
  rw [upTo_pos hn, upTo_pos hn] at this
  exact this.2

theorem upTo_le (n e : Nat) : upTo n e ≤ e := by
  unfold upTo
  split
  · exact Nat.zero_le _
  · exact Nat.le_refl _

theorem max_succ_upTo (p n : Nat) : max (p + 1) (upTo n (p + 1 + n)) = p + (n + 1) := by
  cases n with
  | zero => exact Nat.max_eq_left (Nat.zero_le _)
  | succ n => exact (Nat.max_eq_right (Nat.le_add_right _ _)).trans (Nat.add_right_comm p 1 _)

theorem memmove_frame (n : Nat) : ∀ (pd ps : Nat),
    Frame (fun src dst => memmove dst pd src ps n) (upTo n (ps + n)) (upTo n (pd + n)) := by
  induction n with
  | zero => intro pd ps; exact Frame.ok
  | succ n ih =>
    intro pd ps
    exact (Frame.get_src ps fun v => (Frame.set_dst pd v).seq (ih (pd + 1) (ps + 1))).congr
      ((congrArg _ (Nat.zero_max _)).trans (max_succ_upTo ps n)) (max_succ_upTo pd n)

theorem memset0_frame (n : Nat) : ∀ (p : Nat), Frame (fun _ dst => memset0 dst p n) 0 (upTo n (p + n)) := by
  induction n with
  | zero => intro p; exact Frame.ok
  | succ n ih => intro p; exact ((Frame.set_dst p 0).seq (ih (p + 1))).congr (Nat.max_self 0) (max_succ_upTo p n)

theorem memmove_ok_inv {n : Nat} {dst : Buf} {pd : Nat} {src : Buf} {ps : Nat} {r : Buf}
    (h : memmove dst pd src ps n = .ok r) :
    r.length = dst.length ∧ (0 < n → ps + n ≤ src.length ∧ pd + n ≤ dst.length) :=
  (memmove_frame n pd ps).inv_upTo h

theorem memset0_ok_len {n : Nat} {dst : Buf} {p : Nat} {r : Buf} (h : memset0 dst p n = .ok r) : r.length = dst.length :=
  ((memset0_frame n p).inv (src := []) h).1

theorem copyLoop_done {fuel : Nat} {dst : Buf} {dOff : Nat} {src : Buf} {sOff lastBit : Nat} (h : ¬ lastBit > sOff) :
    copyLoop fuel dst dOff src sOff lastBit = .ok dst := by
  cases fuel <;> simp [copyLoop, h]

theorem div8_succ_le_ceil {x e : Nat} (h : x < e) : x / 8 + 1 ≤ (e + 7) / 8 := by
  omega

theorem ceil8_last {x n size : Nat} (h0 : 0 < n) (h1 : n ≤ size) (h2 : x % 8 + size ≤ 8) : (x + n + 7) / 8 = x / 8 + 1 := by
  omega

theorem copyLoop_frame (fuel : Nat) : ∀ (dOff sOff lastBit : Nat), lastBit > sOff →
    Frame (fun src dst => copyLoop fuel dst dOff src sOff lastBit) ((lastBit + 7) / 8)
      ((dOff + (lastBit - sOff) + 7) / 8) := by
  induction fuel with
  | zero =>
    intro dOff sOff lastBit hl
    simp only [copyLoop, hl, if_true]
    exact Frame.error _ _ _
  | succ fuel ih =>
    intro dOff sOff lastBit hl
    simp only [copyLoop, hl, if_true]
    generalize hsz : chooseMin (8 - if sOff % 8 > dOff % 8 then sOff % 8 else dOff % 8) (lastBit - sOff) = size
    have hrest := Nat.sub_pos_of_lt hl
    have hb := copySize_bounds (Nat.mod_lt sOff (by decide)) (Nat.mod_lt dOff (by decide)) hrest hsz
    by_cases hmore : lastBit > sOff + size
    · -- the rest of the loop reaches the last byte of both ranges
      have e : dOff + size + (lastBit - (sOff + size)) = dOff + (lastBit - sOff) := by omega
      exact (Frame.get_src (sOff / 8) fun s => Frame.get_dst (dOff / 8) fun d => (Frame.set_dst (dOff / 8) _).seq
        (ih (dOff + size) (sOff + size) lastBit hmore)).congr
        ((Nat.max_eq_right (Nat.le_trans (div8_succ_le_ceil hl) (Nat.le_max_right _ _))).trans (Nat.zero_max _))
        (by rw [e, Nat.max_eq_right (Nat.le_max_left _ _),
          Nat.max_eq_right (div8_succ_le_ceil (Nat.lt_add_of_pos_right hrest))])
    · -- this step is the last one: it ends inside the current byte of both buffers
      have hlast : lastBit - sOff ≤ size := by omega
      simp only [copyLoop_done hmore]
      exact (Frame.get_src (sOff / 8) fun s => Frame.get_dst (dOff / 8) fun d => (Frame.set_dst (dOff / 8) _).seq
        Frame.ok).congr
        (by rw [Nat.max_self, Nat.max_zero, ← ceil8_last hrest hlast hb.2.2.2, Nat.add_sub_cancel' (Nat.le_of_lt hl)])
        (by rw [Nat.max_zero, Nat.max_self, ceil8_last hrest hlast hb.2.2.1])

theorem ceil8_aligned {s len : Nat} (hs : s % 8 = 0) :
    (s + len + 7) / 8 = s / 8 + len / 8 + if len % 8 = 0 then 0 else 1 := by
  split <;> omega

theorem copyBits_frame (dOff len sOff : Nat) :
    Frame (fun src dst => copyBits dst dOff len src sOff) (upTo len ((sOff + len + 7) / 8))
      (upTo len ((dOff + len + 7) / 8)) := by
  by_cases hl : 0 < len
  · rw [upTo_pos hl, upTo_pos hl]
    unfold copyBits
    by_cases hal : sOff % 8 = 0 ∧ dOff % 8 = 0
    · -- whole bytes by `memmove`, then the last byte of the range if bits are left over
      have hm := memmove_frame (len / 8) (dOff / 8) (sOff / 8)
      simp only [if_pos hal, memmove_guard]
      rw [ceil8_aligned hal.1, ceil8_aligned hal.2]
      by_cases hmod : len % 8 = 0
      · have hn : 0 < len / 8 := by omega
        rw [upTo_pos hn, upTo_pos hn] at hm
        simp only [hmod, ne_eq, not_true_eq_false, if_false, if_true]
        exact (hm.seq Frame.ok).congr (Nat.max_zero _) (Nat.max_zero _)
      · simp only [hmod, ne_eq, not_false_eq_true, if_true, if_false]
        exact (hm.seq (Frame.get_dst _ fun ld => Frame.get_src _ fun ls => Frame.set_dst _ _)).congr
          ((congrArg _ (Nat.max_zero _)).trans (Nat.max_eq_right (Nat.le_succ_of_le (upTo_le _ _))))
          ((congrArg _ (Nat.max_self _)).trans (Nat.max_eq_right (Nat.le_succ_of_le (upTo_le _ _))))
    · simp only [if_neg hal]
      have := copyLoop_frame len dOff sOff (sOff + len) (Nat.lt_add_of_pos_right hl)
      rwa [Nat.add_sub_cancel_left] at this
  · obtain rfl : len = 0 := Nat.eq_zero_of_not_pos hl
    simp only [copyBits_zero]
    exact Frame.ok

theorem copyBits_ok_inv {dst : Buf} {dOff len : Nat} {src : Buf} {sOff : Nat} {r : Buf}
    (h : copyBits dst dOff len src sOff = .ok r) :
    r.length = dst.length ∧ (0 < len → (sOff + len + 7) / 8 ≤ src.length ∧ (dOff + len + 7) / 8 ≤ dst.length) :=
  (copyBits_frame dOff len sOff).inv_upTo h

theorem ceil8_le {len n : Nat} (h : len ≤ 8 * n) : (len + 7) / 8 ≤ n := by
  omega

theorem copyBits_src_prefix (dst : Buf) (dOff len : Nat) (p x y : Buf) (sOff : Nat) (h : sOff + len ≤ 8 * p.length) :
    copyBits dst dOff len (p ++ x) sOff = copyBits dst dOff len (p ++ y) sOff :=
  (copyBits_frame dOff len sOff).src x y dst (Nat.le_trans (upTo_le _ _) (ceil8_le h))

theorem copyBits_append (q x : Buf) (dOff len : Nat) (src : Buf) (sOff : Nat) (h : dOff + len ≤ 8 * q.length) :
    copyBits (q ++ x) dOff len src sOff = appR x (copyBits q dOff len src sOff) :=
  (copyBits_frame dOff len sOff).dst src x (Nat.le_trans (upTo_le _ _) (ceil8_le h))

theorem getBits_frame (size off len : Nat) :
    ∃ nS nD, nD ≤ (len + 7) / 8 ∧ Frame (fun buf out => getBits out buf size off len) nS nD := by
  unfold getBits
  have hsat : saturate size off len ≤ len := by rw [saturate_eq]; exact Nat.min_le_left _ _
  by_cases hs : saturate size off len / 8 ≤ (len + 7) / 8
  · simp only [sub?, if_pos hs]
    exact ⟨_, _, Nat.max_le.mpr ⟨Nat.le_trans (upTo_le _ _) (Nat.le_of_eq (Nat.add_sub_cancel' hs)),
        Nat.le_trans (upTo_le _ _) (Nat.div_le_div_right (by rw [Nat.zero_add]; exact Nat.add_le_add_right hsat 7))⟩,
      (memset0_frame _ _).seq (copyBits_frame 0 _ off)⟩
  · simp only [sub?, if_neg hs]
    exact ⟨0, 0, Nat.zero_le _, Frame.error _ _ _⟩

theorem getBits_append (q x buf : Buf) (size off len : Nat) (h : (len + 7) / 8 ≤ q.length) :
    getBits (q ++ x) buf size off len = appR x (getBits q buf size off len) := by
  obtain ⟨_, _, hb, hF⟩ := getBits_frame size off len
  exact hF.dst buf x (Nat.le_trans hb h)

theorem getBits_ok_length {out buf : Buf} {size off len : Nat} {r : Buf} (h : getBits out buf size off len = .ok r) :
    r.length = out.length := by
  obtain ⟨_, _, _, hF⟩ := getBits_frame size off len
  exact (hF.inv h).1

theorem setUxx_length {little : Bool} {buf : Buf} {cap off v len : Nat} {c : Int} {b : Buf}
    (h : setUxx little buf cap off v len = .ok (c, b)) : b.length = buf.length := by
  unfold setUxx at h
  split at h
  · simp only [Except.ok.injEq, Prod.mk.injEq] at h
    rw [← h.2]
  · obtain ⟨r, hc, h⟩ := bind_eq_ok.mp h
    cases h
    exact (copyBits_ok_inv hc).1

theorem getU_ok_inv {little : Bool} {W : Nat} {buf : Buf} {size off len v : Nat}
    (h : getU little W buf size off len = .ok v) :
    ∃ dst r, dst.length = W / 8 ∧ copyBits dst 0 (saturate size off (chooseMin len W)) buf off = .ok r := by
  unfold getU at h
  split at h
  · obtain ⟨r, hr, _⟩ := bind_eq_ok.mp h
    exact ⟨_, r, length_objRepLE _ _, hr⟩
  · obtain ⟨r, hr, _⟩ := bind_eq_ok.mp h
    exact ⟨_, r, List.length_replicate, hr⟩

end NunavutVerif.Bits
