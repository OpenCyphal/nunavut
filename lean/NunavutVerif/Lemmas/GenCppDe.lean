import NunavutVerif.Lemmas.GenCppPrim
import NunavutVerif.Lemmas.GenCDe
import NunavutVerif.Lemmas.BitsGlue
/-!
The generated C++ deserializer refines `deBits`, for every type and every prior content of the destination object.
A `std::array` is decoded in place; a variable-length array by `clear()` and a `push_back` loop, which is the
element loop of the C rendering.  The induction (`deP`) is the one Lean derives from the mutual definition of the
deserializer itself.
-/
namespace NunavutVerif.GenCpp
open NunavutVerif.Dsdl NunavutVerif.Bits
open NunavutVerif.GenC (AOff resBits trivVal trivVals trivHead bitsOf Rel DeRefines embedD wfC wfCAll hasTy_trivVal trivUnique
  bitsOf_full)
open NunavutVerif.GenC.AOff (Adm Sums adm_zero adm_single adm_add adm_add_bytes adm_congr adm_pad sums_zero sums_step sums_mono
  adm_rangeRep_zero)

/-- contract of a generated `deserialize(obj, in_buffer)`, which gets a span with its cursor at 0; the size it returns
is the template's `min(offset, capacity_bits) / 8` -/
def DeFnOK (inner : Buf → Nat → Except Err (Val × Nat)) (T : Ty) : Prop :=
  ∀ sub, WF sub → inner sub 0 =
    match deBits T (bitsOf sub sub.length) with
    | .ok (v, used) => .ok (v, min used (8 * sub.length) / 8)
    | .error e => .error (embedD e)

/-- `GenCpp.subspanRest sp` and `GenCpp.subspanBytes` unfold to `Cpp.subspan1 sp 0` and `Cpp.subspanBytes`, the
`subspan(bits)` and `subspan_bytes` of the support library (`Model/BitsGlue.lean`) -/
theorem subspanRest_eq (data : Buf) (off : Nat) :
    subspanRest ⟨data, off⟩ = ⟨data.drop (off / 8), off % 8⟩ := Cpp.subspan1_eq ⟨data, off⟩ 0

theorem subspanBytes_eq (data : Buf) (off h : Nat) :
    subspanBytes ⟨data, off⟩ h = ⟨(data.drop (off / 8)).take h, 0⟩ := Cpp.subspanBytes_eq ⟨data, off⟩ h

theorem nestedDe_sealed (o : Opts) (inner : Buf → Nat → Except Err (Val × Nat)) (T : Ty) (hfn : DeFnOK inner T)
    (ha : align T = 8) (data : Buf) (off : Nat)
    (hw : WF data) (hal : off % 8 = 0) :
    DeRefines (nestedDe o inner false data off) (deBits T ((bitsOf data data.length).drop off)) data.length off := by
  unfold nestedDe
  rw [if_neg Bool.false_ne_true, assertX_ok o hal, subspanRest_eq]
  obtain ⟨k, rfl⟩ := Nat.dvd_of_mod_eq_zero hal
  rw [Nat.mul_div_cancel_left k (by decide), Nat.mul_mod_right]
  dsimp only
  rw [hfn (data.drop k) (WF_drop hw _), bitsOf_full, unpackBytes_drop, ← bitsOf_full, List.length_drop]
  cases hsp : deBits T ((bitsOf data data.length).drop (8 * k)) with
  | error e => rfl
  | ok r =>
    -- the nested function reports `min(consumed, size)`: the cursor stops at the end of the data
    exact .ok (GenC.rel_consumed (Nat.mul_mod_right 8 k) (ha ▸ (deLen T _ r.1 r.2 hsp).2) (Nat.mul_sub ..))

theorem nestedDe_delim (o : Opts) (inner : Buf → Nat → Except Err (Val × Nat)) (T : Ty)
    (hfn : DeFnOK inner T) (ext : Nat) (data : Buf) (off : Nat)
    (hw : WF data) (hal : off % 8 = 0) :
    DeRefines (nestedDe o inner true data off) (deBits (.delim ext T) ((bitsOf data data.length).drop off))
      data.length off := by
  have hal1 : (off + 32) % 8 = 0 := add_mod_zero hal (by decide)
  have hlenB : (bitsOf data data.length).length = 8 * data.length := GenC.bitsOf_length (Nat.le_refl _)
  unfold nestedDe
  simp only [if_true, deBits, headerBits, List.drop_drop]
  rw [deUint_spec 32 data off (by omega) hw]
  dsimp only
  generalize readNat 32 ((bitsOf data data.length).drop off) = h
  rw [Cpp.size_eq, List.length_drop, hlenB]
  simp only [Nat.mul_comm h 8, Nat.mul_comm data.length 8]
  by_cases hbad : 8 * h > 8 * data.length - (off + 32)
  · rw [if_pos hbad, if_pos hbad]; rfl
  · rw [if_neg hbad, if_neg hbad, assertX_ok o hal1, subspanBytes_eq]
    simp only
    -- the nested function sees the `h` bytes the header announces; what it reports is not looked at
    rw [hfn ((data.drop ((off + 32) / 8)).take h) (WF_take (WF_drop hw _) _), bitsOf_full,
      unpackBytes_take, unpackBytes_drop, Nat.mul_div_cancel' (Nat.dvd_of_mod_eq_zero hal1), ← bitsOf_full]
    cases deBits T (((bitsOf data data.length).drop (off + 32)).take (8 * h)) with
    | error e => rfl
    | ok r =>
      dsimp only
      rw [assertX_ok o hal1]
      exact .ok (by rw [Nat.add_assoc]; exact Rel.refl _ _)

theorem topDe_fnOK (o : Opts) (maxB : Nat) (prior : Val) (body : Buf → Nat → Except Err (Val × Nat)) (T : Ty)
    (specBody : List Bool → Except DeErr (Val × Nat))
    (hT : ∀ bs, deBits T bs = match specBody bs with
      | .ok (v, off) => .ok (v, padTo 8 off)
      | .error e => .error e)
    (hbody : ∀ sub, WF sub → DeRefines (body sub 0) (specBody (bitsOf sub sub.length)) sub.length 0)
    (h0 : maxB = 0 → ∀ bs, deBits T bs = .ok (prior, 0)) :
    DeFnOK (topDe o maxB prior body) T := by
  intro sub hw
  unfold topDe
  by_cases hz : maxB = 0
  · rw [h0 hz]; simp [hz]
  · rw [if_neg hz, hT]
    refine DeRefines.step (hbody sub hw) (fun e => rfl) fun v off off' _ hrel => ?_
    simp only [GenC.padDe_eq 8 off' (Or.inr rfl), Cpp.size_eq, Nat.sub_zero, Nat.mul_comm sub.length 8]
    rw [assertX_ok o (padTo_mod (a := 8) (Or.inr rfl) off'), assertX_ok o (Nat.min_le_right _ _),
      (Rel.pad (a := 8) (Or.inr rfl) hrel).min_eq, Nat.zero_add]

def DeOKX (o : Opts) (t : Ty) (prior : Val) : Prop :=
  wf t = true → wfC t = true → hasTy t prior = true → ∀ d data off, WF data → Adm d off → off % align t = 0 →
    DeRefines (deAny o t prior d data off) (deBits t ((bitsOf data data.length).drop off)) data.length off

def DeFnOKX (o : Opts) (t : Ty) (prior : Val) : Prop :=
  wf t = true → wfC t = true → isComposite t = true → hasTy t prior = true → DeFnOK (deFn o t prior) t

def DeNthOKX (o : Opts) (fs : List Ty) (k : Nat) : Prop :=
  wfAll fs = true → wfCAll fs = true → ∀ d data off, WF data → Adm d off → off % 8 = 0 →
    DeRefines (GenCpp.deNth o fs k d data off) (Dsdl.deNth fs k ((bitsOf data data.length).drop off)) data.length off

def DeFieldsOKX (o : Opts) (fs : List Ty) (ps : List Val) : Prop :=
  wfAll fs = true → wfCAll fs = true → hasTyFields fs ps = true → ∀ first d data offC offS, WF data →
    Rel data.length offC offS → Adm d offS → (first = true → offC = 0) →
    DeRefines (GenCpp.deFields o fs ps first d data offC) (Dsdl.deFields fs (bitsOf data data.length) offS)
      data.length 0

theorem DeOKX.of_fn (o : Opts) {t : Ty} {p : Val} (hc : isComposite t = true) (hfn : DeFnOKX o t p)
    (he : ∀ d data off, deAny o t p d data off = nestedDe o (deFn o t p) false data off) : DeOKX o t p := by
  intro hw hwC hp d data off hwf hd hal
  rw [he]
  rw [align_of_isComposite hc] at hal
  exact nestedDe_sealed o _ t (hfn hw hwC hc hp) (align_of_isComposite hc) data off hwf hal

theorem struct_deFnOK (o : Opts) (fs : List Ty) (ps : List Val) (ih : DeFieldsOKX o fs ps) :
    DeFnOKX o (.struct fs) (.struct ps) := by
  intro hw hwC _ hp
  rw [deFn]
  apply topDe_fnOK o _ _ _ (.struct fs) _ (deBits_struct_body fs)
  · intro sub hwf
    simp only [wf, wfC, hasTy] at hw hwC hp
    exact DeRefines.step (ih hw hwC hp true AOff.zero sub 0 0 hwf (Rel.refl _ _) (adm_zero rfl) (fun _ => rfl))
      (fun e => rfl) fun vs e off' _ hrel => .ok hrel
  · -- a destination of a data-free type holds the type's only value already
    exact fun h0 bs => trivUnique (.struct fs) hw hwC h0 _ hp ▸ GenC.deTrivOK (.struct fs) hw hwC h0 bs

theorem union_deFnOK (o : Opts) (fs : List Ty) (p : Val) (ih : ∀ k, DeNthOKX o fs k) : DeFnOKX o (.union fs) p := by
  intro hw hwC _ hp
  rw [deFn]
  simp only [wf, wfC, Bool.and_eq_true, decide_eq_true_eq] at hw hwC
  have htb : 8 ≤ tagBits fs.length ∧ tagBits fs.length ≤ 64 ∧ tagBits fs.length % 8 = 0 := stdWidth_bounds _
  apply topDe_fnOK o _ _ _ (.union fs) _ (deBits_union_nth fs)
  · intro sub hwf
    rw [deUint_spec (tagBits fs.length) sub 0 htb.2.1 hwf, List.drop_zero, Nat.zero_add]
    dsimp only
    exact DeRefines.step (ih _ hw.2 hwC (AOff.single (tagBits fs.length)) sub (tagBits fs.length) hwf
      (adm_single _) htb.2.2) (fun e => rfl) fun v used off' _ hrel => .ok ((Nat.zero_add _).symm ▸ hrel)
  · intro h0
    rw [maxBits] at h0
    have := padTo_ge 8 (tagBits fs.length + maxOpts fs)
    omega

section
variable (o : Opts) (hs : o.Sound)
include hs

theorem DeOKX.guarded {t : Ty} {prior : Val} (hT : DeOKX o t prior) (hw : wf t = true) (hwC : wfC t = true) (d : AOff)
    (data : Buf) (offC offS : Nat) (hp : hasTy t prior = true) (hwf : WF data) (hrel : Rel data.length offC offS)
    (hd : Adm d offS) (hal : offS % align t = 0) :
    DeRefines (anyGuardD o t d offC (deAny o t prior d data offC))
      (deBits t ((bitsOf data data.length).drop offS)) data.length offS := by
  have hadm : Adm d offC := adm_congr hrel.2.1.symm hd
  have halC := GenC.mod_align_of_rel hrel hal
  rw [anyGuardD_ok o hs t d offC _ halC hadm, ← Rel.drop (Nat.le_refl _) hrel]
  exact (hT hw hwC hp d data offC hwf hadm halC).rel hrel

theorem deLoopInto_refines (t : Ty) (hT : ∀ p, DeOKX o t p) (hw : wf t = true) (hwC : wfC t = true) (data : Buf)
    (hwf : WF data) (d0 : AOff) (off0 K : Nat) (hd0 : Adm d0 off0) :
    ∀ (ps : List Val) (offC offS j x : Nat), (∀ p ∈ ps, hasTy t p = true) → Rel data.length offC offS →
      offS = off0 + x → Sums (resBits t) j x → j + ps.length ≤ K + 1 → offS % align t = 0 →
      DeRefines (deLoopInto (fun p f => anyGuardD o t (d0.add (AOff.rangeRep (resBits t) K AOff.zero)) f
          (deAny o t p (d0.add (AOff.rangeRep (resBits t) K AOff.zero)) data f)) ps offC)
        (deAllWith (deBits t) ps.length ((bitsOf data data.length).drop offS)) data.length offS := by
  intro ps
  induction ps with
  | nil =>
    intro offC offS j x _ hrel _ _ _ _
    exact ⟨offC, rfl, hrel⟩
  | cons p ps ih =>
    intro offC offS j x hps hrel hoff hsum hjk hal
    obtain ⟨hp, hps⟩ := List.forall_mem_cons.1 hps
    rw [List.length_cons] at hjk
    have hadm : Adm (d0.add (AOff.rangeRep (resBits t) K AOff.zero)) offS := by
      rw [hoff]; exact adm_add hd0 (adm_rangeRep_zero (sums_mono hsum (by omega)))
    simp only [List.length_cons, deAllWith, deLoopInto]
    refine DeRefines.step ((hT p).guarded o hs hw hwC _ data offC offS hp hwf hrel hadm hal) (fun e => rfl)
      fun v n off1 hsp hrel1 => ?_
    dsimp only
    rw [List.drop_drop]
    refine DeRefines.step (ih off1 (offS + n) (j + 1) (x + n) hps hrel1 (by rw [hoff, Nat.add_assoc])
      (sums_step hsum (GenC.resOKD t hw _ v n hsp)) (by omega) (add_mod_zero hal (deLen t _ v n hsp).2))
      (fun e => rfl) fun vs m off2 _ hrel2 => ?_
    exact ⟨off2, rfl, Nat.add_assoc _ _ _ ▸ hrel2⟩

-- `reference.clear()` is emitted: what the `push_back` loop of a variable-length array rests on
variable (hcl : o.clearFirst = true)
include hcl

theorem deP : (∀ t p, DeOKX o t p) ∧ (∀ t p, DeFnOKX o t p) ∧ (∀ fs k, DeNthOKX o fs k) ∧
    ∀ fs ps, DeFieldsOKX o fs ps := by
  apply deAny.mutual_induct
  · -- uint
    intro n m p hw _ _ d data off hwf _ _
    simp only [wf, decide_eq_true_eq] at hw
    simp only [deAny, deBits, deUint_spec n data off hw.2 hwf]
    exact .ok (Rel.refl _ _)
  · -- sint
    intro n m p hw _ _ d data off hwf _ _
    simp only [wf, decide_eq_true_eq] at hw
    simp only [deAny, deBits, deSint_spec n data off hw.1 hw.2 hwf]
    exact .ok (Rel.refl _ _)
  · -- float
    intro n m p hw _ _ d data off hwf _ _
    simp only [wf, decide_eq_true_eq] at hw
    simp only [deAny, deBits, deFloat_spec n data off hw hwf]
    exact .ok (Rel.refl _ _)
  · -- bool
    intro p _ _ _ d data off hwf _ _
    simp only [deAny, deBits, deBool_spec data off hwf]
    exact .ok (Rel.refl _ _)
  · -- void
    exact fun n p _ _ _ d data off _ _ _ => .ok (Rel.refl _ _)
  · -- fixed array: every element decoded in place
    intro t n ps ih hw hwC hp d data off hwf hd hal
    simp only [wf, wfC, align, Bool.and_eq_true] at hw hwC hal
    simp only [hasTy, Bool.and_eq_true, beq_iff_eq, List.all_eq_true] at hp
    have h2 := deLoopInto_refines o hs t ih hw hwC.2 data hwf d off (n - 1) hd ps off off 0 0 hp.2 (Rel.refl _ _) rfl
      (sums_zero _ _) (by omega) hal
    rw [hp.1] at h2
    simp only [deAny, deBits, hp.1, if_true]
    exact DeRefines.step h2 (fun e => rfl) fun vs used off' _ hrel => .ok hrel
  · -- variable array
    intro t c ps ih hw hwC _ d data off hwf hd hal
    simp only [wf, wfC, align, Bool.and_eq_true, decide_eq_true_eq] at hw hwC hal
    have hp : 8 ≤ prefixBits c ∧ prefixBits c ≤ 64 ∧ prefixBits c % 8 = 0 := stdWidth_bounds c
    simp only [deAny, deBits, deUint_spec (prefixBits c) data off hp.2.1 hwf, List.drop_drop, hcl, if_true]
    generalize readNat (prefixBits c) ((bitsOf data data.length).drop off) = k
    by_cases hk : k > c
    · rw [if_pos hk, if_pos hk]; rfl
    · rw [if_neg hk, if_neg hk, assertX_ok o (fun ho => hs.aligned (adm_add hd (adm_single (prefixBits c))) ho)]
      -- each element is decoded into a value-initialised temporary
      exact DeRefines.step (GenC.deLoop_refines t hw.2 _ data data.length d c
        (fun offC offS hrel => ih.guarded o hs hw.2 hwC _ data offC offS (hasTy_trivVal t) hwf hrel)
        (off + prefixBits c) (adm_add_bytes hp.2.2 hd) k (off + prefixBits c) (off + prefixBits c) 0 0
        (Rel.refl _ _) rfl (sums_zero _ _) (by omega) (add_mod_zero hal (align_mod_of_mod8 t hp.2.2))) (fun e => rfl)
        fun vs used off' _ hrel => .ok (Nat.add_assoc _ _ _ ▸ hrel)
  · -- struct, union as members: calls of the function
    exact fun fs ps ih => .of_fn o rfl (struct_deFnOK o fs ps ih) fun _ _ _ => rfl
  · exact fun fs p ih => .of_fn o rfl (union_deFnOK o fs p ih) fun _ _ _ => rfl
  · -- delimited: the inner type's function on the bytes the header announces
    intro ext inner p ih hw hwC hp d data off hwf hd hal
    simp only [wf, wfC, align, Bool.and_eq_true, decide_eq_true_eq] at hw hwC hal
    rw [deAny]
    exact nestedDe_delim o _ inner (ih hw.2 hwC hw.1.1 hp) ext data off hwf hal
  · -- a destination of another shape does not have the type
    intro t p h1 h2 h3 h4 h5 h6 h7 h8 h9 h10 _ _ hp
    cases t with
    | uint n m => exact (h1 _ _ rfl).elim
    | sint n m => exact (h2 _ _ rfl).elim
    | float n m => exact (h3 _ _ rfl).elim
    | bool => exact (h4 rfl).elim
    | void n => exact (h5 _ rfl).elim
    | arr t n => cases p with | arr ps => exact (h6 _ _ _ rfl rfl).elim | _ => cases hp
    | varr t c => cases p with | arr ps => exact (h7 _ _ _ rfl rfl).elim | _ => cases hp
    | struct fs => cases p with | struct ps => exact (h8 _ _ rfl rfl).elim | _ => cases hp
    | union fs => exact (h9 _ rfl).elim
    | delim e t => exact (h10 _ _ rfl).elim
  · -- the generated functions
    exact struct_deFnOK o
  · exact union_deFnOK o
  · intro ext inner _ _ _ _ hc
    cases hc
  · intro t p h1 h2 _ _ _ hc hp
    cases t with
    | struct fs => cases p with | struct ps => exact (h1 _ _ rfl rfl).elim | _ => cases hp
    | union fs => exact (h2 _ rfl).elim
    | _ => cases hc
  · -- union options: the chain runs off its end as the specification does
    exact fun k _ _ d data off _ _ _ => rfl
  · intro f fs ih hw hwC d data off hwf hd hal
    simp only [wfAll, wfCAll, Bool.and_eq_true] at hw hwC
    exact ih.guarded o hs hw.1 hwC.1 d data off off (hasTy_trivVal f) hwf (Rel.refl _ _) hd (align_mod_of_mod8 f hal)
  · intro f fs k ih hw hwC
    simp only [wfAll, wfCAll, Bool.and_eq_true] at hw hwC
    exact ih hw.2 hwC.2
  · -- fields
    exact fun _ _ _ first d data offC offS _ hrel _ _ => ⟨offC, rfl, by rw [Nat.zero_add]; exact hrel⟩
  · intro f fs p ps ihf ih hw hwC hps first d data offC offS hwf hrel hd hfirst
    simp only [hasTyFields, wfAll, wfCAll, Bool.and_eq_true] at hps hw hwC
    have ha := align_cases f
    have hadm := adm_pad ha hd
    simp only [Dsdl.deFields, GenCpp.deFields]
    rw [GenC.padDe_first _ hfirst, GenC.padDe_eq _ _ ha]
    refine DeRefines.step (ihf.guarded o hs hw.1 hwC.1 _ data _ _ hps.1 hwf (Rel.pad ha hrel) hadm (padTo_mod ha offS))
      (fun e => rfl) fun v n off1 hsp hr1 => ?_
    dsimp only
    exact DeRefines.step (ih hw.2 hwC.2 hps.2 false ((d.pad (align f)).add (resBits f)) data off1
      (padTo (align f) offS + n) hwf hr1 (adm_add hadm (GenC.resOKD f hw.1 _ v n hsp)) (fun h => by cases h))
      (fun e => rfl) fun vs m off2 _ hrel2 => ⟨off2, rfl, hrel2⟩
  · intro fs ps h1 h2 _ _ hps
    cases fs with
    | nil => cases ps with | nil => exact (h1 rfl rfl).elim | cons p ps => cases hps
    | cons f fs => cases ps with | nil => cases hps | cons p ps => exact (h2 _ _ _ _ rfl rfl).elim

omit hs hcl in
theorem deserializeCpp_eq (t : Ty) (prior : Val) (buf : Buf) :
    deserializeCpp o t prior buf = deFn o (topInner t) prior buf 0 := by
  unfold deserializeCpp
  cases t <;> first | rfl | simp only [deFn, topInner]

theorem deserializeCpp_refines (t : Ty) (hw : wf t = true) (hwC : wfC t = true) (hc : isComposite (topInner t) = true)
    (prior : Val) (hp : hasTy t prior = true) (buf : Buf) (hwf : WF buf) :
    deserializeCpp o t prior buf = (deBytes t buf).mapError embedD := by
  rw [deserializeCpp_eq o, (deP o hs hcl).2.1 (topInner t) prior (wf_topInner hw) (GenC.wfC_topInner hwC) hc
    ((hasTy_topInner t prior).trans hp) buf hwf, bitsOf_full]
  exact GenC.deFnOut_eq_deBytes hc buf

end

end NunavutVerif.GenCpp
