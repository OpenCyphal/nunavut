import NunavutVerif.Model.Strop
import NunavutVerif.Lemmas.Regex
import NunavutVerif.Gen.StropCfg
/-!
The stropping model of `Model/Strop.lean` (C09).  A returned token has passed every re-verification (`Rechecked`); that it
is an identifier (`strop_acceptable`) comes from following word characters through encoding, wrapping and the C / C++
failure handler, in any configuration with three syntactically recognisable ingredients (`shipped_ingredients`).  Every
handler token has the form `isHShape`, and a configuration that passes `handlerSafe` rejects no such token, so the final
verification of the repaired `strop` never fails.
-/
namespace NunavutVerif.Strop
open NunavutVerif.Regex

theorem recheck_ok {bad : Bool} {h : Handler} {e : Err} {s r : Str} {f g : Bool}
    (hg : recheck bad h e s f = .ok (r, g)) :
    (bad = false ∧ r = s ∧ g = f) ∨ (bad = true ∧ h = .cStyle ∧ cHandler s = some r ∧ g = true) := by
  unfold recheck at hg
  cases bad with
  | false => simp at hg; simp [hg]
  | true =>
    simp only [if_true] at hg
    unfold runHandler at hg
    cases h with
    | none => simp at hg
    | cStyle =>
      cases hc : cHandler s with
      | none => simp [hc] at hg
      | some r' => simp [hc] at hg; simp [hg]

theorem recheck_ok_false {bad : Bool} {h : Handler} {e : Err} {s r : Str} {f : Bool}
    (hg : recheck bad h e s f = .ok (r, false)) : bad = false ∧ r = s ∧ f = false := by
  rcases recheck_ok hg with ⟨a, b, c⟩ | ⟨_, _, _, d⟩
  · exact ⟨a, b, c.symm⟩
  · cases d

theorem recheck_error {bad : Bool} {h : Handler} {pe e : Err} {s : Str} {f : Bool}
    (hg : recheck bad h pe s f = .error e) : e = pe := by
  unfold recheck at hg
  split at hg
  · split at hg
    · cases hg
    · rename_i e' he
      cases hg
      unfold runHandler at he
      split at he
      · cases he; rfl
      · split at he
        · cases he
        · cases he; rfl
  · cases hg

theorem stropTraceBeforeFix_ok {cfg : Cfg} {tok ty r : Str} {g : Bool}
    (h : stropTraceBeforeFix cfg tok ty = .ok (r, g)) :
    lowerAscii ty ≠ tyAll ∧ ∃ s2 f2 s3 f3,
      recheck (patDry cfg tyAll (realPipeline cfg (lowerAscii ty) tok) ||
               patDry cfg (lowerAscii ty) (realPipeline cfg (lowerAscii ty) tok))
        cfg.stropHandler .illegalToken (realPipeline cfg (lowerAscii ty) tok) false = .ok (s2, f2) ∧
      recheck (isReserved cfg s2) cfg.stropHandler .illegalToken s2 f2 = .ok (s3, f3) ∧
      recheck (encodeDry cfg tyAll s3 || encodeDry cfg (lowerAscii ty) s3)
        cfg.encHandler .unstableEncoding s3 f3 = .ok (r, g) := by
  unfold stropTraceBeforeFix at h
  simp only at h
  split at h
  · cases h
  · rename_i hty
    refine ⟨hty, ?_⟩
    split at h
    · cases h
    · rename_i s2 f2 h2
      split at h
      · cases h
      · rename_i s3 f3 h3
        exact ⟨s2, f2, s3, f3, h2, h3, h⟩

theorem beforeFix_induct {cfg : Cfg} {tok ty r : Str} {g : Bool} (Q : Str → Bool → Prop)
    (h0 : Q (realPipeline cfg (lowerAscii ty) tok) false)
    (hh : ∀ s f r, cfg.stropHandler = .cStyle ∨ cfg.encHandler = .cStyle → cHandler s = some r → Q s f → Q r true)
    (h : stropTraceBeforeFix cfg tok ty = .ok (r, g)) : Q r g := by
  have step : ∀ {bad hd e s f r g}, hd = cfg.stropHandler ∨ hd = cfg.encHandler →
      recheck bad hd e s f = .ok (r, g) → Q s f → Q r g := by
    intro bad hd e s f r g hhd hg hs
    rcases recheck_ok hg with ⟨_, rfl, rfl⟩ | ⟨_, hc, hr, rfl⟩
    · exact hs
    · exact hh s f r (hhd.imp (·.symm.trans hc) (·.symm.trans hc)) hr hs
  obtain ⟨_, s2, f2, s3, f3, h2, h3, h4⟩ := stropTraceBeforeFix_ok h
  exact step (.inr rfl) h4 (step (.inl rfl) h3 (step (.inl rfl) h2 h0))

theorem stropTraceBeforeFix_valueError {cfg : Cfg} {tok ty : Str}
    (h : stropTraceBeforeFix cfg tok ty = .error .valueError) : lowerAscii ty = tyAll := by
  unfold stropTraceBeforeFix at h
  simp only at h
  split at h
  · assumption
  · split at h
    · rename_i he; cases h; cases recheck_error he
    · split at h
      · rename_i he; cases h; cases recheck_error he
      · cases recheck_error h

structure Rechecked (cfg : Cfg) (ty s : Str) : Prop where
  reserved : isReserved cfg s = false
  patAll : patDry cfg tyAll s = false
  patTy : patDry cfg ty s = false
  encAll : encodeDry cfg tyAll s = false
  encTy : encodeDry cfg ty s = false

theorem verify_cases (cfg : Cfg) (ty s : Str) :
    (verify cfg ty s = .ok s ∧ Rechecked cfg ty s) ∨
    verify cfg ty s = .error .illegalToken ∨ verify cfg ty s = .error .unstableEncoding := by
  unfold verify
  cases h1 : patDry cfg tyAll s || patDry cfg ty s with
  | true => exact Or.inr (Or.inl rfl)
  | false =>
    cases h2 : isReserved cfg s with
    | true => exact Or.inr (Or.inl rfl)
    | false =>
      cases h3 : encodeDry cfg tyAll s || encodeDry cfg ty s with
      | true => exact Or.inr (Or.inr rfl)
      | false =>
        rw [Bool.or_eq_false_iff] at h1 h3
        exact Or.inl ⟨rfl, h2, h1.1, h1.2, h3.1, h3.2⟩

theorem verify_ok {cfg : Cfg} {ty s r : Str} (h : verify cfg ty s = .ok r) :
    r = s ∧ Rechecked cfg ty s := by
  rcases verify_cases cfg ty s with ⟨h0, hs⟩ | h0 | h0
  · cases h0.symm.trans h
    exact ⟨rfl, hs⟩
  · cases h0.symm.trans h
  · cases h0.symm.trans h

theorem stropTrace_ok {cfg : Cfg} {tok ty r : Str} {g : Bool}
    (h : stropTrace cfg tok ty = .ok (r, g)) :
    stropTraceBeforeFix cfg tok ty = .ok (r, g) ∧
    (g = true → verify cfg (lowerAscii ty) r = .ok r) := by
  unfold stropTrace at h
  split at h
  · cases h
  · cases h; rename_i hb; exact ⟨hb, by simp⟩
  · rename_i r0 hb
    split at h
    · rename_i r' hv
      cases h
      obtain ⟨e, _⟩ := verify_ok hv
      subst e
      exact ⟨hb, fun _ => hv⟩
    · cases h

theorem strop_ok_iff {cfg : Cfg} {tok ty r : Str} :
    strop cfg tok ty = .ok r ↔ ∃ g, stropTrace cfg tok ty = .ok (r, g) := by
  unfold strop
  cases h : stropTrace cfg tok ty with
  | error e => simp [Except.map]
  | ok p => obtain ⟨a, b⟩ := p; simp [Except.map]

theorem strop_valueError {cfg : Cfg} {tok ty : Str} (h : strop cfg tok ty = .error .valueError) :
    lowerAscii ty = tyAll := by
  unfold strop stropTrace at h
  split at h
  · rename_i e he
    simp only [Except.map, Except.error.injEq] at h
    subst h
    exact stropTraceBeforeFix_valueError he
  · simp [Except.map] at h
  · rename_i r _
    split at h
    · simp [Except.map] at h
    · rename_i e he
      simp only [Except.map, Except.error.injEq] at h
      subst h
      -- `verify` does not raise it
      rcases verify_cases cfg (lowerAscii ty) r with ⟨h0, _⟩ | h0 | h0 <;> cases h0.symm.trans he

theorem stropTrace_rechecked {cfg : Cfg} {tok ty r : Str} {g : Bool}
    (h : stropTrace cfg tok ty = .ok (r, g)) : Rechecked cfg (lowerAscii ty) r := by
  obtain ⟨hb, hv⟩ := stropTrace_ok h
  cases g with
  | true => exact (verify_ok (hv rfl)).2
  | false =>
    obtain ⟨_, s2, f2, s3, f3, h2, h3, h4⟩ := stropTraceBeforeFix_ok hb
    obtain ⟨e1, e2, e3⟩ := recheck_ok_false h4
    subst e2 e3
    obtain ⟨k1, k2, k3⟩ := recheck_ok_false h3
    subst k2 k3
    obtain ⟨p1, p2, _⟩ := recheck_ok_false h2
    subst p2
    simp only [Bool.or_eq_false_iff] at e1 p1
    exact ⟨k1, p1.1, p1.2, e1.1, e1.2⟩

def Word (s : Str) : Prop := ∀ c ∈ s, isWordChar c = true

theorem Word.append {a b : Str} (ha : Word a) (hb : Word b) : Word (a ++ b) :=
  List.forall_mem_append.mpr ⟨ha, hb⟩

theorem Word.cons {c : Nat} {t : Str} (hc : isWordChar c = true) (ht : Word t) : Word (c :: t) :=
  List.forall_mem_cons.mpr ⟨hc, ht⟩

theorem word_of_all {s : Str} (h : s.all isWordChar = true) : Word s :=
  fun c hc => List.all_eq_true.mp h c hc

theorem isWordChar_eq (c : Nat) : isWordChar c = (isIdentStart c || (decide (48 ≤ c) && decide (c ≤ 57))) :=
  Bool.or_right_comm _ _ _

theorem isIdent_word {s : Str} (h : isIdent s = true) : Word s ∧ s ≠ [] := by
  cases s with
  | nil => simp [isIdent] at h
  | cons c t =>
    simp only [isIdent, Bool.and_eq_true] at h
    exact ⟨Word.cons (by rw [isWordChar_eq, h.1]; rfl) (word_of_all h.2), by simp⟩

theorem isIdent_underscore {t : Str} (ht : Word t) : isIdent (95 :: t) = true := by
  simp only [isIdent, Bool.and_eq_true, List.all_eq_true]
  exact ⟨by decide, ht⟩

theorem hexCore_word (fuel n : Nat) (acc : Str) (h : Word acc) :
    Word (hexCore fuel n acc) ∧ (acc ≠ [] ∨ 0 < fuel → hexCore fuel n acc ≠ []) := by
  induction fuel generalizing n acc with
  | zero => exact ⟨h, fun h0 => h0.resolve_right (Nat.lt_irrefl 0)⟩
  | succ fuel ih =>
    have hd : Word (hexDigit (n % 16) :: acc) :=
      Word.cons ((by decide : ∀ d : Fin 16, isWordChar (hexDigit d) = true) ⟨n % 16, Nat.mod_lt _ (by omega)⟩) h
    simp only [hexCore]
    split
    · exact ⟨hd, fun _ => List.cons_ne_nil _ _⟩
    · exact ⟨(ih _ _ hd).1, fun _ => (ih _ _ hd).2 (Or.inl (List.cons_ne_nil _ _))⟩

theorem hex4_word (n : Nat) : Word (hex4 n) ∧ hex4 n ≠ [] := by
  unfold hex4
  obtain ⟨hw, hne⟩ := hexCore_word (n + 1) n [] (fun _ hc => nomatch hc)
  refine ⟨Word.append (fun c hc => ?_) hw, fun h0 => hne (Or.inr (Nat.succ_pos n)) (List.append_eq_nil_iff.mp h0).2⟩
  rw [(List.mem_replicate.mp hc).2]
  decide

structure WordCfg (cfg : Cfg) : Prop where
  pre : Word cfg.stropPrefix
  suf : Word cfg.stropSuffix
  encp : Word cfg.encPrefix
  ws : ∀ w, cfg.wsChar = some w → Word w ∧ w ≠ []

theorem encChar_word {cfg : Cfg} (hc : WordCfg cfg) (c : Nat) : Word (encChar cfg c) ∧ encChar cfg c ≠ [] := by
  unfold encChar
  have hx : Word (cfg.encPrefix ++ hex4 c) ∧ cfg.encPrefix ++ hex4 c ≠ [] :=
    ⟨hc.encp.append (hex4_word c).1, fun h0 => (hex4_word c).2 (List.append_eq_nil_iff.mp h0).2⟩
  split
  · rename_i w hw
    split
    · exact hc.ws w hw
    · exact hx
  · exact hx

theorem encFilter_word {cfg : Cfg} (hc : WordCfg cfg) (m : Str) :
    Word (encFilter cfg m) ∧ (m ≠ [] → encFilter cfg m ≠ []) := by
  unfold encFilter
  split
  · split
    · rename_i w hw; exact ⟨(hc.ws w hw).1, fun _ => (hc.ws w hw).2⟩
    · exact ⟨(encChar_word hc 32).1, fun _ => (encChar_word hc 32).2⟩
  · refine ⟨fun c hcm => ?_, fun hm => ?_⟩
    · simp only [List.mem_flatten, List.mem_map] at hcm
      obtain ⟨l, ⟨a, _, rfl⟩, hl⟩ := hcm
      exact (encChar_word hc a).1 c hl
    · cases m with
      | nil => exact absurd rfl hm
      | cons a t =>
        simp only [List.map_cons, List.flatten_cons, ne_eq, List.append_eq_nil_iff, not_and]
        intro h; exact absurd h (encChar_word hc a).2

theorem foldl_sub_word {cfg : Cfg} (hc : WordCfg cfg) (rs : List Re) (s : Str) :
    (Word s → Word (rs.foldl (fun acc r => sub r (encFilter cfg) acc) s)) ∧
    (s ≠ [] → rs.foldl (fun acc r => sub r (encFilter cfg) acc) s ≠ []) := by
  induction rs generalizing s with
  | nil => exact ⟨id, id⟩
  | cons r rs ih =>
    exact ⟨fun hs => (ih _).1 (sub_all _ r _ (fun m => (encFilter_word hc m).1) s hs),
      fun hs => (ih _).2 (sub_ne_nil r _ (fun m => (encFilter_word hc m).2) s hs)⟩

theorem encodeReal_word {cfg : Cfg} (hc : WordCfg cfg) (ty s : Str) :
    (Word s → Word (encodeReal cfg ty s)) ∧ (s ≠ [] → encodeReal cfg ty s ≠ []) := by
  unfold encodeReal
  split
  · exact ⟨id, id⟩
  · exact foldl_sub_word hc _ s

def HasNonWordRule (cfg : Cfg) : Prop :=
  ∃ pre K post, lookup cfg.rules tyAll = some (pre ++ .rep 1 none (.chr K) :: post) ∧
    ∀ c, K.mem c = false → isWordChar c = true

theorem encodeReal_all_word {cfg : Cfg} (hc : WordCfg cfg) (hr : HasNonWordRule cfg) (s : Str) :
    Word (encodeReal cfg tyAll s) := by
  obtain ⟨pre, K, post, hl, hK⟩ := hr
  unfold encodeReal
  rw [hl]
  simp only [List.foldl_append, List.foldl_cons]
  -- whatever the rules before it did, `[K]+` encodes every non-word character; the rules after it add none
  exact (foldl_sub_word hc post _).1 (sub_plusCls_all _ K _ (fun m => (encFilter_word hc m).1) hK _)

theorem wrap_word {cfg : Cfg} (hc : WordCfg cfg) (s : Str) (hs : Word s ∧ s ≠ []) :
    Word (wrap cfg s) ∧ wrap cfg s ≠ [] :=
  ⟨(hc.pre.append hs.1).append hc.suf, by simp [wrap, hs.2]⟩

theorem realPipeline_word {cfg : Cfg} (hc : WordCfg cfg) (hr : HasNonWordRule cfg) (ty tok : Str) (ht : tok ≠ []) :
    Word (realPipeline cfg ty tok) ∧ realPipeline cfg ty tok ≠ [] := by
  have h0 : Word (encodeReal cfg ty (encodeReal cfg tyAll tok)) ∧ encodeReal cfg ty (encodeReal cfg tyAll tok) ≠ [] :=
    ⟨(encodeReal_word hc _ _).1 (encodeReal_all_word hc hr tok),
     (encodeReal_word hc _ _).2 ((encodeReal_word hc _ _).2 ht)⟩
  -- `kwStrop` and `patStrop` wrap the token or leave it
  have wr : ∀ (b : Bool) s, Word s ∧ s ≠ [] → Word (if b then wrap cfg s else s) ∧ (if b then wrap cfg s else s) ≠ [] := by
    intro b s hs
    cases b
    · exact hs
    · exact wrap_word hc s hs
  exact wr _ _ (wr _ _ (wr _ _ (wr _ _ h0)))

theorem cHandler_ident {s r : Str} (h : cHandler s = some r) (hs : Word s) : isIdent r = true := by
  unfold cHandler at h
  split at h
  · rename_i t
    have hd : Word (t.dropWhile (· == 95)) :=
      fun c hc => hs c (List.mem_cons_of_mem _ ((List.dropWhile_sublist _).subset hc))
    split at h
    · cases h; decide
    · rename_i c r' heq
      rw [heq] at hd
      have hr' : Word r' := fun x hx => hd x (List.mem_cons_of_mem _ hx)
      split at h <;> cases h <;> refine isIdent_underscore (Word.cons ?_ hr')
      · rename_i hup
        simp only [isWordChar, Bool.or_eq_true, Bool.and_eq_true, decide_eq_true_eq, beq_iff_eq]
        omega
      · exact hd c List.mem_cons_self
  · cases h

def CatchesLeadingDigit (cfg : Cfg) : Prop :=
  ∀ c t, 48 ≤ c → c ≤ 57 → patDry cfg tyAll (c :: t) = true ∨ encodeDry cfg tyAll (c :: t) = true

theorem stropTrace_ident {cfg : Cfg} (hc : WordCfg cfg) (hr : HasNonWordRule cfg) (hd : CatchesLeadingDigit cfg)
    {tok ty r : Str} {g : Bool} (ht : tok ≠ []) (h : stropTrace cfg tok ty = .ok (r, g)) :
    isIdent r = true := by
  have hre := stropTrace_rechecked h
  have j1 := realPipeline_word hc hr (lowerAscii ty) tok ht
  have j4 : Word r ∧ r ≠ [] ∧ (g = true → isIdent r = true) :=
    beforeFix_induct (fun s f => Word s ∧ s ≠ [] ∧ (f = true → isIdent s = true)) ⟨j1.1, j1.2, nofun⟩
      (fun s _ r _ hh hs => have hi := cHandler_ident hh hs.1; ⟨(isIdent_word hi).1, (isIdent_word hi).2, fun _ => hi⟩)
      (stropTrace_ok h).1
  cases g with
  | true => exact j4.2.2 rfl
  | false =>
    -- no handler: a non-empty word that passed the `all` re-verifications, so it does not start with a digit
    cases r with
    | nil => exact absurd rfl j4.2.1
    | cons c t =>
      have hw := j4.1 c List.mem_cons_self
      rw [isWordChar_eq] at hw
      cases hdig : (decide (48 ≤ c) && decide (c ≤ 57)) with
      | false =>
        simp only [isIdent, Bool.and_eq_true, List.all_eq_true]
        exact ⟨by simpa [hdig] using hw, fun x hx => j4.1 x (List.mem_cons_of_mem _ hx)⟩
      | true =>
        simp only [Bool.and_eq_true, decide_eq_true_eq] at hdig
        rcases hd c t hdig.1 hdig.2 with x | x
        · rw [hre.patAll] at x; cases x
        · rw [hre.encAll] at x; cases x

/-- T2 for any configuration with the three ingredients. -/
theorem strop_acceptable {cfg : Cfg} (hc : WordCfg cfg) (hr : HasNonWordRule cfg) (hd : CatchesLeadingDigit cfg)
    {tok ty r : Str} (ht : tok ≠ []) (h : strop cfg tok ty = .ok r) : acceptable cfg (lowerAscii ty) r = true := by
  obtain ⟨g, hg⟩ := strop_ok_iff.mp h
  have h2 := stropTrace_rechecked hg
  simp [acceptable, stropTrace_ident hc hr hd ht hg, h2.reserved, h2.patAll, h2.patTy]

theorem encodeReal_id {cfg : Cfg} {ty s : Str}
    (h : ∀ r ∈ (lookup cfg.rules ty).getD [], matchesNowhere s.length r s = true) : encodeReal cfg ty s = s := by
  unfold encodeReal
  split
  · rfl
  · rename_i rs hl
    rw [hl] at h
    clear hl
    induction rs with
    | nil => rfl
    | cons r rs ih =>
      rw [List.foldl_cons, sub_id_of_matchesNowhere r _ s (h r List.mem_cons_self)]
      exact ih (fun r' hr' => h r' (List.mem_cons_of_mem _ hr'))

theorem encodeDry_false {cfg : Cfg} {ty s : Str}
    (h : ∀ r ∈ (lookup cfg.rules ty).getD [], matchesNowhere s.length r s = true) : encodeDry cfg ty s = false := by
  unfold encodeDry
  split
  · rfl
  · rename_i rs hl
    rw [hl] at h
    simp only [matchesAny, List.any_eq_false, Bool.not_eq_true]
    intro r hr
    exact matchesStart_of_matchesNowhere r s (h r hr)

/-- T3 (fixed point) for the trace: no handler is involved. -/
theorem strop_fixed {cfg : Cfg} {tok ty : Str} (hty : lowerAscii ty ≠ tyAll)
    (hres : isReserved cfg tok = false) (hp1 : patDry cfg tyAll tok = false)
    (hp2 : patDry cfg (lowerAscii ty) tok = false) (henc : encodingFree cfg (lowerAscii ty) tok = true) :
    stropTrace cfg tok ty = .ok (tok, false) := by
  simp only [encodingFree, List.all_eq_true, List.mem_append] at henc
  have ea : ∀ r ∈ (lookup cfg.rules tyAll).getD [], matchesNowhere tok.length r tok = true :=
    fun r hr => henc r (Or.inl hr)
  have et : ∀ r ∈ (lookup cfg.rules (lowerAscii ty)).getD [], matchesNowhere tok.length r tok = true :=
    fun r hr => henc r (Or.inr hr)
  have hpipe : realPipeline cfg (lowerAscii ty) tok = tok := by
    unfold realPipeline
    simp only [encodeReal_id ea, encodeReal_id et, kwStrop, hres, patStrop, hp1, hp2, Bool.false_eq_true, if_false]
  have hb : stropTraceBeforeFix cfg tok ty = .ok (tok, false) := by
    unfold stropTraceBeforeFix
    simp only [hty, if_false, hpipe, hp1, hp2, Bool.or_false, recheck, hres, encodeDry_false ea, encodeDry_false et,
      Bool.false_eq_true]
  unfold stropTrace
  rw [hb]

section shipped
open NunavutVerif.Gen.StropCfg

theorem wordCfg_of (cfg : Cfg)
    (h : cfg.stropPrefix.all isWordChar && cfg.stropSuffix.all isWordChar && cfg.encPrefix.all isWordChar &&
      (match cfg.wsChar with | some w => w.all isWordChar && !w.isEmpty | none => true) = true) : WordCfg cfg := by
  simp only [Bool.and_eq_true] at h
  refine ⟨word_of_all h.1.1.1, word_of_all h.1.1.2, word_of_all h.1.2, ?_⟩
  intro w hw
  rw [hw] at h
  have h2 := h.2
  simp only [Bool.and_eq_true, Bool.not_eq_true', List.isEmpty_eq_false_iff, decide_eq_true_eq] at h2
  exact ⟨word_of_all h2.1, h2.2⟩

/-- `[^a-zA-Z0-9_]` as the translator emits it -/
def clsNonWord : Cls := ⟨true, [(97, 122), (65, 90), (48, 57), (95, 95)]⟩

theorem inRanges_word (c : Nat) : inRanges clsNonWord.ranges c = isWordChar c := by
  simp only [clsNonWord, inRanges, isWordChar, Bool.or_false, Bool.or_assoc]
  -- the sides differ only in the test for `_`: `95 ≤ c ∧ c ≤ 95` against `c == 95`
  congr 3
  rw [Bool.eq_iff_iff]
  simp only [Bool.and_eq_true, decide_eq_true_eq, beq_iff_eq]
  omega

def complIsWord (K : Cls) : Bool := K.neg && subRanges K.ranges clsNonWord.ranges

theorem complIsWord_sound (K : Cls) (h : complIsWord K = true) (c : Nat) (hc : K.mem c = false) :
    isWordChar c = true := by
  obtain ⟨neg, ranges⟩ := K
  simp only [complIsWord, Bool.and_eq_true] at h
  obtain ⟨rfl, hr⟩ := h
  rw [← inRanges_word]
  exact subRanges_sound hr (by simpa [Cls.mem] using hc)

theorem clsNonWord_compl (c : Nat) (h : clsNonWord.mem c = false) : isWordChar c = true :=
  complIsWord_sound clsNonWord (by decide) c h

def isNonWordPlus : Re → Bool
  | .rep 1 none (.chr K) => complIsWord K
  | _ => false

theorem hasNonWordRule_of (cfg : Cfg) (h : ((lookup cfg.rules tyAll).getD []).any isNonWordPlus = true) :
    HasNonWordRule cfg := by
  cases hl : lookup cfg.rules tyAll with
  | none => simp [hl] at h
  | some rs =>
    simp only [hl, Option.getD_some, List.any_eq_true] at h
    obtain ⟨r, hr, hk⟩ := h
    obtain ⟨pre, post, hsplit⟩ := List.append_of_mem hr
    unfold isNonWordPlus at hk
    split at hk
    · rename_i K
      exact ⟨pre, K, post, by rw [hl, hsplit], complIsWord_sound K hk⟩
    · cases hk

theorem clsDigit_ascii (c : Nat) (h1 : 48 ≤ c) (h2 : c ≤ 57) : clsDigit.mem c = true := by
  have : inRanges rangesReDigit c = true :=
    subRanges_sound (rs := [(48, 57)]) (by decide) (by simp [inRanges, h1, h2])
  simpa [clsDigit, Cls.mem] using this

/-- the conclusion is the body of both `patDry` and `encodeDry` -/
theorem table_of_contains {m : List (Str × List Re)} {ty s : Str} {r : Re}
    (h : ((lookup m ty).getD []).contains r = true) (hm : matchesStart r s = true) :
    (match lookup m ty with | none => false | some ps => matchesAny ps s) = true := by
  cases hl : lookup m ty with
  | none => rw [hl] at h; cases h
  | some rs =>
    rw [hl] at h
    exact List.any_eq_true.mpr ⟨r, List.contains_iff_mem.mp h, hm⟩

/-- `^\d{1}` as the translator emits it -/
def reLeadingDigit : Re := .seq .bol (.rep 1 (some 0) (.chr clsDigit))

theorem reLeadingDigit_matches (c : Nat) (t : Str) (h1 : 48 ≤ c) (h2 : c ≤ 57) :
    matchesStart reLeadingDigit (c :: t) = true := by
  unfold reLeadingDigit; rw [matchesStart_bol_cls]; exact clsDigit_ascii c h1 h2

theorem catchesDigit_of (cfg : Cfg)
    (h : (((lookup cfg.patterns tyAll).getD []).contains reLeadingDigit ||
      ((lookup cfg.rules tyAll).getD []).contains reLeadingDigit) = true) : CatchesLeadingDigit cfg := by
  intro c t h1 h2
  have hm := reLeadingDigit_matches c t h1 h2
  exact (Bool.or_eq_true_iff.mp h).imp (table_of_contains · hm) (table_of_contains · hm)

theorem shipped_ingredients {cfg : Cfg} (hcfg : cfg = cfgC ∨ cfg = cfgCpp ∨ cfg = cfgPy) :
    WordCfg cfg ∧ HasNonWordRule cfg ∧ CatchesLeadingDigit cfg := by
  rcases hcfg with rfl | rfl | rfl <;>
    exact ⟨wordCfg_of _ (by decide), hasNonWordRule_of _ (by decide), catchesDigit_of _ (by decide +kernel)⟩

end shipped

def isHShape : Str → Bool
  | [95] => true
  | 95 :: c :: _ => !(c == 95) && !(decide (65 ≤ c) && decide (c ≤ 90))
  | _ => false

theorem cHandler_hshape {s r : Str} (h : cHandler s = some r) : isHShape r = true := by
  unfold cHandler at h
  split at h
  · rename_i t
    split at h
    · cases h; rfl
    · rename_i c r' heq
      have hne : c ≠ 95 := by
        have := List.head_dropWhile_not (· == 95) (l := t) (by rw [heq]; simp)
        simpa [heq] using this
      split at h <;> cases h <;>
        simp only [isHShape, Bool.and_eq_true, Bool.not_eq_true', beq_eq_false_iff_ne, Bool.and_eq_false_iff,
          decide_eq_false_iff_not] <;> omega
  · cases h

theorem hshape_cases {r : Str} (hr : isHShape r = true) :
    r = [95] ∨ ∃ c t, r = 95 :: c :: t ∧ c ≠ 95 ∧ ¬ (65 ≤ c ∧ c ≤ 90) := by
  unfold isHShape at hr
  split at hr
  · exact Or.inl rfl
  · rename_i c t
    simp only [Bool.and_eq_true, Bool.not_eq_true', beq_eq_false_iff_ne, Bool.and_eq_false_iff, decide_eq_false_iff_not] at hr
    exact Or.inr ⟨c, t, rfl, hr.1, by omega⟩
  · cases hr

theorem hshape_second {r : Str} (hr : isHShape r = true) {B : Cls} (hB : clsSubUU B = true) :
    ∀ b, r[1]? = some b → B.mem b = false := by
  intro b hb
  rcases hshape_cases hr with rfl | ⟨c, t, rfl, h1, h2⟩
  · cases hb
  · cases hb
    cases hm : B.mem b with
    | false => rfl
    | true => rcases clsSubUU_sound B hB b hm with x | x <;> omega

/-- sufficient syntactic condition for: the pattern matches at the start of no handler token (`isHShape`).  It cannot
match after a leading `_` at all (`rej 95`), or it needs a second character from a class inside `_A-Z`. -/
def chkH : Re → Bool
  | .alt a b => chkH a && chkH b
  | .seq .bol (.seq (.chr A) (.chr B)) => rej 95 (.seq .bol (.seq (.chr A) (.chr B))) || clsSubUU B
  | .seq .bol (.rep 2 mo (.chr A)) => rej 95 (.seq .bol (.rep 2 mo (.chr A))) || clsSubUU A
  | .seq (.rep 2 mo (.chr A)) .eol => rej 95 (.seq (.rep 2 mo (.chr A)) .eol) || clsSubUU A
  | p => rej 95 p

theorem matchesStart_of_rej {p : Re} (h : rej 95 p = true) {r : Str} (hr : isHShape r = true) :
    matchesStart p r = false := by
  unfold matchesStart
  rcases hshape_cases hr with rfl | ⟨c, t, rfl, _, _⟩ <;> rw [rej_sound 95 p h] <;> rfl

theorem chkH_sound (p : Re) (h : chkH p = true) {r : Str} (hr : isHShape r = true) :
    matchesStart p r = false := by
  fun_induction chkH p with
  | case1 a b iha ihb =>
    simp only [Bool.and_eq_true] at h
    have ha := iha h.1
    have hb := ihb h.2
    unfold matchesStart at *
    simp only [Bool.not_eq_false', List.isEmpty_iff] at ha hb
    simp [matchR, ha, hb]
  | case2 A B =>
    rcases Bool.or_eq_true_iff.mp h with h | h
    · exact matchesStart_of_rej h hr
    · rw [matchesStart, matchR_bol_seq, matchR_seq_chr_chr _ A B r (hshape_second hr h)]; rfl
  | case3 mo A =>
    rcases Bool.or_eq_true_iff.mp h with h | h
    · exact matchesStart_of_rej h hr
    · rw [matchesStart, matchR_bol_seq, matchR_rep2_chr _ A mo r (hshape_second hr h)]; rfl
  | case4 mo A =>
    rcases Bool.or_eq_true_iff.mp h with h | h
    · exact matchesStart_of_rej h hr
    · rw [matchesStart, matchR, matchR_rep2_chr _ A mo r (hshape_second hr h)]; rfl
  | case5 p _ _ _ _ => exact matchesStart_of_rej h hr

/-- for any look-up function on association lists: `lookup` here, and the look-ups of the glue model -/
theorem assoc_mem {κ α : Type} [DecidableEq κ] (find : List (κ × α) → κ → Option α) (hnil : ∀ k, find [] k = none)
    (hcons : ∀ k' v rest k, find ((k', v) :: rest) k = if k' = k then some v else find rest k)
    {m : List (κ × α)} {k : κ} {v : α} (h : find m k = some v) : (k, v) ∈ m := by
  induction m with
  | nil => rw [hnil] at h; cases h
  | cons p rest ih =>
    obtain ⟨k', v'⟩ := p
    rw [hcons] at h
    split at h
    · rename_i hk; cases h; subst hk; exact List.mem_cons_self
    · exact List.mem_cons_of_mem _ (ih h)

theorem lookup_mem {m : List (Str × List Re)} {k : Str} {v : List Re} (h : lookup m k = some v) : (k, v) ∈ m :=
  assoc_mem lookup (fun _ => rfl) (fun _ _ _ _ => rfl) h

def handlerSafe (cfg : Cfg) : Bool :=
  cfg.reserved.all (fun k => !isHShape k) &&
  cfg.patterns.all (fun p => p.2.all chkH) && cfg.rules.all (fun p => p.2.all chkH)

theorem table_hshape {m : List (Str × List Re)} (hm : ∀ e ∈ m, ∀ p ∈ e.2, chkH p = true) (ty : Str) {r : Str}
    (hr : isHShape r = true) : (match lookup m ty with | none => false | some ps => matchesAny ps r) = false := by
  split
  · rfl
  · rename_i ps hl
    simp only [matchesAny, List.any_eq_false, Bool.not_eq_true]
    exact fun p hp => chkH_sound p (hm _ (lookup_mem hl) p hp) hr

theorem verify_hshape {cfg : Cfg} (h : handlerSafe cfg = true) (ty : Str) {r : Str} (hr : isHShape r = true) :
    verify cfg ty r = .ok r := by
  simp only [handlerSafe, Bool.and_eq_true, List.all_eq_true, Bool.not_eq_true'] at h
  obtain ⟨⟨h1, h2⟩, h3⟩ := h
  have hp : ∀ ty, patDry cfg ty r = false := fun ty => table_hshape h2 ty hr
  have he : ∀ ty, encodeDry cfg ty r = false := fun ty => table_hshape h3 ty hr
  have hk : isReserved cfg r = false := by
    cases hres : isReserved cfg r with
    | false => rfl
    | true =>
      have := h1 r (List.contains_iff_mem.mp hres)
      rw [hr] at this; cases this
  simp [verify, hp, he, hk]

theorem beforeFix_fired_hshape {cfg : Cfg} {tok ty r : Str}
    (h : stropTraceBeforeFix cfg tok ty = .ok (r, true)) : isHShape r = true :=
  beforeFix_induct (fun s f => f = true → isHShape s = true) nofun (fun _ _ _ _ hh _ _ => cHandler_hshape hh) h rfl

theorem stropTrace_eq_beforeFix_of {cfg : Cfg} {tok ty : Str}
    (hv : ∀ r, stropTraceBeforeFix cfg tok ty = .ok (r, true) → verify cfg (lowerAscii ty) r = .ok r) :
    stropTrace cfg tok ty = stropTraceBeforeFix cfg tok ty := by
  unfold stropTrace
  split
  · rename_i e he; rw [he]
  · rename_i r he; rw [he]
  · rename_i r he; rw [hv r he, he]

theorem stropTrace_eq_beforeFix {cfg : Cfg} (h : handlerSafe cfg = true) (tok ty : Str) :
    stropTrace cfg tok ty = stropTraceBeforeFix cfg tok ty :=
  stropTrace_eq_beforeFix_of fun _ he => verify_hshape h _ (beforeFix_fired_hshape he)

theorem stropTrace_eq_beforeFix_of_no_handler {cfg : Cfg} (h1 : cfg.stropHandler = .none) (h2 : cfg.encHandler = .none)
    (tok ty : Str) : stropTrace cfg tok ty = stropTraceBeforeFix cfg tok ty := by
  refine stropTrace_eq_beforeFix_of fun r he => ?_
  have : true = false := beforeFix_induct (fun _ f => f = false) rfl
    (fun _ _ _ hc => by rw [h1, h2] at hc; rcases hc with x | x <;> cases x) he
  cases this

section shipped
open NunavutVerif.Gen.StropCfg
theorem handlerSafeC : handlerSafe cfgC = true := by decide +kernel
theorem handlerSafeCpp : handlerSafe cfgCpp = true := by decide +kernel
end shipped

end NunavutVerif.Strop
