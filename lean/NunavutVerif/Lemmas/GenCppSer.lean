import NunavutVerif.Lemmas.GenCppPrim
import NunavutVerif.Lemmas.GenCSer
/-!
The generated C++ serializer refines `serBits`, for every type.  Nested calls run on `subspan` windows, and the
delimiter header is written after the nested call; the element loop is the one of the C rendering.  The induction
(`serP`) is the one Lean derives from the mutual definition of the serializer itself.
-/
namespace NunavutVerif.GenCpp
open NunavutVerif.Dsdl NunavutVerif.Bits
open NunavutVerif.GenC (AOff W eTooSmall Wrote Fits SerRefines embedS storageOK storageOKFields storageOKNth wfC wfCAll
  map_ok' wrote_window)
open NunavutVerif.GenC.AOff (Adm adm_zero adm_single adm_add adm_add_bytes adm_pad sums_zero)

/-- contract of a generated `serialize(obj, out_buffer)`, which gets a span with its cursor at 0 and returns a size in
bytes; its up-front check is `maxB ≤ 8 * sub.length`.  Here and below `cap` is only the bound the room was promised
against: the C++ code checks against the span itself (`Fits.length`). -/
def FnOK (inner : Buf → Nat → Except Err W) (spec : Except SerErr (List Bool)) (maxB : Nat) : Prop :=
  ∀ sub cap, Fits sub cap maxB →
    match spec with
    | .ok bits => bits.length % 8 = 0 ∧ ∃ sub', inner sub 0 = .ok (sub', bits.length / 8) ∧ Wrote sub sub' 0 bits
    | .error e => inner sub 0 = .error (embedS e)

theorem nestedSer_refines (o : Opts) (inner : Buf → Nat → Except Err W)
    (spec : Except SerErr (List Bool)) (isDelim : Bool) (minB maxB : Nat)
    (hfn : FnOK inner spec maxB) (hm : maxB % 8 = 0)
    (hlen : ∀ bits, spec = .ok bits → minB ≤ bits.length ∧ bits.length ≤ maxB)
    {cap : Nat} (data : Buf) (off : Nat) (hf : Fits data cap (off + (if isDelim then 32 else 0) + maxB))
    (hal : off % 8 = 0) :
    SerRefines (nestedSer o inner isDelim minB maxB data off)
      (if isDelim then spec.map (fun bs => natToBits 32 (bs.length / 8) ++ bs) else spec) data off := by
  unfold nestedSer
  have hroom := hf.length
  generalize hB : (if isDelim = true then 32 else 0) = B at hroom ⊢
  have hB8 : B % 8 = 0 := by subst hB; cases isDelim <;> rfl
  obtain ⟨k, h8k⟩ := Nat.dvd_of_mod_eq_zero (add_mod_zero hal hB8)
  obtain ⟨nb, rfl⟩ := Nat.dvd_of_mod_eq_zero hm
  clear hB8 hm hal
  have hkn : k + nb ≤ data.length :=
    Nat.le_of_mul_le_mul_left (by rw [Nat.mul_add, ← h8k]; exact hroom) (by decide)
  have hceil : (8 * nb + 7) / 8 * 8 = 8 * nb := by
    rw [Nat.mul_add_div (by decide), Nat.mul_comm]
    rfl
  simp only [hceil, Cpp.subspan_aligned data h8k hkn, ne_eq, not_true_eq_false, if_false]
  rw [assertX_ok o trivial]
  have hsub := hfn ((data.drop k).take nb) nb
    ⟨WF_take (WF_drop hf.wf _) _, Nat.le_refl _, Nat.le_of_eq (window_length hkn).symm⟩
  cases spec with
  | error e =>
    rw [show inner _ 0 = _ from hsub]
    cases isDelim <;> rfl
  | ok bits =>
    obtain ⟨h8, sub', hin, hwr⟩ := hsub
    have hl := hlen bits rfl
    have hbl : bits.length / 8 * 8 = bits.length := Nat.div_mul_cancel (Nat.dvd_of_mod_eq_zero h8)
    clear h8
    rw [hin]
    dsimp only
    rw [hbl, assertX_ok o hl]
    have hwin := wrote_window hkn hl.2 hwr
    rw [← h8k] at hwin
    cases isDelim with
    | false =>
      obtain rfl : 0 = B := hB
      exact ⟨_, rfl, hwin⟩
    | true =>
      obtain rfl : 32 = B := hB
      -- the header goes in front of the nested object that is already in place
      have hset : Sets _ _ off 32 32 _ :=
        setUxx_sets (data.take k ++ sub' ++ data.drop (k + nb)) off (bits.length / 8) 32
      obtain ⟨r, hr⟩ := hset.fits (by rw [hwin.len]; exact Nat.le_trans (Nat.le_add_right _ _) hroom)
      obtain ⟨hl', hwf, hbits⟩ := hset.sets r hr
      simp only [if_true, hr, map_ok']
      refine ⟨r, ?_, GenC.patch_wrote (natToBits_length ..) hwin hl' hwf (fun i => ?_)⟩
      · rw [List.length_append, natToBits_length, Nat.add_assoc]
      · rw [hbits i]
        by_cases hA : off ≤ i ∧ i < off + 32
        · rw [if_pos hA, if_pos hA, bitOf_natToBits_of_lt _ (Nat.sub_lt_left_of_lt_add hA.1 hA.2)]
        · rw [if_neg hA, if_neg hA]

theorem topSer_fnOK (o : Opts) (minB maxB : Nat) (body : Buf → Nat → Except Err W)
    (specBody : Except SerErr (List Bool))
    (hbody : ∀ sub cap, Fits sub cap maxB → SerRefines (body sub 0) specBody sub 0)
    (hlen : ∀ bits, (specBody.map fun bs => bs ++ zeros (padLen 8 bs.length)) = .ok bits →
      minB ≤ bits.length ∧ bits.length ≤ maxB)
    (h0 : maxB = 0 → specBody = .ok []) :
    FnOK (topSer o minB maxB body) (specBody.map fun bs => bs ++ zeros (padLen 8 bs.length)) maxB := by
  intro sub cap hf
  unfold topSer
  by_cases hz : maxB = 0
  · rw [h0 hz, if_pos hz]
    exact ⟨rfl, sub, rfl, Wrote.refl sub 0⟩
  · rw [if_neg hz, if_neg (Nat.not_lt.2 (Cpp.le_size (by rw [Nat.zero_add]; exact hf.length))), assertX_ok o (Nat.zero_mod 8)]
    refine GenC.SerRefines.step (hbody sub cap hf) (fun e => rfl) fun bits b1 hsp hw1 => ?_
    have hl := hlen _ (congrArg (Except.map _) hsp)
    rw [List.length_append, zeros_length] at hl
    have hp8 : (bits.length + padLen 8 bits.length) % 8 = 0 := padTo_mod (a := 8) (Or.inr rfl) bits.length
    obtain ⟨b2, hb2, hw2⟩ := padSer_wrote 8 b1 (0 + bits.length) (Or.inr rfl)
      ((hf.after hw1).mono (by rw [Nat.zero_add]; exact hl.2)).length
    rw [zeros_length] at hb2
    simp only [map_ok', hb2]
    rw [Nat.zero_add, assertX_ok o hl, assertX_ok o hp8]
    rw [Nat.zero_add] at hw2
    refine ⟨by rw [List.length_append, zeros_length]; exact hp8, b2, ?_, hw1.trans (by rwa [Nat.zero_add])⟩
    rw [List.length_append, zeros_length, offsetBytesCeil_of_aligned hp8]

def SerOKX (o : Opts) (t : Ty) (v : Val) : Prop :=
  wf t = true → wfC t = true → hasTy t v = true → storageOK t v = true → ∀ cap d data off,
    Fits data cap (off + maxBits t) → Adm d off → off % align t = 0 →
    SerRefines (serAny o t v d data off) (serBits t v) data off

def FnOKX (o : Opts) (t : Ty) (v : Val) : Prop :=
  wf t = true → wfC t = true → isComposite t = true → hasTy t v = true → storageOK t v = true →
    FnOK (serFn o t v) (serBits t v) (maxBits t)

def NthOKX (o : Opts) (fs : List Ty) (k : Nat) (v : Val) : Prop :=
  wfAll fs = true → wfCAll fs = true → hasTyNth fs k v = true → storageOKNth fs k v = true → ∀ cap d data off,
    Fits data cap (off + maxOpts fs) → Adm d off → off % 8 = 0 →
    SerRefines (GenCpp.serNth o fs k v d data off) (Dsdl.serNth fs k v) data off

def FieldsOKX (o : Opts) (fs : List Ty) (vs : List Val) : Prop :=
  wfAll fs = true → wfCAll fs = true → hasTyFields fs vs = true → storageOKFields fs vs = true →
    ∀ first cap d data off, Fits data cap (maxFields fs off) → Adm d off → (first = true → off = 0) →
    SerRefines (GenCpp.serFields o fs vs first d data off) (Dsdl.serFields fs vs off) data off

theorem nestedFn_refines (o : Opts) {T : Ty} (hw : wf T = true) (hc : isComposite T = true) {v : Val}
    (hfn : FnOK (serFn o T v) (serBits T v) (maxBits T)) (isDelim : Bool) {cap : Nat} (data : Buf) (off : Nat)
    (hf : Fits data cap (off + (if isDelim then 32 else 0) + maxBits T)) (hal : off % 8 = 0) :
    SerRefines (nestedSer o (serFn o T v) isDelim (minBits T) (maxBits T) data off)
      (if isDelim then (serBits T v).map (fun bs => natToBits 32 (bs.length / 8) ++ bs) else serBits T v) data off :=
  nestedSer_refines o _ _ isDelim _ _ hfn (maxBits_composite_mod8 hc) (fun _ hb => lenOK_bounds hw hb) data off hf
    hal

theorem SerOKX.of_fn (o : Opts) {t : Ty} {v : Val} (hc : isComposite t = true) (hfn : FnOKX o t v)
    (he : ∀ d data off, serAny o t v d data off = nestedSer o (serFn o t v) false (minBits t) (maxBits t) data off) :
    SerOKX o t v := by
  intro hw hwC ht hst cap d data off hf hd hal
  rw [he]
  rw [align_of_isComposite hc] at hal
  exact nestedFn_refines o hw hc (hfn hw hwC hc ht hst) false data off hf hal

theorem struct_fnOK (o : Opts) (fs : List Ty) (vs : List Val) (ih : FieldsOKX o fs vs) :
    FnOKX o (.struct fs) (.struct vs) := by
  intro hw hwC _ ht hst
  have hlen := fun bits => lenOK_bounds hw (v := .struct vs) (bits := bits)
  simp only [wf, wfC, hasTy, storageOK] at hw hwC ht hst
  simp only [serBits] at hlen ⊢
  have hpg := padTo_ge 8 (maxFields fs 0)
  apply topSer_fnOK
  · intro sub cap hf
    rw [maxBits] at hf
    exact ih hw hwC ht hst true cap AOff.zero sub 0 (hf.mono hpg) (adm_zero rfl) (fun _ => rfl)
  · exact hlen
  · intro h0
    rw [maxBits] at h0
    exact GenC.serFields_triv fs (fun f _ => GenC.trivOK f) hw hwC vs 0 ht
      (Nat.le_zero.1 (Nat.le_trans hpg (Nat.le_of_eq h0)))

theorem union_fnOK (o : Opts) (fs : List Ty) (k : Nat) (v : Val) (ih : NthOKX o fs k v) :
    FnOKX o (.union fs) (.union k v) := by
  intro hw hwC _ ht hst
  have hlen := fun bits => lenOK_bounds hw (v := .union k v) (bits := bits)
  simp only [wf, wfC, hasTy, storageOK, Bool.and_eq_true, decide_eq_true_eq] at hw hwC ht hst
  rw [serBits_union_nth] at hlen ⊢
  have htb : 8 ≤ tagBits fs.length ∧ tagBits fs.length ≤ 64 ∧ tagBits fs.length % 8 = 0 := stdWidth_bounds _
  have hpg := padTo_ge 8 (tagBits fs.length + maxOpts fs)
  apply topSer_fnOK
  · intro sub cap hf
    rw [maxBits] at hf
    have hfit : Fits sub cap (tagBits fs.length + maxOpts fs) := hf.mono hpg
    refine GenC.SerRefines.prefixed (serInt_nat_wrote (tagBits fs.length) k sub 0 htb.2.1
      (hfit.mono (by rw [Nat.zero_add]; exact Nat.le_add_right _ _)).length) fun b1 hw1 => ?_
    rw [natToBits_length, Nat.zero_add]
    exact ih hw.2 hwC ht hst cap _ b1 _ (hfit.after hw1) (adm_single _) htb.2.2
  · exact hlen
  · intro h0
    rw [maxBits] at h0
    exact absurd (Nat.le_trans (Nat.le_add_right _ _) (Nat.le_trans hpg (Nat.le_of_eq h0)))
      (Nat.not_le.2 (Nat.lt_of_lt_of_le (by decide) htb.1))

section
variable (o : Opts) (hs : o.Sound)
include hs

theorem SerOKX.guarded {t : Ty} {v : Val} (hT : SerOKX o t v) (hw : wf t = true) (hwC : wfC t = true) (cap : Nat)
    (d : AOff) (data : Buf) (off : Nat) (hv : hasTy t v = true ∧ storageOK t v = true)
    (hf : Fits data cap (off + maxBits t)) (hd : Adm d off) (hal : off % align t = 0) :
    SerRefines (anyGuardS o t d data off (serAny o t v d data off)) (serBits t v) data off := by
  rw [anyGuardS_ok o hs t d data off _ hal hd hf.length]
  exact hT hw hwC hv.1 hv.2 cap d data off hf hd hal

theorem serP : (∀ t v, SerOKX o t v) ∧ (∀ t v, FnOKX o t v) ∧ (∀ fs k v, NthOKX o fs k v) ∧
    ∀ fs vs, FieldsOKX o fs vs := by
  apply serAny.mutual_induct
  · -- uint
    intro n m i hw _ _ hst cap d data off hf _ _
    simp only [wf, storageOK, decide_eq_true_eq] at hw hst
    simp only [serAny, serBits, SerRefines]
    rw [GenC.castU_eq_lowBits n m i hst.1 hst.2]
    exact serInt_wrote false n (m == .sat) i data off hw.2 hf.length
  · -- sint
    intro n m i hw _ _ hst cap d data off hf _ _
    simp only [wf, storageOK, decide_eq_true_eq] at hw hst
    simp only [serAny, serBits, SerRefines]
    rw [GenC.castS_eq_lowBits n m i hst.1 hst.2]
    exact serInt_wrote true n (m == .sat) i data off hw.2 hf.length
  · -- float
    intro n m x hw _ ht hst cap d data off hf _ _
    simp only [wf, hasTy, storageOK, decide_eq_true_eq] at hw ht hst
    simp only [serAny, serBits, SerRefines]
    rw [← GenC.floatBits_eq_narrow hw m x ht hst]
    exact serFloat_wrote n m x data off hw hf.length
  · -- bool
    exact fun b _ _ _ _ cap d data off hf _ _ => serBool_wrote b data off hf.length
  · -- void
    exact fun n _ _ _ _ cap d data off hf _ _ => serVoid_wrote n data off hf.length
  · -- fixed array
    intro t n vs ih hw hwC ht hst cap d data off hf hd hal
    simp only [wf, wfC, Bool.and_eq_true] at hw hwC
    simp only [hasTy, storageOK, maxBits, align, Bool.and_eq_true, beq_iff_eq, List.all_eq_true] at ht hst hf hal
    rw [← ht.1] at hf
    simp only [serAny, serBits, ht.1, if_true]
    refine GenC.SerRefines.step (GenC.serLoop_refines t hw _ cap d (n - 1)
      (fun v => (ih v).guarded o hs hw hwC.2 _ _) off hd vs data off 0 0 (fun v hv => ⟨ht.2 v hv, hst v hv⟩) hf
      hal rfl (sums_zero _ _) (by omega)) (fun e => rfl) fun bits b1 hsa hw1 => ?_
    -- the bounds a fixed-length array asserts behind its loop
    dsimp only
    have := serAll_len (fun v bs h => lenOK t hw v bs h) vs bits hsa
    rw [assertX_ok o (show n * minBits t ≤ off + bits.length - off ∧ off + bits.length - off ≤ n * maxBits t by
      rw [Nat.add_sub_cancel_left, ← ht.1]; exact ⟨this.1, this.2.1⟩)]
    exact ⟨b1, rfl, hw1⟩
  · -- variable array
    intro t c vs ih hw hwC ht hst cap d data off hf hd hal
    simp only [wf, wfC, Bool.and_eq_true, decide_eq_true_eq] at hw hwC
    simp only [hasTy, storageOK, maxBits, align, List.all_eq_true, Bool.and_eq_true,
      decide_eq_true_eq] at ht hst hf hal
    simp only [serAny, serBits]
    by_cases hlen : vs.length > c
    · rw [if_pos hlen, if_pos hlen]; rfl
    · rw [if_neg hlen, if_neg hlen]
      have hp : 8 ≤ prefixBits c ∧ prefixBits c ≤ 64 ∧ prefixBits c % 8 = 0 := stdWidth_bounds c
      have hmul : vs.length * maxBits t ≤ c * maxBits t := Nat.mul_le_mul_right _ (Nat.le_of_not_lt hlen)
      refine GenC.SerRefines.prefixed (serInt_nat_wrote (prefixBits c) vs.length data off hp.2.1
        (hf.mono (Nat.add_le_add_left (Nat.le_add_right _ _) off)).length) fun b1 hw1 => ?_
      rw [natToBits_length, assertX_ok o (fun ho => hs.aligned (adm_add hd (adm_single (prefixBits c))) ho)]
      exact GenC.serLoop_refines t hw.2 _ cap d c (fun v => (ih v).guarded o hs hw.2 hwC _ _)
        (off + prefixBits c) (adm_add_bytes hp.2.2 hd) vs b1 (off + prefixBits c) 0 0
        (fun v hv => ⟨ht v hv, hst.2 v hv⟩) ((hf.after hw1).mono (by omega))
        (add_mod_zero hal (align_mod_of_mod8 t hp.2.2)) rfl (sums_zero _ _) (by omega)
  · -- struct, union as members: calls of the function
    exact fun fs vs ih => .of_fn o rfl (struct_fnOK o fs vs ih) fun _ _ _ => rfl
  · exact fun fs k v ih => .of_fn o rfl (union_fnOK o fs k v ih) fun _ _ _ => rfl
  · -- delimited: the inner type's function on the `subspan` behind the header, the header written afterwards
    intro ext inner v ih hw hwC ht hst cap d data off hf hd hal
    simp only [wf, wfC, hasTy, storageOK, align, maxBits, headerBits, Bool.and_eq_true,
      decide_eq_true_eq] at hw hwC ht hst hal hf
    obtain ⟨⟨hcomp, hext⟩, hwi⟩ := hw
    rw [serAny, serBits]
    -- the extent bounds the longest representation of the inner type
    exact nestedFn_refines o hwi hcomp (ih hwi hwC hcomp ht hst) true data off
      (hf.mono (Nat.add_assoc off 32 ext ▸ Nat.add_le_add_left hext.2.1 (off + 32))) hal
  · -- an object of another shape: the specification has the same catch-all
    intro t v h1 h2 h3 h4 h5 h6 h7 h8 h9 h10 _ _ _ _ cap d data off _ _ _
    rw [serAny.eq_11 o t v h10 h1 h2 h3 h4 h5 h6 h7 h8 h9, serBits.eq_11 t v h10 h1 h2 h3 h4 h5 h6 h7 h8 h9]
    rfl
  · -- the generated functions
    exact struct_fnOK o
  · exact union_fnOK o
  · intro ext inner v ih hw hwC hc
    cases hc
  · intro t x h1 h2 _ _ _ hc ht
    rcases hasTy_composite hc ht with ⟨fs, vs, rfl, rfl⟩ | ⟨fs, k, v, rfl, rfl⟩
    · exact (h1 fs vs rfl rfl).elim
    · exact (h2 fs k v rfl rfl).elim
  · -- union options: the chain runs off its end as the specification does
    exact fun k v _ _ _ _ cap d data off _ _ _ => rfl
  · intro f fs v ih hw hwC ht hst cap d data off hf hd hal
    simp only [wfAll, wfCAll, maxOpts, Bool.and_eq_true] at hw hwC hf
    exact ih.guarded o hs hw.1 hwC.1 cap d data off ⟨ht, hst⟩
      (hf.mono (Nat.add_le_add_left (Nat.le_max_left _ _) off)) hd (align_mod_of_mod8 f hal)
  · intro f fs k v ih hw hwC ht hst cap d data off hf hd hal
    simp only [wfAll, wfCAll, maxOpts, Bool.and_eq_true] at hw hwC hf
    exact ih hw.2 hwC.2 ht hst cap d data off (hf.mono (Nat.add_le_add_left (Nat.le_max_right _ _) off)) hd hal
  · -- fields
    exact fun _ _ _ _ first cap d data off _ _ _ => ⟨data, rfl, Wrote.refl data off⟩
  · intro f fs v vs ihv ih hw hwC ht hst first cap d data off hf hd hfirst
    simp only [hasTyFields, storageOKFields, wfAll, wfCAll, maxFields, Bool.and_eq_true] at ht hst hw hwC hf
    have hge := maxFields_ge fs (padTo (align f) off + maxBits f)
    have hac := align_cases f
    have hadm := adm_pad hac hd
    have hal := padTo_mod hac off
    rw [serFields_cons]
    simp only [GenCpp.serFields, padSer_first _ data hac hfirst]
    refine GenC.SerRefines.prefixed (padSer_wrote (align f) data off hac
      (hf.mono (Nat.le_trans (Nat.le_add_right _ _) hge)).length) fun b0 hw0 => ?_
    rw [zeros_length]
    refine GenC.SerRefines.seq ?_ (fun a b1 ha hw1 => ?_)
    · exact ihv.guarded o hs hw.1 hwC.1 cap _ b0 _ ⟨ht.1, hst.1⟩ ((hf.after hw0).mono hge) hadm hal
    · have hlen := lenOK f hw.1 v a ha
      exact ih hw.2 hwC.2 ht.2 hst.2 false cap _ b1 _
        (((hf.after hw0).after hw1).mono (maxFields_mono fs (Nat.add_le_add_left hlen.2.1 _)))
        (adm_add hadm (GenC.resOK f hw.1 v a ha)) (fun h => by cases h)
  · intro fs vs h1 h2 _ _ _ _ first cap d data off _ _ _
    rw [GenCpp.serFields.eq_3 o fs vs h1 h2, Dsdl.serFields.eq_3 fs vs off h1 h2]
    rfl

omit hs in
theorem serializeCpp_eq (t : Ty) (v : Val) (buf : Buf) :
    serializeCpp o t v buf = serFn o (topInner t) v buf 0 := by
  unfold serializeCpp
  cases t <;> rfl

omit hs in
theorem serFn_tooSmall (T : Ty) (hc : isComposite T = true) (v : Val) (ht : hasTy T v = true) (buf : Buf)
    (h : 8 * buf.length < maxBits T) : serFn o T v buf 0 = .error eTooSmall := by
  have hsize : Cpp.Span.size ⟨buf, 0⟩ < maxBits T := by rw [Cpp.size_eq, Nat.mul_comm]; exact h
  have hne : maxBits T ≠ 0 := Nat.ne_of_gt (Nat.lt_of_le_of_lt (Nat.zero_le _) h)
  rcases hasTy_composite hc ht with ⟨fs, vs, rfl, rfl⟩ | ⟨fs, k, x, rfl, rfl⟩ <;>
    exact (if_neg hne).trans (if_pos hsize)

omit hs in
theorem serializeCpp_tooSmall (t : Ty) (hc : isComposite (topInner t) = true) (v : Val)
    (ht : hasTy t v = true) (buf : Buf) (h : 8 * buf.length < maxBits (topInner t)) :
    serializeCpp o t v buf = .error eTooSmall := by
  rw [serializeCpp_eq o]
  exact serFn_tooSmall o _ hc v ((hasTy_topInner t v).trans ht) buf h

theorem serializeCpp_top (t : Ty) (hw : wf t = true) (hwC : wfC t = true) (hc : isComposite (topInner t) = true)
    (v : Val) (ht : hasTy t v = true) (hst : storageOK t v = true) (buf : Buf) (hwf : WF buf) :
    GenC.SerTop (serializeCpp o t v buf) t v buf buf.length :=
  .of_fn hw hwf (Nat.le_refl _) (serializeCpp_tooSmall o t hc v ht buf) fun hroom => by
    rw [serializeCpp_eq o]
    exact (serP o hs).2.1 (topInner t) v (wf_topInner hw) (GenC.wfC_topInner hwC) hc ((hasTy_topInner t v).trans ht)
      (GenC.storageOK_topInner hst) buf _ ⟨hwf, hroom, Nat.le_refl _⟩

end

end NunavutVerif.GenCpp
