import NunavutVerif.Lemmas.BitOf
import NunavutVerif.Lemmas.Bits
import NunavutVerif.Lemmas.DsdlBytes
/-!
The specification's bit lists (`natToBits`, `readNat`, `packBytes`, `unpackBytes`), read bit by bit through `bitOf`,
against the byte buffers of the primitive models (`bitAt`, `fieldOf`, `WF`), and the sign extension of their signed
getters against `signExtend`: what the refinement proofs of the three targets share before they part.
-/
namespace NunavutVerif.Dsdl
open NunavutVerif.Bits
open NunavutVerif.Bits.Py (bitOf bitOf_ge bitOf_nil bitOf_cons_zero bitOf_cons_succ bitOf_append bitOf_take bitOf_drop
  bitOf_ext)

theorem bitOf_zeros (n i : Nat) : bitOf (zeros n) i = false := by
  unfold bitOf zeros
  by_cases h : i < n
  · simp [h]
  · simp [h]

theorem testBit_bitsToNat : ∀ (bs : List Bool) (i : Nat), (bitsToNat bs).testBit i = bitOf bs i := by
  intro bs
  induction bs with
  | nil => intro i; simp [bitsToNat]
  | cons b bs ih =>
    intro i
    cases i with
    | zero =>
      rw [bitOf_cons_zero, Nat.testBit_zero, bitsToNat_cons_mod]
      cases b <;> rfl
    | succ i => rw [bitOf_cons_succ, Nat.testBit_succ, bitsToNat_cons_div, ih]

theorem bitOf_natToBits (n x i : Nat) : bitOf (natToBits n x) i = (decide (i < n) && x.testBit i) := by
  rw [← testBit_bitsToNat, bitsToNat_natToBits, Nat.testBit_mod_two_pow]

theorem bitOf_natToBits_of_lt {n i : Nat} (x : Nat) (h : i < n) : bitOf (natToBits n x) i = x.testBit i := by
  rw [bitOf_natToBits, decide_eq_true h, Bool.true_and]

theorem bitOf_unpackBytes (buf : Buf) : ∀ i, bitOf (unpackBytes buf) i = bitAt buf i := by
  induction buf with
  | nil => intro i; simp [bitAt_nil, unpackBytes]
  | cons x xs ih =>
    intro i
    rw [bitAt_cons]
    simp only [unpackBytes, bitOf_append, natToBits_length]
    by_cases h : i < 8
    · rw [if_pos h, if_pos h, bitOf_natToBits]; simp [h]
    · rw [if_neg h, if_neg h, ih]

theorem testBit_readNat (n : Nat) (bs : List Bool) (i : Nat) :
    (readNat n bs).testBit i = (decide (i < n) && bitOf bs i) := by
  unfold readNat; rw [testBit_bitsToNat, bitOf_take]

theorem readNat_eq_fieldOf (n : Nat) (bs : List Bool) : readNat n bs = fieldOf (bitOf bs) n :=
  eq_fieldOf (testBit_readNat n bs)

theorem readNat_congr_bitOf {n : Nat} {bs bs' : List Bool} (h : ∀ i, i < n → bitOf bs i = bitOf bs' i) :
    readNat n bs = readNat n bs' := by
  rw [readNat_eq_fieldOf, readNat_eq_fieldOf]
  exact fieldOf_congr h

theorem readNat_one (bs : List Bool) : (readNat 1 bs == 1) = bitOf bs 0 := by
  have h1 := readNat_lt 1 bs
  have h2 := testBit_readNat 1 bs 0
  rw [Nat.testBit_zero] at h2
  simp only [Nat.lt_add_one, decide_true, Bool.true_and] at h2
  rw [← h2]
  have : readNat 1 bs = 0 ∨ readNat 1 bs = 1 := by omega
  rcases this with h | h <;> simp [h]

theorem WF_packBytes (bs : List Bool) : WF (packBytes bs) := by
  induction bs using bytewise_ind with
  | nil => intro x hx; cases hx
  | step bs h0 ih =>
    rw [packBytes_step h0]
    intro x hx
    rcases List.mem_cons.1 hx with rfl | hx
    · exact readNat_lt 8 bs
    · exact ih x hx

theorem bitAt_packBytes (bs : List Bool) (i : Nat) : bitAt (packBytes bs) i = bitOf bs i := by
  rw [← bitOf_unpackBytes, unpack_pack, bitOf_append]
  by_cases h : i < bs.length
  · rw [if_pos h]
  · rw [if_neg h, bitOf_zeros, bitOf_ge _ _ (Nat.le_of_not_lt h)]

theorem take_eq_packBytes {buf : Buf} {bits : List Bool} {k : Nat} (hw : WF buf) (hk : k ≤ buf.length)
    (hl : (bits.length + 7) / 8 = k) (h : ∀ i, i < 8 * k → bitAt buf i = bitOf bits i) :
    buf.take k = packBytes bits := by
  apply eq_of_bitAt
  · rw [packBytes_length, List.length_take, Nat.min_eq_left hk, hl]
  · exact WF_take hw k
  · exact WF_packBytes bits
  · intro i
    rw [bitAt_take, bitAt_packBytes]
    by_cases hi : i / 8 < k
    · rw [decide_eq_true hi, Bool.true_and, h i (by omega)]
    · rw [decide_eq_false hi, Bool.false_and, bitOf_ge bits i (by omega)]

theorem unpackBytes_take (buf : Buf) (k : Nat) : unpackBytes (buf.take k) = (unpackBytes buf).take (8 * k) := by
  apply bitOf_ext
  · rw [unpackBytes_length, List.length_take, List.length_take, unpackBytes_length, Nat.mul_min_mul_left]
  · intro i _
    rw [bitOf_unpackBytes, bitAt_take, bitOf_take, bitOf_unpackBytes]
    simp only [Nat.div_lt_iff_lt_mul (Nat.zero_lt_succ 7), Nat.mul_comm k]

theorem unpackBytes_drop (buf : Buf) (k : Nat) : unpackBytes (buf.drop k) = (unpackBytes buf).drop (8 * k) := by
  apply bitOf_ext
  · rw [unpackBytes_length, List.length_drop, List.length_drop, unpackBytes_length, Nat.mul_sub]
  · intro i _
    rw [bitOf_unpackBytes, bitAt_drop, bitOf_drop, bitOf_unpackBytes]

/-- sign extension by the top bit of the field (the form the contracts of the signed getters have) is the specification's -/
theorem signExtend_of_testBit {n u : Nat} (hu : u < 2 ^ n) :
    (if u.testBit (n - 1) then (u : Int) - 2 ^ n else (u : Int)) = signExtend n u := by
  rw [testBit_top hu]
  -- `signExtend` asks `u < 2 ^ (n - 1)`, the negation, and has the branches the other way round
  simp only [signExtend, decide_eq_true_eq, ← Nat.not_lt, ite_not]

/-- the same with the guard `n > 0` of `getI` -/
theorem signExtend_of_top {n u : Nat} (hn1 : 1 ≤ n) (hu : u < 2 ^ n) :
    (if n > 0 ∧ u.testBit (n - 1) = true then (u : Int) - 2 ^ n else (u : Int)) = signExtend n u := by
  rw [← signExtend_of_testBit hu]
  simp only [show n > 0 from hn1, true_and]

end NunavutVerif.Dsdl
