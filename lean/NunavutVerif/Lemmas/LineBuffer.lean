import NunavutVerif.Model.LineBuffer
import NunavutVerif.Model.ProcState
/-!
For C15: `procChunk` consumes a chunk as `scan` would inside the whole text (`procChunk_cont`, stated with `cont`), a
`'\r'` that ends a chunk being held back until the next one. For C10: states of the processors need agree on the
limiters only (`limAgree`), a trimmer's slot is never read.
-/
namespace NunavutVerif.LineBuffer

theorem scan_cons_cons (buf : Str) (c d : Char) (rest : Str) :
    scan buf (c :: d :: rest) =
      if c = '\n' then (⟨buf, LF⟩ :: (scan [] (d :: rest)).1, (scan [] (d :: rest)).2)
      else if c = '\r' ∧ d = '\n' then (⟨buf, CRLF⟩ :: (scan [] rest).1, (scan [] rest).2)
      else scan (buf ++ [c]) (d :: rest) := by
  simp [scan]

theorem scan_append (buf p q : Str)
    (h : ¬ (p.getLast? = some '\r' ∧ q.head? = some '\n')) :
    scan buf (p ++ q) =
      ((scan buf p).1 ++ (scan (scan buf p).2 q).1, (scan (scan buf p).2 q).2) := by
  fun_induction scan buf p with
  | case1 buf => simp
  | case2 buf =>
    cases q with
    | nil => simp [scan]
    | cons d rest => simp [scan]
  | case3 buf c hc =>
    cases q with
    | nil => simp [scan, hc]
    | cons d rest =>
      -- the one place where `scan` looks across the cut: `h` says that `c`, `d` are not `'\r'`, `'\n'`
      simp only [List.singleton_append, List.getLast?_singleton, List.head?_cons,
        Option.some.injEq] at h ⊢
      simp [scan, hc, h]
  | case4 buf d rest r ih =>
    have h' : ¬((d :: rest).getLast? = some '\r' ∧ q.head? = some '\n') := by
      simpa [List.getLast?_cons_cons] using h
    have e := ih h'
    simp only [List.cons_append] at e ⊢
    rw [scan_cons_cons]
    simp [r, e]
  | case5 buf c d rest hc hcd r ih =>
    have h' : ¬(rest.getLast? = some '\r' ∧ q.head? = some '\n') := by
      cases rest with
      | nil =>
        obtain ⟨_, rfl⟩ := hcd
        simp
      | cons x xs => simpa [List.getLast?_cons_cons] using h
    have e := ih h'
    simp only [List.cons_append] at e ⊢
    rw [scan_cons_cons]
    simp [r, e, hcd]
  | case6 buf c d rest hc hcd ih =>
    have h' : ¬((d :: rest).getLast? = some '\r' ∧ q.head? = some '\n') := by
      simpa [List.getLast?_cons_cons] using h
    have e := ih h'
    simp only [List.cons_append] at e ⊢
    rw [scan_cons_cons]
    simp [e, hc, hcd]

def crIf (b : Bool) : Str := if b then ['\r'] else []

theorem chopCR_spec (p : Str) :
    p = (chopCR p).1 ++ crIf (chopCR p).2 ∧
    ((chopCR p).2 = false → (chopCR p).1.getLast? ≠ some '\r') := by
  fun_induction chopCR p with
  | case1 => simp [crIf]
  | case2 c rest h => obtain ⟨rfl, rfl⟩ := h; simp [crIf]
  | case3 c rest h r ih =>
    obtain ⟨ih1, ih2⟩ := ih
    refine ⟨by simp only [List.cons_append]; rw [← ih1], ?_⟩
    intro hb
    have ih2 := ih2 hb
    cases hr : r.1 with
    | nil =>
      -- then `rest = [] ++ crIf false = []`, and `c ≠ '\r'` since the second case did not apply
      have : rest = [] := by
        simp only [r] at hr hb
        rw [ih1, hr, hb]
        rfl
      simp only [List.getLast?_singleton, ne_eq, Option.some.injEq]
      exact fun hc => h ⟨this, hc⟩
    | cons x xs =>
      simp only [List.getLast?_cons_cons]
      simpa [r, hr] using ih2

/-- What the remaining text `t` will produce from state `st`. -/
def cont (st : GenState) (t : Str) : List Line × Str := scan st.buf (crIf st.pend ++ t)

theorem cont_start (t : Str) : cont ⟨[], false⟩ t = scan [] t := rfl

theorem cont_nil (st : GenState) : cont st [] = ([], st.buf ++ crIf st.pend) := by
  cases h : st.pend <;> simp [cont, crIf, scan, h]

theorem procChunk_cont (st : GenState) (part t : Str) :
    cont st (part ++ t) =
      ((procChunk st part).1 ++ (cont (procChunk st part).2 t).1, (cont (procChunk st part).2 t).2) := by
  unfold cont procChunk
  have hp1 : crIf st.pend ++ part = (if st.pend then '\r' :: part else part) := by
    cases st.pend <;> simp [crIf]
  simp only
  rw [← List.append_assoc, hp1]
  generalize (if st.pend then '\r' :: part else part) = part1
  obtain ⟨e, hlast⟩ := chopCR_spec part1
  conv => lhs; rw [e, List.append_assoc]
  apply scan_append
  rintro ⟨h1, h2⟩
  cases hb : (chopCR part1).2 with
  | false => exact hlast hb h1
  | true => simp [hb, crIf] at h2

theorem procChunks_cont (st : GenState) (chunks : List Str) (t : Str) :
    cont st (chunks.flatten ++ t) =
      ((procChunks st chunks).1 ++ (cont (procChunks st chunks).2 t).1,
       (cont (procChunks st chunks).2 t).2) := by
  induction chunks generalizing st with
  | nil => simp [procChunks]
  | cons p ps ih =>
    simp only [List.flatten_cons, List.append_assoc, procChunks]
    rw [procChunk_cont, ih]

theorem write_append (a b : List Line) : write (a ++ b) = write a ++ write b := by
  induction a with
  | nil => simp [write]
  | cons l ls ih => simp [write, ih, List.append_assoc]

theorem write_scan (buf t : Str) :
    write ((scan buf t).1 ++ flush (scan buf t).2) = buf ++ t := by
  fun_induction scan buf t with
  | case1 buf => by_cases h : buf = [] <;> simp [flush, write, h]
  | case2 buf => simp [flush, write, LF]
  | case3 buf c hc => simp [flush, write]
  | case4 buf d rest r ih => simp only [List.cons_append, write, r, ih]; simp [LF]
  | case5 buf c d rest hc hcd r ih =>
    obtain ⟨rfl, rfl⟩ := hcd
    simp only [List.cons_append, write, r, ih]; simp [CRLF]
  | case6 buf c d rest hc hcd ih => simp [ih]

theorem write_specLines (t : Str) : write (specLines t) = t := write_scan [] t

theorem trimStr_spec (s : Str) :
    ∃ ws, trimStr s ++ ws = s ∧ (∀ c ∈ ws, isWs c = true) ∧
      (∀ c, (trimStr s).getLast? = some c → isWs c = false) := by
  fun_induction trimStr s with
  | case1 => exact ⟨[], rfl, fun _ h => absurd h List.not_mem_nil, fun _ h => by cases h⟩
  | case2 c rest r h ih =>
    -- everything from `c` on is whitespace
    obtain ⟨ws, h1, h2, _⟩ := ih
    refine ⟨c :: ws, ?_, ?_, fun _ h => by cases h⟩
    · rw [← h1, show trimStr rest = [] from h.1]; rfl
    · exact List.forall_mem_cons.mpr ⟨h.2, h2⟩
  | case3 c rest r h ih =>
    obtain ⟨ws, h1, h2, h3⟩ := ih
    refine ⟨ws, congrArg (c :: ·) h1, h2, fun x hx => ?_⟩
    cases hr : r with
    | nil =>
      rw [hr] at hx
      cases hx
      simpa [r, hr] using h
    | cons y ys =>
      rw [hr, List.getLast?_cons_cons] at hx
      exact h3 x ((show trimStr rest = y :: ys from hr) ▸ hx)

theorem limitStep_cases (n cnt : Nat) (l : Line) :
    (l.content ≠ [] ∧ limitStep n cnt l = (l, 0)) ∨
    (l.content = [] ∧ cnt + 1 ≤ n ∧ limitStep n cnt l = (l, cnt + 1)) ∨
    (l.content = [] ∧ n < cnt + 1 ∧ limitStep n cnt l = (⟨[], []⟩, cnt + 1)) := by
  unfold limitStep
  by_cases he : l.content = []
  · by_cases hc : n < cnt + 1
    · simp [he, hc]
    · simp [he, hc, Nat.le_of_not_lt hc]
  · simp [he]

theorem limitStep_fst (n cnt : Nat) (l : Line) :
    (limitStep n cnt l).1 = l ∨ ((limitStep n cnt l).1 = ⟨[], []⟩ ∧ l.content = []) := by
  rcases limitStep_cases n cnt l with ⟨_, e⟩ | ⟨_, _, e⟩ | ⟨he, _, e⟩
  · exact .inl (by rw [e])
  · exact .inl (by rw [e])
  · exact .inr ⟨by rw [e], he⟩

theorem limitLines_cons_nonempty (n cnt : Nat) (l : Line) (ls : List Line) (h : l.content ≠ []) :
    limitLines n cnt (l :: ls) = l :: limitLines n 0 ls := by
  simp [limitLines, limitStep, h]

theorem limitLines_cons_keep (n cnt : Nat) (l : Line) (ls : List Line) (h : l.content = [])
    (hc : cnt + 1 ≤ n) : limitLines n cnt (l :: ls) = l :: limitLines n (cnt + 1) ls := by
  simp [limitLines, limitStep, h, Nat.not_lt.mpr hc]

theorem limitLines_cons_drop (n cnt : Nat) (l : Line) (ls : List Line) (h : l.content = [])
    (hc : n < cnt + 1) : limitLines n cnt (l :: ls) = ⟨[], []⟩ :: limitLines n (cnt + 1) ls := by
  simp [limitLines, limitStep, h, hc]

theorem emptyRunsLe_mono {n : Nat} {ls : List Line} {a b : Nat} (hab : a ≤ b)
    (h : emptyRunsLe n b ls = true) : emptyRunsLe n a ls = true := by
  induction ls generalizing a b with
  | nil => rfl
  | cons l ls ih =>
    unfold emptyRunsLe at h ⊢
    by_cases he : l.content = []
    · simp only [he, if_true, Bool.and_eq_true, decide_eq_true_eq] at h ⊢
      exact ⟨by omega, ih (Nat.succ_le_succ hab) h.2⟩
    · simpa [he] using h

theorem pipeLine_length (pps : List PP) (ss : List Nat) (l : Line) :
    (pipeLine pps ss l).2.length = ss.length := by
  fun_induction pipeLine pps ss l with
  | case1 p ps s ss l r r' ih => simp [r', ih]
  | case2 => rfl

theorem pipeLines_nil (ss : List Nat) (ls : List Line) : pipeLines [] ss ls = ls := by
  induction ls generalizing ss with
  | nil => rfl
  | cons l ls ih => simp [pipeLines, pipeLine, ih]

theorem pipeLinesSt_fst (pps : List PP) (ss : List Nat) (ls : List Line) :
    (pipeLinesSt pps ss ls).1 = pipeLines pps ss ls := by
  induction ls generalizing ss with
  | nil => rfl
  | cons l ls ih => simp [pipeLinesSt, pipeLines, ih]

theorem genFile_fst (pps : List PP) (ss : List Nat) (chunks : List Str) :
    (genFile pps ss chunks).1 = output pps ss chunks := by
  rw [genFile, output, pipeLinesSt_fst]

theorem pipeLinesSt_length (pps : List PP) (ss : List Nat) (ls : List Line) :
    (pipeLinesSt pps ss ls).2.length = ss.length := by
  induction ls generalizing ss with
  | nil => rfl
  | cons l ls ih => simp [pipeLinesSt, ih, pipeLine_length]

theorem resetAll_eq (ss : List Nat) : resetAll ss = List.replicate ss.length 0 := List.map_const' ..

open ProcState (limAgree)

theorem pipeLine_agree (pps : List PP) (ss ss' : List Nat) (l : Line) (h : limAgree pps ss ss') :
    (pipeLine pps ss l).1 = (pipeLine pps ss' l).1 ∧
      limAgree pps (pipeLine pps ss l).2 (pipeLine pps ss' l).2 := by
  fun_induction limAgree pps ss ss' generalizing l with
  | case1 => exact ⟨rfl, trivial⟩
  | case2 ps s ss s' ss' ih => exact ih (trim l) h
  | case3 n ps s ss s' ss' ih =>
    obtain ⟨rfl, h⟩ := h
    exact ⟨(ih _ h).1, rfl, (ih _ h).2⟩
  | case4 => exact h.elim

theorem pipeLinesSt_agree (pps : List PP) (ss ss' : List Nat) (ls : List Line) (h : limAgree pps ss ss') :
    (pipeLinesSt pps ss ls).1 = (pipeLinesSt pps ss' ls).1 ∧
      limAgree pps (pipeLinesSt pps ss ls).2 (pipeLinesSt pps ss' ls).2 := by
  induction ls generalizing ss ss' with
  | nil => exact ⟨rfl, h⟩
  | cons l ls ih =>
    have a := pipeLine_agree pps ss ss' l h
    have b := ih _ _ a.2
    simp only [pipeLinesSt]
    exact ⟨by rw [a.1, b.1], b.2⟩

theorem pipeLines_agree (pps : List PP) (ss ss' : List Nat) (ls : List Line) (h : limAgree pps ss ss') :
    pipeLines pps ss ls = pipeLines pps ss' ls := by
  rw [← pipeLinesSt_fst, ← pipeLinesSt_fst, (pipeLinesSt_agree pps ss ss' ls h).1]

end NunavutVerif.LineBuffer
