import NunavutVerif.Model.LineBuffer
/-
Mini template language for the noninterference properties C07 / C10 and its rendering semantics.

The generated tables `Gen/TplFlows*.lean` (translate/tplflows.py) are values of `Tpl`: every built-in template, macro
and block of c, cpp, py, html is a *body*; every Jinja expression occurrence is a `Leaf` carrying the ambient source
classes it may read (`reads`) and the classes removed by sanitisers applied inside the expression (`removes`).

Rendering is defined over an arbitrary interpretation `I` of the leaves (the theorems quantify over all of them):
a leaf sees the declared inputs, the stack of loop items and the ambient state *masked* to the leaf's effective
classes.  Each sanitiser kind is justified separately by a concrete theorem (Lemmas/Tpl.lean, Lemmas/ProcState.lean, Properties/C07, C10):
`.name` on a path, `sort` on a hash-ordered collection, the per-file reset of the unique-name generator, memoisation.

Core Lean only (linked into the `tpl` driver).
-/
namespace NunavutVerif.Tpl

open LineBuffer (Str)

/-- Ambient source classes.  Everything else a leaf reads is a declared input
(T and the types it refers to, the options, the templates, the tool version). -/
inductive Src where
  | time | absPath | platform | hashOrder | random
  | siblings | psUniqueName | psMemo | psTemplateCache | psModelCache
  | psCompileFold     -- a stateful filter on constant arguments: Jinja may evaluate it when the template is COMPILED
  | psSharedMutable   -- an object handed out by a memoised function is mutated
deriving DecidableEq, Repr, Inhabited

/-- What a run may differ in for C07: clock, location/cwd, platform data, hash seed, random numbers. -/
def Src.c07 : List Src := [.time, .absPath, .platform, .hashOrder, .random]
/-- What a run may differ in for C10: sibling types and process-wide state left by earlier files / runs. -/
def Src.c10 : List Src :=
  [.siblings, .psUniqueName, .psMemo, .psTemplateCache, .psModelCache, .psCompileFold, .psSharedMutable]

structure Leaf where
  id      : Nat
  reads   : List Src
  removes : List Src
deriving DecidableEq, Repr, Inhabited

/-- Classes that reach the leaf's value. -/
def Leaf.effective (l : Leaf) : List Src := l.reads.filter fun s => !l.removes.contains s

inductive Cond where
  | audit                -- `nunavut.embed_auditing_info`
  | notAudit             -- `not nunavut.embed_auditing_info`
  | leaf (l : Leaf)
deriving DecidableEq, Repr, Inhabited

inductive Tpl where
  | nil
  | text (id : Nat)                     -- static template data (content is part of the declared inputs)
  | out (e : Leaf)                      -- `{{ e }}`
  | seq (a b : Tpl)
  | ite (c : Cond) (t e : Tpl)
  | loop (e : Leaf) (body : Tpl)        -- `for`; also macro argument binding (one-element iteration)
  | call (m : Nat)                      -- include / extends / macro / block, by index into the program
  | filterBlock (f : Leaf) (t : Tpl)    -- a function of the rendered text of `t`
deriving Repr, Inhabited

inductive FileKind where
  | type | «namespace» | support
deriving DecidableEq, Repr, Inhabited

/-- A template the generators can select for an output file. `body = none`: a support file that is copied, not
rendered.  `first`: the static text the rendering starts with, up to its first newline (clipped); `none` = starts
with something dynamic.  `last`: the static text the rendering ends with, from the line feed before its last line
(`some ""` = the template emits nothing at all); `none` = ends with something dynamic. -/
structure Root where
  name  : String
  kind  : FileKind
  body  : Option Nat
  first : Option String
  last  : Option String
deriving Repr, Inhabited

structure Lang where
  name    : String
  program : List Tpl
  roots   : List Root
deriving Repr, Inhabited

/-! ### Environments and interpretations -/

/-- The ambient state: one abstract value per source class. -/
abbrev Amb := Src → Nat

/-- A leaf only sees the classes in `cs`. -/
def mask (cs : List Src) (a : Amb) : Amb := fun s => if cs.contains s then a s else 0

/-- Interpretation of leaves over declared inputs `δ`: `locals` is the stack of enclosing loop items. -/
structure Interp (δ : Type) where
  text : Nat → Str
  out  : Nat → δ → List Nat → Amb → Str
  cond : Nat → δ → List Nat → Amb → Bool
  iter : Nat → δ → List Nat → Amb → List Nat
  filt : Nat → δ → List Nat → Amb → Str → Str

variable {δ : Type}

def evalCond (I : Interp δ) (audit : Bool) (d : δ) (a : Amb) (ls : List Nat) : Cond → Bool
  | .audit => audit
  | .notAudit => !audit
  | .leaf l => I.cond l.id d ls (mask l.effective a)

/-- Rendering of one body; `callee m ls` renders body `m` (one level less fuel). -/
def renderWith (I : Interp δ) (audit : Bool) (d : δ) (a : Amb) (callee : Nat → List Nat → Str) :
    List Nat → Tpl → Str
  | _, .nil => []
  | _, .text i => I.text i
  | ls, .out e => I.out e.id d ls (mask e.effective a)
  | ls, .seq x y => renderWith I audit d a callee ls x ++ renderWith I audit d a callee ls y
  | ls, .ite c t e =>
      if evalCond I audit d a ls c then renderWith I audit d a callee ls t
      else renderWith I audit d a callee ls e
  | ls, .loop e body =>
      (I.iter e.id d ls (mask e.effective a)).flatMap fun item => renderWith I audit d a callee (item :: ls) body
  | ls, .call m => callee m ls
  | ls, .filterBlock f t => I.filt f.id d ls (mask f.effective a) (renderWith I audit d a callee ls t)

/-- Rendering of body `m` of program `P` with call depth bounded by the fuel (recursive macros exist). -/
def render (I : Interp δ) (P : List Tpl) (audit : Bool) (d : δ) (a : Amb) : Nat → Nat → List Nat → Str
  | 0, _, _ => []
  | fuel + 1, m, ls =>
      match P[m]? with
      | none => []
      | some b => renderWith I audit d a (render I P audit d a fuel) ls b

/-! ### The static check -/

/-- No class of `cs` reaches the leaf. -/
def Leaf.cleanFor (cs : List Src) (l : Leaf) : Bool := l.effective.all fun s => !cs.contains s

def Cond.cleanFor (cs : List Src) : Cond → Bool
  | .leaf l => l.cleanFor cs
  | _ => true

/-- Every leaf that can be evaluated with auditing off is clean: the `then` branch of an auditing guard is exempt. -/
def Tpl.cleanFor (cs : List Src) : Tpl → Bool
  | .nil => true
  | .text _ => true
  | .call _ => true
  | .out e => e.cleanFor cs
  | .seq a b => a.cleanFor cs && b.cleanFor cs
  | .ite .audit _ e => e.cleanFor cs
  | .ite .notAudit t _ => t.cleanFor cs
  | .ite (.leaf l) t e => l.cleanFor cs && t.cleanFor cs && e.cleanFor cs
  | .loop e b => e.cleanFor cs && b.cleanFor cs
  | .filterBlock f t => f.cleanFor cs && t.cleanFor cs

/-- Bodies called from a body. -/
def Tpl.callees : Tpl → List Nat
  | .nil => []
  | .text _ => []
  | .out _ => []
  | .call m => [m]
  | .seq a b => a.callees ++ b.callees
  | .ite _ t e => t.callees ++ e.callees
  | .loop _ b => b.callees
  | .filterBlock _ t => t.callees

/-- `S` is closed under calls and every body in it is clean for `cs`. -/
def closedClean (cs : List Src) (P : List Tpl) (S : List Nat) : Bool :=
  S.all fun m =>
    match P[m]? with
    | none => false
    | some b => b.cleanFor cs && b.callees.all fun c => S.contains c

/-- Bodies reachable from `todo` (worklist with fuel; correctness is not needed: the result is *checked* by
`closedClean`). -/
def reach (P : List Tpl) : Nat → List Nat → List Nat → List Nat
  | 0, _, seen => seen
  | _ + 1, [], seen => seen
  | fuel + 1, m :: todo, seen =>
      if seen.contains m then reach P fuel todo seen
      else
        match P[m]? with
        | none => reach P fuel todo (m :: seen)
        | some b => reach P fuel (b.callees ++ todo) (m :: seen)

def Tpl.size : Tpl → Nat
  | .seq a b => a.size + b.size + 1
  | .ite _ t e => t.size + e.size + 1
  | .loop _ b => b.size + 1
  | .filterBlock _ t => t.size + 1
  | _ => 1

def reachFrom (P : List Tpl) (m : Nat) : List Nat :=
  reach P ((P.map Tpl.size).sum + P.length + 1) [m] []

/-- Every root of kind `k` renders only bodies that are clean for `cs`. -/
def Lang.rootsCleanFor (L : Lang) (cs : List Src) (k : FileKind) : Bool :=
  L.roots.all fun r =>
    if r.kind = k then
      match r.body with
      | none => true
      | some m => (reachFrom L.program m).contains m && closedClean cs L.program (reachFrom L.program m)
    else true

def Lang.cleanFor (L : Lang) (cs : List Src) : Bool :=
  L.rootsCleanFor cs .type && L.rootsCleanFor cs .namespace && L.rootsCleanFor cs .support

/-- The leaves of a body that are *not* clean for `cs` (for reporting). -/
def Tpl.dirty (cs : List Src) : Tpl → List Nat
  | .nil => []
  | .text _ => []
  | .call _ => []
  | .out e => if e.cleanFor cs then [] else [e.id]
  | .seq a b => a.dirty cs ++ b.dirty cs
  | .ite .audit _ e => e.dirty cs
  | .ite .notAudit t _ => t.dirty cs
  | .ite (.leaf l) t e => (if l.cleanFor cs then [] else [l.id]) ++ t.dirty cs ++ e.dirty cs
  | .loop e b => (if e.cleanFor cs then [] else [e.id]) ++ b.dirty cs
  | .filterBlock f t => (if f.cleanFor cs then [] else [f.id]) ++ t.dirty cs

/-- Dirty leaves reachable from the roots of kind `k`. -/
def Lang.dirtyLeaves (L : Lang) (cs : List Src) (k : FileKind) : List Nat :=
  (L.roots.filter fun r => r.kind = k).flatMap fun r =>
    match r.body with
    | none => []
    | some m => (reachFrom L.program m).flatMap fun b =>
        match L.program[b]? with
        | none => []
        | some t => t.dirty cs

/-! ### First / last line of a text (hypotheses of the empty-line-limiter theorems) -/

/-- The text has a non-blank character (not Python `\\s`) before its first line feed. -/
def firstLineNonBlank : Str → Bool
  | [] => false
  | c :: rest => if c = '\n' then false else if LineBuffer.isWs c then firstLineNonBlank rest else true

/-- The last line of the text (after dropping one final line feed) has a non-blank character. -/
def lastLineNonBlank (s : Str) : Bool :=
  match s.reverse with
  | [] => false
  | c :: rest => if c = '\n' then firstLineNonBlank rest else firstLineNonBlank (c :: rest)

def Root.firstNonBlank (r : Root) : Bool :=
  match r.first with
  | none => false
  | some s => firstLineNonBlank s.toList

/-- The template emits nothing at all (e.g. the empty `html/ServiceType.j2`). -/
def Root.emitsNothing (r : Root) : Bool := r.first == some "" && r.last == some ""

/-- The rendering is empty or ends in a non-blank line (known from the trailing static text). -/
def Root.lastNonBlankOrEmpty (r : Root) : Bool :=
  match r.last with
  | none => false
  | some s => s.isEmpty || lastLineNonBlank s.toList

/-! ### A program with some leaves replaced by ambient-independent ones (for stating "clean except for …") -/

/-- The leaf with nothing to read: its value is a function of the declared inputs and the loop context only. -/
def Leaf.scrub (ids : List Nat) (l : Leaf) : Leaf := if ids.contains l.id then ⟨l.id, [], []⟩ else l

def Tpl.scrub (ids : List Nat) : Tpl → Tpl
  | .nil => .nil
  | .text i => .text i
  | .out e => .out (e.scrub ids)
  | .seq a b => .seq (a.scrub ids) (b.scrub ids)
  | .ite (.leaf l) t e => .ite (.leaf (l.scrub ids)) (t.scrub ids) (e.scrub ids)
  | .ite c t e => .ite c (t.scrub ids) (e.scrub ids)
  | .loop e b => .loop (e.scrub ids) (b.scrub ids)
  | .call m => .call m
  | .filterBlock f t => .filterBlock (f.scrub ids) (t.scrub ids)

/-- The templates of a language with the leaves `ids` replaced by any ambient-independent function of the same
arguments (what the program would be if those expressions were repaired). -/
def Lang.scrub (L : Lang) (ids : List Nat) : Lang := { L with program := L.program.map (Tpl.scrub ids) }

/-! ### Everything registered in a template environment (`Gen/TplCallables.lean`) -/

/-- A filter, test or global of a real `CodeGenEnvironment`: the source classes the translator found for it (hand table ∪
scan of its body) and the classes removed by a sanitiser that applies to EVERY use (per-file reset of the unique-name
generator, memoisation transparency). -/
structure Callable where
  what    : String        -- "filter" | "test" | "global"
  name    : String        -- as registered (`ln.cpp.id`)
  short   : String        -- last component
  reads   : List Src
  removes : List Src
deriving Repr

def Callable.effective (c : Callable) : List Src := c.reads.filter fun s => !c.removes.contains s

/-- The registered names a template may use to read something that is not a declared input — by design and documented, or a
known finding.  Everything else registered in an environment must be clean:
* `now_utc` (time stamp of the generation; the built-in templates print it only under `nunavut.embed_auditing_info`);
* Jinja's own `lipsum` global and `random` filter;
* `includes` (C, C++): the hash-ordered set of dependencies, sorted unless the template passes `sort=False`;
* `type_to_include_path`: returns the absolute output path of a type;
* `pickle` (Python): serialises the PyDSDL model — absolute source path and cache fill state (known findings). -/
def expectedAmbient : List (String × String × List Src) :=
  [ ("global", "now_utc", [.time]), ("global", "lipsum", [.random]), ("filter", "random", [.random]),
    ("filter", "includes", [.hashOrder]), ("filter", "type_to_include_path", [.absPath, .hashOrder]),
    ("filter", "pickle", [.absPath, .psModelCache]) ]

def Callable.allowed (c : Callable) : List Src :=
  match expectedAmbient.find? fun e => e.1 = c.what && e.2.1 = c.short with
  | some e => e.2.2
  | none => []

/-- Restricted to the classes `cs`: clean, or one of the expected names with no more than its expected classes. -/
def Callable.asExpected (cs : List Src) (c : Callable) : Bool :=
  (c.effective.filter cs.contains).all c.allowed.contains

/-! ### `sorted` on strings (include lists) -/

/-- Python compares `str` by code point, lexicographically. -/
def strLe : Str → Str → Bool
  | [], _ => true
  | _ :: _, [] => false
  | a :: as, b :: bs => if a.toNat < b.toNat then true else if b.toNat < a.toNat then false else strLe as bs

/-- `sorted(...)` on strings. -/
def sortStrs (l : List Str) : List Str := l.mergeSort strLe

end NunavutVerif.Tpl
