import NunavutVerif.Model.LineBuffer
/-!
# C15 (round 2) — the public surface of `nunavut/_postprocessors.py` and the glue around the line buffer

Core Lean only (linked into the `linebuf` driver).  On top of `Model/LineBuffer.lean`:

* line post-processor **objects** as the generator sees them (`LinePostProcessor.__call__` / `reset`): `Proc`, with
  the two built-in classes (`LimitEmptyLines` with its limit as an arbitrary Python `int` — `argparse type=int` and
  `int(config value)` both deliver negative numbers too) and a few user-defined subclasses used by the correspondence;
  `_filter_and_write_line` with its `None` → `ValueError` branch; `_generate_code` per file with `reset()`;
* `SupportGenerator._copy_header` over an explicit destination state (absent / present with some text), the
  `is_dryrun` / `allow_overwrite` flags, `shutil.copyfile` + `shutil.copymode` for an empty line-processor list, otherwise the resource's lines
  (a text file opened with `newline=""` is iterated with universal line ends, untranslated) through the line buffer;
  histories of several runs into one directory;
* the command line → processor list mapping (`ArgparseRunner._build_post_processor_list_from_args`) with integer
  limits, followed by `_handle_post_processors` — which both generators of a run apply to the *same* list object.
-/
namespace NunavutVerif.LineBuffer

/-! ## `LimitEmptyLines` as an object -/

/-- `LimitEmptyLines`: `_max_empty_lines` exactly as handed to the constructor, `_empty_line_count`. -/
structure LimitObj where
  max   : Int
  count : Nat
deriving DecidableEq, Repr

/-- `LimitEmptyLines(max_empty_lines)` -/
def LimitObj.new (n : Int) : LimitObj := ⟨n, 0⟩

/-- `LimitEmptyLines.reset` -/
def LimitObj.reset (o : LimitObj) : LimitObj := ⟨o.max, 0⟩

/-- `LimitEmptyLines.__call__` -/
def LimitObj.call (o : LimitObj) (l : Line) : Line × LimitObj :=
  let c := if l.content.length = 0 then o.count + 1 else 0
  (if (c : Int) > o.max then ⟨[], []⟩ else l, ⟨o.max, c⟩)

/-! ## Line post-processor objects in general -/

/-- A `LinePostProcessor` object: `__call__` (result `none` = the method returned `None`) and `reset`, over a state
that is a natural number (the built-in classes need no more; it is the counter of `LimitEmptyLines`). -/
structure Proc where
  call  : Nat → Line → Option Line × Nat
  reset : Nat → Nat

/-- `TrimTrailingWhitespace`: stateless, inherits the do-nothing `reset` of the base class. -/
def Proc.trim : Proc := ⟨fun s l => (some (LineBuffer.trim l), s), id⟩

/-- `LimitEmptyLines(n)`, any integer `n`. -/
def Proc.limit (n : Int) : Proc :=
  ⟨fun s l => let r := LimitObj.call ⟨n, s⟩ l; (some r.1, r.2.count), fun s => (LimitObj.reset ⟨n, s⟩).count⟩

/-- `PP` (the processors of `Model/LineBuffer.lean`) as objects. -/
def PP.toProc : PP → Proc
  | .trim => Proc.trim
  | .limit n => Proc.limit n

/-- User-defined subclasses used by the correspondence check (harness/c15.py defines the same four classes):
* `0` the documentation's `CommentItAllOut('/*', '*/')`;
* `1` a processor that returns `None` for the line `x` (a programming error the generator must report);
* `2` a stateful processor (marks every second call) that does **not** override `reset`;
* `3` the same with `reset` overridden as the base class documents. -/
def Proc.custom : Nat → Proc
  | 0 => ⟨fun s l => (some (if l.content.length > 0 then ⟨['/', '*', ' '] ++ l.content ++ [' ', '*', '/'], l.term⟩
                            else ⟨[], []⟩), s), id⟩
  | 1 => ⟨fun s l => (if l.content = ['x'] then none else some l, s), id⟩
  | 2 => ⟨fun s l => (some ⟨(if (s + 1) % 2 = 1 then ['#'] else []) ++ l.content, l.term⟩, s + 1), id⟩
  | _ => ⟨fun s l => (some ⟨(if (s + 1) % 2 = 1 then ['#'] else []) ++ l.content, l.term⟩, s + 1), fun _ => 0⟩

/-- `_filter_and_write_line` up to the write: every processor in order; `none` = `ValueError` raised (the processors
called so far keep their new state). -/
def filterLine : List Proc → List Nat → Line → Option Line × List Nat
  | p :: ps, s :: ss, l =>
      match p.call s l with
      | (none, s') => (none, s' :: ss)
      | (some l', s') =>
        let r := filterLine ps ss l'
        (r.1, s' :: r.2)
  | _, ss, l => (some l, ss)

/-- What ends up in the file for a list of lines: the text written, whether `ValueError` ended the writing, and the
processors' state afterwards. -/
def writeLines (ps : List Proc) : List Nat → List Line → Str × Bool × List Nat
  | ss, [] => ([], false, ss)
  | ss, l :: ls =>
      match filterLine ps ss l with
      | (none, ss') => ([], true, ss')
      | (some l', ss') =>
        let r := writeLines ps ss' ls
        (l'.content ++ l'.term ++ r.1, r.2.1, r.2.2)

/-- `pp.reset()` for every processor of the list. -/
def resetProcs : List Proc → List Nat → List Nat
  | p :: ps, s :: ss => p.reset s :: resetProcs ps ss
  | _, ss => ss

/-- One file through `_generate_code` with line processors: reset, then the chunks through the line buffer. -/
def genOutP (ps : List Proc) (ss : List Nat) (chunks : List Str) : Str × Bool × List Nat :=
  writeLines ps (resetProcs ps ss) (genLines chunks)

/-- A run: the files in order through one list of processor objects; a `ValueError` ends the run (the partly written
file is the last entry). -/
def genFilesP (ps : List Proc) : List Nat → List (List Str) → List (Str × Bool)
  | _, [] => []
  | ss, f :: fs =>
      let r := genOutP ps ss f
      if r.2.1 then [(r.1, true)] else (r.1, false) :: genFilesP ps r.2.2 fs

/-- A processor honours the documented `reset` contract: it returns to its initial state. -/
def Proc.ResetsTo (p : Proc) (init : Nat) : Prop := ∀ s, p.reset s = init

/-! ## `SupportGenerator._copy_header` -/

/-- Iteration over a text file opened with `newline=""`: universal line ends (`\n`, `\r\n`, lone `\r`), returned
untranslated and attached to their line; a last line without one is returned as it is. -/
def fileLinesAux : Str → Str → List Str
  | cur, [] => if cur = [] then [] else [cur]
  | cur, [c] => [cur ++ [c]]
  | cur, c :: d :: rest =>
      if c = '\n' then (cur ++ [c]) :: fileLinesAux [] (d :: rest)
      else if c = '\r' then
        if d = '\n' then (cur ++ [c, d]) :: fileLinesAux [] rest
        else (cur ++ [c]) :: fileLinesAux [] (d :: rest)
      else fileLinesAux (cur ++ [c]) (d :: rest)

def fileLines (text : Str) : List Str := fileLinesAux [] text

/-- One run of the support generator as far as a copied (non-template) resource is concerned. -/
structure CopyRun where
  pps   : List PP        -- the run's line post-processors (file post-processors do not touch the text)
  start : List Nat       -- the state the processor objects happen to be in
  dry   : Bool           -- `is_dryrun`
  allow : Bool           -- `allow_overwrite`
deriving DecidableEq, Repr

/-- `_copy_header`: `none` = `PermissionError` from `_handle_overwrite`; otherwise the destination afterwards
(`none` = no such file). -/
def copyHeader (run : CopyRun) (resource : Str) (dst : Option Str) : Option (Option Str) :=
  if run.dry then some dst
  else if dst.isSome ∧ run.allow = false then none
  else if run.pps.length = 0 then some (some resource)            -- shutil.copyfile + copymode
  else some (some (genFile run.pps (resetAll run.start) (fileLines resource)).1)

/-- Several runs into the same output directory; a failed run leaves the file as it was.  Returns what each run
reported and the destination after the last one. -/
def copyHistory (resource : Str) : Option Str → List CopyRun → List (Option (Option Str)) × Option Str
  | dst, [] => ([], dst)
  | dst, r :: rs =>
      let res := copyHeader r resource dst
      let dst' := match res with | some d => d | none => dst
      let rest := copyHistory resource dst' rs
      (res :: rest.1, rest.2)

/-- The property's statement for a copied resource: the processors applied line by line to its text (with no
processor this is the text itself). -/
def linewise (pps : List PP) (text : Str) : Str :=
  write (pipeLines pps (List.replicate pps.length 0) (specLines text))

/-! ## command line → processor list -/

/-- A post-processor as the assembly sees it, with integer limits. -/
inductive CItem where
  | trim
  | limit (n : Int)
  | prog (nargs : Nat)      -- `ExternalProgramEditInPlace([program] + nargs arguments)`
  | mode (m : Nat)          -- `SetFileMode(file_mode)`
  | other (k : Nat)         -- any other object of an API caller
deriving DecidableEq, Repr

def CItem.isLimit : CItem → Bool | .limit _ => true | _ => false
def CItem.isTrim : CItem → Bool | .trim => true | _ => false
def CItem.isLine : CItem → Bool | .trim => true | .limit _ => true | _ => false

/-- The parsed command line as far as post-processing goes. -/
structure PPArgs where
  trim     : Bool               -- `--pp-trim-trailing-whitespace`
  maxEmpty : Option Int         -- `--pp-max-emptylines N` (`type=int`)
  prog     : Option Nat         -- `--pp-run-program P` with this many `--pp-run-program-arg`
  fileMode : Nat                -- `--file-mode` (default 0o444)
deriving DecidableEq, Repr

/-- `ArgparseRunner._build_post_processor_list_from_args` -/
def cliListZ (a : PPArgs) : List CItem :=
  (if a.trim then [CItem.trim] else []) ++
  (match a.maxEmpty with | some n => [CItem.limit n] | none => []) ++
  (match a.prog with | some k => [CItem.prog k] | none => []) ++ [CItem.mode a.fileMode]

/-- `_handle_post_processors` (`cfgLimit = none`: `KeyError`; the value is `int(...)` of the configured text). -/
def assembleZ (given : Option (List CItem)) (cfgLimit : Option Int) (cfgTrim : Bool) : Option (List CItem) :=
  let g1 := match cfgLimit with
    | some n =>
      (match given with
       | none => some [CItem.limit n]
       | some l => if l.any CItem.isLimit then some l else some (l ++ [CItem.limit n]))
    | none => given
  if cfgTrim then
    (match g1 with
     | none => some [CItem.trim]
     | some l => if l.any CItem.isTrim then some l else some (l ++ [CItem.trim]))
  else g1

/-- The processor list of a CLI run. -/
def cliProcessorsZ (a : PPArgs) (cfgLimit : Option Int) (cfgTrim : Bool) : List CItem :=
  (assembleZ (some (cliListZ a)) cfgLimit cfgTrim).getD []

/-- The line processors of a list, in order — what a generated text goes through. -/
def lineProcs : List CItem → List CItem
  | [] => []
  | i :: is => if i.isLine then i :: lineProcs is else lineProcs is

end NunavutVerif.LineBuffer
