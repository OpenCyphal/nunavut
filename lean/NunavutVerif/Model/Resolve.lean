import NunavutVerif.Gen.PydsdlClasses
/-!
Model of template resolution and of the template-environment contract (property C16).

* `DSDLTemplateLoader.type_to_template`, `_type_to_template_internal`, `get_source`
  (src/nunavut/jinja/loaders.py),
* `DSDLCodeGenerator._create_instance_tests_for_type`, `_create_all_dsdl_tests`
  (src/nunavut/jinja/__init__.py),
* `CodeGenEnvironment.__init__`, `_add_to_environment`, conventional names
  (src/nunavut/jinja/environment.py, src/nunavut/_templates.py).

Core Lean only (linked into the `resolve` driver).  Strings are `List Char`.  Python sets and dicts are
association lists; every `raise` is an explicit branch.  The PyDSDL class table comes from
`Gen/PydsdlClasses.lean`, regenerated from the running PyDSDL on every run.

Two places describe the code *after* the repairs proposed with this check (agent_out/C16/fix_*.diff); the
behaviour of the unrepaired code is kept as `lookupBeforeFix` / `addGlobalsBeforeFix`.
-/
namespace NunavutVerif.Resolve

abbrev Cls  := Nat          -- a class object (identity); the lookup cache is keyed by it
abbrev Name := List Char    -- `__name__`, template stems, filter / test / global names
abbrev Path := List Char    -- a template name as listed by a Jinja loader (relative, `/`-separated)

/-- A class hierarchy as the search sees it: the classes it goes on to from `cls` (`cls.__bases__` without
`object`, in order; none from `pydsdl.Any` in the repaired code) and `cls.__name__`.  Two classes may share a
name. -/
structure Hier where
  bases : Cls → List Cls
  name  : Cls → Name

/-! ## pathlib: `Path(x).suffix`, `Path(x).stem` and the suffix filter -/

/-- Last path component. -/
def baseName (p : Path) : Name := (p.reverse.takeWhile (· ≠ '/')).reverse

/-- `str.rfind(ch)` as a left-to-right scan. -/
def rfindAux (ch : Char) : List Char → Nat → Option Nat → Option Nat
  | [], _, acc => acc
  | c :: cs, i, acc => rfindAux ch cs (i + 1) (if c = ch then some i else acc)

/-- `(stem, suffix)` of a file name (`Path(x).stem`, `Path(x).suffix`): split at the LAST dot only, unless that dot is
the first or the last character.  So the stem is the name minus its last suffix and nothing more:
`UnionType.orig.j2` has stem `UnionType.orig` (not a class name), `StructureType.j2.bak` has suffix `.bak` (filtered
out), `.StructureType.j2` has stem `.StructureType`; case is preserved (`Properties: C16_stem_drops_last_suffix_only`). -/
def splitExt (n : Name) : Name × Name :=
  match rfindAux '.' n 0 none with
  | some i => if 0 < i ∧ i + 1 < n.length then (n.take i, n.drop i) else (n, [])
  | none => (n, [])

/-- `(stem, path)` pairs in enumeration order: what `dict(map(lambda x: (Path(x).stem, Path(x)), …))` is fed. -/
abbrev Templates := List (Name × Path)

/-- `_filter_template_list_by_suffix` followed by the `(stem, path)` map. -/
def templatesOf (suffix : Name) (files : List Path) : Templates :=
  files.filterMap fun f =>
    let se := splitExt (baseName f)
    if se.2 = suffix then some (se.1, f) else none

/-- Look-up in the dict built from the pairs: a later pair with the same stem overwrites an earlier one. -/
def tfind : Templates → Name → Option Path
  | [], _ => none
  | (s, p) :: rest, n =>
    match tfind rest n with
    | some q => some q
    | none => if s = n then some p else none

/-! ## The search -/

/-- `_type_to_template_lookup_cache`. New entries are put in front; a key is only ever inserted when absent. -/
abbrev Cache := List (Cls × Path)

def cfind : Cache → Cls → Option Path
  | [], _ => none
  | (c, p) :: rest, k => if c = k then some p else cfind rest k

/-- The `for base_type in current.__bases__` loop: `search_queue.appendleft(base)` (the queue is popped from
the other end, so the model appends at the back and pops at the front) and — as coded — `discovered.add(current)`,
not the base. -/
def pushBases (cur : Cls) : List Cls → List Cls → List Cls → List Cls × List Cls
  | [], q, d => (q, d)
  | b :: bs, q, d =>
    if d.contains b then pushBases cur bs q d
    else pushBases cur bs (q ++ [b]) (if d.contains cur then d else cur :: d)

/-- The `while len(search_queue) > 0` loop of `_type_to_template_internal`.  `none` = the fuel ran out (the
Python loop has no bound; it terminates because `__bases__` is acyclic — `bfs_spec`). -/
def bfs (H : Hier) (tpl : Templates) : Nat → Cache → List Cls → List Cls → Option (Option Path × Cache)
  | _, cache, [], _ => some (none, cache)
  | 0, _, _ :: _, _ => none
  | fuel + 1, cache, cur :: q, d =>
    match cfind cache cur with
    | some p => some (some p, cache)
    | none =>
      match tfind tpl (H.name cur) with
      | some p => some (some p, (cur, p) :: cache)
      | none =>
        let qd := pushBases cur (H.bases cur) q d
        bfs H tpl fuel cache qd.1 qd.2

/-- The dict `type_to_template` searches (repaired code): package (built-in) entries first, then
`update` with the file-system (user) entries, so a user template shadows a built-in one of the same stem.
`none` = that loader does not exist. -/
def merged (fs pkg : Option Templates) : Templates := pkg.getD [] ++ fs.getD []

/-- `DSDLTemplateLoader.type_to_template` (repaired): one search over the merged dict. -/
def lookup (H : Hier) (fuel : Nat) (cache : Cache) (fs pkg : Option Templates) (c : Cls) :
    Option (Option Path × Cache) :=
  bfs H (merged fs pkg) fuel cache [c] []

/-- `type_to_template` before the repair: a complete search over the file-system set, then — only if that
found nothing — a complete search over the package set, both through the one shared cache. -/
def lookupBeforeFix (H : Hier) (fuel : Nat) (cache : Cache) (fs pkg : Option Templates) (c : Cls) :
    Option (Option Path × Cache) :=
  let r1 := match fs with
    | some t => bfs H t fuel cache [c] []
    | none => some (none, cache)
  match r1 with
  | none => none
  | some (some p, cache') => some (some p, cache')
  | some (none, cache') =>
    match pkg with
    | some t => bfs H t fuel cache' [c] []
    | none => some (none, cache')

/-- A sequence of look-ups on one loader object (the cache is threaded through). -/
def runSeq (look : Cache → Cls → Option (Option Path × Cache)) : Cache → List Cls →
    Option (List (Option Path) × Cache)
  | cache, [] => some ([], cache)
  | cache, c :: cs =>
    match look cache c with
    | none => none
    | some (r, cache') =>
      match runSeq look cache' cs with
      | none => none
      | some (rs, cache'') => some (r :: rs, cache'')

/-! ## The specification: nearest class of the chain that has a template -/

/-- The inheritance chain of `c` in a single-inheritance hierarchy: `c`, its base, … (at most `fuel` classes). -/
def chain (H : Hier) : Nat → Cls → List Cls
  | 0, _ => []
  | f + 1, c => c :: (match H.bases c with
      | b :: _ => chain H f b
      | [] => [])

/-- The template of the first class of the list that has one. -/
def nearest (H : Hier) (find : Name → Option Path) : List Cls → Option Path
  | [] => none
  | c :: cs =>
    match find (H.name c) with
    | some p => some p
    | none => nearest H find cs

/-- Precedence at one name: the user's (file-system) template if there is one, else the built-in one. -/
def mfind (fs pkg : Option Templates) (n : Name) : Option Path :=
  match fs.bind (tfind · n) with
  | some p => some p
  | none => pkg.bind (tfind · n)

/-- Every class has at most one base other than `object`. -/
def SingleInheritance (H : Hier) : Prop := ∀ c, (H.bases c).length ≤ 1

/-- `rank` strictly decreases along `__bases__` (so the hierarchy has no cycle). -/
def RankedBy (H : Hier) (rank : Cls → Nat) : Prop := ∀ c b, b ∈ H.bases c → rank b < rank c

def Acyclic (H : Hier) : Prop := ∃ rank, RankedBy H rank

/-- The template named after the nearest class of the complete chain of `c` (self first) for which `find`
has a template. -/
def nearestAncestor (H : Hier) (find : Name → Option Path) (rank : Cls → Nat) (c : Cls) : Option Path :=
  nearest H find (chain H (rank c + 1) c)

/-- The caches a loader object can hold: empty, or what any earlier look-up (any class, any fuel) left. -/
inductive Reachable (H : Hier) (fs pkg : Option Templates) : Cache → Prop
  | empty : Reachable H fs pkg []
  | step {cache fuel c r cache'} : Reachable H fs pkg cache →
      lookup H fuel cache fs pkg c = some (r, cache') → Reachable H fs pkg cache'

/-- The same for the code before the repair. -/
inductive ReachableBeforeFix (H : Hier) (fs pkg : Option Templates) : Cache → Prop
  | empty : ReachableBeforeFix H fs pkg []
  | step {cache fuel c r cache'} : ReachableBeforeFix H fs pkg cache →
      lookupBeforeFix H fuel cache fs pkg c = some (r, cache') → ReachableBeforeFix H fs pkg cache'

/-! ## `get_source` -/

inductive Origin | user | builtin
deriving DecidableEq, Repr

/-- Content of a template directory / package: template name ↦ content id. -/
abbrev Store := List (Path × Nat)

def sfind : Store → Path → Option Nat
  | [], _ => none
  | (p, v) :: rest, k => if p = k then some v else sfind rest k

/-- `FileSystemLoader.get_source`: the first search path that has the file. -/
def fsSource : List Store → Path → Option Nat
  | [], _ => none
  | d :: ds, t =>
    match sfind d t with
    | some v => some v
    | none => fsSource ds t

/-- `DSDLTemplateLoader.get_source` for a name already in canonical form; `none` = `TemplateNotFound`.
The code PROBES the file-system loader (try / except TemplateNotFound) — it does not consult a listing — so what
counts is which files open: a file under a symbolic-linked sub-directory is not listed (followlinks off) but opens. -/
def getSourceAt (fs : Option (List Store)) (pkg : Option Store) (t : Path) : Option (Origin × Nat) :=
  match fs.bind (fsSource · t) with
  | some v => some (.user, v)
  | none =>
    match pkg with
    | some s => (sfind s t).map fun v => (.builtin, v)
    | none => none

/-- `template.split("/")`. -/
def splitSlash : List Char → Name → List Name
  | [], cur => [cur.reverse]
  | c :: cs, cur => if c = '/' then cur.reverse :: splitSlash cs [] else splitSlash cs (c :: cur)

/-- Jinja's `split_template_path`, joined again: empty pieces and `.` pieces are dropped (`./x`, `a//x`, `/x`, `x/`
all name `x`), a `..` piece is refused (`none` = `TemplateNotFound`).  Both Jinja loaders apply it to the requested
name, so the stores are keyed by canonical names. -/
def canonicalName (t : Path) : Option Path :=
  let ps := splitSlash t []
  if ps.contains ['.', '.'] then none
  else some (List.intercalate ['/'] (ps.filter fun p => p ≠ [] ∧ p ≠ ['.']))

/-- `DSDLTemplateLoader.get_source(environment, template)` for a name as spelled in the request. -/
def getSource (fs : Option (List Store)) (pkg : Option Store) (t : Path) : Option (Origin × Nat) :=
  match canonicalName t with
  | none => none
  | some c => getSourceAt fs pkg c

/-! ## Instance tests -/

/-- The class table: `(name, names of the bases)`. -/
abbrev Table := List (Name × List Name)

def genTable : Table := Gen.PydsdlClasses.classes

def indexOf : Table → Name → Option Nat
  | [], _ => none
  | (n, _) :: rest, k => if n = k then some 0 else (indexOf rest k).map (· + 1)

/-- The table as the hierarchy the search walks: class = row index; the search does not go on from a class
named in `stops` (`if current_search_type is pydsdl.Any: continue`). -/
def Hier.ofTable (t : Table) (stops : List Name) : Hier where
  bases c := match t[c]? with
    | some e => if stops.contains e.1 then [] else e.2.filterMap (indexOf t)
    | none => []
  name c := match t[c]? with
    | some e => e.1
    | none => []

def genStops : List Name := Gen.PydsdlClasses.searchStops

def basesOf : Table → Name → List Name
  | [], _ => []
  | (n, bs) :: rest, k => if n = k then bs else basesOf rest k

/-- `issubclass(c, r)`: reflexive-transitive closure of `__bases__` (fuel ≥ depth of the table). -/
def isSub (t : Table) : Nat → Name → Name → Bool
  | 0, c, r => c = r
  | f + 1, c, r => c = r || (basesOf t c).any fun b => isSub t f b r

/-- `cls.__subclasses__()` restricted to the table, in table order. -/
def subclassesOf (t : Table) (n : Name) : List Name :=
  (t.filter fun e => e.2.contains n).map (·.1)

/-- `str.lower()` for ASCII names (the translator refuses anything else). -/
def lower (n : Name) : Name := n.map Char.toLower

/-- The short alias: lower case, minus a trailing `type` (if longer than 4) else minus a trailing `field`
(if longer than 5). -/
def aliasOf (n : Name) : Name :=
  let l := lower n
  if l.length > 4 ∧ ['t', 'y', 'p', 'e'].isSuffixOf l then l.take (l.length - 4)
  else if l.length > 5 ∧ ['f', 'i', 'e', 'l', 'd'].isSuffixOf l then l.take (l.length - 5)
  else l

/-- `_create_instance_tests_for_type(root)`: `(test name, class)` in insertion order (a later pair with the
same name overwrites).  `none` = fuel ran out. -/
def testsFor (t : Table) : Nat → Name → Option (List (Name × Name))
  | 0, _ => none
  | f + 1, root =>
    (subclassesOf t root).foldl
      (fun acc d => match acc, testsFor t f d with
        | some a, some b => some (a ++ b)
        | _, _ => none)
      (some [(root, root), (aliasOf root, root)])

/-- `_create_all_dsdl_tests()`. -/
def allTests (t : Table) (roots : List Name) : Option (List (Name × Name)) :=
  roots.foldl
    (fun acc r => match acc, testsFor t (t.length + 1) r with
      | some a, some b => some (a ++ b)
      | _, _ => none)
    (some [])

/-- dict look-up, last writer wins. -/
def testClass : List (Name × Name) → Name → Option Name
  | [], _ => none
  | (s, c) :: rest, n =>
    match testClass rest n with
    | some q => some q
    | none => if s = n then some c else none

inductive TestErr | noSuchTest | noDataType
deriving DecidableEq, Repr

/-- `_field_is_instance` of the closure for `root`, on a value whose class is `vcls` and, when it has a
`data_type`, whose `data_type`'s class is `dt`. -/
def fieldIsInstance (t : Table) (redirect root : Name) (vcls : Name) (dt : Option Name) : Except TestErr Bool :=
  if isSub t t.length vcls redirect then
    match dt with
    | some d => .ok (isSub t t.length d root)
    | none => .error .noDataType
  else .ok (isSub t t.length vcls root)

/-- `env.tests[name](value)`. -/
def evalTest (t : Table) (tests : List (Name × Name)) (redirect : Name) (testName vcls : Name)
    (dt : Option Name) : Except TestErr Bool :=
  match testClass tests testName with
  | none => .error .noSuchTest
  | some root => fieldIsInstance t redirect root vcls dt

/-- A history of test evaluations in one environment: `(test name, class of the value, class of its data_type)`.
The closures hold no state (no memo keyed by object identity), so the environment is not threaded through. -/
def evalSeq (t : Table) (tests : List (Name × Name)) (redirect : Name) :
    List (Name × Name × Option Name) → List (Except TestErr Bool)
  | [] => []
  | q :: qs => evalTest t tests redirect q.1 q.2.1 q.2.2 :: evalSeq t tests redirect qs

def genRoots : List Name := Gen.PydsdlClasses.instanceTestRoots
def genRedirect : Name := Gen.PydsdlClasses.redirectClass
def genTests : Option (List (Name × Name)) := allTests genTable genRoots
def genCodeTests : List (Name × Name) := Gen.PydsdlClasses.codeTests

/-! ## The environment -/

/-- Who put a value into a collection. -/
inductive Owner
  | jinja | reserved | lang
  | pre (i : Nat) | post (i : Nat) | user (i : Nat)
deriving DecidableEq, Repr

/-- `env.filters`, `env.tests`, `env.globals`: dicts. -/
abbrev Coll := List (Name × Owner)

def cget : Coll → Name → Option Owner
  | [], _ => none
  | (k, v) :: rest, n => if k = n then some v else cget rest n

def cset : Coll → Name → Owner → Coll
  | [], n, v => [(n, v)]
  | (k, w) :: rest, n, v => if k = n then (k, v) :: rest else (k, w) :: cset rest n v

inductive Err
  | alreadyDefined (n : Name)
  | reservedGlobal (n : Name)
deriving DecidableEq, Repr

/-- `_add_to_environment`. -/
def addToEnv (allow : Bool) (coll : Coll) (n : Name) (v : Owner) : Except Err Coll :=
  match cget coll n with
  | some _ => if allow then .ok (cset coll n v) else .error (.alreadyDefined n)
  | none => .ok (cset coll n v)

def addAll (allow : Bool) : Coll → List (Name × Owner) → Except Err Coll
  | m, [] => .ok m
  | m, (n, v) :: rest =>
    match addToEnv allow m n v with
    | .ok m' => addAll allow m' rest
    | .error e => .error e

/-- `dict.update` / plain item assignment: no check. -/
def setAll : Coll → List (Name × Owner) → Coll
  | m, [] => m
  | m, (n, v) :: rest => setAll (cset m n v) rest

/-- COUNTERFACTUAL, not the code: `dict.setdefault` for every pair (an existing entry is kept).  Only used in an
`example` of Properties/C16 showing that it is the unconditional overwrite, performed after the user's globals
were taken, that protects the language globals. -/
def setDefaultAll : Coll → List (Name × Owner) → Coll
  | m, [] => m
  | m, (n, v) :: rest =>
    setDefaultAll (match cget m n with
      | some _ => m
      | none => cset m n v) rest

def dropPrefix? (pre n : Name) : Option Name :=
  if pre.isPrefixOf n then some (n.drop pre.length) else none

/-- `LanguageEnvironment._parse_callable_name`: the name a callable is registered under. -/
def conventionalName (n : Name) : Name :=
  match dropPrefix? Gen.PydsdlClasses.testPrefix n with
  | some r => r
  | none =>
    match dropPrefix? Gen.PydsdlClasses.filterPrefix n with
    | some r => r
    | none =>
      match dropPrefix? Gen.PydsdlClasses.usesPrefix n with
      | some r => r
      | none => n

def conv (xs : List (Name × Owner)) : List (Name × Owner) := xs.map fun e => (conventionalName e.1, e.2)

/-- The `additional_globals` loop of `CodeGenEnvironment.__init__` (repaired): a reserved name raises, any
other name goes through `_add_to_environment`. -/
def addGlobals (reserved : List Name) (allow : Bool) : Coll → List (Name × Owner) → Except Err Coll
  | g, [] => .ok g
  | g, (n, v) :: rest =>
    if reserved.contains n then .error (.reservedGlobal n)
    else match addToEnv allow g n v with
      | .ok g' => addGlobals reserved allow g' rest
      | .error e => .error e

/-- The loop before the repair: `self.globals[global_name] = global_value`. -/
def addGlobalsBeforeFix (reserved : List Name) : Coll → List (Name × Owner) → Except Err Coll
  | g, [] => .ok g
  | g, (n, v) :: rest =>
    if reserved.contains n then .error (.reservedGlobal n)
    else addGlobalsBeforeFix reserved (cset g n v) rest

inductive Kind | filter | test
deriving DecidableEq, Repr

structure Env where
  filters : Coll
  tests   : Coll
  globals : Coll
deriving Repr

/-- What the environment contains apart from the user's additions. -/
structure EnvCfg where
  jinjaFilters : Coll                       -- `jinja2.Environment()` defaults (+ extensions)
  jinjaTests   : Coll
  jinjaGlobals : Coll
  reservedNs    : List Name                 -- RESERVED_GLOBAL_NAMESPACES
  reservedNames : List Name                 -- RESERVED_GLOBAL_NAMES
  langGlobals  : List (Name × Owner)        -- `target_language.get_globals()`, installed with `dict.update`
  preFilters   : List (Name × Owner)        -- language support + the environment's own methods, through
  preTests     : List (Name × Owner)        --   `_add_to_environment`, before the user's filters and tests
  post         : List (Kind × Name × Owner) -- `DSDLCodeGenerator.__init__` after `create()`: instance tests,
                                            --   then the generator's own `filter_*` / `is_*` methods

def addPost (allow : Bool) : Env → List (Kind × Name × Owner) → Except Err Env
  | e, [] => .ok e
  | e, (.filter, n, v) :: rest =>
    match addToEnv allow e.filters n v with
    | .ok f => addPost allow { e with filters := f } rest
    | .error x => .error x
  | e, (.test, n, v) :: rest =>
    match addToEnv allow e.tests n v with
    | .ok t => addPost allow { e with tests := t } rest
    | .error x => .error x

def nowUtc : Name := ['n', 'o', 'w', '_', 'u', 't', 'c']

/-- Globals once the user's have been taken: reserved namespaces, `now_utc`, language globals. -/
def builtinGlobals (cfg : EnvCfg) (g : Coll) : Coll :=
  setAll (cset (setAll g (cfg.reservedNs.map fun n => (n, Owner.reserved))) nowUtc .reserved) cfg.langGlobals

/-- Everything after the `additional_globals` loop. -/
def constructRest (cfg : EnvCfg) (allow : Bool) (g : Coll) (uf ut : List (Name × Owner)) : Except Err Env :=
  match addAll allow cfg.jinjaFilters cfg.preFilters with
  | .error e => .error e
  | .ok f1 =>
    match addAll allow cfg.jinjaTests cfg.preTests with
    | .error e => .error e
    | .ok t1 =>
      match addAll allow f1 (conv uf) with
      | .error e => .error e
      | .ok f2 =>
        match addAll allow t1 (conv ut) with
        | .error e => .error e
        | .ok t2 => addPost allow ⟨f2, t2, builtinGlobals cfg g⟩ cfg.post

/-- `DSDLCodeGenerator(namespace, additional_globals=ug, additional_filters=uf, additional_tests=ut)` with
`allow_filter_test_or_use_query_overwrite = allow` (repaired code). -/
def construct (cfg : EnvCfg) (allow : Bool) (ug uf ut : List (Name × Owner)) : Except Err Env :=
  match addGlobals (cfg.reservedNs ++ cfg.reservedNames) allow cfg.jinjaGlobals ug with
  | .error e => .error e
  | .ok g => constructRest cfg allow g uf ut

def constructBeforeFix (cfg : EnvCfg) (allow : Bool) (ug uf ut : List (Name × Owner)) : Except Err Env :=
  match addGlobalsBeforeFix (cfg.reservedNs ++ cfg.reservedNames) cfg.jinjaGlobals ug with
  | .error e => .error e
  | .ok g => constructRest cfg allow g uf ut

end NunavutVerif.Resolve
