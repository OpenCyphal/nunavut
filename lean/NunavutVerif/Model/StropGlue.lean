import NunavutVerif.Model.Strop
/-!
# The glue around `TokenEncoder.strop` (C09, round 2)

What stands between a language configuration and an answer of `Language.filter_id`:

* **A — assembly** (`TokenEncoder.__init__`, `_get_map_of_type_to_lists_of_patterns`, the `LanguageConfig` getters of
  `lang/_config.py`, `LanguageContextBuilder.create` → `LanguageConfig.update_section` → `deep_update`): a configuration
  section (what `yaml.load` + `LanguageConfig.update` leave in `LanguageConfig._sections`) and the language class's own
  additions (`additional_reserved_identifiers`, the failure handlers) ↦ the encoder's tables.
  `list` objects live on an explicit heap (address = index): the YAML alias `*nunavut_lang_c_reserved_identifiers` makes the
  `c` and the `cpp` section hold **the same** list object, `deep_update` assigns lists by reference, and an encoder built
  without additions holds that very object in `_reserved_identifiers`.  `newEncoder` allocates (`a + b`) and never writes;
  `newEncoderExtendInPlace` (`a += b`) is kept as the foil for the non-vacuity examples.
* **B — the wrapper** `Language.filter_id`: `default_filter_id_for_target` (`str(instance.name)` if the instance has a
  `name` attribute else `str(instance)`), then `strop`; the base class (js, html) returns the raw name.
* **C — the caches** as a state machine: `cached_property _token_encoder` per `Language` object (the encoder is built at
  the first call from the configuration as it is then) and `functools.lru_cache(maxsize=1024)` on `TokenEncoder.strop`,
  one cache per process, key `(encoder object, token, token_type as passed)`, exceptions are not cached, a miss is
  counted before the call (CPython `bounded_lru_cache_wrapper`), least recently used entry evicted when full.

Core Lean only.
-/
namespace NunavutVerif.StropGlue
open NunavutVerif.Regex NunavutVerif.Strop

deriving instance DecidableEq for Cfg

/-! ## A. configuration objects -/

/-- the `list` objects of the process; address = index; only ever appended to by the code as it is -/
abbrev Heap := List (List Str)

/-- a value that is not a mapping -/
inductive Leaf where
  | str (s : Str)
  | null                -- YAML `key:` / `null` / `~`
  | bool (b : Bool)
  | num (n : Nat)       -- YAML integer ≥ 0
  | list (a : Nat)      -- reference to a list object
  | other               -- anything else (a nested mapping inside a mapping, a float, …): never read by the encoder
deriving DecidableEq, Repr

inductive CVal where
  | leaf (l : Leaf)
  | dict (es : List (Str × Leaf))
deriving DecidableEq, Repr

/-- one section of `LanguageConfig._sections` (a `dict`: keys unique, insertion ordered) -/
abbrev Section := List (Str × CVal)

inductive AErr where
  | keyError        -- KeyError: no section / no such key and no default
  | anyKeyReserved  -- RuntimeError "'any' key is reserved and cannot be used in configuration."
  | reError         -- re.error from re.compile
  | dangling        -- a reference outside the heap (excluded by `secWf`; never produced by `load`)
  | unsupported     -- a value the model does not describe (str() of a list / mapping, a non-list in a pattern map)
deriving DecidableEq, Repr

instance instDecEqExcept {ε α : Type} [DecidableEq ε] [DecidableEq α] : DecidableEq (Except ε α) := fun a b =>
  match a, b with
  | .ok x, .ok y => if h : x = y then isTrue (by rw [h]) else isFalse (by intro e; cases e; exact h rfl)
  | .error x, .error y => if h : x = y then isTrue (by rw [h]) else isFalse (by intro e; cases e; exact h rfl)
  | .ok _, .error _ => isFalse (by intro e; cases e)
  | .error _, .ok _ => isFalse (by intro e; cases e)

def aget {α : Type} (m : List (Str × α)) (k : Str) : Option α :=
  match m with
  | [] => none
  | (k', v) :: rest => if k' = k then some v else aget rest k

/-- `d[k] = v` on an insertion-ordered `dict` -/
def dset {α : Type} (m : List (Str × α)) (k : Str) (v : α) : List (Str × α) :=
  match m with
  | [] => [(k, v)]
  | (k', v') :: rest => if k' = k then (k', v) :: rest else (k', v') :: dset rest k v

/-! ### `str(x)` -/

def decCore : Nat → Nat → Str → Str
  | 0, _, acc => acc
  | fuel + 1, n, acc =>
    let acc' := (48 + n % 10) :: acc
    if n / 10 = 0 then acc' else decCore fuel (n / 10) acc'

/-- `str(n)` for `n ≥ 0` -/
def decimal (n : Nat) : Str := decCore (n + 1) n []

def sTrue : Str := [84, 114, 117, 101]            -- "True"
def sFalse : Str := [70, 97, 108, 115, 101]       -- "False"
def sNone : Str := [78, 111, 110, 101]            -- "None"
def sfalse : Str := [102, 97, 108, 115, 101]      -- "false"
def strue : Str := [116, 114, 117, 101]           -- "true"
def tyAny : Str := [97, 110, 121]                 -- "any"

/-- `LanguageConfig.get_config_value`: `str(value) if value is not None else ""` -/
def leafStr : Leaf → Option Str
  | .str s => some s
  | .null => some []
  | .bool true => some sTrue
  | .bool false => some sFalse
  | .num n => some (decimal n)
  | .list _ => none
  | .other => none

/-- `get_config_value(key, default)` (`default = none`: raises `KeyError` when the key is missing) -/
def getStr (sec : Section) (k : Str) (dflt : Option Str) : Except AErr Str :=
  match aget sec k with
  | none => (match dflt with | some d => .ok d | none => .error .keyError)
  | some (.leaf l) => (match leafStr l with | some s => .ok s | none => .error .unsupported)
  | some (.dict _) => .error .unsupported

/-- `get_config_value_as_bool(key, default)`: `"false"` (any case) and `"0"` are false, else `bool(str)` -/
def getBool (sec : Section) (k : Str) (dflt : Bool) : Except AErr Bool :=
  match getStr sec k (some (if dflt then strue else sfalse)) with
  | .error e => .error e
  | .ok s => .ok (if lowerAscii s = sfalse ∨ s = [48] then false else !s.isEmpty)

/-- `get_config_value_as_list(key, default_value=[])`: the list object itself, or `none` = the (fresh) default -/
def getList (sec : Section) (k : Str) : Option Nat :=
  match aget sec k with
  | some (.leaf (.list a)) => some a
  | _ => none

/-- `get_config_value_as_dict(key, default_value={})` -/
def getDict (sec : Section) (k : Str) : List (Str × Leaf) :=
  match aget sec k with
  | some (.dict es) => es
  | _ => []

/-! ### `TokenEncoder._get_map_of_type_to_lists_of_patterns` -/

def compileAll (compile : Str → Option Re) : List Str → Option (List Re)
  | [] => some []
  | s :: rest =>
    match compile s, compileAll compile rest with
    | some r, some rs => some (r :: rs)
    | _, _ => none

/-- the loop over `map_of_list_of_strings.items()`; `m` = the map so far, `anyl` = `any_patterns` -/
def buildMap (compile : Str → Option Re) (h : Heap) :
    List (Str × Leaf) → List (Str × List Re) → List Re → Except AErr (List (Str × List Re))
  | [], m, anyl => .ok (dset m tyAny anyl)
  | (k, .list a) :: rest, m, anyl =>
    (match h[a]? with
     | none => .error .dangling
     | some srcs =>
       match compileAll compile srcs with
       | none => .error .reError
       | some ps =>
         if lowerAscii k = tyAny then .error .anyKeyReserved
         else buildMap compile h rest (dset m (lowerAscii k) ps) (anyl ++ ps))
  | (_, _) :: _, _, _ => .error .unsupported

/-! ### `TokenEncoder.__init__` -/

/-- what the language class itself contributes (Python code, regenerated by the translator) -/
structure LangCode where
  strops : Bool                         -- the class overrides `filter_id` with default_filter_id_for_target + strop
  additional : Option (List Str)        -- `additional_reserved_identifiers=`
  stropHandler : Handler
  encHandler : Handler
deriving DecidableEq, Repr

/-- a `TokenEncoder` object -/
structure Enc where
  reserved : Nat                        -- the list object held in `_reserved_identifiers`
  stropPrefix : Str
  stropSuffix : Str
  encPrefix : Str
  wsChar : Option Str
  collapse : Bool
  patterns : List (Str × List Re)
  rules : List (Str × List Re)
  stropHandler : Handler
  encHandler : Handler
deriving DecidableEq, Repr

def kPatterns : Str := [114, 101, 115, 101, 114, 118, 101, 100, 95, 116, 111, 107, 101, 110, 95, 112, 97, 116, 116, 101, 114,
  110, 115, 95, 98, 121, 95, 116, 121, 112, 101]                    -- "reserved_token_patterns_by_type"
def kRules : Str := [116, 111, 107, 101, 110, 95, 101, 110, 99, 111, 100, 105, 110, 103, 95, 114, 117, 108, 101, 115, 95, 98,
  121, 95, 105, 100, 101, 110, 116, 105, 102, 105, 101, 114, 95, 116, 121, 112, 101]  -- "token_encoding_rules_by_identifier_type"
def kReserved : Str := [114, 101, 115, 101, 114, 118, 101, 100, 95, 105, 100, 101, 110, 116, 105, 102, 105, 101, 114, 115]
def kStropPrefix : Str := [115, 116, 114, 111, 112, 112, 105, 110, 103, 95, 112, 114, 101, 102, 105, 120]
def kStropSuffix : Str := [115, 116, 114, 111, 112, 112, 105, 110, 103, 95, 115, 117, 102, 102, 105, 120]
def kEncPrefix : Str := [101, 110, 99, 111, 100, 105, 110, 103, 95, 112, 114, 101, 102, 105, 120]
def kWsChar : Str := [119, 104, 105, 116, 101, 115, 112, 97, 99, 101, 95, 101, 110, 99, 111, 100, 105, 110, 103, 95, 99, 104,
  97, 114]                                                          -- "whitespace_encoding_char"
def kCollapse : Str := [99, 111, 108, 108, 97, 112, 115, 101, 95, 119, 104, 105, 116, 101, 115, 112, 97, 99, 101, 95, 119, 104,
  101, 110, 95, 101, 110, 99, 111, 100, 105, 110, 103]              -- "collapse_whitespace_when_encoding"

/-- `self._reserved_identifiers = get_config_value_as_list(...)`, then `= self._reserved_identifiers + additional`:
the address the encoder holds and the heap afterwards.  `inPlace`: the `+=` variant (NOT the code; foil). -/
def withAdditional (inPlace : Bool) (h : Heap) (a : Nat) (base : List Str) (additional : Option (List Str)) : Nat × Heap :=
  match additional with
  | none => (a, h)
  | some add => if inPlace then (a, h.set a (base ++ add)) else (h.length, h ++ [base ++ add])

def reservedObject (inPlace : Bool) (h : Heap) (sec : Section) (additional : Option (List Str)) : Except AErr (Nat × Heap) :=
  match getList sec kReserved with
  | some a =>
    (match h[a]? with
     | none => .error .dangling
     | some base => .ok (withAdditional inPlace h a base additional))
  | none => .ok (withAdditional inPlace (h ++ [[]]) h.length [] additional)   -- the default value: a fresh `[]`

/-- the scalar settings, in the order `__init__` reads them -/
structure Scalars where
  stropPrefix : Str
  stropSuffix : Str
  encPrefix : Str
  wsChar : Option Str
  collapse : Bool
deriving DecidableEq, Repr

def readScalars (sec : Section) : Except AErr Scalars :=
  match getStr sec kStropPrefix (some []) with
  | .error e => .error e
  | .ok pre =>
  match getStr sec kStropSuffix (some []) with
  | .error e => .error e
  | .ok suf =>
  match getStr sec kEncPrefix (some []) with
  | .error e => .error e
  | .ok encp =>
  -- `try: get_config_value("whitespace_encoding_char") except KeyError: None`
  match (match getStr sec kWsChar none with
         | .ok w => Except.ok (some w)
         | .error .keyError => .ok none
         | .error e => .error e) with
  | .error e => .error e
  | .ok ws =>
  match getBool sec kCollapse false with
  | .error e => .error e
  | .ok col => .ok ⟨pre, suf, encp, ws, col⟩

/-- `TokenEncoder(language, additional_reserved_identifiers, stropping_failure_handler, encoding_failure_handler)` -/
def newEncoderG (inPlace : Bool) (compile : Str → Option Re) (h : Heap) (sec : Section) (lc : LangCode) :
    Except AErr (Enc × Heap) :=
  match buildMap compile h (getDict sec kPatterns) [] [] with
  | .error e => .error e
  | .ok pats =>
  match buildMap compile h (getDict sec kRules) [] [] with
  | .error e => .error e
  | .ok rules =>
  match reservedObject inPlace h sec lc.additional with
  | .error e => .error e
  | .ok (ra, h') =>
  match readScalars sec with
  | .error e => .error e
  | .ok sc =>
    .ok ({ reserved := ra, stropPrefix := sc.stropPrefix, stropSuffix := sc.stropSuffix, encPrefix := sc.encPrefix,
           wsChar := sc.wsChar, collapse := sc.collapse, patterns := pats, rules := rules,
           stropHandler := lc.stropHandler, encHandler := lc.encHandler }, h')

def newEncoder := newEncoderG false
/-- NOT the code: `self._reserved_identifiers += additional_reserved_identifiers` -/
def newEncoderExtendInPlace := newEncoderG true

/-- what `strop` sees of an encoder *now*: the list object is read through the heap -/
def Enc.cfg (space : List (Nat × Nat)) (h : Heap) (e : Enc) : Cfg where
  reserved := (h[e.reserved]?).getD []
  stropPrefix := e.stropPrefix
  stropSuffix := e.stropSuffix
  encPrefix := e.encPrefix
  wsChar := e.wsChar
  collapse := e.collapse
  patterns := e.patterns
  rules := e.rules
  stropHandler := e.stropHandler
  encHandler := e.encHandler
  space := space

/-- configuration ↦ tables, in one step (what the theorems about the shipped languages state) -/
def assemble (space : List (Nat × Nat)) (compile : Str → Option Re) (h : Heap) (sec : Section) (lc : LangCode) :
    Except AErr Cfg :=
  match newEncoder compile h sec lc with
  | .error e => .error e
  | .ok (e, h') => .ok (e.cfg space h')

/-- the contents of the list object `reservedObject` hands to the encoder -/
def resolvedReserved (h : Heap) (sec : Section) (additional : Option (List Str)) : Except AErr (List Str) :=
  match getList sec kReserved with
  | some a =>
    (match h[a]? with
     | none => .error .dangling
     | some base => .ok (base ++ additional.getD []))
  | none => .ok (additional.getD [])

/-- `assemble` in closed form: no allocation, the tables as a function of the section and of the contents of the list
objects it refers to (equal to `assemble`: `assemble_eq_closed`) -/
def assembleClosed (space : List (Nat × Nat)) (compile : Str → Option Re) (h : Heap) (sec : Section) (lc : LangCode) :
    Except AErr Cfg :=
  match buildMap compile h (getDict sec kPatterns) [] [] with
  | .error e => .error e
  | .ok pats =>
  match buildMap compile h (getDict sec kRules) [] [] with
  | .error e => .error e
  | .ok rules =>
  match resolvedReserved h sec lc.additional with
  | .error e => .error e
  | .ok res =>
  match readScalars sec with
  | .error e => .error e
  | .ok sc =>
    .ok { reserved := res, stropPrefix := sc.stropPrefix, stropSuffix := sc.stropSuffix, encPrefix := sc.encPrefix,
          wsChar := sc.wsChar, collapse := sc.collapse, patterns := pats, rules := rules,
          stropHandler := lc.stropHandler, encHandler := lc.encHandler, space := space }

/-- several encoders one after the other (failed constructions leave no trace): the heap afterwards -/
def buildAll (compile : Str → Option Re) : Heap → List (Section × LangCode) → Heap
  | h, [] => h
  | h, (sec, lc) :: rest =>
    match newEncoder compile h sec lc with
    | .ok (_, h') => buildAll compile h' rest
    | .error _ => buildAll compile h rest

/-! ### references of a section, well-formedness -/

def leafRefs : Leaf → List Nat
  | .list a => [a]
  | _ => []

def valRefs : CVal → List Nat
  | .leaf l => leafRefs l
  | .dict es => es.flatMap (fun e => leafRefs e.2)

def secRefs (sec : Section) : List Nat := sec.flatMap (fun e => valRefs e.2)

/-- every list reference of the section is an object of the heap -/
def secWf (n : Nat) (sec : Section) : Bool := (secRefs sec).all (· < n)

/-! ### loading a document, configuration overrides -/

/-- what `yaml.load` returns for the defaults file: the list objects (an alias = the same index) and the sections -/
structure Doc where
  cells : Heap
  sections : List (Str × Section)
deriving DecidableEq, Repr

def relocLeaf (off : Nat) : Leaf → Leaf
  | .list a => .list (a + off)
  | l => l

def relocVal (off : Nat) : CVal → CVal
  | .leaf l => .leaf (relocLeaf off l)
  | .dict es => .dict (es.map (fun e => (e.1, relocLeaf off e.2)))

def relocSec (off : Nat) (sec : Section) : Section := sec.map (fun e => (e.1, relocVal off e.2))

/-- a value of `set_target_language_configuration_override` (contents; the list objects are allocated by `load`) -/
inductive OVal where
  | str (s : Str)
  | bool (b : Bool)
  | num (n : Nat)
  | list (xs : List Str)
  | dict (es : List (Str × List Str))
deriving DecidableEq, Repr

/-- allocate the lists of a mapping-valued override -/
def allocEntries : Heap → List (Str × List Str) → Heap × List (Str × Leaf)
  | h, [] => (h, [])
  | h, (k, xs) :: rest =>
    let r := allocEntries (h ++ [xs]) rest
    (r.1, (k, Leaf.list h.length) :: r.2)

/-- `for key, value in source.items(): DefaultValue.assign_to_if_not_default(target, key, value)` (no `DefaultValue`s) -/
def mergeEntries (target : List (Str × Leaf)) : List (Str × Leaf) → List (Str × Leaf)
  | [] => target
  | (k, v) :: rest => mergeEntries (dset target k v) rest

/-- `deep_update(section, overrides)`, one item: a mapping is merged into an existing mapping key by key (lists
assigned by reference) or, where the section has no mapping under that key, becomes a new mapping; anything else is
assigned. -/
def applyOverride (h : Heap) (sec : Section) (k : Str) (v : OVal) : Heap × Section :=
  match v with
  | .str s => (h, dset sec k (.leaf (.str s)))
  | .bool b => (h, dset sec k (.leaf (.bool b)))
  | .num n => (h, dset sec k (.leaf (.num n)))
  | .list xs => (h ++ [xs], dset sec k (.leaf (.list h.length)))
  | .dict es =>
    let r := allocEntries h es
    (match aget sec k with
     | some (.dict old) => (r.1, dset sec k (.dict (mergeEntries old r.2)))
     | _ => (r.1, dset sec k (.dict (mergeEntries [] r.2))))

def applyOverrides : Heap → Section → List (Str × OVal) → Heap × Section
  | h, sec, [] => (h, sec)
  | h, sec, (k, v) :: rest =>
    let r := applyOverride h sec k v
    applyOverrides r.1 r.2 rest

/-! ## B. `Language.filter_id` -/

inductive Atom where
  | text (s : Str)
  | int (neg : Bool) (n : Nat)      -- `-n` when `neg`
  | bool (b : Bool)
  | none
deriving DecidableEq, Repr

/-- the `instance` argument: a plain value, or an object with a `name` attribute -/
inductive Inst where
  | plain (a : Atom)
  | named (name : Atom)
deriving DecidableEq, Repr

/-- `str(x)` -/
def atomStr : Atom → Str
  | .text s => s
  | .int neg n => if neg ∧ n ≠ 0 then 45 :: decimal n else decimal n
  | .bool true => sTrue
  | .bool false => sFalse
  | .none => sNone

/-- `Language.default_filter_id_for_target` -/
def rawName : Inst → Str
  | .plain a => atomStr a
  | .named a => atomStr a

/-- `Language.filter_id(instance, id_type)` of a language whose encoder has the tables `cfg` -/
def filterId (strops : Bool) (cfg : Cfg) (i : Inst) (ty : Str) : Except Err Str :=
  if strops then strop cfg (rawName i) ty else .ok (rawName i)

/-- a place where an identifier category reaches `filter_id` (regenerated from templates and Python sources) -/
structure Site where
  lang : Str                 -- language the site belongs to
  ty : Str                   -- the literal id type (`any` when the argument is left out)
deriving DecidableEq, Repr

/-- the configuration with everything but the `all` entries dropped -/
def allOnly (cfg : Cfg) : Cfg :=
  { cfg with patterns := (match lookup cfg.patterns tyAll with | some v => [(tyAll, v)] | none => []),
             rules := (match lookup cfg.rules tyAll with | some v => [(tyAll, v)] | none => []) }

/-- the id type has no entry of its own, neither patterns nor rules -/
def unknownType (cfg : Cfg) (ty : Str) : Bool :=
  (lookup cfg.patterns (lowerAscii ty)).isNone && (lookup cfg.rules (lowerAscii ty)).isNone

/-! ## C. the caches -/

/-- a `LanguageContext`: its configuration and the `Language` objects whose `_token_encoder` exists already -/
structure Ctx where
  sections : List (Str × Section)
  encs : List (Str × Nat)               -- language name ↦ encoder object (index into `Proc.encoders`)
deriving DecidableEq, Repr

abbrev Key := Nat × Str × Str           -- (encoder object, token, token_type as passed)

structure Proc where
  heap : Heap
  ctxs : List Ctx
  encoders : List Enc
  lru : List (Key × Str)                -- most recently used first
  hits : Nat
  misses : Nat
deriving DecidableEq, Repr

def Proc.init : Proc := { heap := [], ctxs := [], encoders := [], lru := [], hits := 0, misses := 0 }

/-- the fixed environment: interpreter table, regex compiler, cache size, defaults document, language classes -/
structure Env where
  space : List (Nat × Nat)
  compile : Str → Option Re
  maxsize : Nat
  doc : Doc
  code : Str → Option LangCode

/-- `LanguageContextBuilder().set_target_language(t).set_target_language_configuration_override(...)….create()`:
a new `LanguageConfig` loaded from the defaults document (fresh list objects), the overrides merged into the target's
section. -/
def load (env : Env) (p : Proc) (target : Str) (ov : List (Str × OVal)) : Except AErr Proc :=
  let off := p.heap.length
  let h0 := p.heap ++ env.doc.cells
  let secs := env.doc.sections.map (fun e => (e.1, relocSec off e.2))
  match aget secs target with
  | none => .error .keyError
  | some tsec =>
    let r := applyOverrides h0 tsec ov
    .ok { p with heap := r.1, ctxs := p.ctxs ++ [{ sections := dset secs target r.2, encs := [] }] }

/-- The configuration of a new context taken on its own (as in a process that does nothing else): the document's list
objects followed by the overrides' list objects, the sections with the target's overrides merged in. -/
def standalone (env : Env) (target : Str) (ov : List (Str × OVal)) : Option (Heap × List (Str × Section)) :=
  match aget env.doc.sections target with
  | none => none
  | some tsec =>
    let r := applyOverrides env.doc.cells tsec ov
    some (r.1, dset env.doc.sections target r.2)

def lruFind (l : List (Key × Str)) (k : Key) : Option Str :=
  match l with
  | [] => none
  | (k', v) :: rest => if k' = k then some v else lruFind rest k

def lruRemove (l : List (Key × Str)) (k : Key) : List (Key × Str) := l.filter (fun e => e.1 ≠ k)

inductive UErr where
  | noContext | noLanguage
  | assembly (e : AErr)
  | strop (e : Err)
deriving DecidableEq, Repr

/-- what a call shows: the answer, whether the encoder was built by this call, whether the cache answered -/
structure Obs where
  result : Except UErr Str
  built : Bool
  hit : Bool
deriving DecidableEq, Repr

/-- `cached_property _token_encoder` of the `Language` object (context `ci`, language `lang`): the encoder object,
the process afterwards, whether this call built it -/
def getEncoder (env : Env) (p : Proc) (ci : Nat) (ctx : Ctx) (lang : Str) (sec : Section) (lc : LangCode) :
    Except AErr (Nat × Proc × Bool) :=
  match aget ctx.encs lang with
  | some ei => .ok (ei, p, false)
  | none =>
    match newEncoder env.compile p.heap sec lc with
    | .error e => .error e
    | .ok (enc, h') =>
      .ok (p.encoders.length,
           { p with heap := h', encoders := p.encoders ++ [enc],
                    ctxs := p.ctxs.set ci { ctx with encs := dset ctx.encs lang p.encoders.length } }, true)

/-- `functools.lru_cache(maxsize)` around `TokenEncoder.strop(self, token, token_type)` -/
def cachedStrop (env : Env) (p : Proc) (ei : Nat) (enc : Enc) (raw ty : Str) : Proc × Except Err Str × Bool :=
  let key : Key := (ei, raw, ty)
  match lruFind p.lru key with
  | some r => ({ p with lru := (key, r) :: lruRemove p.lru key, hits := p.hits + 1 }, .ok r, true)
  | none =>
    match strop (enc.cfg env.space p.heap) raw ty with
    | .error e => ({ p with misses := p.misses + 1 }, .error e, false)
    | .ok r => ({ p with lru := ((key, r) :: p.lru).take env.maxsize, misses := p.misses + 1 }, .ok r, false)

/-- `ctx.get_language(lang).filter_id(inst, ty)` -/
def use (env : Env) (p : Proc) (ci : Nat) (lang : Str) (inst : Inst) (ty : Str) : Proc × Obs :=
  match p.ctxs[ci]? with
  | none => (p, ⟨.error .noContext, false, false⟩)
  | some ctx =>
  match aget ctx.sections lang, env.code lang with
  | some sec, some lc =>
    if !lc.strops then (p, ⟨.ok (rawName inst), false, false⟩) else
    (match getEncoder env p ci ctx lang sec lc with
     | .error e => (p, ⟨.error (.assembly e), false, false⟩)
     | .ok (ei, p1, built) =>
       match p1.encoders[ei]? with
       | none => (p1, ⟨.error .noLanguage, built, false⟩)
       | some enc =>
         match cachedStrop env p1 ei enc (rawName inst) ty with
         | (p2, .ok r, hit) => (p2, ⟨.ok r, built, hit⟩)
         | (p2, .error e, hit) => (p2, ⟨.error (.strop e), built, hit⟩))
  | _, _ => (p, ⟨.error .noLanguage, false, false⟩)

inductive Op where
  | load (target : Str) (ov : List (Str × OVal))
  | use (ci : Nat) (lang : Str) (inst : Inst) (ty : Str)
deriving DecidableEq, Repr

/-- one step; a failing `load` leaves the process as it was -/
def step (env : Env) (p : Proc) : Op → Proc
  | .load t ov => (match load env p t ov with | .ok p' => p' | .error _ => p)
  | .use ci lang inst ty => (use env p ci lang inst ty).1

def run (env : Env) : Proc → List Op → Proc
  | p, [] => p
  | p, op :: rest => run env (step env p op) rest

/-- The specification: the answer as a function of (configuration of the context, language, instance, id type) alone —
a fresh encoder on the context's section, no cache. -/
def pureAnswer (env : Env) (h : Heap) (sections : List (Str × Section)) (lang : Str) (inst : Inst) (ty : Str) :
    Except UErr Str :=
  match aget sections lang, env.code lang with
  | some sec, some lc =>
    if !lc.strops then .ok (rawName inst) else
    (match assemble env.space env.compile h sec lc with
     | .error e => .error (.assembly e)
     | .ok cfg =>
       match strop cfg (rawName inst) ty with
       | .error e => .error (.strop e)
       | .ok r => .ok r)
  | _, _ => .error .noLanguage

end NunavutVerif.StropGlue
